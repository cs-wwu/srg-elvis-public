import ElvisVerif.Lemmas.TcpAckLocal
import ElvisVerif.Lemmas.TcbWindow
import ElvisVerif.Lemmas.C01Inv
/-!
# The retransmission queue holds only what is still unacknowledged

`KeepOk s`: every entry of the retransmission queue occupies sequence space (`SEG.LEN > 0`) and
passes the retention test of `remove_acked_from_retransmission` against the current `SND.UNA`
(`mod_lt(SND.UNA, SEG.SEQ + SEG.LEN)`).  So when everything is acknowledged (`SND.UNA = SND.NXT`)
the queue is empty (`keepOk_empty`) — nothing is ever retransmitted again.

Kept by every elementary change of `process_segment` (`Eff.live` over `Lemmas/TcbEff.lean`; the only arithmetic:
the SYN,ACK of a simultaneous open sits at `ISS` with `SND.UNA = ISS`, from `Early`), hence by `segment_arrives`,
and by the local calls; new data is numbered at `SND.NXT >= SND.UNA` (`keep_new`, offsets below 2^31).  `segments()` is
treated in the states of a connection nobody closes (`C01.Ok3`), where no FIN is queued.
-/
namespace Elvis.Tcp
open Elvis.ModCmp
namespace Tcb

def KeepOk (s : Tcb) : Prop :=
  ∀ tr ∈ s.outgoing.retransmit, 0 < tr.segment.segLen ∧ keepFor s.snd.una tr = true

theorem KeepOk.congr {s s' : Tcb} (h : KeepOk s) (h1 : s'.snd.una = s.snd.una)
    (h2 : ∀ tr ∈ s'.outgoing.retransmit, ∃ t0 ∈ s.outgoing.retransmit, t0.segment = tr.segment) : KeepOk s' := by
  intro tr htr
  obtain ⟨t0, h0, e⟩ := h2 tr htr
  have := h t0 h0
  unfold keepFor at this ⊢
  rw [h1, ← e]
  exact this

theorem KeepOk.of_eq {s s' : Tcb} (h : KeepOk s) (h1 : s'.snd.una = s.snd.una)
    (h2 : s'.outgoing.retransmit = s.outgoing.retransmit) : KeepOk s' :=
  h.congr h1 (fun tr htr => ⟨tr, h2 ▸ htr, rfl⟩)

theorem keepOk_enqueue_plain {s : Tcb} (h : KeepOk s) (hd : Hdr) (hs : hd.ctl.syn = false) (hf : hd.ctl.fin = false) :
    KeepOk (s.enqueueBuilt hd) := by
  rw [enqueueBuilt_oneshot s hd hs hf]
  exact h.of_eq rfl rfl

theorem keepOk_enqueue_ctl {s : Tcb} (h : KeepOk s) (hd : Hdr) (hsf : (hd.ctl.syn || hd.ctl.fin) = true)
    (hk : modLt s.snd.una (hd.seq + BitVec.ofNat 32 (Segment.segLen ⟨hd, []⟩)) = true) :
    KeepOk (s.enqueueBuilt hd) := by
  rw [enqueueBuilt_retransmit s hd ((Bool.or_eq_true _ _).mp hsf)]
  intro tr htr
  simp only [List.mem_append, List.mem_singleton] at htr
  rcases htr with htr | rfl
  · exact h tr htr
  · refine ⟨?_, hk⟩
    -- the SYN or FIN bit occupies a sequence number
    show 0 < Segment.segLen ⟨hd, []⟩
    rw [Segment.segLen_eq]
    rcases Bool.or_eq_true_iff.1 hsf with e | e <;> rw [e]
    · exact Nat.lt_of_lt_of_le Nat.one_pos (Nat.le_trans (Nat.le_add_left _ _) (Nat.le_add_right _ _))
    · exact Nat.lt_of_lt_of_le Nat.one_pos (Nat.le_add_left _ _)

theorem keepOk_removeAcked (s : Tcb) (ack : Seq) (h : KeepOk s) : KeepOk (ackTaken s ack) := by
  intro tr htr
  obtain ⟨h1, h2⟩ := List.mem_filter.1 htr
  exact ⟨(h tr h1).1, h2⟩

theorem keepOk_empty (s : Tcb) (h : KeepOk s) (hb : SndBelow s) (hN : s.sent < 2147483648)
    (hq : s.snd.una = s.snd.nxt) : s.outgoing.retransmit = [] := by
  cases hl : s.outgoing.retransmit with
  | nil => rfl
  | cons tr rest =>
    exfalso
    have hm : tr ∈ s.outgoing.retransmit := by rw [hl]; exact List.mem_cons_self
    obtain ⟨hp, hk⟩ := h tr hm
    have hle := (hb.queue tr hm).len hp
    unfold keepFor at hk
    rw [hq] at hk
    have ho : off s.snd.iss (tr.segment.hdr.seq + BitVec.ofNat 32 tr.segment.segLen)
        = off s.snd.iss tr.segment.hdr.seq + tr.segment.segLen := off_add _ _ _ (by omega)
    have := (modLt_iff_off s.snd.iss s.snd.nxt _ (by unfold sent at hN; exact hN) (by rw [ho]; omega)).1 hk
    rw [ho] at this
    unfold sent at hle
    omega

theorem KeepOk.of_rcvOnly {s u : Tcb} (h : KeepOk s) (r : RcvOnly s u) : KeepOk u :=
  h.of_eq (congrArg Snd.una r.snd) (congrArg Outgoing.retransmit r.outgoing)

/-- every elementary change of `process_segment` keeps `KeepOk`, given `Early` (which they keep: `Eff.early`): the
    SYN,ACK is queued in SYN-RECEIVED, where `SND.UNA = ISS`, so it sits beyond `SND.UNA`; an ACK that is taken filters
    the queue by the very test `KeepOk` asks for -/
theorem Eff.live {g : Segment} {k : Nat} {s s' : Tcb} (e : Eff g k s s') (hE : Early s) (h : KeepOk s) :
    KeepOk s' ∧ Early s' := by
  refine ⟨?_, e.early hE⟩
  cases e with
  | reply hr =>
    rcases hr with ⟨-, rfl⟩ | ⟨rfl, -⟩ | ⟨hst, rfl⟩
    · exact keepOk_enqueue_plain h _ rfl rfl
    · exact keepOk_enqueue_plain h _ rfl rfl
    · refine keepOk_enqueue_ctl h _ rfl ?_
      show modLt s.snd.una (s.snd.iss + BitVec.ofNat 32 _) = true
      rw [hE.synRcvd hst]
      exact modGt_succ _
  | ack => exact keepOk_removeAcked s _ h
  | text => exact h.of_rcvOnly (acceptText_rcvOnly _ _ _)
  | fin => exact h.of_rcvOnly (setRcvNxt_rcvOnly _ _)
  | syn => exact h.of_eq (synMoved_frame _ _ _).2.2.2.2.1 (congrArg Outgoing.retransmit (synMoved_frame _ _ _).2.1)
  | window | established | finWait2 | timeWaitAcked | closeWait | closing | timeWaitFin | rto => exact h.of_eq rfl rfl

theorem segmentArrives_live {s s' : Tcb} {g : Segment} {r : SegmentArrivesResult}
    (e : s.segmentArrives g = .ok (s', r)) (hE : Early s) (h : KeepOk s) : KeepOk s' ∧ Early s' :=
  segmentArrives_lift (R := fun s s' => Early s → KeepOk s → KeepOk s' ∧ Early s') (fun _ hE h => ⟨h, hE⟩)
    (fun h1 h2 hE h => h2 (h1 hE h).2 (h1 hE h).1) (fun _ _ hE h => ⟨h.of_eq rfl rfl, hE.congr rfl rfl⟩)
    (fun e => Eff.live e) e hE h

theorem keep_new (iss una nxt : Seq) (k : Nat) (hu : off iss una ≤ off iss nxt) (hk : 0 < k)
    (hb : off iss nxt + k < 2147483648) : modLt una (nxt + BitVec.ofNat 32 k) = true := by
  have ho : off iss (nxt + BitVec.ofNat 32 k) = off iss nxt + k := off_add iss nxt k (by omega)
  exact (modLt_iff_off iss una _ (by omega) (by omega)).2 (by omega)

theorem keepOk_flags {s s' : Tcb} (h : KeepOk s) (h1 : s'.snd.una = s.snd.una) (b : Bool)
    (h2 : s'.outgoing.retransmit = s.outgoing.retransmit.map fun t => { t with needsTransmit := b }) : KeepOk s' := by
  refine h.congr h1 (fun tr htr => ?_)
  rw [h2] at htr
  obtain ⟨t0, h0, rfl⟩ := List.mem_map.1 htr
  exact ⟨t0, h0, rfl⟩

/-- one round of the loop: the data segment is numbered at `SND.NXT`, which is not below `SND.UNA` -/
theorem keepOk_cutSegment {s : Tcb} {b : Nat} (h : KeepOk s) (hu : off s.snd.iss s.snd.una ≤ s.sent) (hr : Room s)
    (hpos : 0 < b) (hle : b ≤ s.outgoing.text.length) : KeepOk (cutSegment s b) := by
  intro tr htr
  rcases List.mem_append.1 htr with h' | h'
  · exact h tr h'
  · rw [List.mem_singleton.1 h']
    have hsl : (Transmit.new ⟨s.ackHdr.built, List.take b s.outgoing.text⟩).segment.segLen = b :=
      List.length_take.trans (Nat.min_eq_left hle)
    unfold keepFor
    rw [hsl]
    exact ⟨hpos, keep_new s.snd.iss s.snd.una s.snd.nxt b hu hpos (by unfold Room sent at hr; omega)⟩

/-- the rounds of the loop number new data at `SND.NXT`; nobody closes, so no FIN waits -/
theorem Segs.live {m : Nat} {p : Bool} {s u : Tcb} (h : Segs m p s u) (hst : C01.Ok3 s.state) (hk : KeepOk s)
    (hu : off s.snd.iss s.snd.una ≤ s.sent) (hr : Room s) : KeepOk u := by
  induction h with
  | done _ => exact hk
  | fin _ hcl _ => rcases hcl with h | h | h <;> rw [h] at hst <;> exact hst.elim
  | @cut s u b _ hpos hle _ _ _ ih =>
    -- `SND.NXT` moves on by what is cut: `SND.UNA` stays behind it and the room carries over
    have g := cutSegment_snd s b hle
    exact ih hst (keepOk_cutSegment hk hu hr hpos hle) (Nat.le_trans hu (g.mono hr)) (g.keepRoom hr)

theorem segments_live (s s' : Tcb) (out : List Segment) (e : s.segments = .ok (s', out))
    (hst : C01.Ok3 s.state) (h : KeepOk s) (hu : off s.snd.iss s.snd.una ≤ s.sent) (hr : Room s) : KeepOk s' := by
  obtain ⟨s2, tmo, hs, rfl⟩ := segments_segs e
  exact keepOk_flags (hs.live hst (h.of_eq rfl rfl) hu hr) rfl false rfl

end Tcb
end Elvis.Tcp
