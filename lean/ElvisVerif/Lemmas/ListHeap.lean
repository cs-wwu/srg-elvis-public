import ElvisVerif.Base.ListHeap
import ElvisVerif.Lemmas.Heap
/-!
# The list model of `BinaryHeap` is the array model

`Base/ListHeap.lean` (used by the TCB model) and `Base/Heap.lean` model the same algorithm: `push` / `pop` of the
list model under `le` equal `push` / `pop` of the array model under `le'` whenever `le` and `le'` agree on the
elements involved (`Agree`).  With `le' = le` this carries over what holds for ANY comparison (the TCB's circular
order is not transitive): `push` and `pop` only permute, nothing is lost, duplicated or invented.  `pop` returns
the element `peek` shows.
-/
namespace Elvis.LHeap
variable {α : Type}

theorem swap_perm (l : List α) (i j : Nat) : (swap l i j).Perm l := by
  unfold swap
  split
  · rename_i h
    exact List.set_set_perm h.1 h.2
  · exact List.Perm.refl _

theorem swap_length (l : List α) (i j : Nat) : (swap l i j).length = l.length :=
  (swap_perm l i j).length_eq

def Agree (le le' : α → α → Bool) (l : List α) : Prop := ∀ a ∈ l, ∀ b ∈ l, le a b = le' a b

theorem Agree.mono {le le' : α → α → Bool} {l l' : List α} (h : Agree le le' l) (sub : ∀ a ∈ l', a ∈ l) :
    Agree le le' l' :=
  fun a ha b hb => h a (sub a ha) b (sub b hb)

theorem Agree.perm {le le' : α → α → Bool} {l l' : List α} (h : Agree le le' l) (p : l'.Perm l) : Agree le le' l' :=
  h.mono fun _ => p.mem_iff.1

theorem swap_toArray (l : List α) (i j : Nat) (hi : i < l.length) (hj : j < l.length) :
    (swap l i j).toArray = l.toArray.swap i j (by simpa using hi) (by simpa using hj) := by
  unfold swap
  rw [dif_pos ⟨hi, hj⟩]
  apply Array.ext
  · simp
  · intro k h1 h2
    simp [List.getElem_set]

/- The array is a variable `d` with `l.toArray = d`, so that the induction hypothesis applies to the
   swapped array as it stands. -/
theorem siftUpAux_toArray (le le' : α → α → Bool) : ∀ (fuel : Nat) (l : List α) (d : Array α),
    l.toArray = d → ∀ (pos : Nat) (h : pos < d.size), Agree le le' l →
    (siftUpAux le 0 fuel l pos).toArray = Heap.siftUpF le' fuel d pos h := by
  intro fuel
  induction fuel with
  | zero => intro l d e pos h _; exact e
  | succ n ih =>
    intro l d e pos h ha
    subst e
    have hl : pos < l.length := h
    unfold siftUpAux Heap.siftUpF
    by_cases hp : 0 < pos
    · have hpar : (pos - 1) / 2 < l.length := by omega
      rw [if_pos hp, dif_pos hp]
      simp only [List.getElem?_eq_getElem hl, List.getElem?_eq_getElem hpar, List.getElem_toArray]
      rw [ha _ (List.getElem_mem hl) _ (List.getElem_mem hpar)]
      split
      · rfl
      · exact ih _ _ (swap_toArray l pos _ hl hpar) _ _ (ha.perm (swap_perm _ _ _))
    · rw [if_neg hp, dif_neg hp]

theorem siftDownAux_toArray (le le' : α → α → Bool) : ∀ (fuel : Nat) (l : List α) (d : Array α),
    l.toArray = d → ∀ (pos : Nat) (h : pos < d.size), Agree le le' l →
    (siftUpAux le 0 (siftDownAux le fuel l pos).2 (siftDownAux le fuel l pos).1 (siftDownAux le fuel l pos).2).toArray =
      Heap.siftDownF le' fuel d pos h := by
  intro fuel
  induction fuel with
  | zero =>
    intro l d e pos h ha
    unfold siftDownAux Heap.siftDownF Heap.siftUp
    exact siftUpAux_toArray le le' pos l d e pos h ha
  | succ n ih =>
    intro l d e pos h ha
    subst e
    have hl : pos < l.length := h
    unfold siftDownAux Heap.siftDownF
    simp only [List.size_toArray]
    by_cases h2 : 2 * pos + 2 < l.length
    · have hc0 : 2 * pos + 1 < l.length := by omega
      rw [if_pos (by omega), dif_pos h2]
      simp only [List.getElem?_eq_getElem hc0, List.getElem?_eq_getElem h2, List.getElem_toArray]
      rw [ha _ (List.getElem_mem hc0) _ (List.getElem_mem h2)]
      split
      · exact ih _ _ (swap_toArray l pos _ hl h2) _ _ (ha.perm (swap_perm _ _ _))
      · exact ih _ _ (swap_toArray l pos _ hl hc0) _ _ (ha.perm (swap_perm _ _ _))
    · rw [if_neg (by omega), dif_neg h2]
      by_cases h1 : 2 * pos + 2 = l.length
      · have hc0 : 2 * pos + 1 < l.length := by omega
        rw [if_pos (by omega), dif_pos h1]
        exact siftUpAux_toArray le le' _ _ _ (swap_toArray l pos _ hl hc0) _ _ (ha.perm (swap_perm _ _ _))
      · rw [if_neg (by omega), dif_neg h1]
        exact siftUpAux_toArray le le' pos l _ rfl pos h ha

theorem push_toArray (le le' : α → α → Bool) (l : List α) (x : α) (ha : Agree le le' (l ++ [x])) :
    (push le l x).toArray = Heap.push le' l.toArray x :=
  siftUpAux_toArray le le' l.length (l ++ [x]) _ (by simp) _ _ ha

theorem pop_toArray (le le' : α → α → Bool) (l : List α) (ha : Agree le le' l) :
    (pop le l).1 = (Heap.pop le' l.toArray).1 ∧ (pop le l).2.toArray = (Heap.pop le' l.toArray).2 := by
  cases l with
  | nil => exact ⟨rfl, rfl⟩
  | cons a t =>
    cases t with
    | nil => exact ⟨rfl, rfl⟩
    | cons b u =>
      have hlast : (a :: b :: u).getLast? = some ((b :: u).getLast (by simp)) := by
        simp [List.getLast?_eq_some_getLast]
      have hdrop : (a :: b :: u).dropLast = a :: (b :: u).dropLast := rfl
      unfold pop Heap.pop
      rw [hlast]
      simp only [hdrop]
      have hsz : ¬ (a :: b :: u).toArray.size = 0 := by simp
      rw [dif_neg hsz]
      have hsz' : ¬ (a :: b :: u).toArray.pop.size = 0 := by simp
      simp only [dif_neg hsz']
      refine ⟨by simp, ?_⟩
      have hag : Agree le le' ((b :: u).getLast (by simp) :: (b :: u).dropLast) := by
        apply ha.mono
        intro z hz
        rcases List.mem_cons.1 hz with rfl | hz
        · exact List.mem_cons_of_mem _ (List.getLast_mem _)
        · exact List.mem_cons_of_mem _ (List.dropLast_subset _ hz)
      have hE : ((b :: u).getLast (by simp) :: (b :: u).dropLast).toArray =
          (a :: b :: u).toArray.pop.set 0 ((a :: b :: u).toArray[(a :: b :: u).toArray.size - 1]'(by simp)) (by simp) := by
        simp [List.getLast_eq_getElem]
      unfold Heap.siftDownToBottom
      rw [← congrArg Array.size hE]
      exact siftDownAux_toArray le le' _ _ _ hE 0 _ hag

theorem Agree.refl (le : α → α → Bool) (l : List α) : Agree le le l := fun _ _ _ _ => rfl

theorem push_perm (le : α → α → Bool) (l : List α) (x : α) : (push le l x).Perm (x :: l) := by
  have h := Heap.push_perm le l.toArray x
  rw [← push_toArray le le l x (Agree.refl le _), Array.perm_iff_toList_perm, List.push_toArray] at h
  exact h.trans List.perm_append_comm

theorem push_length (le : α → α → Bool) (l : List α) (x : α) : (push le l x).length = l.length + 1 := by
  rw [(push_perm le l x).length_eq]; rfl

theorem mem_push {le : α → α → Bool} {l : List α} {x y : α} : y ∈ push le l x ↔ y = x ∨ y ∈ l := by
  rw [(push_perm le l x).mem_iff]; simp

theorem forall_mem_push {le : α → α → Bool} {l : List α} {x : α} {P : α → Prop} (hx : P x)
    (hl : ∀ y ∈ l, P y) : ∀ y ∈ push le l x, P y := by
  intro y hy
  rcases mem_push.1 hy with rfl | hy
  · exact hx
  · exact hl y hy

theorem pop_perm (le : α → α → Bool) (l : List α) (t : α) (r : List α)
    (h : pop le l = (some t, r)) : (t :: r).Perm l := by
  obtain ⟨e1, e2⟩ := pop_toArray le le l (Agree.refl le l)
  rw [h] at e1 e2
  have hpos : 0 < l.toArray.size := by
    cases l with
    | nil => simp [pop] at h
    | cons a u => simp
  obtain ⟨d', ep, p⟩ := Heap.pop_nonempty le l.toArray hpos
  rw [ep] at e1 e2
  cases e1
  cases e2
  rw [Array.perm_iff_toList_perm, List.push_toArray] at p
  exact List.perm_append_comm.trans p

theorem mem_of_mem_pop {le : α → α → Bool} {l : List α} {t : α} {r : List α}
    (h : pop le l = (some t, r)) : t ∈ l ∧ ∀ y ∈ r, y ∈ l := by
  have hp := pop_perm le l t r h
  exact ⟨hp.mem_iff.1 (by simp), fun y hy => hp.mem_iff.1 (by simp [hy])⟩

theorem pop_length {le : α → α → Bool} {l : List α} {t : α} {r : List α}
    (h : pop le l = (some t, r)) : r.length + 1 = l.length := by
  have := (pop_perm le l t r h).length_eq
  simpa using this

theorem pop_fst (le : α → α → Bool) (l : List α) : (pop le l).1 = peek l := by
  cases l with
  | nil => rfl
  | cons a u =>
    obtain ⟨d', e, _⟩ := Heap.pop_nonempty le (a :: u).toArray (by simp)
    rw [(pop_toArray le le _ (Agree.refl le _)).1, e]
    rfl

theorem pop_of_peek {le : α → α → Bool} {l : List α} {t : α} (h : peek l = some t) :
    ∃ r, pop le l = (some t, r) := by
  have := pop_fst le l
  rw [h] at this
  exact ⟨(pop le l).2, by rw [← this]⟩

end Elvis.LHeap
