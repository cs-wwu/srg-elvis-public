import ElvisVerif.Lemmas.TcpFullTotal
/-!
# The handshake only moves forward

`stRank`: SYN-SENT < SYN-RECEIVED < ESTABLISHED.  `rk s x`: 0 while side `x` has no TCB, else the rank of its state.
`rk_mono_step`, `rk_mono_run`: along plain runs (within H31) the rank of a side never decreases: a TCB is never
deleted, SYN-SENT is never re-entered, ESTABLISHED is never left.
-/
namespace Elvis.Tcp.Full
open Elvis.ModCmp Elvis.Tcp.Tcb

def stRank : State → Nat
  | .SynSent => 1
  | .SynReceived => 2
  | .Established => 3
  | _ => 0

def rk (s : Sys) (x : SideId) : Nat :=
  match (s.side x).tcb with
  | none => 0
  | some t => stRank t.state

theorem rk_some {s : Sys} {x : SideId} {t : Tcb} (h : (s.side x).tcb = some t) : rk s x = stRank t.state := by
  unfold rk; rw [h]

theorem rk_none {s : Sys} {x : SideId} (h : (s.side x).tcb = none) : rk s x = 0 := by
  unfold rk; rw [h]

theorem rk_congr {s s1 : Sys} {x : SideId} (h : s1.side x = s.side x) : rk s1 x = rk s x := by
  unfold rk; rw [h]

theorem stRank_ok3 {st : State} (h : C01.Ok3 st) : 1 ≤ stRank st := by
  rcases h.cases with h | h | h <;> rw [h] <;> decide

variable {iss : SideId → Seq}

theorem rk_pos {s : Sys} (hg : Good iss s) {x : SideId} {t : Tcb} (h : (s.side x).tcb = some t) : 1 ≤ rk s x := by
  rw [rk_some h]; exact stRank_ok3 (hg.tinv x t h).st

theorem arrive_rank {s : Sys} (hg : Good iss s) (x : SideId) (t t' : Tcb) (σ : Segment) (ht : (s.side x).tcb = some t)
    (hmem : σ ∈ s.history) (hsrc : σ.hdr.srcPort = x.peer.port) (e : t.segmentArrives σ = .ok (t', .Ok))
    (h3 : C01.Ok3 t'.state) : stRank t.state ≤ stRank t'.state := by
  have hval := hg.valid hmem hsrc
  have hσr := hg.conv.nr.hist σ hmem
  have ti := hg.tinv x t ht
  have nt := hg.conv.nr.tcb x t ht
  rcases ti.st.cases with hs | hs | hs
  · rw [hs]; exact stRank_ok3 h3
  · rw [hs]
    have hb : t'.state ≠ .SynSent := fun h => absurd (segmentArrives_synsent e h) (by rw [hs]; simp)
    rcases h3.cases with h | h | h
    · exact absurd h hb
    · rw [h]; decide
    · rw [h]; decide
  · have := est_stays t σ t' e hs (fun g hg' => by
      rcases List.mem_cons.1 hg' with rfl | h
      · exact ⟨hσr, hval.fin⟩
      · exact ⟨nt.heap g h, (ti.heap g h).fin⟩)
    rw [hs, this]; decide

/-- a natural number read off a side's TCB, 0 while there is none (`rk` is the instance `stRank ∘ state`) -/
def sideNat (μ : Tcb → Nat) (s : Sys) (x : SideId) : Nat :=
  match (s.side x).tcb with
  | none => 0
  | some t => μ t

theorem sideNat_some {μ : Tcb → Nat} {s : Sys} {x : SideId} {t : Tcb} (h : (s.side x).tcb = some t) :
    sideNat μ s x = μ t := by
  unfold sideNat; rw [h]

theorem sideNat_mono_step (μ : Tcb → Nat) {s s' : Sys} (l : LiveStep s s')
    (k : ∀ x t t' new, (s.side x).tcb = some t → Touch s x (some t) t' new → (s'.side x).tcb = some t' → μ t ≤ μ t')
    (y : SideId) : sideNat μ s y ≤ sideNat μ s' y := by
  cases l with
  | same => exact Nat.le_refl _
  | @touch x o t' new sd' ho c hsd _ =>
    have hs'x : (((s.setSide x sd').record new).side x).tcb = some t' := by rw [side_touched]; exact hsd
    revert y
    refine x.both ?_ ?_
    · rw [sideNat_some hs'x]
      cases o with
      | none => unfold sideNat; rw [ho]; exact Nat.zero_le _
      | some t => rw [sideNat_some ho]; exact k x t t' new ho c hs'x
    · unfold sideNat
      rw [side_untouched]
      exact Nat.le_refl _

theorem rk_mono_live {s s' : Sys} (hg : Good iss s) (l : LiveStep s s') (hg' : Good iss s') (y : SideId) :
    rk s y ≤ rk s' y :=
  sideNat_mono_step (fun t => stRank t.state) l (fun x t t' _ ht c ht' => by
    cases c with
    | loc l => rw [(l.kept hg ht).state]; exact Nat.le_refl _
    | arrive hmem hsrc h1 => exact arrive_rank hg x t t' _ ht hmem hsrc h1 (hg'.tinv x t' ht').st) y

theorem rk_mono_step (s : Sys) (hg : Good iss s) (op : Op) (hp : Op.Plain s op) (s' : Sys) (r : Res)
    (e : s.step op = .ok (s', r)) (hg' : Good iss s') (y : SideId) : rk s y ≤ rk s' y :=
  rk_mono_live hg (live_step e hp hg.conv.nr hg'.conv.nr) hg' y

theorem rk_mono_run {s s' : Sys} (hg : Good iss s) (r : PlainRun s s') (hb : RoomH s') (y : SideId) : rk s y ≤ rk s' y :=
  good_run (I := fun s1 => rk s y ≤ rk s1 y) (fun _ _ g1 h l g2 => Nat.le_trans h (rk_mono_live g1 l g2 y))
    hg.conv hg.ext (Nat.le_refl _) r hb

theorem stRank_le3 (st : State) : stRank st ≤ 3 := by cases st <;> decide

theorem rk_le3 (s : Sys) (x : SideId) : rk s x ≤ 3 := by
  unfold rk
  split
  · omega
  · exact stRank_le3 _

theorem state_of_rk {s : Sys} (hg : Good iss s) {x : SideId} {t : Tcb} (ht : (s.side x).tcb = some t) :
    (rk s x = 1 ↔ t.state = .SynSent) ∧ (rk s x = 2 ↔ t.state = .SynReceived) ∧ (rk s x = 3 ↔ t.state = .Established) := by
  rw [rk_some ht]
  rcases (hg.tinv x t ht).st.cases with h | h | h <;> rw [h] <;> simp [stRank]

theorem est_of_rk {s : Sys} (hg : Good iss s) {x : SideId} (h : 3 ≤ rk s x) :
    ∃ t, (s.side x).tcb = some t ∧ t.state = .Established := by
  cases ht : (s.side x).tcb with
  | none => rw [rk_none ht] at h; cases h
  | some t => exact ⟨t, rfl, ((state_of_rk hg ht).2.2).1 (Nat.le_antisymm (rk_le3 s x) h)⟩

theorem sent_mono_run {s s' : Sys} (hg : Good iss s) (r : PlainRun s s') (hb : RoomH s') (y : SideId) :
    sideNat Tcb.sent s y ≤ sideNat Tcb.sent s' y :=
  good_run (I := fun s1 => sideNat Tcb.sent s y ≤ sideNat Tcb.sent s1 y) (fun s1 _ g1 h l _ =>
    Nat.le_trans h (sideNat_mono_step Tcb.sent l (fun x t _ _ ht c _ => by
      cases c with
      | loc l => exact (l.kept g1 ht).sent
      | arrive _ _ h1 =>
        have k := segmentArrives_snd _ _ _ _ h1
        exact Nat.le_of_eq (sent_congr k.iss k.nxt).symm) y)) hg.conv hg.ext (Nat.le_refl _) r hb

/-! ## The clean-up round: from ANY reachable state with both endpoints ESTABLISHED to a rough state

`fairRound 1` (both timers expire, both sides emit, everything emitted is delivered, both applications read) is
defined and keeps `Good` like every fair round (`tick_any`, `phase_any`).  ESTABLISHED stays (the rank never decreases),
the SYN stays acknowledged (`UInv`), MTU and timer are as `FInv` says, no more text is unsent than before (`SND.NXT` never
decreases, nothing is submitted), and the trace ends with the two reads: both receive buffers are empty. -/

variable {mt : SideId → U16}

theorem roughX_of_est {s : Sys} (hg : Good iss s) (hf : FInv iss mt s) (hu : UInv iss s)
    (hm : ∀ x, SPACE_FOR_HEADERS < (mt x).toNat) {x : SideId} {t : Tcb} (ht : (s.side x).tcb = some t)
    (hst : t.state = .Established) (hbuf : t.incoming.text = []) : RoughX t :=
  ⟨hst, hbuf, hu.ne hg x t ht hst, by rw [(hf.tcb x t ht).mtu]; exact hm x, (hf.tcb x t ht).tmo⟩

/-- what is left of an ESTABLISHED side with at most `L` bytes unsent after a plain run that submits nothing and ends
    with a read on that side which nothing on that side follows -/
theorem rough_side {s s4 s5 s' : Sys} (hg : Good iss s) (hg' : Good iss s') (hf' : FInv iss mt s') (hu' : UInv iss s')
    (pr : PlainRun s s') (hm : ∀ x, SPACE_FOR_HEADERS < (mt x).toNat)
    (hsub : ∀ y, (s'.side y).submitted = (s.side y).submitted) (x : SideId) (L : Nat) (hx : EstX s x L)
    (T : ReadT iss x s4 s5) (hlast : s'.side x = s5.side x) :
    ∃ t, (s'.side x).tcb = some t ∧ RoughX t ∧ t.outgoing.text.length ≤ L := by
  obtain ⟨t0, ht0, hst0, hL⟩ := hx
  have h3 : 3 ≤ rk s' x := by
    have : rk s x = 3 := by rw [rk_some ht0, hst0]; rfl
    exact this ▸ rk_mono_run hg pr hg'.room x
  obtain ⟨t, ht, hst⟩ := est_of_rk hg' h3
  refine ⟨t, ht, roughX_of_est hg' hf' hu' hm ht hst ?_, ?_⟩
  · -- the last thing that happened on this side was a read
    rw [hlast] at ht
    cases h4 : (s4.side x).tcb with
    | none => rw [T.none h4, h4] at ht; cases ht
    | some t4 =>
      rw [T.tcb t4 h4] at ht
      cases ht
      exact receive_est_nil t4 ((receive_keep t4).state.symm.trans hst)
  · have e0 := sent_of_tinv (hg.tinv x t0 ht0) (hg.room.side x)
    have e1 := sent_of_tinv (hg'.tinv x t ht) (hg'.room.side x)
    have hmono := sent_mono_run hg pr hg'.room x
    rw [sideNat_some ht0, sideNat_some ht] at hmono
    rw [hsub x] at e1
    omega

theorem cleanup_round (s : Sys) (hg : Good iss s) (hf : FInv iss mt s) (hu : UInv iss s)
    (hm : ∀ x, SPACE_FOR_HEADERS < (mt x).toNat) (La Lb : Nat) (hA : EstX s .A La) (hB : EstX s .B Lb) :
    ∃ s' ta tb, fairRound 1 s = .ok s' ∧ PlainRun s s' ∧ Good iss s' ∧ Rough s' ta tb ∧
      ta.outgoing.text.length ≤ La ∧ tb.outgoing.text.length ≤ Lb ∧
      ∀ y, (s'.side y).submitted = (s.side y).submitted := by
  obtain ⟨s1, r1, e1, t1⟩ := tick_any s hg hf .A
  have hf1 := finv_run hg.conv hg.ext hf t1.run t1.good.room
  obtain ⟨s2, r2, e2, t2⟩ := tick_any s1 t1.good hf1 .B
  obtain ⟨s', e3, p3, g3, sub3, T⟩ := phase_any s2 t2.good
  have pr := (t1.run.trans t2.run).trans p3
  have hf' := finv_run hg.conv hg.ext hf pr g3.room
  have hu' := uinv_run hg.conv hg.ext hu pr g3.room
  have hsub : ∀ y, (s'.side y).submitted = (s.side y).submitted := fun y => by rw [sub3, t2.sub, t1.sub]
  obtain ⟨_, _, _, s4, s5, _, _, _, _, _, _, _, _, _, _, _, _, _, _, _, _, t5, t6, _, _⟩ := T.ex
  obtain ⟨ta, hta, ra, la⟩ := rough_side hg g3 hf' hu' pr hm hsub .A La hA t5 t6.peer
  obtain ⟨tb, htb, rb, lb⟩ := rough_side hg g3 hf' hu' pr hm hsub .B Lb hB t6 rfl
  exact ⟨s', ta, tb, fairRound_of e1 e2 (by simp only [phases, e3]), pr, g3, ⟨hta, htb, ra, rb⟩, la, lb, hsub⟩

end Elvis.Tcp.Full
