import ElvisVerif.Lemmas.ShiftCmp
import ElvisVerif.Lemmas.SeqArith
import ElvisVerif.Model.Tcb
/-!
# Offset forms of the kernels extracted from `modular_cmp.rs`, and small `BitVec 32` facts (C12)

Helper lemmas for `Props/C12.lean` only: the offset forms of `Lemmas/ModCmp.lean` restated for the generated names
(`gen_mod_lt_iff` …), over `Lemmas/ShiftCmp.lean` and `Lemmas/SeqArith.lean`.  Discipline of DESIGN.md section 4: one characterisation per
predicate; the cancellation facts are rewritten from the library's ring lemmas, the rest is `omega` with at most
two wrapped terms.
-/
namespace Elvis.Tcp
open Elvis.ModCmp
open Elvis.Gen.ModCmp (mod_lt mod_leq mod_gt mod_geq mod_bounded)

theorem sub_add_cancel_left (a d : BitVec 32) : (a + d) - a = d := by
  rw [BitVec.add_comm, BitVec.add_sub_cancel]
theorem sub_add_left_neg (a d : BitVec 32) : a - (a + d) = -d := by
  rw [← BitVec.sub_sub, BitVec.sub_self, BitVec.zero_sub]
theorem sub_toNat_eq_zero (a b : BitVec 32) : (b - a).toNat = 0 ↔ a = b := by
  rw [show (0 : Nat) = (0#32).toNat from rfl, BitVec.toNat_inj, BitVec.sub_eq_iff_eq_add, BitVec.zero_add, eq_comm]

theorem gen_mod_lt_iff (a b : BitVec 32) :
    mod_lt a b = true ↔ 0 < (b - a).toNat ∧ (b - a).toNat < 2147483648 := by
  rw [← modLt_eq_generated]; exact modLt_iff a b

theorem gen_mod_leq_iff (a b : BitVec 32) :
    mod_leq a b = true ↔ (b - a).toNat < 2147483648 := by
  rw [← modLeq_eq_generated]
  unfold modLeq
  rw [Bool.or_eq_true, beq_iff_eq, modLt_iff, ← sub_toNat_eq_zero]
  omega

theorem gen_mod_gt_iff (a b : BitVec 32) :
    mod_gt a b = true ↔ 0 < (a - b).toNat ∧ (a - b).toNat < 2147483648 := by
  rw [← modGt_eq_generated]; unfold modGt; exact modLt_iff b a

theorem gen_mod_geq_iff (a b : BitVec 32) :
    mod_geq a b = true ↔ (a - b).toNat < 2147483648 := by
  rw [← modGeq_eq_generated]
  unfold modGeq modGt
  rw [Bool.or_eq_true, beq_iff_eq, modLt_iff, eq_comm, ← sub_toNat_eq_zero]
  omega

theorem bnd_lo (a b o : BitVec 32) : b - (a - o) = (b - a) + o := by
  rw [BitVec.sub_eq_iff_eq_add, BitVec.add_assoc, BitVec.add_comm o, BitVec.sub_add_cancel, BitVec.sub_add_cancel]
theorem bnd_hi (a c o1 o2 : BitVec 32) : (c + o2) - (a - o1) = (c - a) + (o2 + o1) := by
  rw [bnd_lo, ← BitVec.sub_add_comm, BitVec.add_assoc]

theorem toNat_add_small (y k : BitVec 32) (h : y.toNat + k.toNat < 4294967296) :
    (y + k).toNat = y.toNat + k.toNat := by
  rw [BitVec.toNat_add]; omega

theorem toNat_add_one (x : BitVec 32) :
    (x + (1 : BitVec 32)).toNat = if x.toNat = 4294967295 then 0 else x.toNat + 1 := by
  have h1 : (1 : BitVec 32).toNat = 1 := rfl
  have := x.isLt
  rw [BitVec.toNat_add, h1]
  split <;> omega

end Elvis.Tcp
