import ElvisVerif.Lemmas.RouterDeliveryArp
/-!
# The invariant of the concrete ARP layer (`CInv`) and the derivation of `FaithfulRun`

`CInv` holds in the initial state and is kept by every `cstep` of a well-formed topology
(`cstep_cinv`, all five kinds of choices, whatever else is going on in the system).  With it, every
MAC a resolve task of the tracked datagram reads from its machine's table is the faithful one
(`absChoices_faithful`), so the abstract schedule that simulates a concrete run is a `FaithfulRun`
as soon as no task of the datagram gives up (`ArpInTime`): `faithful_of_concrete`.
-/
namespace Elvis.Router

theorem cache_get_set (c : Cache) (ip ip' : Addr) (v : Option Mac) :
    (c.set ip v).get ip' = if ip' = ip then some v else c.get ip' := by
  unfold Cache.set Cache.get
  by_cases h : ip' = ip
  · simp [h]
  · -- the new head has another key, and dropping the entries for `ip` hides nothing stored under `ip'`
    simp [List.find?_filter, h, Ne.symm h]
    congr 2; funext e
    by_cases he : e.1 = ip' <;> simp [he, h]

/-- entries of the tables after one `set_mac` / `fail_mac` on machine `n` -/
theorem setCache_get {cs : List Cache} {n : Nat} {ip : Addr} {v : Option Mac} {n' : Nat} {c' : Cache}
    {ip' : Addr} {mac : Mac}
    (h : (setCache cs n ip v)[n']? = some c') (hg : c'.get ip' = some (some mac)) :
    (n' = n ∧ ip' = ip ∧ v = some mac) ∨ ∃ c, cs[n']? = some c ∧ c.get ip' = some (some mac) := by
  unfold setCache at h
  split at h
  · exact .inr ⟨c', h, hg⟩
  · rename_i c hc
    rcases List.getElem?_set_cases h with ⟨rfl, rfl⟩ | ⟨_, h'⟩
    · rw [cache_get_set] at hg
      split at hg
      · rename_i hip
        exact .inl ⟨rfl, hip, Option.some.inj hg⟩
      · exact .inr ⟨c, hc, hg⟩
    · exact .inr ⟨c', h', hg⟩

structure CInv (topo : Topo) (s : CState) : Prop where
  caches : ∀ n c ip mac, s.caches[n]? = some c → c.get ip = some (some mac) → Learnable topo n ip mac
  arps : ∀ fr ∈ s.arpFlight, Claims topo fr.net fr.sip fr.sha
  tasks : ∀ t ∈ s.tasks, ∀ nd, topo.nodes[t.p.node]? = some nd → nd.localIps[t.p.slot]? = some t.p.loc

theorem CInv.answer_faithful {topo : Topo} {s : CState} (inv : CInv topo s) (wf : TopoWf topo) {p : Pending}
    (so : SharedOnce topo p) {mac : Mac}
    (hm : ((s.caches[p.node]?).getD []).answer p.nextHop = some (some mac)) : faithfulMac topo p = some mac := by
  obtain ⟨mac', hr, hg⟩ := answer_some hm
  cases hr
  cases hcn : s.caches[p.node]? with
  | none => simp [hcn, Cache.get] at hg
  | some c =>
    simp only [hcn, Option.getD_some] at hg
    exact hop_faithful wf so (inv.caches _ c _ _ hcn hg)

theorem cinv_init (topo : Topo) : CInv topo (CState.init topo) := by
  refine ⟨?_, (fun _ h => by simp [CState.init] at h), (fun _ h => by simp [CState.init] at h)⟩
  intro n c ip mac hc hg
  simp only [CState.init, List.getElem?_map] at hc
  cases hn : topo.nodes[n]? with
  | none => simp [hn] at hc
  | some nd =>
    simp only [hn, Option.map_some, Option.some.injEq] at hc
    subst hc
    simp [Cache.get] at hg

theorem deliver_tasks_ok {topo : Topo} {fl fl' : List Frame} {i : Nat} {ps : List Pending} {evs : List Ev}
    (hc : deliverCore topo fl i = .ok (fl', ps, evs)) :
    ∀ p ∈ ps, ∀ nd, topo.nodes[p.node]? = some nd → nd.localIps[p.slot]? = some p.loc := by
  intro p hp nd hn
  obtain ⟨_, cf, r⟩ := deliverCore_rule (s := ⟨fl, [], []⟩) hc
  cases r with
  | tap _ f n nd' σ d _ ho hd =>
    rcases d with _ | _ | ⟨_ | q⟩
    · cases hp
    · cases hp
    · cases hp
    · obtain rfl := List.mem_singleton.1 hp
      obtain ⟨v, _, _, _, _, hnode, e, _, hslot, hloc, _⟩ := routerDemux_some (ipv4Demux_routed hd)
      rw [hnode, (tapOwner_spec ho).1] at hn
      cases hn
      rw [hslot]; exact hloc
  | _ => cases hp

theorem send_tasks_ok (topo : Topo) (h : Nat) (pkt : Pkt) :
    ∀ p ∈ sendCore topo h pkt, ∀ nd, topo.nodes[p.node]? = some nd → nd.localIps[p.slot]? = some p.loc := by
  intro p hp nd hn
  rcases sendCore_spec topo h pkt with e | ⟨q, nd', e, hn', hl, _, hnode, _⟩
  · rw [e] at hp; cases hp
  · rw [e] at hp
    obtain rfl := List.mem_singleton.1 hp
    rw [hnode, hn'] at hn
    cases hn
    exact hl

/-- the tables and the replies gathered while an ARP frame goes from tap to tap: what `CInv` asks of
    tables and of ARP frames -/
def AccOk (topo : Topo) (acc : List Cache × List ArpFrame) : Prop :=
  (∀ n c ip mac, acc.1[n]? = some c → c.get ip = some (some mac) → Learnable topo n ip mac) ∧
  ∀ g ∈ acc.2, Claims topo g.net g.sip g.sha

theorem arpReceive_inv {topo : Topo} {fr : ArpFrame} (hfr : Claims topo fr.net fr.sip fr.sha)
    {acc : List Cache × List ArpFrame} {tap : Nat × Node × Mac} (htap : tap ∈ tapsOn topo fr.net)
    (h : AccOk topo acc) : AccOk topo (arpReceive fr acc tap) := by
  obtain ⟨n0, nd0, mac0⟩ := tap
  have hc : ∀ n c ip mac, (setCache acc.1 n0 fr.sip (some fr.sha))[n]? = some c →
      c.get ip = some (some mac) → Learnable topo n ip mac := by
    intro n c ip mac hn hg
    rcases setCache_get hn hg with ⟨rfl, rfl, hv⟩ | ⟨c0, hc0, hg0⟩
    · simp only [Option.some.injEq] at hv
      subst hv
      exact ⟨fr.net, ⟨nd0, mac0, htap⟩, hfr⟩
    · exact h.1 n c0 ip mac hc0 hg0
  unfold arpReceive
  dsimp only
  split
  · rename_i hcond
    refine ⟨hc, ?_⟩
    intro g hg
    simp only [List.mem_append, List.mem_singleton] at hg
    rcases hg with hg | rfl
    · exact h.2 g hg
    · simp only [Bool.and_eq_true] at hcond
      exact ⟨n0, nd0, htap, hcond.2⟩
  · exact ⟨hc, h.2⟩

theorem cstep_cinv {topo : Topo} (wf : TopoWf topo) {s s' : CState} {c : CChoice}
    (h : cstep topo s c = .ok s') (inv : CInv topo s) : CInv topo s' := by
  cases c with
  | deliver i =>
    simp only [cstep] at h
    split at h
    · cases h
    · rename_i fl ps evs hc
      simp only [Except.ok.injEq] at h
      subst h
      refine ⟨inv.caches, inv.arps, ?_⟩
      intro t ht
      simp only [List.mem_append, List.mem_map] at ht
      rcases ht with ht | ⟨p, hp, rfl⟩
      · exact inv.tasks t ht
      · exact deliver_tasks_ok hc p hp
  | send hh pkt =>
    simp only [cstep, Except.ok.injEq] at h
    subst h
    refine ⟨inv.caches, inv.arps, ?_⟩
    intro t ht
    simp only [List.mem_append, List.mem_map] at ht
    rcases ht with ht | ⟨p, hp, rfl⟩
    · exact inv.tasks t ht
    · exact send_tasks_ok topo hh pkt p hp
  | inject f =>
    simp only [cstep, Except.ok.injEq] at h
    subst h
    exact ⟨inv.caches, inv.arps, inv.tasks⟩
  | task j =>
    simp only [cstep] at h
    split at h
    · simp only [Except.ok.injEq] at h; subst h; exact inv
    · rename_i t ht
      have htm : t ∈ s.tasks := List.mem_of_getElem? ht
      split at h
      · split at h
        · cases h
        · simp only [Except.ok.injEq] at h
          subst h
          exact ⟨inv.caches, inv.arps, fun t' ht' => inv.tasks t' (List.mem_of_mem_eraseIdx ht')⟩
      · simp only [Except.ok.injEq] at h
        subst h
        exact ⟨inv.caches, inv.arps, fun t' ht' => inv.tasks t' (List.mem_of_mem_eraseIdx ht')⟩
      · split at h
        · simp only [Except.ok.injEq] at h
          subst h
          refine ⟨?_, inv.arps, fun t' ht' => inv.tasks t' (List.mem_of_mem_eraseIdx ht')⟩
          intro n c ip mac hn hg
          rcases setCache_get hn hg with ⟨_, _, hv⟩ | ⟨c0, hc0, hg0⟩
          · cases hv
          · exact inv.caches n c0 ip mac hc0 hg0
        · split at h
          · cases h
          · rename_i net smac hslot
            simp only [Except.ok.injEq] at h
            subst h
            refine ⟨inv.caches, ?_, ?_⟩
            · intro fr hfr
              simp only [List.mem_append, List.mem_singleton] at hfr
              rcases hfr with hfr | rfl
              · exact inv.arps fr hfr
              · -- the request carries (local address of the slot, MAC of the slot)
                cases hn : topo.nodes[t.p.node]? with
                | none => simp [hn] at hslot
                | some nd =>
                  simp only [hn, Option.bind_some] at hslot
                  have hloc := inv.tasks t htm nd hn
                  have hmem : (net, smac) ∈ nd.slots := List.mem_of_getElem? hslot
                  exact ⟨t.p.node, nd, mem_tapsOn.2 ⟨hn, hmem⟩, wf.localClaimed _ nd _ _ hn hloc⟩
            · intro t' ht'
              rcases List.mem_or_eq_of_mem_set ht' with ht' | rfl
              · exact inv.tasks t' ht'
              · exact inv.tasks t htm
  | arp a =>
    simp only [cstep] at h
    split at h
    · simp only [Except.ok.injEq] at h; subst h; exact inv
    · rename_i fr hfr
      simp only [Except.ok.injEq] at h
      subst h
      have hfrm : fr ∈ s.arpFlight := List.mem_of_getElem? hfr
      have hcl := inv.arps fr hfrm
      have hsub : ∀ t ∈ (match fr.dmac with
          | none => tapsOn topo fr.net
          | some m => ((tapsOn topo fr.net).filter (fun (t : Nat × Node × Mac) => t.2.2 == m)).take 1),
          t ∈ tapsOn topo fr.net := by
        intro t ht
        split at ht
        · exact ht
        · exact (List.mem_filter.1 (List.mem_of_mem_take ht)).1
      obtain ⟨r1, r2⟩ := List.foldlRecOn (motive := AccOk topo) (b := (s.caches, [])) _ (arpReceive fr)
        ⟨inv.caches, fun _ hg => by cases hg⟩ (fun _ h t ht => arpReceive_inv hcl (hsub t ht) h)
      refine ⟨r1, ?_, inv.tasks⟩
      intro g hg
      simp only [List.mem_append] at hg
      rcases hg with hg | hg
      · exact inv.arps g (List.mem_of_mem_eraseIdx hg)
      · exact r2 g hg

/-- a network losing an ARP frame (`dropArp`, the fault schedules of the differential runs) keeps
    the invariant as well: nothing is learned from a frame that reaches nobody -/
theorem dropArp_cinv {topo : Topo} {s : CState} (inv : CInv topo s) (a : Nat) : CInv topo (dropArp s a) :=
  ⟨inv.caches, (fun fr h => inv.arps fr (List.mem_of_mem_eraseIdx h)), inv.tasks⟩

theorem crun_cinv {topo : Topo} (wf : TopoWf topo) : ∀ (cs : List CChoice) (s s' : CState),
    crun topo s cs = .ok s' → CInv topo s → CInv topo s'
  | [], s, s', h, inv => by simp [crun] at h; subst h; exact inv
  | c :: cs, s, s', h, inv => by
    simp only [crun] at h
    split at h
    · cases h
    · rename_i s1 h1
      exact crun_cinv wf cs s1 s' h (cstep_cinv wf h1 inv)

/-- what is asked of one concrete choice: nothing else carries token `k`, and no resolve task of
    token `k` is polled with an exhausted retry budget while the table has no answer -/
def CChoiceOk (k : Nat) (s : CState) : CChoice → Prop
  | .send _ pkt => pkt.tok ≠ k
  | .inject f => f.pkt.tok ≠ k
  | .task j => ∀ t, s.tasks[j]? = some t → t.p.pkt.tok = k →
      ((s.caches[t.p.node]?).getD []).answer t.p.nextHop = none → t.tries ≠ 0
  | _ => True

/-- the ARP exchanges made for datagram `k` complete within the retry budget, along the whole run -/
def ArpInTime (topo : Topo) (k : Nat) : CState → List CChoice → Prop
  | _, [] => True
  | s, c :: cs => CChoiceOk k s c ∧ ∀ s', cstep topo s c = .ok s' → ArpInTime topo k s' cs

theorem absChoices_faithful {topo : Topo} (wf : TopoWf topo) {k hd port : Nat} {data : List UInt8} {s : CState}
    {c : CChoice} (inv : CInv topo s) (tw : Track topo (SharedOnce topo) k hd port data s.abs) (ok : CChoiceOk k s c) :
    ∀ a ∈ absChoices s c, ChoiceFaithful topo k s.abs a := by
  intro a ha
  cases c with
  | deliver i => simp only [absChoices, List.mem_singleton] at ha; subst ha; trivial
  | send hh pkt => simp only [absChoices, List.mem_singleton] at ha; subst ha; exact ok
  | inject f => simp only [absChoices, List.mem_singleton] at ha; subst ha; exact ok
  | arp _ => simp [absChoices] at ha
  | task j =>
    simp only [absChoices] at ha
    split at ha
    · cases ha
    · rename_i t ht
      have hp : s.abs.pend[j]? = some t.p := by simp [CState.abs, ht]
      split at ha
      · rename_i mac hm
        simp only [List.mem_singleton] at ha
        subst ha
        intro p hpj hk
        rw [hp] at hpj
        cases hpj
        exact inv.answer_faithful wf (tw.pd t.p (List.mem_of_getElem? hp) hk).side hm
      · rename_i hm
        obtain ⟨mac', hr, _⟩ := answer_some hm
        cases hr
      · rename_i hm
        split at ha
        · rename_i h0
          simp only [List.mem_singleton] at ha
          subst ha
          intro p hpj hk
          rw [hp] at hpj
          cases hpj
          exact ok t ht hk hm h0
        · cases ha

theorem absChoices_cases (s : CState) (c : CChoice) : absChoices s c = [] ∨ ∃ a, absChoices s c = [a] := by
  cases c with
  | deliver i => exact .inr ⟨_, rfl⟩
  | send _ _ => exact .inr ⟨_, rfl⟩
  | inject _ => exact .inr ⟨_, rfl⟩
  | arp _ => exact .inl rfl
  | task j =>
    simp only [absChoices]
    split
    · exact .inl rfl
    · split
      · exact .inr ⟨_, rfl⟩
      · exact .inr ⟨_, rfl⟩
      · split
        · exact .inr ⟨_, rfl⟩
        · exact .inl rfl

theorem faithful_of_concrete {topo : Topo} (wf : TopoWf topo) {k hd port : Nat} {data : List UInt8} :
    ∀ (cs : List CChoice) (s : CState), CInv topo s → Track topo (SharedOnce topo) k hd port data s.abs →
      ArpInTime topo k s cs →
      FaithfulRun topo k s.abs (absSched topo s cs)
  | [], _, _, _, _ => trivial
  | c :: cs, s, inv, tw, tm => by
    have hfa := absChoices_faithful wf inv tw tm.1
    -- the rest of the run, from the abstract state `st` the concrete step leads to
    have rest : ∀ st, (∀ s', cstep topo s c = .ok s' → s'.abs = st) → Track topo (SharedOnce topo) k hd port data st →
        FaithfulRun topo k st (match cstep topo s c with | .ok s' => absSched topo s' cs | .error _ => []) := by
      intro st hst tw'
      cases hs : cstep topo s c with
      | error e => trivial
      | ok s' =>
        obtain rfl := hst s' hs
        exact faithful_of_concrete wf cs s' (cstep_cinv wf hs inv) tw' (tm.2 s' hs)
    simp only [absSched]
    rcases absChoices_cases s c with e | ⟨a, e⟩
    · rw [e]
      refine rest s.abs (fun s' hs => ?_) tw
      have href := cstep_refines topo s s' c hs
      rw [e] at href
      exact (Except.ok.inj href).symm
    · rw [e] at hfa ⊢
      simp only [List.cons_append, List.nil_append, FaithfulRun]
      refine ⟨hfa a (by simp), fun s1 h1 => rest s1 (fun s' hs => ?_) (step_track h1 tw (hfa a (by simp)))⟩
      have href := cstep_refines topo s s' c hs
      rw [e, run_single, h1] at href
      exact (Except.ok.inj href).symm

end Elvis.Router
