import ElvisVerif.Lemmas.TcpFinSys
import ElvisVerif.Lemmas.TcbArrive
/-!
# C01 — one step and the runs of the system nobody closes

`Inv iss s` is `InvF iss (fun _ => false) s` with every TCB in one of the three open states (`InvF.of_inv`,
`Inv.of_invF`).  A step keeps `InvF` (`Fin.step_invG`); a step other than `close` keeps the open states
(`step_open3`, read off the state diagram), so no FIN flag goes up.

`RunOk iss s ops`: every op of the run is one of the ops of the C01 statement (`OpOk`) in the state in which it is
executed; `runOkB` is its executable form, for the non-vacuity examples.  H31 (`Lt31`) is asked of the final state only.
-/
namespace Elvis.Tcp.C01
open Elvis.ModCmp Elvis.Tcp.Tcb Elvis.Tcp.Fin

section
variable {iss : SideId → Seq}

def Open3 (s : Sys) : Prop := ∀ x t, (s.side x).tcb = some t → Ok3 t.state

theorem Inv.open3 {s : Sys} (h : Inv iss s) : Open3 s := fun x t ht => ((h.side x).tcb t ht).st

theorem Inv.of_invF {s : Sys} (h : InvF iss (fun _ => false) s) (h3 : Open3 s) : Inv iss s :=
  ⟨fun x => ⟨fun t ht => ((h.side x).tcb t ht).1.tinv (h3 x t ht),
      fun i m a b => ⟨((h.side x).fresh i m a b).1, ((h.side x).fresh i m a b).2.1, ((h.side x).fresh i m a b).2.2.1⟩,
      (h.side x).pre⟩,
    fun g hg x hx => (h.hist g hg x hx).valid⟩

theorem Inv.update {s : Sys} (h : Inv iss s) (x : SideId) (v : Side) (segs : List Segment)
    (hsub : v.submitted = (s.side x).submitted)
    (hv : SideInv x.port (iss x) (iss x.peer) v (s.side x.peer))
    (hs : ∀ g ∈ segs, Valid (iss x) v.submitted g ∧ g.hdr.srcPort = x.port) :
    Inv iss ((s.setSide x v).record segs) := by
  have := (InvF.of_inv h).update x v false segs hsub (fun h0 => h0) hv.sideInvF
    fun g hg => ⟨ValidF.of_valid (hs g hg).1, (hs g hg).2⟩
  rw [setFlag_same (fun _ => false) x] at this
  exact Inv.of_invF this (tcbs_touched h.open3 x v segs fun t ht => (hv.tcb t ht).st)

/-- a response of a side without TCB (RST from CLOSED / LISTEN) -/
theorem Inv.respond {s : Sys} (h : Inv iss s) (x : SideId) (hd : Hdr)
    (hp : hd.ctl.syn = false ∧ hd.ctl.fin = false ∧ hd.srcPort = x.port) : Inv iss (s.record [⟨hd, []⟩]) :=
  Inv.of_invF ((InvF.of_inv h).respond x hd hp) fun y t ht => h.open3 y t (by rwa [side_record] at ht)

theorem OpOk.opOkG {s : Sys} {op : Op} (h : OpOk iss s op) : OpOkG iss (fun _ => false) s op := by
  cases op <;> first | exact ⟨h.1, h.2, rfl⟩ | exact h | exact h.elim

theorem step_open3 {s s' : Sys} {op : Op} {r : Res} (h : Inv iss s) (hop : OpOk iss s op) (h31 : Lt31 s)
    (e : s.step op = .ok (s', r)) : Open3 s' := by
  have h3 := h.open3
  have set : ∀ {x : SideId} {v : Side}, (∀ t, v.tcb = some t → Ok3 t.state) → Open3 (s.setSide x v) :=
    fun hv => tcbs_touched h3 _ _ [] hv
  have arr : ∀ {x : SideId} {g : Segment} {s' : Sys} {r : Res}, Sys.Arrive s x g s' r → Addressed x g → g ∈ s.history →
      Open3 s' := fun a ha hg => by
    cases a with
    | tcb ht hs =>
      refine set fun u hu => ?_
      cases hu
      exact (segmentArrives_inv ((h.side _).tcb _ ht) (h.hist _ hg _ ha.1) (h31.side _) hs).st
    | close => exact set fun _ ht => nomatch ht
    | ignore | closed => exact h3
    | create _ _ hs =>
      refine set fun u hu => ?_
      cases hu
      rw [(listen_create _ _ _ _ hs).2.2.2.2.2.1]
      trivial
    | refuse | reset => exact fun y t ht => h3 y t (by rwa [side_record] at ht)
  cases step_iff.1 e with
  | «open» ho => exact set fun u hu => by cases hu; exact (open_inv (issY := 0) (subY := []) ho).st
  | listen => exact set fun t ht => h3 _ t ht
  | noSeg | noTcb => exact h3
  | deliver hn a => exact arr a (hop _ hn) (nth_mem s _ _ hn)
  | inject | close | abort => exact hop.elim
  | drop | expire => exact set fun _ ht => nomatch ht
  | @write x b t ht => exact set fun u hu => by cases hu; rw [(send_keep t b).state]; exact h3 x t ht
  | @read x t ht => exact set fun u hu => by cases hu; rw [(receive_keep t).state]; exact h3 x t ht
  | @tick x ms t t' ht ha => exact set fun u hu => by cases hu; rw [(advanceTime_edges _ _ _ _ ha).1]; exact h3 x t ht
  | @emit x t t' segs ht hs =>
    exact tcbs_touched h3 _ _ segs fun u hu => by cases hu; rw [(segments_keep _ _ _ hs).state]; exact h3 x t ht

theorem step_inv {s s' : Sys} {op : Op} {r : Res} (h : Inv iss s) (hop : OpOk iss s op) (h31 : Lt31 s)
    (e : s.step op = .ok (s', r)) : Inv iss s' := by
  obtain ⟨fin', hF, -, hn⟩ := step_invG (InvF.of_inv h) hop.opOkG h31 e
  have h3 := step_open3 h hop h31 e
  -- no flag has gone up: a TCB in an open state has not numbered its FIN
  have : fin' = fun _ => false := funext fun y => by
    cases ht : (s'.side y).tcb with
    | none => exact hn y ht
    | some t => rw [← ((hF.side y).tcb t ht).2]; exact finSent_of_ok3 (h3 y t ht)
  exact Inv.of_invF (this ▸ hF) h3

end
end Elvis.Tcp.C01

namespace Elvis.Tcp.C01
open Elvis.ModCmp Elvis.Tcp.Tcb

def RunOk (iss : SideId → Seq) : Sys → List Op → Prop
  | _, [] => True
  | s, op :: ops => OpOk iss s op ∧ ∀ s' r, s.step op = .ok (s', r) → RunOk iss s' ops

theorem run_inv {iss : SideId → Seq} {s s' : Sys} {ops : List Op} {rs : List Res} (h : Inv iss s)
    (hok : RunOk iss s ops) (e : s.run ops = .ok (s', rs)) (h31 : Lt31 s') : Inv iss s' := by
  induction ops generalizing s rs with
  | nil => rw [Sys.run_nil] at e; cases e; exact h
  | cons op ops ih =>
    obtain ⟨s1, r1, rs1, h1, h2, -⟩ := run_cons e
    exact ih (step_inv h hok.1 (Lt31.of_run e h31) h1) (hok.2 s1 r1 h1) h2

theorem run_append {s s' : Sys} {a b : List Op} {rs : List Res} (e : s.run (a ++ b) = .ok (s', rs)) :
    ∃ s1 r1 r2, s.run a = .ok (s1, r1) ∧ s1.run b = .ok (s', r2) := by
  induction a generalizing s rs with
  | nil => exact ⟨s, [], rs, rfl, e⟩
  | cons op a ih =>
    obtain ⟨s1, r1, rs1, h1, h2, -⟩ := run_cons e
    obtain ⟨s3, r3, r4, e3, e4⟩ := ih h2
    exact ⟨s3, r1 :: r3, r4, run_cons_ok h1 e3, e4⟩

theorem RunOk.take {iss : SideId → Seq} {s : Sys} {ops : List Op} (h : RunOk iss s ops) (k : Nat) :
    RunOk iss s (ops.take k) := by
  induction ops generalizing s k with
  | nil => simpa using h
  | cons op ops ih =>
    cases k with
    | zero => trivial
    | succ k => exact ⟨h.1, fun s' r e => ih (h.2 s' r e) k⟩

def pristineB (sd : Side) : Bool :=
  sd.tcb.isNone && sd.listen.isNone && sd.submitted.isEmpty && sd.delivered.isEmpty

def opOkB (iss : SideId → Seq) (s : Sys) : Op → Bool
  | .open x i _ => i == iss x && pristineB (s.side x)
  | .listen x i _ => i == iss x && pristineB (s.side x)
  | .write _ _ | .read _ | .tick _ _ | .emit _ | .drop _ => true
  | .deliver x i => match s.nth i with
    | none => true
    | some g => addressedB x g
  | .inject _ _ | .close _ | .abort _ => false

def runOkB (iss : SideId → Seq) : Sys → List Op → Bool
  | _, [] => true
  | s, op :: ops => opOkB iss s op && match s.step op with
    | .ok (s', _) => runOkB iss s' ops
    | .error _ => true

theorem pristineB_sound {sd : Side} (h : pristineB sd = true) : Pristine sd := by
  unfold pristineB at h
  simp only [Bool.and_eq_true, Option.isNone_iff_eq_none, List.isEmpty_iff] at h
  exact ⟨h.1.1.1, h.1.1.2, h.1.2, h.2⟩

theorem opOkB_sound {iss : SideId → Seq} {s : Sys} {op : Op} (h : opOkB iss s op = true) : OpOk iss s op := by
  cases op with
  | «open» x i m | listen x i m =>
    simp only [opOkB, Bool.and_eq_true, beq_iff_eq] at h
    exact ⟨h.1, pristineB_sound h.2⟩
  | deliver x i =>
    intro g hg
    simp only [opOkB, hg, addressedB, Bool.and_eq_true, beq_iff_eq] at h
    exact h
  | write | read | tick | emit | drop => trivial
  | inject | close | abort => cases h

theorem runOkB_sound {iss : SideId → Seq} {s : Sys} {ops : List Op} (h : runOkB iss s ops = true) :
    RunOk iss s ops := by
  induction ops generalizing s with
  | nil => trivial
  | cons op ops ih =>
    unfold runOkB at h
    rw [Bool.and_eq_true] at h
    refine ⟨opOkB_sound h.1, fun s' r e => ?_⟩
    have := h.2
    rw [e] at this
    exact ih this

end Elvis.Tcp.C01
