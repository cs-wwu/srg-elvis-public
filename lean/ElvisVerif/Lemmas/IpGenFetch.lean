import ElvisVerif.Lemmas.IpGen
/-! Helper lemmas for C15: `next` and the `fetch_net` scan. -/
namespace Elvis.IpGen

theorem round_down (ip : Nat) {p : Nat} (hp : 0 < p) :
    ip / p * p ≤ ip ∧ ip < ip / p * p + p ∧ ip / p * p % p = 0 ∧
      (ip / p * p + p) / p * p = ip / p * p + p := by
  refine ⟨Nat.div_mul_le_self ip p, Nat.lt_div_mul_add hp, Nat.mul_mod_left _ _, ?_⟩
  rw [Nat.add_div_right _ hp, Nat.mul_div_cancel _ hp, Nat.add_mul, Nat.one_mul]

theorem next_spec (ip k : Nat) (hk : k ≤ 32) (hip : ip < 2 ^ 32) :
    (∃ n, next ip (2 ^ 32 - 2 ^ k) = .ok (some n) ∧ n.WF k ∧ ip ≤ n.id ∧ n.id < ip + 2 ^ k) ∨
    (next ip (2 ^ 32 - 2 ^ k) = .ok none ∧ ∀ id, id % 2 ^ k = 0 → ip ≤ id → 2 ^ 32 ≤ id) := by
  obtain ⟨hwf, hid⟩ := Net.new_WF ip k hk hip
  have hp := Nat.two_pow_pos k
  obtain ⟨hq1, hq2, hqa, hqn⟩ := round_down ip hp
  generalize ip / 2 ^ k * 2 ^ k = q at *
  simp only [next]
  by_cases heq : q = ip
  · left
    refine ⟨Net.new ip (2 ^ 32 - 2 ^ k), ?_, hwf, by omega, by omega⟩
    rw [if_pos (by rw [hid, heq]; exact beq_self_eq_true ip)]
  · obtain ⟨hb, hble⟩ := Net.broadcast_WF hwf
    rw [if_neg (by rw [hid]; simpa using heq), hb]
    dsimp only
    rw [hid] at hble ⊢
    rw [add_one]
    by_cases hlt : q + (2 ^ k - 1) < U32MAX
    · left
      have he : q + (2 ^ k - 1) + 1 = q + 2 ^ k := by omega
      rw [if_pos hlt, he]
      obtain ⟨hwf', hid'⟩ := Net.new_WF (q + 2 ^ k) k hk (by unfold U32MAX at hlt; omega)
      rw [hqn] at hid'
      exact ⟨_, rfl, hwf', by omega, by omega⟩
    · right
      rw [if_neg hlt]
      refine ⟨rfl, ?_⟩
      intro id hal hge
      have := Subnet.aligned_gap hqa hal (by omega : q < id)
      unfold U32MAX at hlt hble; omega

/-- what a scan of the free ranges `L` answers: the aligned block it found inside one of them, with
    exactly that block blocked, or the unchanged generator when no range of `L` contains one -/
def Scanned (g : Gen) (k : Nat) (L : List Range) : Gen × Option Net → Prop
  | (g', some n) => n.WF k ∧ (∃ av ∈ L, av.1 ≤ n.id ∧ n.id + (2 ^ k - 1) ≤ av.2) ∧
      blockRange g (n.id, n.id + (2 ^ k - 1)) = .ok g'
  | (g', none) => g' = g ∧ ∀ av ∈ L, ∀ id, id % 2 ^ k = 0 → av.1 ≤ id → ¬ (id + (2 ^ k - 1) ≤ av.2)

theorem Scanned.skip {g : Gen} {k : Nat} {av : Range} {rest : List Range} {res : Gen × Option Net}
    (hno : ∀ id, id % 2 ^ k = 0 → av.1 ≤ id → ¬ (id + (2 ^ k - 1) ≤ av.2))
    (h : Scanned g k rest res) : Scanned g k (av :: rest) res := by
  obtain ⟨g', r⟩ := res
  cases r with
  | none => exact ⟨h.1, List.forall_mem_cons.2 ⟨hno, h.2⟩⟩
  | some n =>
    obtain ⟨h1, ⟨a, ha, h3⟩, h4⟩ := h
    exact ⟨h1, ⟨a, List.mem_cons_of_mem _ ha, h3⟩, h4⟩

theorem fetchLoop_spec (g : Gen) (k : Nat) (hk : k ≤ 32) :
    ∀ (L : List Range), (∀ av ∈ L, av.1 ≤ U32MAX ∧ av.2 ≤ U32MAX) →
    ∃ res, fetchLoop g (2 ^ 32 - 2 ^ k) L = .ok res ∧ Scanned g k L res := by
  intro L
  induction L with
  | nil => intro _; exact ⟨(g, none), rfl, rfl, fun _ h => nomatch h⟩
  | cons av rest ih =>
    intro hL
    obtain ⟨⟨hav1, hav2⟩, hrest⟩ := List.forall_mem_cons.1 hL
    have hav : av.1 < 2 ^ 32 := by unfold U32MAX at hav1; omega
    obtain ⟨res, hres, hspec⟩ := ih hrest
    unfold fetchLoop
    rcases next_spec av.1 k hk hav with ⟨n, hn, hwf, hge, hlt⟩ | ⟨hn, hnone⟩
    · rw [hn]
      simp only [Net.toRange_WF hwf]
      by_cases hc : contains av (n.id, n.id + (2 ^ k - 1)) = true
      · rw [if_pos hc]
        obtain ⟨g', hg', _⟩ := blockRange_ok g (n.id, n.id + (2 ^ k - 1)) (Net.range_le hwf)
        rw [hg']
        refine ⟨(g', some n), rfl, hwf, ⟨av, List.mem_cons_self, ?_⟩, hg'⟩
        simpa [contains] using hc
      · rw [if_neg hc]
        refine ⟨res, hres, hspec.skip ?_⟩
        intro id hal hle hfit
        apply hc
        have : n.id ≤ id := by
          apply Nat.le_of_not_lt; intro hlt'
          have := Subnet.aligned_gap hal hwf.2.2.1 hlt'
          omega
        simp [contains]; omega
    · rw [hn]
      refine ⟨res, hres, hspec.skip ?_⟩
      intro id hal hle hfit
      have h1 := hnone id hal hle
      unfold U32MAX at hav2; omega

end Elvis.IpGen
