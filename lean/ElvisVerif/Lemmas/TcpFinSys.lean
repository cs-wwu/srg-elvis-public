import ElvisVerif.Lemmas.TcpFinLocal
import ElvisVerif.Lemmas.C01Proc
import ElvisVerif.Lemmas.C01Sys
/-!
# The stream invariant with `close()`: the closed two-endpoint system

`InvF iss fin s`: C01's `Inv` with `TInvF` / `ValidF`; the ghost `fin x` says that side `x` has numbered
its FIN (if `x` has a TCB it is what the TCB shows, `finSent`; it survives the deletion of the TCB).
`OpOkF`: `write`, `read`, `tick`, `emit`, **`close`**, `drop` and deliveries of any history element to the
endpoint it is addressed to; `OpOkG` adds `open` / `listen` with the configured ISS on a side never used.
`step_invG` (`step_invF` for `OpOkF`): one step keeps the invariant; the flags only go from false to true.  `InvF.of_inv`: every state that satisfies C01's invariant (nobody has closed yet) satisfies
`InvF` with both flags false.
-/
namespace Elvis.Tcp.Fin
open Elvis.ModCmp Elvis.Tcp.Tcb Elvis.Tcp.C01

/-- invariant of one side `sd` (port `port`, ISS `ix`, FIN flag `fx`) against its peer `pd` (ISS `iy`, flag `fy`) -/
structure SideInvF (port : U16) (ix iy : Seq) (fx fy : Bool) (sd pd : Side) : Prop where
  tcb : ∀ t, sd.tcb = some t → TInvF port ix iy sd.submitted pd.submitted sd.delivered fy t ∧ finSent t = fx
  fresh : ∀ i m, sd.tcb = none → sd.listen = some (i, m) →
    i = ix ∧ sd.submitted = [] ∧ sd.delivered = [] ∧ fx = false
  pre : sd.delivered <+: pd.submitted

section
variable {port : U16} {ix iy : Seq} {fx fy : Bool} {sd pd : Side}

theorem SideInvF.peer_grow (h : SideInvF port ix iy fx fy sd pd) (pd' : Side) (fy' : Bool) {more : List UInt8}
    (e : pd'.submitted = pd.submitted ++ more) (hmore : more = [] ∨ fy' = false) (hf : fy = true → fy' = true) :
    SideInvF port ix iy fx fy' sd pd' :=
  ⟨fun t ht => by rw [e]; exact ⟨TInvG.grow_peer (h.tcb t ht).1 hmore hf, (h.tcb t ht).2⟩, h.fresh,
    by rw [e]; exact h.pre.trans (List.prefix_append _ _)⟩

theorem SideInvF.gone (h : SideInvF port ix iy fx fy sd pd) :
    SideInvF port ix iy fx fy { sd with tcb := none, listen := none } pd :=
  ⟨(fun _ ht => by cases ht), (fun _ _ _ hl => by cases hl), h.pre⟩

theorem SideInvF.withTcb (h : SideInvF port ix iy fx fy sd pd) (t' : Tcb) (l : Option (Seq × U16)) (fx' : Bool)
    (ht : TInvF port ix iy sd.submitted pd.submitted sd.delivered fy t') (hf : finSent t' = fx') :
    SideInvF port ix iy fx' fy { sd with tcb := some t', listen := l } pd :=
  ⟨(fun t e => by cases e; exact ⟨ht, hf⟩), (fun _ _ e _ => by cases e), h.pre⟩

end

structure InvF (iss : SideId → Seq) (fin : SideId → Bool) (s : Sys) : Prop where
  side : ∀ x, SideInvF x.port (iss x) (iss x.peer) (fin x) (fin x.peer) (s.side x) (s.side x.peer)
  hist : ∀ g ∈ s.history, ∀ x : SideId, g.hdr.srcPort = x.port → ValidF (iss x) (s.side x).submitted (fin x) g

def setFlag (fin : SideId → Bool) (x : SideId) (b : Bool) : SideId → Bool := fun y => if y = x then b else fin y

@[simp] theorem setFlag_self (fin : SideId → Bool) (x : SideId) (b : Bool) : setFlag fin x b x = b := by
  unfold setFlag; rw [if_pos rfl]

@[simp] theorem setFlag_peer (fin : SideId → Bool) (x : SideId) (b : Bool) : setFlag fin x b x.peer = fin x.peer := by
  unfold setFlag; rw [if_neg (SideId.peer_ne x)]

theorem setFlag_mono (fin : SideId → Bool) (x : SideId) (b : Bool) (h : fin x = true → b = true) (y : SideId) :
    fin y = true → setFlag fin x b y = true := by
  intro hy
  rcases side_cases x y with rfl | rfl
  · rw [setFlag_self]; exact h hy
  · rw [setFlag_peer]; exact hy

theorem setFlag_same (fin : SideId → Bool) (x : SideId) : setFlag fin x (fin x) = fin := by
  funext y
  unfold setFlag
  split
  · rename_i h; rw [h]
  · rfl

section
variable {iss : SideId → Seq} {fin : SideId → Bool}

theorem InvF.side_peer {s : Sys} (h : InvF iss fin s) (x : SideId) :
    SideInvF x.peer.port (iss x.peer) (iss x) (fin x.peer) (fin x) (s.side x.peer) (s.side x) := by
  have := h.side x.peer
  rwa [SideId.peer_peer] at this

theorem InvF.build {fin' : SideId → Bool} {s' : Sys} (x : SideId)
    (hx : SideInvF x.port (iss x) (iss x.peer) (fin' x) (fin' x.peer) (s'.side x) (s'.side x.peer))
    (hy : SideInvF x.peer.port (iss x.peer) (iss x) (fin' x.peer) (fin' x) (s'.side x.peer) (s'.side x))
    (hh : ∀ g ∈ s'.history, ∀ y : SideId, g.hdr.srcPort = y.port → ValidF (iss y) (s'.side y).submitted (fin' y) g) :
    InvF iss fin' s' := by
  exact ⟨x.both hx (by rw [SideId.peer_peer]; exact hy), hh⟩

theorem _root_.Elvis.Tcp.C01.SideInv.sideInvF {port : U16} {ix iy : Seq} {sd pd : Side} (h : SideInv port ix iy sd pd) :
    SideInvF port ix iy false false sd pd :=
  ⟨fun t ht => ⟨TInvF.of_tinv (h.tcb t ht), finSent_of_ok3 (h.tcb t ht).st⟩,
    fun i m a b => ⟨(h.fresh i m a b).1, (h.fresh i m a b).2.1, (h.fresh i m a b).2.2, rfl⟩, h.pre⟩

theorem InvF.of_inv {s : Sys} (h : Inv iss s) : InvF iss (fun _ => false) s :=
  ⟨fun x => (h.side x).sideInvF, fun g hg x hx => ValidF.of_valid (h.hist g hg x hx)⟩

/-- a step that replaces side `x` by a side whose submitted log has grown by `more` (only while its FIN is not
    numbered) and whose flag `fx'` is not below the old one, and appends valid segments of `x` to the history -/
theorem InvF.update_gen {s s' : Sys} (h : InvF iss fin s) (x : SideId) (v : Side) (fx' : Bool) (segs : List Segment)
    {more : List UInt8} (e1 : s'.side x = v) (e2 : s'.side x.peer = s.side x.peer)
    (e3 : ∀ g ∈ s'.history, g ∈ segs ∨ g ∈ s.history)
    (hsub : v.submitted = (s.side x).submitted ++ more) (hmore : more = [] ∨ fx' = false)
    (hmono : fin x = true → fx' = true)
    (hv : SideInvF x.port (iss x) (iss x.peer) fx' (fin x.peer) v (s.side x.peer))
    (hs : ∀ g ∈ segs, ValidF (iss x) v.submitted fx' g ∧ g.hdr.srcPort = x.port) :
    InvF iss (setFlag fin x fx') s' := by
  refine InvF.build x ?_ ?_ ?_
  · rw [e1, e2, setFlag_self, setFlag_peer]; exact hv
  · rw [e1, e2, setFlag_self, setFlag_peer]
    exact (h.side_peer x).peer_grow v fx' hsub hmore hmono
  · intro g hg y hy
    rcases e3 g hg with hg | hg
    · obtain ⟨hval, hp⟩ := hs g hg
      have : y = x := SideId.port_inj (hy.symm.trans hp)
      subst this
      rw [e1, setFlag_self]; exact hval
    · rcases side_cases x y with rfl | rfl
      · rw [e1, hsub, setFlag_self]; exact (h.hist g hg _ hy).grow hmore hmono
      · rw [e2, setFlag_peer]; exact h.hist g hg _ hy

theorem InvF.update {s : Sys} (h : InvF iss fin s) (x : SideId) (v : Side) (fx' : Bool) (segs : List Segment)
    (hsub : v.submitted = (s.side x).submitted) (hmono : fin x = true → fx' = true)
    (hv : SideInvF x.port (iss x) (iss x.peer) fx' (fin x.peer) v (s.side x.peer))
    (hs : ∀ g ∈ segs, ValidF (iss x) v.submitted fx' g ∧ g.hdr.srcPort = x.port) :
    InvF iss (setFlag fin x fx') ((s.setSide x v).record segs) :=
  h.update_gen x v fx' segs (by simp) (by simp)
    (fun g hg => by
      simp only [history_record, history_setSide, List.mem_append, List.mem_reverse] at hg
      exact hg) (hsub.trans (List.append_nil _).symm) (.inl rfl) hmono hv hs

theorem InvF.update_more {s : Sys} (h : InvF iss fin s) (x : SideId) (v : Side) {more : List UInt8}
    (hsub : v.submitted = (s.side x).submitted ++ more) (hmore : more = [] ∨ fin x = false)
    (hv : SideInvF x.port (iss x) (iss x.peer) (fin x) (fin x.peer) v (s.side x.peer)) :
    InvF iss fin (s.setSide x v) := by
  have := h.update_gen (s' := s.setSide x v) x v (fin x) [] (by simp) (by simp)
    (fun g hg => Or.inr (by simpa using hg)) hsub hmore (fun h0 => h0) hv (fun g hg => by cases hg)
  rwa [setFlag_same] at this

theorem InvF.update' {s : Sys} (h : InvF iss fin s) (x : SideId) (v : Side)
    (hsub : v.submitted = (s.side x).submitted)
    (hv : SideInvF x.port (iss x) (iss x.peer) (fin x) (fin x.peer) v (s.side x.peer)) :
    InvF iss fin (s.setSide x v) :=
  h.update_more x v (hsub.trans (List.append_nil _).symm) (.inl rfl) hv

theorem InvF.respond {s : Sys} (h : InvF iss fin s) (x : SideId) (hd : Hdr)
    (hp : hd.ctl.syn = false ∧ hd.ctl.fin = false ∧ hd.srcPort = x.port) : InvF iss fin (s.record [⟨hd, []⟩]) := by
  refine ⟨fun y => by simpa using h.side y, fun g hg y hy => ?_⟩
  simp only [history_record, List.reverse_cons, List.reverse_nil, List.nil_append, List.cons_append,
    List.mem_cons] at hg
  rcases hg with rfl | hg
  · exact ValidF.plain hd hp.1 hp.2.1
  · simpa using h.hist g hg y hy

theorem InvF.gone {s : Sys} (h : InvF iss fin s) (x : SideId) : InvF iss fin (s.gone x) :=
  h.update' x _ rfl (h.side x).gone

theorem InvF.withTcb {s : Sys} (h : InvF iss fin s) (x : SideId) (t : Tcb)
    (ht : TInvF x.port (iss x) (iss x.peer) (s.side x).submitted (s.side x.peer).submitted (s.side x).delivered
      (fin x.peer) t) (hf : finSent t = fin x) : InvF iss fin (s.withTcb x t) :=
  h.update' x _ rfl ((h.side x).withTcb t _ _ ht hf)

theorem InvF.withTcbFin {s : Sys} (h : InvF iss fin s) (x : SideId) (t : Tcb) (segs : List Segment)
    (ht : TInvF x.port (iss x) (iss x.peer) (s.side x).submitted (s.side x.peer).submitted (s.side x).delivered
      (fin x.peer) t) (hm : fin x = true → finSent t = true)
    (hs : ∀ g ∈ segs, ValidF (iss x) (s.side x).submitted (finSent t) g ∧ g.hdr.srcPort = x.port) :
    ∃ fin', InvF iss fin' ((s.withTcb x t).record segs) ∧ (∀ y, fin y = true → fin' y = true) ∧
      ∀ y, (((s.withTcb x t).record segs).side y).tcb = none → fin' y = fin y := by
  refine ⟨_, h.update x _ (finSent t) segs rfl hm ((h.side x).withTcb t _ _ ht rfl) hs, setFlag_mono fin x _ hm,
    fun y hy => ?_⟩
  rcases side_cases x y with rfl | rfl
  · rw [side_record, side_setSide_same] at hy; cases hy
  · exact setFlag_peer _ _ _

theorem arrive_invF {s s' : Sys} {x : SideId} {g : Segment} {r : Res} (h : InvF iss fin s) (a : Sys.Arrive s x g s' r)
    (h31 : Lt31 s) (ha : Addressed x g) (hg : g ∈ s.history) : InvF iss fin s' := by
  have hval : ValidF (iss x.peer) (s.side x.peer).submitted (fin x.peer) g := h.hist g hg x.peer ha.1
  have hsd := h.side x
  cases a with
  | tcb ht hs =>
    obtain ⟨i1, f1⟩ := segmentArrives_invF (hsd.tcb _ ht).1 hval (h31.side x.peer) hs
    exact h.withTcb x _ i1 (f1.trans (hsd.tcb _ ht).2)
  | close => exact h.gone x
  | ignore | closed => exact h
  | create ht hl hs =>
    obtain ⟨hi, hsub, hdel, hfx⟩ := hsd.fresh _ _ ht hl
    obtain ⟨this, hfs⟩ := (listen_invF (issY := iss x.peer) (subY := (s.side x.peer).submitted)
      (finY := fin x.peer) hval hs).1 _ rfl
    rw [ha.2, hi] at this
    exact h.withTcb x _ (by rw [hsub, hdel]; exact this) (by rw [hfx]; exact hfs)
  | refuse _ _ hs =>
    have := (listen_invF (issY := iss x.peer) (subY := (s.side x.peer).submitted) (finY := fin x.peer) hval hs).2 _ rfl
    exact h.respond x _ ⟨this.1, this.2.1, this.2.2.trans ha.2⟩
  | reset _ _ hs =>
    have := closed_plain hs
    exact h.respond x _ ⟨this.1, this.2.1, this.2.2.trans ha.2⟩

/-- the ops of C01's statement (`open` / `listen` of a side nobody has used, whose FIN flag is down) and `close` -/
def OpOkG (iss : SideId → Seq) (fin : SideId → Bool) (s : Sys) : Op → Prop
  | .open x i _ | .listen x i _ => i = iss x ∧ Pristine (s.side x) ∧ fin x = false
  | .write _ _ | .read _ | .tick _ _ | .emit _ | .drop _ | .close _ => True
  | .deliver x i => ∀ g, s.nth i = some g → Addressed x g
  | .inject _ _ | .abort _ => False

theorem step_invG {s s' : Sys} {op : Op} {r : Res} (h : InvF iss fin s) (hop : OpOkG iss fin s op) (h31 : Lt31 s)
    (e : s.step op = .ok (s', r)) :
    ∃ fin', InvF iss fin' s' ∧ (∀ y, fin y = true → fin' y = true) ∧ ∀ y, (s'.side y).tcb = none → fin' y = fin y := by
  -- all ops but `emit` and `close` leave the flags as they are
  have keep : ∀ {s'}, InvF iss fin s' →
      ∃ fin', InvF iss fin' s' ∧ (∀ y, fin y = true → fin' y = true) ∧ ∀ y, (s'.side y).tcb = none → fin' y = fin y :=
    fun h' => ⟨fin, h', fun _ h0 => h0, fun _ _ => rfl⟩
  cases step_iff.1 e with
  | @«open» x _ _ t ho =>
    obtain ⟨hi, ⟨-, -, hsub, hdel⟩, hf⟩ := hop
    have it := C01.open_inv (issY := iss x.peer) (subY := (s.side x.peer).submitted) ho
    exact keep (h.withTcb x t (by rw [hsub, hdel, ← hi]; exact TInvF.of_tinv it) ((finSent_of_ok3 it.st).trans hf.symm))
  | listen =>
    obtain ⟨hi, ⟨-, -, hsub, hdel⟩, hf⟩ := hop
    exact keep (h.update' _ _ rfl
      ⟨(h.side _).tcb, fun _ _ _ hl' => by cases hl'; exact ⟨hi, hsub, hdel, hf⟩, (h.side _).pre⟩)
  | inject | abort => exact hop.elim
  | noSeg | noTcb => exact keep h
  | deliver hn a => exact keep (arrive_invF h a h31 (hop _ hn) (nth_mem s _ _ hn))
  | drop | expire => exact keep (h.gone _)
  | @write x bytes tcb ht =>
    obtain ⟨it, hft⟩ := (h.side x).tcb tcb ht
    -- something is submitted only in a state in which `send` accepts it, and there the FIN is not numbered
    have hmore : (if sendAccepts tcb.state then bytes else []) = [] ∨ fin x = false := by
      cases ha : sendAccepts tcb.state
      · exact .inl rfl
      · exact .inr (hft ▸ finSent_accepts ha)
    exact keep (h.update_more x _ rfl hmore
      ⟨(fun t e => by cases e; exact ⟨send_invF it bytes, (send_finSent tcb bytes).trans hft⟩),
        (fun _ _ e _ => by cases e), (h.side x).pre⟩)
  | @read x tcb ht =>
    obtain ⟨it, hft⟩ := (h.side x).tcb tcb ht
    have i1 := receive_invF it
    exact keep (h.update' x _ rfl ⟨(fun t e => by cases e; exact ⟨i1, (receive_finSent tcb).trans hft⟩),
      (fun _ _ e _ => by cases e), i1.delivered_prefix⟩)
  | tick ht ha =>
    obtain ⟨it, hft⟩ := (h.side _).tcb _ ht
    have f := advanceTime_frF ha
    exact keep (h.withTcb _ _ (it.of_fr f) (f.fs.trans hft))
  | emit ht hs =>
    obtain ⟨it, hft⟩ := (h.side _).tcb _ ht
    obtain ⟨i1, hmono, hout⟩ := segments_invF it hs
    exact h.withTcbFin _ _ _ i1 (fun h0 => hmono (hft.trans h0)) hout
  | close ht hs =>
    obtain ⟨it, hft⟩ := (h.side _).tcb _ ht
    obtain ⟨i1, hmono⟩ := close_invF it hs
    exact h.withTcbFin _ _ [] i1 (fun h0 => hmono (hft.trans h0)) (fun g hg => nomatch hg)

def OpOkF (s : Sys) : Op → Prop
  | .write _ _ | .read _ | .tick _ _ | .emit _ | .drop _ | .close _ => True
  | .deliver x i => ∀ g, s.nth i = some g → Addressed x g
  | .open _ _ _ | .listen _ _ _ | .inject _ _ | .abort _ => False

theorem OpOkF.opOkG {s : Sys} {op : Op} (h : OpOkF s op) : OpOkG iss fin s op := by
  cases op <;> first | exact h | exact h.elim

theorem step_invF {s s' : Sys} {op : Op} {r : Res} (h : InvF iss fin s) (hop : OpOkF s op) (h31 : Lt31 s)
    (e : s.step op = .ok (s', r)) : ∃ fin', InvF iss fin' s' ∧ ∀ y, fin y = true → fin' y = true := by
  obtain ⟨fin', a, b, -⟩ := step_invG h hop.opOkG h31 e
  exact ⟨fin', a, b⟩

end
end Elvis.Tcp.Fin
