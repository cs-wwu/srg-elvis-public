import ElvisVerif.Lemmas.TcpFullHsDrain
import ElvisVerif.Lemmas.TcpFullRank
/-!
# Invariants of the handshake states

`HsInv s` (`HsTcb` of every TCB, and `hist`), over plain steps (on top of `Good`, `FInv`):
* `q` — while a TCB is in SYN-SENT / SYN-RECEIVED a SYN-bearing segment (its SYN / SYN-ACK) is on its retransmission
  queue (there is no completeness invariant in `SndInv`: `cover` counts the SYN whether or not it is queued); `qa` — in
  SYN-RECEIVED it is a SYN-ACK;
* `r` — in SYN-RECEIVED `RCV.NXT = IRS + 1` and nothing is buffered;
* `ha`, `hist` — every parked segment / history element that carries text has the ACK bit.
-/
namespace Elvis.Tcp.Full
open Elvis.ModCmp Elvis.Tcp.Tcb

structure HsTcb (t : Tcb) : Prop where
  q : (t.state = .SynSent ∨ t.state = .SynReceived) →
    ∃ g ∈ t.outgoing.retransmit.map (·.segment), g.hdr.ctl.syn = true
  qa : t.state = .SynReceived →
    ∃ g ∈ t.outgoing.retransmit.map (·.segment), g.hdr.ctl.syn = true ∧ g.hdr.ctl.ack = true
  r : t.state = .SynReceived → t.rcv.nxt = t.rcv.irs + 1 ∧ t.incoming.text = []
  ha : ∀ σ ∈ t.incoming.segments, σ.text ≠ [] → σ.hdr.ctl.ack = true

structure HsInv (s : Sys) : Prop where
  tcb : ∀ x t, (s.side x).tcb = some t → HsTcb t
  hist : ∀ σ ∈ s.history, σ.text ≠ [] → σ.hdr.ctl.ack = true

theorem receive_text_nil (t : Tcb) (h : t.incoming.text = []) : t.receive.1.incoming.text = [] := by
  rw [receive_eq]; split
  all_goals first | rfl | exact h

variable {iss : SideId → Seq} {mt : SideId → U16}

theorem HsInv.hta {s : Sys} (h : HsInv s) {y : SideId} {t : Tcb} {σ : Segment} (ht : (s.side y).tcb = some t)
    (hmem : σ ∈ s.history) : ∀ τ ∈ σ :: t.incoming.segments, τ.text ≠ [] → τ.hdr.ctl.ack = true :=
  fun τ hτ => (List.mem_cons.1 hτ).elim (fun e => e ▸ h.hist σ hmem) ((h.tcb y t ht).ha τ)

theorem HsTcb.kept {t t' : Tcb} (f : HsTcb t) (k : Kept t t') : HsTcb t' := by
  have hst := k.state
  have hq := k.queue
  refine ⟨fun hs => ?_, fun hs => ?_, fun hs => ?_, by rw [k.heap]; exact f.ha⟩
  · obtain ⟨g, hg, hsyn⟩ := f.q (by rw [← hst]; exact hs)
    exact ⟨g, hq g hg, hsyn⟩
  · obtain ⟨g, hg, hsyn⟩ := f.qa (by rw [← hst]; exact hs)
    exact ⟨g, hq g hg, hsyn⟩
  · obtain ⟨r1, r2⟩ := f.r (by rw [← hst]; exact hs)
    refine ⟨by rw [k.rcv]; exact r1, ?_⟩
    rcases k.text with e | e
    · rw [e]; exact r2
    · exact e

theorem hsinv_step {s s' : Sys} (hg : Good iss s) (hf : FInv iss mt s) (h : HsInv s) (l : LiveStep s s')
    (hg' : Good iss s') : HsInv s' := by
  refine ⟨l.tcbs h.tcb fun x o tcb' new htcb c hs'x => ?_, fun σ hσ hne => ?_⟩
  · cases c with
    | @loc tcb _ _ l =>
      exact (h.tcb x tcb htcb).kept (l.kept hg htcb)
    | @arrive tcb _ σ hmem hsrc h1 =>
      obtain ⟨tp, htp⟩ := hf.sender hmem hsrc
      have c := hg.arr htcb htp hmem hsrc
      have h3' := (hg'.tinv x tcb' hs'x).st
      have hrk := arrive_rank hg x tcb tcb' σ htcb hmem hsrc h1 h3'
      have f := h.tcb x tcb htcb
      have hta := h.hta htcb hmem
      have ha' : ∀ τ ∈ tcb'.incoming.segments, τ.text ≠ [] → τ.hdr.ctl.ack = true := fun τ hτ =>
        hta τ (segmentArrives_heap_sub tcb σ tcb' .Ok h1 τ hτ)
      -- beyond SYN-RECEIVED nothing is asked
      have late : tcb'.state = .Established → HsTcb tcb' := fun hs =>
        ⟨fun h' => (by rcases h' with h' | h' <;> (rw [hs] at h'; cases h')), fun h' => (by rw [hs] at h'; cases h'),
          fun h' => (by rw [hs] at h'; cases h'), ha'⟩
      rcases c.ti.st.cases with h0 | h0 | h0
      · -- SYN-SENT: the heap is idle
        have hidle := ((hg.ext.wf.side x).1 tcb htcb).2.1
        rcases segmentArrives_ss c h1 h0 (hidle h0) with
          ⟨hs, hsup, -⟩ | ⟨hs, hsup, k1, k2, k3⟩ | hs
        · exact ⟨fun _ => hsup.queued (f.q (Or.inl h0)), fun h' => (by rw [hs] at h'; cases h'),
            fun h' => (by rw [hs] at h'; cases h'), ha'⟩
        · exact ⟨fun _ => k3.imp fun g hg => ⟨hg.1, hg.2.1⟩, fun _ => k3,
            fun _ => ⟨k1, (by rw [k2]; exact (c.ti.rcv0 h0).2)⟩, ha'⟩
        · exact late hs
      · rcases h3'.cases with hs | hs | hs
        · exact absurd (segmentArrives_synsent h1 hs) (by rw [h0]; nofun)
        · obtain ⟨hsup, hkeep⟩ := segmentArrives_sup_rcv c h1 hta (Or.inr hs)
          obtain ⟨k1, k2⟩ := hkeep h0
          obtain ⟨r1, r2⟩ := f.r h0
          exact ⟨fun _ => hsup.queued (f.q (Or.inr h0)), fun _ => hsup.queued (f.qa h0),
            fun _ => ⟨(by rw [k1]; exact r1), (by rw [k2]; exact r2)⟩, ha'⟩
        · exact late hs
      · refine late ?_
        rcases h3'.cases with hs | hs | hs
        · rw [h0, hs] at hrk; exact absurd hrk (by decide)
        · rw [h0, hs] at hrk; exact absurd hrk (by decide)
        · exact hs
    | @create σ issl mtu hmem hsrc _ hsyn =>
      have hval := hg.valid hmem hsrc
      refine ⟨fun _ => ⟨⟨lsnSynAck σ issl, []⟩, by simp [listenT, Transmit.new], rfl⟩,
        fun _ => ⟨⟨lsnSynAck σ issl, []⟩, by simp [listenT, Transmit.new], rfl, rfl⟩, fun _ => ⟨rfl, rfl⟩,
        fun τ hτ hne => ?_⟩
      have hτ' : τ = parkedSyn σ := by simpa [listenT] using hτ
      rw [hτ'] at hne
      exfalso
      -- the SYN that created the TCB has no text
      exact hne (hval.syn hsyn).2
  · rcases l.hist hσ with ho | ⟨x, tcb, tcb', new, htcb, h1, hs'x, hn⟩
    · exact h.hist σ ho hne
    · rcases (hg.emitted x tcb htcb h1 σ hn).2.1 with ho | ⟨tr, htr, hts⟩
      · exact ((hg.ext.tcb x tcb htcb).one σ.hdr ho).2.1
      · rw [← hts] at hne ⊢
        rcases (hg'.ext.tcb x tcb' hs'x).rtxa tr htr with ha | hsyn
        · exact ha
        · obtain ⟨v, _⟩ := (hg'.tinv x tcb' hs'x).rtx tr.segment (List.mem_map.2 ⟨tr, htr, rfl⟩)
          exact absurd (v.syn hsyn).2 hne

theorem hsinv_run {s s' : Sys} (hc : Conv iss s) (hx : Ext s) (hf : FInv iss mt s) (h : HsInv s) (r : PlainRun s s')
    (hb : RoomH s') : HsInv s' :=
  (good_run (I := fun s => FInv iss mt s ∧ HsInv s) (fun _ _ hg h l hg' =>
    ⟨finv_step hg h.1 l hg', hsinv_step hg h.1 h.2 l hg'⟩) hc hx ⟨hf, h⟩ r hb).2

theorem hstcb_open (lp rp : U16) (i : Seq) (m : U16) : HsTcb (openT lp rp i m) :=
  ⟨fun _ => ⟨⟨synHdr lp rp i, []⟩, by simp [openT, Transmit.new], rfl⟩, fun h => (by cases h), fun h => (by cases h),
    fun τ hτ => (by simp [openT] at hτ)⟩

theorem hsinv_init (ia ib : Seq) (ma mb : U16) (simultaneous : Bool) (sys : Sys) (rs : List Res)
    (e : Sys.run {} [.open .A ia ma, if simultaneous then .open .B ib mb else .listen .B ib mb] = .ok (sys, rs)) :
    HsInv sys := by
  obtain ⟨hh, ht, -⟩ := init_tcbs e
  exact ⟨fun y u hu => ht y u hu ▸ hstcb_open _ _ _ _, fun σ hσ => by rw [hh] at hσ; cases hσ⟩

end Elvis.Tcp.Full
