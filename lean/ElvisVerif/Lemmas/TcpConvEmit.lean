import ElvisVerif.Lemmas.TcpConvFwd
/-!
# Forward evaluation of `segments()` on an endpoint nobody closes

`segmentize_exact`: with a maximum segment length of at least one byte the segmentizing loop takes
exactly `Δ = min |unsent text| (SND.WND − queued bytes)` bytes off the unsent text, as a run of
contiguous data segments starting at `SND.NXT`, each carrying `ACK = RCV.NXT` and `WND = RCV.WND`
(`DataRun`).  `segments_fwd`: what `segments()` returns and leaves behind (`EmitFx`).  With nothing unsent the call
is an equation: it returns `emitOut t` and leaves `emitT t` (`segments_notext_eq`).
-/
namespace Elvis.Tcp
open Elvis.ModCmp
namespace Tcb

/-- the header of a data segment / pure ACK formed at sequence number `seq` -/
def dataHdr (lp rp : U16) (seq ack : Seq) (wnd : U16) : Hdr :=
  (((Hdr.builder lp rp seq).withAck ack).withWnd wnd).built

def DataRun (lp rp : U16) (ack : Seq) (wnd : U16) : Seq → List Segment → Prop
  | _, [] => True
  | seq, g :: rest => g.hdr = dataHdr lp rp seq ack wnd ∧ g.text ≠ [] ∧
      DataRun lp rp ack wnd (seq + BitVec.ofNat 32 g.text.length) rest

def segBytes (l : List Segment) : Nat := (l.map fun g => g.text.length).sum

@[simp] theorem segBytes_nil : segBytes [] = 0 := rfl
@[simp] theorem segBytes_cons (g : Segment) (l : List Segment) : segBytes (g :: l) = g.text.length + segBytes l := by
  simp [segBytes]

theorem segBytes_append (a b : List Segment) : segBytes (a ++ b) = segBytes a + segBytes b := by
  simp [segBytes]

theorem rtxBytes_eq_segBytes (l : List Transmit) : rtxBytes l = segBytes (l.map (·.segment)) := by
  induction l with
  | nil => rfl
  | cons t l ih => simp [ih]

structure SegFx (s : Tcb) (d : Nat) (u : Tcb) : Prop where
  text : u.outgoing.text = s.outgoing.text.drop d
  nxt : u.snd.nxt = s.snd.nxt + BitVec.ofNat 32 d
  rtx : ∃ new : List Transmit, u.outgoing.retransmit = s.outgoing.retransmit ++ new ∧
    (∀ tr ∈ new, tr.needsTransmit = true) ∧ segBytes (new.map (·.segment)) = d ∧
    DataRun s.localPort s.remotePort s.rcv.nxt s.rcv.wnd s.snd.nxt (new.map (·.segment))
  rcv : u.rcv = s.rcv
  inc : u.incoming = s.incoming
  st : u.state = s.state
  una : u.snd.una = s.snd.una
  wnd : u.snd.wnd = s.snd.wnd
  one : u.outgoing.oneshot = s.outgoing.oneshot
  mtu : u.mtu = s.mtu

theorem segmentize_exact (m : Nat) (hm : 0 < m) (hmb : m + BASE_HEADER_OCTETS ≤ 65535) (fuel : Nat) (s : Tcb) (q : Nat)
    (hfuel : s.outgoing.text.length < fuel) :
    ∃ u, segmentize m fuel s q = .ok u ∧ SegFx s (min s.outgoing.text.length (s.snd.wnd.toNat - q)) u := by
  induction fuel generalizing s q with
  | zero => omega
  | succ n ih =>
    rw [segmentize_cut m hmb]
    generalize hb : cutLen m s q = b
    unfold cutLen at hb
    by_cases hb0 : b = 0
    · rw [if_pos hb0]
      -- `m` is positive, so the window or the text is exhausted
      have hd : min s.outgoing.text.length (s.snd.wnd.toNat - q) = 0 := by
        rcases Nat.min_eq_zero_iff.1 (hb.trans hb0) with h | h
        · exact Nat.min_eq_zero_iff.2 (Or.inr ((Nat.min_eq_zero_iff.1 h).resolve_left (Nat.ne_of_gt hm)))
        · exact Nat.min_eq_zero_iff.2 (Or.inl h)
      rw [hd]
      exact ⟨s, rfl, by simp, by simp, ⟨[], by simp, fun _ h => (by cases h), rfl, trivial⟩, rfl, rfl, rfl, rfl, rfl,
        rfl, rfl⟩
    · rw [if_neg hb0]
      have hble : b ≤ s.outgoing.text.length := hb ▸ Nat.min_le_right _ _
      have hlen : (List.take b s.outgoing.text).length = b := by rw [List.length_take]; exact Nat.min_eq_left hble
      obtain ⟨u, e, fx0⟩ := ih (cutSegment s b) (q + b)
        (by
          show (List.drop b s.outgoing.text).length < n
          rw [List.length_drop]
          exact Nat.lt_of_lt_of_le (Nat.sub_lt (Nat.lt_of_lt_of_le (Nat.pos_of_ne_zero hb0) hble) (Nat.pos_of_ne_zero hb0))
            (Nat.le_of_lt_succ hfuel))
      have fx : SegFx (cutSegment s b) (min (List.drop b s.outgoing.text).length (s.snd.wnd.toNat - (q + b))) u := fx0
      refine ⟨u, e, ?_⟩
      have hd : min s.outgoing.text.length (s.snd.wnd.toNat - q) =
          b + min (List.drop b s.outgoing.text).length (s.snd.wnd.toNat - (q + b)) := by
        have hbw : b ≤ s.snd.wnd.toNat - q := hb ▸ Nat.le_trans (Nat.min_le_left _ _) (Nat.min_le_right _ _)
        rw [List.length_drop, Nat.sub_add_eq, ← Nat.add_min_add_left, Nat.add_sub_cancel' hble, Nat.add_sub_cancel' hbw]
      rw [hd]
      obtain ⟨new, r1, r2, r3, r4⟩ := fx.rtx
      refine ⟨?_, ?_, ⟨Transmit.new ⟨s.ackHdr.built, s.outgoing.text.take b⟩ :: new, ?_, ?_, ?_, ?_⟩, fx.rcv, fx.inc, fx.st,
        fx.una, fx.wnd, fx.one, fx.mtu⟩
      · rw [fx.text]
        show List.drop _ (List.drop b s.outgoing.text) = _
        rw [List.drop_drop]
      · rw [fx.nxt]
        show s.snd.nxt + BitVec.ofNat 32 (List.take b s.outgoing.text).length + _ = _
        rw [hlen, BitVec.add_assoc, ← BitVec.ofNat_add]
      · rw [r1]
        show s.outgoing.retransmit ++ [Transmit.new ⟨s.ackHdr.built, s.outgoing.text.take b⟩] ++ new = _
        simp
      · intro tr htr
        rcases List.mem_cons.1 htr with rfl | h
        · rfl
        · exact r2 tr h
      · simp only [List.map_cons, segBytes_cons, Transmit.new, hlen]
        rw [r3]
      · simp only [List.map_cons, DataRun, Transmit.new, hlen]
        refine ⟨rfl, ?_, ?_⟩
        · intro h0
          have := congrArg List.length h0
          rw [hlen] at this
          exact hb0 this
        · have := r4
          show DataRun s.localPort s.remotePort s.rcv.nxt s.rcv.wnd (s.snd.nxt + BitVec.ofNat 32 b) _
          have e2 : (cutSegment s b).snd.nxt = s.snd.nxt + BitVec.ofNat 32 b := by
            show s.snd.nxt + BitVec.ofNat 32 (List.take b s.outgoing.text).length = _
            rw [hlen]
          rw [e2] at this
          exact this

/-- the number of bytes one `segments()` call moves from the unsent text to the retransmission queue -/
def emitAmount (t : Tcb) : Nat := min t.outgoing.text.length (t.snd.wnd.toNat - rtxBytes t.outgoing.retransmit)

structure EmitFx (t : Tcb) (new : List Transmit) (t' : Tcb) (out : List Segment) : Prop where
  flagged : ∀ tr ∈ new, tr.needsTransmit = true
  bytes : segBytes (new.map (·.segment)) = emitAmount t
  run : DataRun t.localPort t.remotePort t.rcv.nxt t.rcv.wnd t.snd.nxt (new.map (·.segment))
  out : out = (t.outgoing.oneshot.map fun h => (⟨h, []⟩ : Segment)) ++
    (((t.outgoing.retransmit ++ new).filter (·.needsTransmit)).map (·.segment))
  rtx : t'.outgoing.retransmit = (t.outgoing.retransmit ++ new).map fun x => { x with needsTransmit := false }
  one : t'.outgoing.oneshot = []
  text : t'.outgoing.text = t.outgoing.text.drop (emitAmount t)
  nxt : t'.snd.nxt = t.snd.nxt + BitVec.ofNat 32 (emitAmount t)
  rcv : t'.rcv = t.rcv
  inc : t'.incoming = t.incoming
  st : t'.state = t.state
  una : t'.snd.una = t.snd.una
  wnd : t'.snd.wnd = t.snd.wnd
  mtu : t'.mtu = t.mtu

theorem dataRun_nil (lp rp : U16) (ack : Seq) (wnd : U16) (seq : Seq) (l : List Segment)
    (h : DataRun lp rp ack wnd seq l) (h0 : segBytes l = 0) : l = [] := by
  cases l with
  | nil => rfl
  | cons g rest =>
    exfalso
    have := List.length_pos_iff.2 h.2.1
    rw [segBytes_cons] at h0
    omega

theorem emitAmount_notext {t : Tcb} (h : t.outgoing.text = []) : emitAmount t = 0 := by
  unfold emitAmount; rw [h]; simp

theorem emitAmount_le (t : Tcb) : emitAmount t ≤ 65535 :=
  Nat.le_trans (Nat.min_le_right _ _) (Nat.le_trans (Nat.sub_le _ _) (Nat.le_of_lt_succ t.snd.wnd.isLt))

theorem EmitFx.new_nil {t t' : Tcb} {new : List Transmit} {out : List Segment} (f : EmitFx t new t' out)
    (h : emitAmount t = 0) : new = [] :=
  List.map_eq_nil_iff.1 (dataRun_nil _ _ _ _ _ _ f.run (by rw [f.bytes, h]))

theorem EmitFx.unflagged {t t' : Tcb} {new : List Transmit} {out : List Segment} (f : EmitFx t new t' out) :
    ∀ tr ∈ t'.outgoing.retransmit, tr.needsTransmit = false := by
  intro tr htr
  rw [f.rtx] at htr
  obtain ⟨x, _, rfl⟩ := List.mem_map.1 htr
  rfl

theorem EmitFx.sent {t t' : Tcb} {new : List Transmit} {out : List Segment} (f : EmitFx t new t' out)
    (hiss : t'.snd.iss = t.snd.iss) (hN : t.sent < 2147483648) : t'.sent = t.sent + emitAmount t := by
  unfold Tcb.sent at hN ⊢
  rw [hiss, f.nxt]
  exact off_add _ _ _ (by have := emitAmount_le t; omega)

theorem cut_fwd (t : Tcb) (hs : segmentizes t.state = true) (hmtu : SPACE_FOR_HEADERS < t.mtu.toNat) :
    ∃ u, segmentizeIfOpen (clearOneshot t) = .ok u ∧ SegFx (clearOneshot t) (emitAmount t) u := by
  have hm16 := t.mtu.isLt
  obtain ⟨u, e, fx⟩ := segmentize_exact (t.mtu.toNat - SPACE_FOR_HEADERS) (by omega)
    (by show t.mtu.toNat - 50 + 20 ≤ 65535; omega)
    ((clearOneshot t).outgoing.text.length + 1) (clearOneshot t) (clearOneshot t).outgoing.queuedBytes (by omega)
  refine ⟨u, ?_, fx⟩
  have hs' : segmentizes (clearOneshot t).state = true := hs
  have hlt : ¬ (clearOneshot t).mtu.toNat < SPACE_FOR_HEADERS := by show ¬ t.mtu.toNat < _; omega
  rw [segmentizeIfOpen_eq, if_pos hs', if_neg hlt]
  exact e

/-- the whole call from its loop: the one-shot headers leave, the loop cuts (`u`), the flags are cleared -/
theorem EmitFx.of_cut {t u : Tcb} (fx : SegFx (clearOneshot t) (emitAmount t) u) (idle : Bool) :
    ∃ new, EmitFx t new (markSent u idle) ((t.outgoing.oneshot.map fun h => (⟨h, []⟩ : Segment)) ++
      (u.outgoing.retransmit.filter (·.needsTransmit)).map (·.segment)) := by
  obtain ⟨new, r1, r2, r3, r4⟩ := fx.rtx
  obtain ⟨m7, m4, m5, m6, -, m3, m2, m1, m8, -⟩ := markSent_frame u idle
  exact ⟨new, {
    flagged := r2
    bytes := r3
    run := r4
    out := by rw [r1]; rfl
    rtx := by rw [m1, r1]; rfl
    one := by rw [m2, fx.one]; rfl
    text := by rw [m3, fx.text]; rfl
    nxt := by rw [m4, fx.nxt]; rfl
    rcv := by rw [m5, fx.rcv]; rfl
    inc := by rw [m6, fx.inc]; rfl
    st := by rw [m7, fx.st]; rfl
    una := by rw [m4, fx.una]; rfl
    wnd := by rw [m4, fx.wnd]; rfl
    mtu := by rw [m8, fx.mtu]; rfl }⟩

theorem segments_fwd (t : Tcb) (hst : C01.Ok3 t.state) (hmtu : SPACE_FOR_HEADERS < t.mtu.toNat) :
    ∃ new t' out, t.segments = .ok (t', out) ∧ EmitFx t new t' out := by
  obtain ⟨u, hv, fx⟩ := cut_fwd t (by rcases hst.cases with hs | hs | hs <;> rw [hs] <;> rfl) hmtu
  obtain ⟨new, f⟩ := EmitFx.of_cut fx _
  refine ⟨new, _, _, ?_, f⟩
  rw [segments_eq, hv]
  dsimp only
  rw [C01.Ok3.finPending hst, finIfPending_eq, Bool.false_and, if_neg Bool.false_ne_true]

/-- what `segments()` returns when nothing is left to segmentize -/
def emitOut (t : Tcb) : List Segment :=
  (t.outgoing.oneshot.map fun h => (⟨h, []⟩ : Segment)) ++
    ((t.outgoing.retransmit.filter (·.needsTransmit)).map (·.segment))

/-- the TCB after `segments()` when nothing is left to segmentize -/
def emitT (t : Tcb) : Tcb :=
  ({ t with outgoing := { text := t.outgoing.text, retransmit := t.outgoing.retransmit.map (fun x => { x with needsTransmit := false }), oneshot := [] }, timeouts := { timeWait := t.timeouts.timeWait, retransmission := if (emitOut t).isEmpty then t.timeouts.retransmission else RTO } } : Tcb)

theorem segments_quiet_eq (t : Tcb) (hseg : segmentizeIfOpen (clearOneshot t) = .ok (clearOneshot t))
    (hp : t.finPending = false) : t.segments = .ok (emitT t, emitOut t) := by
  rw [segments_eq, hseg]
  dsimp only
  rw [hp, finIfPending_eq, Bool.false_and, if_neg Bool.false_ne_true]
  dsimp only
  unfold emitT emitOut markSent clearOneshot
  split <;> rfl

theorem segments_notext_eq (t : Tcb) (ht : t.outgoing.text = []) (hm : ¬ t.mtu.toNat < SPACE_FOR_HEADERS) :
    t.segments = .ok (emitT t, emitOut t) := by
  refine segments_quiet_eq t ?_ (by rw [Fin.finPending_eq, ht]; simp)
  rw [segmentizeIfOpen_eq]
  split
  · rw [if_neg (show ¬ (clearOneshot t).mtu.toNat < SPACE_FOR_HEADERS from hm)]
    exact segmentize_nil _ _ _ _ ht
  · rfl

theorem EmitFx.of_notext (t : Tcb) (ht : t.outgoing.text = []) : EmitFx t [] (emitT t) (emitOut t) := by
  have h0 := emitAmount_notext ht
  exact {
    flagged := fun _ h => nomatch h
    bytes := h0.symm
    run := trivial
    out := by rw [List.append_nil]; rfl
    rtx := by rw [List.append_nil]; rfl
    one := rfl
    text := by rw [h0]; rfl
    nxt := by rw [h0]; exact (BitVec.add_zero _).symm
    rcv := rfl, inc := rfl, st := rfl, una := rfl, wnd := rfl, mtu := rfl }

theorem filter_unflag (l : List Transmit) :
    ((l.map fun x => ({ x with needsTransmit := false } : Transmit)).filter (·.needsTransmit)) = [] := by
  apply List.filter_eq_nil_iff.2
  intro a ha
  obtain ⟨b, _, rfl⟩ := List.mem_map.1 ha
  simp

theorem emitOut_emitT (t : Tcb) : emitOut (emitT t) = [] := by
  unfold emitOut emitT
  simp only [List.map_nil, List.nil_append, filter_unflag]

theorem emitOut_oneshot (t : Tcb) (hs : List Hdr) (h1 : t.outgoing.oneshot = hs)
    (h2 : t.outgoing.retransmit.filter (·.needsTransmit) = []) :
    emitOut t = hs.map fun h => (⟨h, []⟩ : Segment) := by
  unfold emitOut
  rw [h1, h2]
  exact List.append_nil _

theorem emitOut_quiet (t : Tcb) (h1 : t.outgoing.oneshot = []) (h2 : t.outgoing.retransmit = []) : emitOut t = [] :=
  emitOut_oneshot t [] h1 (by rw [h2]; rfl)

end Tcb
end Elvis.Tcp
