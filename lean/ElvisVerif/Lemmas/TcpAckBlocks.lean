import ElvisVerif.Lemmas.TcbSnd
import ElvisVerif.Lemmas.TcbArrive
import ElvisVerif.Lemmas.C01Seq
/-!
# What `process_segment` may put on the queues, and what it may do to SND.UNA

`QStep P A s s'`:

* every header on `s'`'s one-shot queue was there before or satisfies `P`;
* every entry of `s'`'s retransmission queue carries a segment that was there before or a header
  that satisfies `P`;
* `SND.UNA` is unchanged or satisfies `A`.

`NewHdr s'` is what a header formed by a local call looks like (no RST; it advertises `RCV.WND`; it carries ACK or
SYN; if it carries ACK, it acknowledges exactly `RCV.NXT`, outside SYN-SENT).  What the headers `process_segment`
queues acknowledge is read change by change in `Lemmas/TcpAckProc.lean`; here, block by block, which of them is a
RST: only the answer of block 2 to an ACK field that fails the test of SYN-SENT / SYN-RECEIVED (`¬ GoodAck`).
-/
namespace Elvis.Tcp
open Elvis.ModCmp
namespace Tcb

structure QStep (P : Hdr → Prop) (A : Seq → Prop) (s s' : Tcb) : Prop where
  one : ∀ h ∈ s'.outgoing.oneshot, h ∈ s.outgoing.oneshot ∨ P h
  rtx : ∀ tr ∈ s'.outgoing.retransmit,
    (∃ t0 ∈ s.outgoing.retransmit, t0.segment = tr.segment) ∨ P tr.segment.hdr
  una : s'.snd.una = s.snd.una ∨ A s'.snd.una

theorem QStep.refl {P : Hdr → Prop} {A : Seq → Prop} (s : Tcb) : QStep P A s s :=
  ⟨fun _ h => Or.inl h, fun tr h => Or.inl ⟨tr, h, rfl⟩, Or.inl rfl⟩

theorem QStep.trans {P : Hdr → Prop} {A : Seq → Prop} {a b c : Tcb} (h1 : QStep P A a b) (h2 : QStep P A b c) :
    QStep P A a c := by
  refine ⟨fun h hh => ?_, fun tr hh => ?_, ?_⟩
  · rcases h2.one h hh with e | e
    · exact h1.one h e
    · exact Or.inr e
  · rcases h2.rtx tr hh with ⟨t0, e, es⟩ | e
    · rcases h1.rtx t0 e with ⟨t1, e1, es1⟩ | e1
      · exact Or.inl ⟨t1, e1, es1.trans es⟩
      · exact Or.inr (es ▸ e1)
    · exact Or.inr e
  · rcases h2.una with e | e
    · rcases h1.una with e1 | e1
      · exact Or.inl (e.trans e1)
      · exact Or.inr (e ▸ e1)
    · exact Or.inr e

theorem QStep.mono {P P' : Hdr → Prop} {A A' : Seq → Prop} {s s' : Tcb} (h : QStep P A s s')
    (hp : ∀ x, P x → P' x) (ha : ∀ x, A x → A' x) : QStep P' A' s s' :=
  ⟨fun x hx => (h.one x hx).imp id (hp x), fun tr hx => (h.rtx tr hx).imp id (hp _), h.una.imp id (ha _)⟩

theorem QStep.of_eq {P : Hdr → Prop} {A : Seq → Prop} {s s' : Tcb}
    (h1 : s'.outgoing.oneshot = s.outgoing.oneshot) (h2 : s'.outgoing.retransmit = s.outgoing.retransmit)
    (h3 : s'.snd.una = s.snd.una) : QStep P A s s' :=
  ⟨fun _ h => Or.inl (h1 ▸ h), fun tr h => Or.inl ⟨tr, h2 ▸ h, rfl⟩, Or.inl h3⟩

theorem QStep.of_eq_left {P : Hdr → Prop} {A : Seq → Prop} {s t u : Tcb}
    (h1 : t.outgoing.oneshot = s.outgoing.oneshot) (h2 : t.outgoing.retransmit = s.outgoing.retransmit)
    (h3 : t.snd.una = s.snd.una) (h : QStep P A t u) : QStep P A s u :=
  (QStep.of_eq h1 h2 h3).trans h

theorem qstep_enqueue {P : Hdr → Prop} {A : Seq → Prop} (s : Tcb) (hd : Hdr) (hp : P hd) :
    QStep P A s (s.enqueueBuilt hd) := by
  by_cases hc : hd.ctl.syn = true ∨ hd.ctl.fin = true
  · rw [enqueueBuilt_retransmit s hd hc]
    refine ⟨fun _ h => Or.inl h, fun tr h => ?_, Or.inl rfl⟩
    simp only [List.mem_append, List.mem_singleton] at h
    rcases h with h | rfl
    · exact Or.inl ⟨tr, h, rfl⟩
    · exact Or.inr hp
  · rw [not_or, Bool.not_eq_true, Bool.not_eq_true] at hc
    rw [enqueueBuilt_oneshot s hd hc.1 hc.2]
    refine ⟨fun x h => ?_, fun tr h => Or.inl ⟨tr, h, rfl⟩, Or.inl rfl⟩
    simp only [List.mem_append, List.mem_singleton] at h
    rcases h with h | rfl
    · exact Or.inl h
    · exact Or.inr hp

theorem qstep_removeAcked {P : Hdr → Prop} {A : Seq → Prop} (s : Tcb) (a : Seq) :
    QStep P A s (s.removeAckedFromRetransmission a) :=
  ⟨fun _ h => Or.inl h, fun tr h => Or.inl ⟨tr, (List.mem_filter.1 h).1, rfl⟩, Or.inl rfl⟩

def NewHdr (s' : Tcb) (h : Hdr) : Prop :=
  h.ctl.rst = false ∧ h.wnd = s'.rcv.wnd ∧ (h.ctl.ack = true → h.ack = s'.rcv.nxt ∧ s'.state ≠ .SynSent) ∧
    (h.ctl.ack = true ∨ h.ctl.syn = true)

theorem newHdr_ackHdr (s s' : Tcb) (hr : s'.rcv = s.rcv) (hs : s'.state ≠ .SynSent) :
    NewHdr s' s.ackHdr.built := ⟨rfl, by rw [hr]; rfl, fun _ => ⟨by rw [hr]; rfl, hs⟩, Or.inl rfl⟩

/-- the ACK field is acceptable where an unacceptable one provokes a RST -/
def GoodAck (s : Tcb) (seg : Hdr) : Prop :=
  seg.ctl.ack = true →
  (s.state = .SynSent → modBounded s.snd.nxt .Lt seg.ack .Leq s.snd.iss = false ∧
    modBounded s.snd.una .Lt seg.ack .Leq s.snd.nxt = true) ∧
  (s.state = .SynReceived → modBounded s.snd.una .Lt seg.ack .Leq s.snd.nxt = true)

theorem qstep_ackTaken {P : Hdr → Prop} {A : Seq → Prop} (s : Tcb) {a : Seq} (ha : A a) : QStep P A s (ackTaken s a) :=
  ⟨fun _ h => Or.inl h, fun tr h => Or.inl ⟨tr, (List.mem_filter.1 h).1, rfl⟩, Or.inr ha⟩

theorem NewHdr.congr {a b : Tcb} {h : Hdr} (hn : NewHdr a h) (hr : b.rcv = a.rcv)
    (hs : a.state ≠ .SynSent → b.state ≠ .SynSent) : NewHdr b h :=
  ⟨hn.1, by rw [hr]; exact hn.2.1, fun ha => ⟨by rw [hr]; exact (hn.2.2.1 ha).1, hs (hn.2.2.1 ha).2⟩, hn.2.2.2⟩

theorem QStep.newHdr_congr {A : Seq → Prop} {s a b : Tcb} (h : QStep (NewHdr a) A s a)
    (hr : b.rcv = a.rcv) (hs : a.state ≠ .SynSent → b.state ≠ .SynSent)
    (h1 : b.outgoing.oneshot = a.outgoing.oneshot) (h2 : b.outgoing.retransmit = a.outgoing.retransmit)
    (h3 : b.snd.una = a.snd.una) : QStep (NewHdr b) A s b :=
  (h.mono (fun _ hx => hx.congr hr hs) (fun _ hx => hx)).trans (QStep.of_eq h1 h2 h3)

theorem seqCheck_q {A : Seq → Prop} (s : Tcb) (seg : Hdr) (tl : Seq) (s' : Tcb)
    (r : Option ProcessSegmentResult) (e : seqCheck s seg tl = .ok (s', r)) : QStep (NewHdr s') A s s' := by
  rcases seqCheck_ok e with ⟨rfl, -, -⟩ | ⟨hns, -, rfl, -⟩
  · exact QStep.refl _
  · exact qstep_enqueue _ _ (newHdr_ackHdr _ _ (enqueueBuilt_frame _ _).rcv (by rw [state_enqueueBuilt]; exact hns))

theorem textBlock_q {A : Seq → Prop} (s : Tcb) (seg : Hdr) (text : List UInt8) (tl : Seq) (s' : Tcb)
    (r : Option ProcessSegmentResult) (e : textBlock s seg text tl = .ok (s', r)) (hst : s.state ≠ .SynSent) :
    QStep (NewHdr s') A s s' := by
  obtain ⟨-, rfl | h⟩ := textBlock_ok e
  · exact QStep.refl _
  · rw [h.eq, textTaken]
    exact QStep.of_eq_left (t := textBuffered s seg text tl) rfl rfl rfl
      (qstep_enqueue _ _ (newHdr_ackHdr _ _ (enqueueBuilt_frame _ _).rcv (by rw [state_enqueueBuilt]; exact hst)))

def RstOnly (bad : Prop) (h : Hdr) : Prop := h.ctl.rst = true → bad

abbrev RstStep (bad : Prop) (s s' : Tcb) : Prop := QStep (RstOnly bad) (fun _ => True) s s'

theorem rst_reply {bad : Prop} (s : Tcb) (hd : Hdr) (hr : hd.ctl.rst = false) : RstStep bad s (s.enqueueBuilt hd) :=
  qstep_enqueue _ _ fun h => by rw [hr] at h; cases h

theorem seqCheck_rst {bad : Prop} {s s' : Tcb} {seg : Hdr} {tl : Seq} {r : Option ProcessSegmentResult}
    (e : seqCheck s seg tl = .ok (s', r)) : RstStep bad s s' := by
  rcases seqCheck_ok e with ⟨rfl, -, -⟩ | ⟨-, -, rfl, -⟩
  · exact QStep.refl _
  · exact rst_reply _ _ rfl

theorem aep_rst {bad : Prop} (s : Tcb) (seg : Hdr) : RstStep bad s (aep s seg).1 := by
  rcases aep_cases s seg with ⟨h, -⟩ | ⟨h, -⟩ | ⟨-, -, h | h⟩ <;> rw [h]
  · exact QStep.refl _
  · exact rst_reply _ _ rfl
  · exact qstep_ackTaken s trivial
  · exact (qstep_ackTaken s trivial).trans (QStep.of_eq rfl rfl rfl)

/-- block 2, state by state: the RST of SYN-SENT and of SYN-RECEIVED is the `else` of the very test `GoodAck` names -/
theorem ackBlock_rst {s s' : Tcb} {seg : Hdr} {r : Option ProcessSegmentResult} (e : ackBlock s seg = .ok (s', r)) :
    RstStep (¬ GoodAck s seg) s s' := by
  cases ha : seg.ctl.ack with
  | false => rw [ackBlock_noAck ha] at e; cases e; exact QStep.refl _
  | true =>
    obtain ⟨rfl, -⟩ := ackOut_of_ok e
    have rst : ¬ GoodAck s seg → RstStep (¬ GoodAck s seg) s (s.enqueueBuilt (s.rstForAck seg).built) :=
      fun bad => qstep_enqueue _ _ fun _ => bad
    by_cases h1 : s.state = .SynSent
    · rw [ackOut_synSent ha h1]
      rcases ackSynSent_cases s seg with ⟨-, -, e⟩ | ⟨bad, e⟩ | ⟨-, -, ⟨-, e⟩ | ⟨-, e⟩⟩ <;> rw [e]
      · exact QStep.refl _
      · exact rst fun g => bad.elim (fun b1 => by rw [((g ha).1 h1).1] at b1; cases b1)
          fun b2 => by rw [((g ha).1 h1).2] at b2; cases b2
      · exact qstep_ackTaken s trivial
      · exact QStep.refl _
    by_cases h2 : s.state = .SynReceived
    · rw [ackOut_synReceived ha h2]
      by_cases b2 : modBounded s.snd.una .Lt seg.ack .Leq s.snd.nxt = true
      · rw [if_pos b2]
        exact QStep.of_eq_left (t := synAcked s seg) rfl rfl rfl (aep_rst _ _)
      · rw [if_neg b2]
        exact rst fun g => b2 ((g ha).2 h2)
    by_cases h3 : s.state = .TimeWait
    · rw [ackOut_timeWait h3]
      exact QStep.refl _
    -- the other states run `ack_established_processing`; FIN-WAIT-1 and CLOSING may then move on
    rw [ackOut_synchronized ha h1 h2 h3]
    rcases (ackExit_cases s.state (aep s seg)).2 with h | ⟨-, -, h⟩ | ⟨-, -, h⟩ <;> rw [h]
    · exact aep_rst _ _
    · exact (aep_rst _ _).trans (QStep.of_eq rfl rfl rfl)
    · exact (aep_rst _ _).trans (QStep.of_eq rfl rfl rfl)

theorem synBlock_rst {bad : Prop} {s s' : Tcb} {seg : Hdr} {r : Option ProcessSegmentResult}
    (e : synBlock s seg = .ok (s', r)) : RstStep bad s s' := by
  rcases synBlock_ok e with ⟨-, rfl, -⟩ | ⟨-, -, rfl, -⟩ | ⟨-, -, -, -, rfl⟩ | ⟨-, -, -, -, rfl⟩
  · exact QStep.refl _
  · exact rst_reply _ _ rfl
  · exact QStep.of_eq_left (t := { synTaken s seg with state := .Established }) rfl rfl rfl (rst_reply _ _ rfl)
  · exact QStep.of_eq_left (t := { synTaken s seg with state := .SynReceived }) rfl rfl rfl (rst_reply _ _ rfl)

theorem textBlock_rst {bad : Prop} {s s' : Tcb} {seg : Hdr} {text : List UInt8} {tl : Seq}
    {r : Option ProcessSegmentResult} (e : textBlock s seg text tl = .ok (s', r)) : RstStep bad s s' := by
  obtain ⟨-, rfl | h⟩ := textBlock_ok e
  · exact QStep.refl _
  · rw [h.eq, textTaken]
    exact QStep.of_eq_left (t := textBuffered s seg text tl) rfl rfl rfl (rst_reply _ _ rfl)

theorem finBlock_rst {bad : Prop} {s s' : Tcb} {seg : Hdr} {tl : Seq} {r : Option ProcessSegmentResult}
    (e : finBlock s seg tl = .ok (s', r)) : RstStep bad s s' := by
  obtain ⟨-, ⟨-, rfl⟩ | ⟨-, s1, h1, h2⟩⟩ := finBlock_ok e
  · exact QStep.refl _
  · have k : RstStep bad s s1 := by
      rcases finAdvance_ok h1 with rfl | ⟨-, -, rfl⟩
      · exact QStep.refl _
      · exact QStep.of_eq_left (t := setRcvNxt s (seg.seq + tl + 1)) rfl rfl rfl (rst_reply _ _ rfl)
    -- the transition touches the state and the timers only
    obtain ⟨-, ⟨-, rfl⟩ | ⟨-, -, rfl⟩ | ⟨-, -, rfl⟩ | ⟨-, rfl⟩ | ⟨-, rfl⟩ | ⟨-, rfl⟩⟩ := finState_ok h2
    · exact k.trans (QStep.of_eq rfl rfl rfl)
    · exact k.trans (QStep.of_eq rfl rfl rfl)
    · exact k.trans (QStep.of_eq rfl rfl rfl)
    · exact k.trans (QStep.of_eq rfl rfl rfl)
    · exact k.trans (QStep.of_eq rfl rfl rfl)
    · exact k

/-- **`process_segment` queues a RST only for an ACK field that fails `GoodAck`**: blocks 1 and 2 find the TCB as it
    came, and only block 2 forms one (between the changes `Eff` would allow a RST after the ACK has been taken) -/
theorem processSegment_rst {s s' : Tcb} {g : Segment} {r : ProcessSegmentResult}
    (e : s.processSegment g = .ok (s', r)) : RstStep (¬ GoodAck s g.hdr) s s' := by
  refine processSegment_chain g (P1 := fun u => u = s) (P2 := fun u => u = s)
    (P3 := RstStep (¬ GoodAck s g.hdr) s) (P4 := RstStep (¬ GoodAck s g.hdr) s)
    (P5 := RstStep (¬ GoodAck s g.hdr) s) (P6 := RstStep (¬ GoodAck s g.hdr) s)
    (Q := RstStep (¬ GoodAck s g.hdr) s) ?_ ?_ ?_ ?_ ?_ ?_ rfl e
  · intro s0 s1 r1 hs0 h1
    rw [hs0] at h1
    refine ⟨fun hr => ?_, fun _ => seqCheck_rst h1⟩
    rcases seqCheck_ok h1 with ⟨hs, -⟩ | ⟨-, -, -, hr1⟩
    · exact hs
    · rw [hr] at hr1; cases hr1
  · intro s1 s2 r2 hs1 h2
    rw [hs1] at h2
    exact ⟨fun _ => ackBlock_rst h2, fun _ => ackBlock_rst h2⟩
  · intro s2 s3 r3 hp h3
    rw [(rstBlock_ok h3).1]
    exact ⟨fun _ => hp, fun _ => hp⟩
  · intro s3 s4 r4 hp h4
    exact ⟨fun _ => hp.trans (synBlock_rst h4), fun _ => hp.trans (synBlock_rst h4)⟩
  · intro s4 s5 r5 hp h5
    exact ⟨fun _ => hp.trans (textBlock_rst h5), fun _ => hp.trans (textBlock_rst h5)⟩
  · intro s5 s6 r6 hp h6
    exact hp.trans (finBlock_rst h6)

end Tcb
end Elvis.Tcp
