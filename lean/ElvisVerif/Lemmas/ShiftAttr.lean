import Lean.Meta.Tactic.Simp.RegisterCommand
/-!
# The simp set of the C12 shift map

`shift_simps` collects how the pieces commute with the shift: the projections of `Tcb.shift` / `Hdr.shift` /
`Segment.shift`, the invariance of the circular comparisons under a common shift, `M.shift` / `shiftE` on a result,
`enqueueBuilt` / `enqueueThen`.  The lemmas about the named pieces of the blocks carry hypotheses (not SYN-SENT, the ACK
bit) and are passed beside the set.  A block then commutes because, after `simp only [shift_simps, …]`, both sides test
the same conditions and build the same pieces.
-/
register_simp_attr shift_simps
