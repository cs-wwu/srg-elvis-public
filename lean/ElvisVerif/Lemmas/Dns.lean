import ElvisVerif.Model.Dns
import ElvisVerif.Lemmas.CodecB
/-!
Helper lemmas for C20: the part of the DNS wire format the exchange relies on round-trips
(`fromBytes (build m ++ rest) = some m` for well-formed `m`), what a successful parse guarantees
about its fields, and table/socket-list facts.
-/
namespace Elvis.Dns

/-! `takeU16`, `takeU32`, `u16be`, `u32be` and `takeName` are the readers, the writers and `readUntil`
of the codec models under other names; their lemmas are the ones proved there. -/

theorem ofNat_mod (x : Nat) : UInt8.ofNat (x % 256) = UInt8.ofNat x := Codec.n2b_mod x

theorem takeU16_eq : takeU16 = CodecB.nextU16 := rfl

theorem takeU32_eq : takeU32 = CodecB.nextU32 := CodecB.nextU32_eq.symm

theorem u16be_eq (n : Nat) : u16be n = CodecB.putU16 n := by rw [u16be, ofNat_mod]; rfl

theorem u32be_eq (n : Nat) : u32be n = CodecB.putU32 n := by rw [u32be, ofNat_mod, ofNat_mod, ofNat_mod]; rfl

theorem takeName_eq : takeName = CodecB.readUntil delim := by
  funext b
  induction b with
  | nil => rfl
  | cons c t ih => simp only [takeName, CodecB.readUntil, ih]; rfl

theorem takeU16_u16be (n : Nat) (h : n < 65536) (r : Bytes) : takeU16 (u16be n ++ r) = some (n, r) := by
  rw [takeU16_eq, u16be_eq]; exact CodecB.nextU16_put n r h

theorem takeU32_u32be (n : Nat) (h : n < 4294967296) (r : Bytes) : takeU32 (u32be n ++ r) = some (n, r) := by
  rw [takeU32_eq, u32be_eq]; exact CodecB.nextU32_put n r h

theorem takeU16_lt {b r : Bytes} {n : Nat} (h : takeU16 b = some (n, r)) : n < 65536 :=
  (CodecB.nextU16_inv h).2

theorem takeU32_lt {b r : Bytes} {n : Nat} (h : takeU32 b = some (n, r)) : n < 4294967296 :=
  (CodecB.nextU32_inv (takeU32_eq ▸ h)).2

theorem takeName_append (n : Bytes) (h : delim ∉ n) (r : Bytes) : takeName (n ++ delim :: r) = some (n, r) := by
  rw [takeName_eq]; exact CodecB.readUntil_append delim n r h

theorem takeName_no_delim {b n r : Bytes} (h : takeName b = some (n, r)) : delim ∉ n :=
  (CodecB.readUntil_inv delim (by rw [← takeName_eq]; exact h)).2

theorem takeN_eq (k : Nat) (b : Bytes) :
    takeN k b = if k ≤ b.length then some (b.take k, b.drop k) else none := by
  induction k generalizing b with
  | zero => rfl
  | succ k ih =>
    cases b with
    | nil => rfl
    | cons c t =>
      simp only [takeN, ih, List.length_cons, Nat.add_le_add_iff_right, List.take_succ_cons,
        List.drop_succ_cons]
      by_cases hk : k ≤ t.length
      · rw [if_pos hk, if_pos hk]
      · rw [if_neg hk, if_neg hk]

theorem takeN_append (d r : Bytes) : takeN d.length (d ++ r) = some (d, r) := by
  rw [takeN_eq, if_pos (by simp), List.take_left' rfl, List.drop_left' rfl]

theorem takeN_length {k : Nat} {b d r : Bytes} (h : takeN k b = some (d, r)) : d.length = k := by
  rw [takeN_eq] at h
  split at h
  · cases h; exact List.length_take_of_le ‹_›
  · cases h

structure DnsMsg.WF (m : DnsMsg) : Prop where
  id : m.header.id < 65536
  properties : m.header.properties < 65536
  qdcount : m.header.qdcount < 65536
  ancount : m.header.ancount < 65536
  nscount : m.header.nscount < 65536
  arcount : m.header.arcount < 65536
  qname : delim ∉ m.question.qname
  qtype : m.question.qtype < 65536
  qclass : m.question.qclass < 65536
  name : delim ∉ m.answer.name
  recType : m.answer.recType < 65536
  cls : m.answer.cls < 65536
  ttl : m.answer.ttl < 4294967296
  rdlength : m.answer.rdlength = m.answer.rdata.length
  rdfits : m.answer.rdata.length < 65536

theorem fromBytes_build (m : DnsMsg) (wf : m.WF) (rest : Bytes) : fromBytes (m.build ++ rest) = some m := by
  obtain ⟨⟨id, pr, qd, an, ns, ar⟩, ⟨qn, qt, qc⟩, ⟨nm, rt, cl, ttl, rdl, rd⟩⟩ := m
  obtain ⟨h1, h2, h3, h4, h5, h6, h7, h8, h9, h10, h11, h12, h13, h14, h15⟩ := wf
  simp only at h1 h2 h3 h4 h5 h6 h7 h8 h9 h10 h11 h12 h13 h14 h15
  subst h14
  simp only [DnsMsg.build, Header.build, Question.build, Record.build, List.append_assoc, List.cons_append, List.nil_append]
  unfold fromBytes
  simp only [takeU16_u16be _ h1, takeU16_u16be _ h2, takeU16_u16be _ h3, takeU16_u16be _ h4, takeU16_u16be _ h5,
    takeU16_u16be _ h6, takeName_append _ h7, takeU16_u16be _ h8, takeU16_u16be _ h9, takeName_append _ h10,
    takeU16_u16be _ h11, takeU16_u16be _ h12, takeU32_u32be _ h13, takeU16_u16be _ h15, takeN_append]

theorem fromBytes_build' (m : DnsMsg) (wf : m.WF) : fromBytes m.build = some m := by
  simpa using fromBytes_build m wf []

theorem fromBytes_wf {b : Bytes} {m : DnsMsg} (h : fromBytes b = some m) : m.WF := by
  unfold fromBytes at h
  split at h
  · cases h
  rename_i id b1 h1
  split at h
  · cases h
  rename_i pr b2 h2
  split at h
  · cases h
  rename_i qd b3 h3
  split at h
  · cases h
  rename_i an b4 h4
  split at h
  · cases h
  rename_i ns b5 h5
  split at h
  · cases h
  rename_i ar b6 h6
  split at h
  · cases h
  rename_i qn b7 h7
  split at h
  · cases h
  rename_i qt b8 h8
  split at h
  · cases h
  rename_i qc b9 h9
  split at h
  · cases h
  rename_i nm b10 h10
  split at h
  · cases h
  rename_i rt b11 h11
  split at h
  · cases h
  rename_i cl b12 h12
  split at h
  · cases h
  rename_i ttl b13 h13
  split at h
  · cases h
  rename_i rdl b14 h14
  split at h
  · cases h
  rename_i rd b15 h15
  simp only [Option.some.injEq] at h
  subst h
  have hl := takeN_length h15
  exact ⟨takeU16_lt h1, takeU16_lt h2, takeU16_lt h3, takeU16_lt h4, takeU16_lt h5, takeU16_lt h6,
    takeName_no_delim h7, takeU16_lt h8, takeU16_lt h9, takeName_no_delim h10, takeU16_lt h11, takeU16_lt h12,
    takeU32_lt h13, hl.symm, by rw [hl]; exact takeU16_lt h14⟩

theorem length_u16be (n : Nat) : (u16be n).length = 2 := rfl
theorem length_u32be (n : Nat) : (u32be n).length = 4 := rfl

theorem length_queryBytes (name : Bytes) (id : Nat) : (queryBytes name id).length = 32 + 2 * name.length := by
  simp only [queryBytes, createRequest, DnsMsg.build, Header.build, Question.build, Record.build, Header.new, Question.new,
    Record.new, Addr.toBytes, List.length_append, length_u16be, length_u32be, List.length_cons, List.length_nil]
  omega

theorem createRequest_wf {name : Bytes} {id : Nat} (hn : delim ∉ name) (hid : id < 65536) : (createRequest name id).WF := by
  refine ⟨hid, ?_, ?_, ?_, ?_, ?_, hn, ?_, ?_, hn, ?_, ?_, ?_, ?_, ?_⟩ <;>
    simp [createRequest, Header.new, Question.new, Record.new, Addr.toBytes]

theorem createResponse_wf {q : DnsMsg} (wf : q.WF) (a : Addr) : (createResponse q a).WF := by
  refine ⟨wf.id, ?_, ?_, ?_, ?_, ?_, wf.qname, ?_, ?_, wf.name, ?_, ?_, wf.ttl, ?_, ?_⟩ <;>
    simp [createResponse, Header.new, Question.new, Record.new, Addr.toBytes]

theorem addrOfRdata_toBytes (a : Addr) : addrOfRdata a.toBytes = some a := rfl

theorem Table.get_put (t : Table) (n k : Bytes) (a : Addr) :
    (t.put n a).get k = if n = k then some a else t.get k := rfl

theorem Table.get_append (t u : Table) (k : Bytes) :
    Table.get (t ++ u) k = match Table.get t k with | some a => some a | none => Table.get u k := by
  induction t with
  | nil => rfl
  | cons e t ih =>
    obtain ⟨k', v⟩ := e
    simp only [List.cons_append, Table.get]
    by_cases h : k' = k
    · simp [h]
    · simp only [h, if_false]; exact ih

theorem findSock_mem {socks : List Sock} {c p : Nat} {so : Sock} (h : findSock socks c p = some so) :
    so ∈ socks ∧ so.client = c ∧ so.port = p := by
  unfold findSock at h
  have h1 := List.mem_of_find?_eq_some h
  have h2 := List.find?_some h
  simp only [Bool.and_eq_true, decide_eq_true_eq] at h2
  exact ⟨h1, h2.1, h2.2⟩

theorem findSock_append_of_some {socks : List Sock} {c p : Nat} {so : Sock} (h : findSock socks c p = some so) (x : Sock) :
    findSock (socks ++ [x]) c p = some so := by
  unfold findSock at *
  rw [List.find?_append, h]; rfl

theorem findSock_append_new {socks : List Sock} {c p : Nat} (x : Sock) (hx : x.client = c ∧ x.port = p)
    (hfresh : ∀ so ∈ socks, so.client = c → so.port ≠ p) : findSock (socks ++ [x]) c p = some x := by
  unfold findSock
  have hnone : socks.find? (fun s => decide (s.client = c) && decide (s.port = p)) = none := by
    rw [List.find?_eq_none]
    intro so hso hp
    simp only [Bool.and_eq_true, decide_eq_true_eq] at hp
    exact hfresh so hso hp.1 hp.2
  rw [List.find?_append, hnone]
  simp [hx.1, hx.2]

theorem findSock_markDone {socks : List Sock} {c p c' p' : Nat} {so : Sock} (h : findSock socks c p = some so) :
    ∃ so', findSock (markDone socks c' p') c p = some so' ∧ so'.name = so.name ∧ so'.id = so.id := by
  -- marking keeps the key, so the search finds the mark of what it found before
  have hkey : ((fun s : Sock => decide (s.client = c) && decide (s.port = p)) ∘
      fun s => if (s.client = c' && s.port = p') = true then { s with done := true } else s) =
      fun s => decide (s.client = c) && decide (s.port = p) := by
    funext s; simp only [Function.comp]; split <;> rfl
  unfold findSock markDone at *
  rw [List.find?_map, hkey, h]
  refine ⟨_, rfl, ?_⟩
  dsimp only
  split <;> exact ⟨rfl, rfl⟩

end Elvis.Dns
