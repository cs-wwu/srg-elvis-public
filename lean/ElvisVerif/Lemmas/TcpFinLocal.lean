import ElvisVerif.Lemmas.TcpFinProc
import ElvisVerif.Lemmas.TcbWindow
/-!
# The stream invariant with `close()`: the API calls

`send`, `receive`, `segments`, `advance_time`, `close` and the LISTEN handler.  `close` and `segments` are
the two places where the FIN is numbered (`finSent` false → true): the FIN is put behind every
submitted byte (`queueFin_finQueued`: it is formed only when no text is left to segmentize).
-/
namespace Elvis.Tcp.Fin
open Elvis.ModCmp Elvis.Tcp.Tcb Elvis.Tcp.C01

theorem queueFin_eq (s : Tcb) :
    (s.outgoing.text ≠ [] → s.queueFin = .ok s) ∧
    (s.outgoing.text = [] → s.queueFin = .ok ({ s with snd.nxt := s.snd.nxt + 1, outgoing.retransmit := s.outgoing.retransmit ++ [Transmit.new ⟨s.finHdr.built, []⟩] } : Tcb)) := by
  rw [queueFin_finQueued, finQueued_eq]
  exact ⟨fun h => by rw [if_neg fun h0 => h (List.isEmpty_iff.1 h0)], fun h => by rw [if_pos (List.isEmpty_iff.2 h)]⟩

section
variable {port : U16} {issX issY : Seq} {subX subY delX : List UInt8} {finY : Bool}

theorem TInvG.formFin {t : Tcb} (h : TInvG port issX issY subX subY delX false finY t) (ht : t.outgoing.text = []) :
    TInvG port issX issY subX subY delX true finY
      ({ t with snd.nxt := t.snd.nxt + 1, outgoing.retransmit := t.outgoing.retransmit ++ [Transmit.new ⟨t.finHdr.built, []⟩] } : Tcb) := by
  obtain ⟨pre, hpre, hnxt⟩ := h.out
  rw [ht, List.append_nil] at hpre
  simp only [Bool.toNat_false, Nat.add_zero] at hnxt
  have one1 : (1 : Seq) = BitVec.ofNat 32 1 := rfl
  refine ⟨h.lp, h.iss, ⟨pre, (by show subX = pre ++ t.outgoing.text; rw [ht, List.append_nil]; exact hpre), ?_⟩,
    fun g hg => ?_, h.one, h.heap, h.rcv0, h.rcv1, h.eof, h.irs⟩
  · show t.snd.nxt + 1 = _
    rw [hnxt, one1, add_ofNat_assoc]; rfl
  · simp only [List.map_append, List.map_cons, List.map_nil, List.mem_append, List.mem_singleton] at hg
    rcases hg with hg | rfl
    · exact ⟨(h.rtx g hg).1.flag, (h.rtx g hg).2⟩
    · refine ⟨⟨fun _ => ⟨rfl, rfl, rfl, ?_⟩, (fun h0 => by cases h0), fun hne => absurd rfl hne⟩, h.lp⟩
      show t.snd.nxt = _
      rw [hnxt, hpre]

/-- `send`: the ghost log and the outgoing text grow together (only while `send` is accepted) -/
theorem send_invF {t : Tcb} (h : TInvF port issX issY subX subY delX finY t) (m : List UInt8) :
    TInvF port issX issY (subX ++ (if sendAccepts t.state then m else [])) subY delX finY (t.send m) := by
  rw [send_eq]
  cases ha : sendAccepts t.state with
  | false =>
    simp only [Bool.false_eq_true, if_false, List.append_nil]
    exact h
  | true =>
    have hfs : finSent t = false := finSent_accepts ha
    have h' : TInvG port issX issY subX subY delX false finY t := by rw [← hfs]; exact h
    rw [if_pos rfl, if_pos rfl]
    obtain ⟨pre, hpre, hnxt⟩ := h'.out
    refine TInvF.of_g (fx := false) ⟨h'.lp, h'.iss, ⟨pre, ?_, hnxt⟩,
      fun g hg => ⟨(h'.rtx g hg).1.mono m, (h'.rtx g hg).2⟩, h'.one, h'.heap, h'.rcv0, h'.rcv1, h'.eof, h'.irs⟩ ?_
    · show subX ++ m = pre ++ (t.outgoing.text ++ m)
      rw [hpre, List.append_assoc]
    · exact finSent_accepts (t := { t with outgoing.text := t.outgoing.text ++ m }) ha

theorem send_finSent (t : Tcb) (m : List UInt8) : finSent (t.send m) = finSent t := by
  rw [send_eq]
  cases ha : sendAccepts t.state with
  | false => rfl
  | true =>
    exact (finSent_accepts (t := { t with outgoing.text := t.outgoing.text ++ m }) ha).trans (finSent_accepts ha).symm

theorem receive_invF {t : Tcb} (h : TInvF port issX issY subX subY delX finY t) :
    TInvF port issX issY subX subY (delX ++ t.receive.2) finY t.receive.1 := by
  rcases receive_cases t with key | key
  · rw [key]
    refine TInvF.of_g (fx := finSent t) ⟨h.lp, h.iss, h.out, h.rtx, h.one, h.heap, fun hs => ?_, fun hs => ?_,
      fun hr => ?_, h.irs⟩ rfl
    · obtain ⟨a, b⟩ := h.rcv0 hs
      exact ⟨by show delX ++ t.incoming.text = []; rw [a, b]; rfl, rfl⟩
    · obtain ⟨a, b⟩ := h.rcv1 hs
      refine ⟨?_, ?_⟩
      · show t.rcv.nxt = issY + 1 + BitVec.ofNat 32 ((delX ++ t.incoming.text).length + 0 + (finRcvd t.state).toNat)
        rw [a, List.length_append, Nat.add_zero]
      · show (delX ++ t.incoming.text) ++ [] <+: subY
        rw [List.append_nil]; exact b
    · obtain ⟨a, b⟩ := h.eof hr
      exact ⟨by show (delX ++ t.incoming.text) ++ [] = subY; rw [List.append_nil]; exact a, b⟩
  · rw [key]
    show TInvF port issX issY subX subY (delX ++ []) finY t
    rw [List.append_nil]; exact h

theorem receive_finSent (t : Tcb) : finSent t.receive.1 = finSent t := by
  rcases receive_cases t with h | h <;> rw [h] <;> rfl

theorem finPending_eq (t : Tcb) : t.finPending = (closing3 t.state && !t.outgoing.text.isEmpty) := by
  rw [Tcb.finPending_def]
  unfold closing3
  cases t.state <;> simp

/-- one round of the loop numbers the bytes it cuts behind those numbered so far -/
theorem TInvG.cut {t : Tcb} {b : Nat} (h : TInvG port issX issY subX subY delX false finY t)
    (hbl : b ≤ t.outgoing.text.length) : TInvG port issX issY subX subY delX false finY (cutSegment t b) := by
  obtain ⟨pre, hpre, hnxt⟩ := h.out
  refine ⟨h.lp, h.iss, ⟨pre ++ t.outgoing.text.take b, ?_, ?_⟩, fun g hg => ?_, h.one, h.heap, h.rcv0, h.rcv1,
    h.eof, h.irs⟩
  · show subX = (pre ++ t.outgoing.text.take b) ++ t.outgoing.text.drop b
    rw [List.append_assoc, List.take_append_drop]; exact hpre
  · show t.snd.nxt + BitVec.ofNat 32 (t.outgoing.text.take b).length = _
    rw [hnxt, add_ofNat_assoc, List.length_append]
    congr 2
  · have hg' : g ∈ (t.outgoing.retransmit ++ [Transmit.new ⟨t.ackHdr.built, t.outgoing.text.take b⟩]).map
        (·.segment) := hg
    rw [List.map_append, List.mem_append, List.map_singleton, List.mem_singleton] at hg'
    rcases hg' with hg' | rfl
    · exact h.rtx g hg'
    · refine ⟨⟨(fun h0 => by cases h0), (fun h0 => by cases h0), fun _ => ⟨pre.length, ?_, ?_, ?_⟩⟩, h.lp⟩
      · exact hnxt
      · show pre.length + (t.outgoing.text.take b).length ≤ subX.length
        rw [hpre, List.length_append, List.length_take]; omega
      · show t.outgoing.text.take b = (subX.drop pre.length).take (t.outgoing.text.take b).length
        rw [hpre, List.drop_left, take_length_take]

theorem queueFin_invF {s1 : Tcb} (i1 : TInvG port issX issY subX subY delX false finY s1)
    (hc3 : closing3 s1.state = true) :
    TInvF port issX issY subX subY delX finY (if s1.outgoing.text.isEmpty then finQueued s1 else s1) := by
  by_cases ht1 : s1.outgoing.text.isEmpty = true
  · rw [if_pos ht1, finQueued_eq]
    exact TInvF.of_g (i1.formFin (List.isEmpty_iff.1 ht1)) (Eq.trans (finSent_closing3 hc3) ht1)
  · rw [if_neg ht1]
    refine TInvF.of_g i1 ?_
    rw [finSent_closing3 hc3]
    exact Bool.eq_false_iff.2 ht1

/-- while the FIN is not numbered: the rounds of the loop number text, and the FIN is formed exactly when it waited for
    the text (`p`: in the three closing states) and none is left -/
theorem _root_.Elvis.Tcp.Tcb.Segs.invG {m : Nat} {p : Bool} {s s' : Tcb} (h : Segs m p s s')
    (i : TInvG port issX issY subX subY delX false finY s) (hp : p = closing3 s.state)
    (hfs : closing3 s.state = false → finSent s = false) :
    TInvF port issX issY subX subY delX finY s' := by
  induction h with
  | @done s hd =>
    refine TInvF.of_g i ?_
    cases hc : closing3 s.state with
    | false => exact hfs hc
    | true =>
      rw [hp, hc, Bool.true_and] at hd
      rw [finSent_closing3 hc]; exact hd
  | @fin s _ hcl he =>
    have k := queueFin_invF i (by rcases hcl with h | h | h <;> rw [h] <;> rfl)
    rwa [if_pos he] at k
  | @cut s s' b _ _ hl _ _ _ ih =>
    exact ih (i.cut hl) hp fun hc => (finSent_state (t := s) (t' := cutSegment s b) hc rfl).trans (hfs hc)

theorem segments_invF {t t' : Tcb} {out : List Segment}
    (h : TInvF port issX issY subX subY delX finY t) (e : t.segments = .ok (t', out)) :
    TInvF port issX issY subX subY delX finY t' ∧ (finSent t = true → finSent t' = true) ∧
      ∀ g ∈ out, ValidF issX subX (finSent t') g ∧ g.hdr.srcPort = port := by
  obtain ⟨s2, tmo, hs, hs'⟩ := segments_segs e
  have h0 : TInvF port issX issY subX subY delX finY (clearOneshot t) :=
    ⟨h.lp, h.iss, h.out, h.rtx, (fun x hx => by cases hx), h.heap, h.rcv0, h.rcv1, h.eof, h.irs⟩
  obtain ⟨i2, hmono⟩ : TInvF port issX issY subX subY delX finY s2 ∧ (finSent t = true → finSent s2 = true) := by
    cases hft : finSent t with
    | true =>
      -- the FIN is numbered: no FIN waits, and where the state segmentizes no text is left
      have hp : t.finPending = false := by
        cases hp : t.finPending
        · rfl
        · rw [finSent_of_pending hp] at hft; cases hft
      have ht : segmentizes t.state = true → t.outgoing.text = [] := fun hs => by
        unfold finSent at hft
        cases hst : t.state <;> rw [hst] at hft hs <;>
          first | exact List.isEmpty_iff.1 hft | exact absurd hs (by decide) | cases hft
      rw [hs.idle hp ht]
      exact ⟨h0, fun _ => hft⟩
    | false =>
      refine ⟨hs.invG (by rw [← hft]; exact h0) ?_ fun _ => hft, nofun⟩
      -- not numbered: the FIN waits exactly in the three closing states
      show t.finPending = closing3 t.state
      rw [finPending_eq]
      cases hc : closing3 t.state
      · rfl
      · rw [finSent_closing3 hc] at hft
        rw [hft]; rfl
  have i' : TInvF port issX issY subX subY delX finY t' := by
    rw [hs']
    refine TInvF.of_g (fx := finSent s2)
      ⟨i2.lp, i2.iss, i2.out, fun g hg => i2.rtx g ?_, i2.one, i2.heap, i2.rcv0, i2.rcv1, i2.eof, i2.irs⟩ rfl
    simpa [List.map_map, Function.comp_def] using hg
  refine ⟨i', fun h0 => by rw [hs']; exact hmono h0, fun g hg => ?_⟩
  -- what goes out was on the one-shot queue, or stays on the retransmission queue
  rcases segments_out e g hg with ⟨hd, hhd, rfl⟩ | ⟨tr, htr, rfl⟩
  · obtain ⟨a, b, c⟩ := h.one hd hhd
    exact ⟨ValidF.plain hd a b, c⟩
  · exact i'.rtx _ (List.mem_map_of_mem htr)

theorem advanceTime_frF {t t' : Tcb} {dt : Nat} {r : AdvanceTimeResult}
    (e : t.advanceTime dt = .ok (t', r)) : FrF t t' := by
  obtain ⟨tmo, rfl | rfl⟩ := advanceTime_flags e
  · exact FrF.of_eq rfl rfl rfl rfl rfl rfl rfl
  · refine FrF.of_same rfl rfl rfl rfl rfl rfl rfl (fun g hg => ?_) (fun _ h => Or.inl h)
    simpa [List.map_map, Function.comp_def] using hg

theorem close_invF {t t' : Tcb} {r : CloseResult}
    (h : TInvF port issX issY subX subY delX finY t) (e : t.close = .ok (t', r)) :
    TInvF port issX issY subX subY delX finY t' ∧ (finSent t = true → finSent t' = true) := by
  rcases close_cases e with rfl | ⟨st', rfl, hst⟩
  · exact ⟨h, id⟩
  -- the state moves to FIN-WAIT-1 or LAST-ACK, then the FIN is formed if no text waits
  have hft : finSent t = false := by
    unfold finSent
    rcases hst with ⟨h1 | h1, -⟩ | ⟨h1, -⟩ <;> rw [h1]
  have hns : t.state ≠ .SynSent := by
    rcases hst with ⟨h1 | h1, -⟩ | ⟨h1, -⟩ <;> rw [h1] <;> nofun
  have hfr : finRcvd st' = finRcvd t.state := by
    rcases hst with ⟨h1 | h1, rfl⟩ | ⟨h1, rfl⟩ <;> rw [h1] <;> rfl
  have hc3 : closing3 st' = true := by
    rcases hst with ⟨-, rfl⟩ | ⟨-, rfl⟩ <;> rfl
  have hns' : st' ≠ .SynSent := fun h0 => by rw [h0] at hc3; cases hc3
  have h' : TInvG port issX issY subX subY delX false finY t := by rw [← hft]; exact h
  have i1 : TInvG port issX issY subX subY delX false finY { t with state := st' } :=
    ⟨h'.lp, h'.iss, h'.out, h'.rtx, h'.one, h'.heap, fun hs => absurd hs hns',
      fun _ => by show _ = issY + 1 + BitVec.ofNat 32 (_ + _ + (finRcvd st').toNat) ∧ _; rw [hfr]; exact h'.rcv1 hns,
      fun hr => h'.eof (by rw [← hfr]; exact hr), fun _ => h'.irs hns⟩
  exact ⟨queueFin_invF i1 hc3, fun h0 => by rw [hft] at h0; cases h0⟩

theorem listen_invF {g : Segment} {iss : Seq} {mtu : U16} {res : Option ListenResult}
    (hv : ValidF issY subY finY g) (e : segmentArrivesListen g iss mtu = .ok res) :
    (∀ t, res = some (.Tcb t) → TInvF g.hdr.dstPort iss issY [] subY [] finY t ∧ finSent t = false) ∧
    (∀ hd, res = some (.Response hd) → hd.ctl.syn = false ∧ hd.ctl.fin = false ∧ hd.srcPort = g.hdr.dstPort) := by
  refine ⟨fun t h0 => ?_, fun hd h0 => ?_⟩
  · subst h0
    obtain ⟨-, -, hsyn, rfl⟩ := segmentArrivesListen_tcb e
    obtain ⟨hseq, htext⟩ := hv.syn hsyn
    refine ⟨TInvF.of_g (fx := false) ⟨rfl, rfl, ⟨[], rfl, (BitVec.add_zero (iss + 1)).symm⟩, fun x hx => ?_,
      (fun x hx => by cases hx), fun x hx => ?_, (fun h0 => by cases h0), fun _ => ⟨?_, List.nil_prefix⟩,
      (fun h0 => by cases h0), fun _ => hseq⟩ rfl, rfl⟩
    · -- the SYN,ACK sits at ISS and carries nothing
      cases List.mem_singleton.1 hx
      exact ⟨⟨(fun h0 => by cases h0), fun _ => ⟨rfl, rfl⟩, fun hne => absurd rfl hne⟩, rfl⟩
    · -- the parked segment: a SYN carries no FIN, and no text
      cases List.mem_singleton.1 hx
      refine ⟨fun hf => ?_, (fun h0 => by cases h0), fun hne => absurd htext hne⟩
      have := (hv.fin hf).2.1
      rw [hsyn] at this; cases this
    · show g.hdr.seq + 1 = issY + 1 + BitVec.ofNat 32 (0 + 0 + 0)
      rw [hseq]
      exact (BitVec.add_zero (issY + 1)).symm
  · subst h0
    rw [(segmentArrivesListen_response e).2.2]
    exact ⟨rfl, rfl, rfl⟩

end
end Elvis.Tcp.Fin
