import ElvisVerif.Lemmas.ArpTime
/-! What every transition keeps (helper lemmas for C06): machines only grow, frames stay on the
wire, resolvers keep their identity and their answer once they have one. -/
namespace Elvis.Arp
open Elvis.Gen.Arp

structure Ext (s s' : Net) : Prop where
  ms : MsLe s.machines s'.machines
  wire : ∀ (fi : Nat) (f : Frame), s.wire[fi]? = some f →
    ∃ f', s'.wire[fi]? = some f' ∧ f'.pkt = f.pkt ∧ f'.dst = f.dst ∧ f'.smac = f.smac ∧ (f.lost = true → f'.lost = true)
  res : ∀ (i : Nat) (r : Resolver), s.resolvers[i]? = some r →
    ∃ r', s'.resolvers[i]? = some r' ∧ r'.mach = r.mach ∧ r'.dest = r.dest ∧ r'.smac = r.smac ∧
      r'.loc = r.loc ∧ r'.started = r.started ∧ (∀ x, r.result = some x → r'.result = some x)
  neg : s'.negCache = s.negCache
  mtu : s'.mtu = s.mtu
  now : s.now ≤ s'.now

/-! `MsLe` is `List.Grows Machine.le`; the clauses `wire` and `res` of `Ext` are `List.Grows FrameKept` and
    `List.Grows ResKept` written out: a transition keeps every position of the three lists, up to these relations. -/

def FrameKept (f f' : Frame) : Prop :=
  f'.pkt = f.pkt ∧ f'.dst = f.dst ∧ f'.smac = f.smac ∧ (f.lost = true → f'.lost = true)

def ResKept (r r' : Resolver) : Prop :=
  r'.mach = r.mach ∧ r'.dest = r.dest ∧ r'.smac = r.smac ∧ r'.loc = r.loc ∧ r'.started = r.started ∧
    ∀ x, r.result = some x → r'.result = some x

theorem FrameKept.refl (f : Frame) : FrameKept f f := ⟨rfl, rfl, rfl, id⟩

theorem FrameKept.trans {a b c : Frame} (h1 : FrameKept a b) (h2 : FrameKept b c) : FrameKept a c := by
  obtain ⟨e1, e2, e3, e4⟩ := h1
  obtain ⟨g1, g2, g3, g4⟩ := h2
  exact ⟨g1.trans e1, g2.trans e2, g3.trans e3, fun h => g4 (e4 h)⟩

theorem ResKept.refl (r : Resolver) : ResKept r r := ⟨rfl, rfl, rfl, rfl, rfl, fun _ e => e⟩

theorem ResKept.trans {a b c : Resolver} (h1 : ResKept a b) (h2 : ResKept b c) : ResKept a c := by
  obtain ⟨e1, e2, e3, e4, e5, e6⟩ := h1
  obtain ⟨g1, g2, g3, g4, g5, g6⟩ := h2
  exact ⟨g1.trans e1, g2.trans e2, g3.trans e3, g4.trans e4, g5.trans e5, fun x h => g6 x (e6 x h)⟩

def Net.taps (s : Net) : List (List Mac) := s.machines.map (·.macs)

theorem MsLe.taps {ms ms' : List Machine} (h : MsLe ms ms') (hl : ms'.length = ms.length) :
    ms'.map (·.macs) = ms.map (·.macs) := by
  apply List.ext_getElem?
  intro k
  simp only [List.getElem?_map]
  cases hk : ms[k]? with
  | none =>
    have : ms'[k]? = none := by
      rw [List.getElem?_eq_none_iff] at hk ⊢; omega
    simp [this]
  | some m =>
    obtain ⟨m', hm', hle⟩ := h k m hk
    simp [hm', hle.1]

theorem Ext.refl (s : Net) : Ext s s :=
  ⟨MsLe.refl _, List.Grows.refl FrameKept.refl _, List.Grows.refl ResKept.refl _, rfl, rfl, Nat.le_refl _⟩

theorem Ext.trans {a b c : Net} (h1 : Ext a b) (h2 : Ext b c) : Ext a c :=
  ⟨h1.ms.trans h2.ms, List.Grows.trans (R := FrameKept) FrameKept.trans h1.wire h2.wire,
   List.Grows.trans (R := ResKept) ResKept.trans h1.res h2.res, h2.neg.trans h1.neg, h2.mtu.trans h1.mtu,
   Nat.le_trans h1.now h2.now⟩

theorem Ext.ofMachines {s s' : Net} (hm : MsLe s.machines s'.machines) (h1 : s'.wire = s.wire)
    (h2 : s'.resolvers = s.resolvers) (h3 : s'.negCache = s.negCache) (h4 : s'.mtu = s.mtu)
    (h5 : s'.now = s.now) : Ext s s' :=
  ⟨hm, h1 ▸ List.Grows.refl FrameKept.refl _, h2 ▸ List.Grows.refl ResKept.refl _, h3, h4,
   by rw [h5]; exact Nat.le_refl _⟩

theorem Ext.listen (s : Net) (k : Nat) (ip : Ip) : Ext s (s.listen k ip) := by
  unfold Net.listen; split
  · rename_i m hm
    exact Ext.ofMachines (MsLe.set hm (m.listen_le ip)) rfl rfl rfl rfl rfl
  · exact Ext.refl s

theorem Ext.setSubnet (s : Net) (k : Nat) (ip : Ip) (bits : Nat) (gw : Ip) : Ext s (s.setSubnet k ip bits gw) := by
  unfold Net.setSubnet; split
  · rename_i m hm
    exact Ext.ofMachines (MsLe.set hm (m.setSubnet_le ip _)) rfl rfl rfl rfl rfl
  · exact Ext.refl s

theorem Ext.failMac (s : Net) (k : Nat) (x : Ip) : Ext s (s.failMac k x) := by
  unfold Net.failMac; split
  · rename_i m hm
    exact Ext.ofMachines (MsLe.set hm (Machine.le_of_localIps rfl rfl)) rfl rfl rfl rfl rfl
  · exact Ext.refl s

theorem Ext.tick (s : Net) (dt : Nat) : Ext s (s.tick dt) := by
  unfold Net.tick; split
  · exact ⟨MsLe.refl _, List.Grows.refl FrameKept.refl _, List.Grows.refl ResKept.refl _, rfl, rfl,
      Nat.le_add_right _ _⟩
  · exact Ext.refl s

theorem Ext.lose (s : Net) (fi : Nat) : Ext s (s.lose fi) := by
  unfold Net.lose; split
  · rename_i f hf
    exact ⟨MsLe.refl _, List.Grows.set FrameKept.refl hf ⟨rfl, rfl, rfl, fun _ => rfl⟩,
      List.Grows.refl ResKept.refl _, rfl, rfl, Nat.le_refl _⟩
  · exact Ext.refl s

theorem Ext.deliver (s : Net) (fi k slot : Nat) : Ext s (s.deliver fi k slot) := by
  unfold Net.deliver
  split
  · rename_i f m hf hm
    split
    · split
      · exact ⟨MsLe.set hm (by rw [Machine.demux_fst]; exact Machine.le_of_localIps rfl rfl),
          List.Grows.append FrameKept.refl _ _, List.Grows.refl ResKept.refl _, rfl, rfl, Nat.le_refl _⟩
      · exact Ext.refl s
    · exact Ext.refl s
  · exact Ext.refl s

theorem Ext.setResolver {s : Net} {i : Nat} {r r' : Resolver} (hr : s.resolvers[i]? = some r) (h : ResKept r r') :
    Ext s { s with resolvers := s.resolvers.set i r' } :=
  ⟨MsLe.refl _, List.Grows.refl FrameKept.refl _, List.Grows.set ResKept.refl hr h, rfl, rfl, Nat.le_refl _⟩

theorem Ext.wake (s : Net) (i : Nat) : Ext s (s.wake i) := by
  unfold Net.wake
  split
  · rename_i r hr
    split
    · rename_i hres
      split
      · exact Ext.setResolver hr ⟨rfl, rfl, rfl, rfl, rfl, fun x e => by rw [hres] at e; cases e⟩
      · exact Ext.refl s
    · exact Ext.refl s
  · exact Ext.refl s

theorem Ext.roundOrFail (s : Net) (r : Resolver) : Ext s (s.roundOrFail r).1 := by
  unfold Net.roundOrFail
  split
  · split
    · exact ⟨MsLe.refl _, List.Grows.append FrameKept.refl _ _, List.Grows.refl ResKept.refl _, rfl, rfl,
        Nat.le_refl _⟩
    · exact Ext.refl s
  · exact Ext.failMac s r.mach r.dest

theorem Ext.timeout (s : Net) (i : Nat) : Ext s (s.timeout i) := by
  unfold Net.timeout
  split
  · rename_i r hr
    split
    · rename_i hc
      obtain ⟨_, _, _, f4, _, f6, f7, f8, f9, f10⟩ := s.roundOrFail_fields r
      have hr' : (s.roundOrFail r).1.resolvers[i]? = some r := by rw [f4]; exact hr
      exact (Ext.roundOrFail s r).trans
        (Ext.setResolver (s := (s.roundOrFail r).1) hr' ⟨f7, f8, f9, f10, f6, fun x e => by rw [hc.1] at e; cases e⟩)
    · exact Ext.refl s
  · exact Ext.refl s

theorem Ext.addResolver (s : Net) (r : Resolver) : Ext s { s with resolvers := s.resolvers ++ [r] } :=
  ⟨MsLe.refl _, List.Grows.refl FrameKept.refl _, List.Grows.append ResKept.refl _ _, rfl, rfl, Nat.le_refl _⟩

theorem Ext.resolve (s : Net) (k : Nat) (loc remote : Ip) (slot : Nat) : Ext s (s.resolve k loc remote slot) := by
  unfold Net.resolve
  split
  · exact Ext.refl s
  · rename_i m0 hm0
    dsimp only
    have e1 : Ext s { s with machines := s.machines.set k (m0.listen loc) } :=
      Ext.ofMachines (MsLe.set hm0 (m0.listen_le loc)) rfl rfl rfl rfl rfl
    split
    · exact e1.trans (Ext.addResolver _ _)
    · split
      · exact Ext.ofMachines (MsLe.set hm0 (m0.listen_le loc)) rfl rfl rfl rfl rfl
      · exact e1.trans ((Ext.roundOrFail _ _).trans (Ext.addResolver _ _))

theorem Ext.step (s : Net) (l : Label) : Ext s (step s l) :=
  step_keeps (Ext.refl s) l (Ext.listen s) (Ext.setSubnet s) (Ext.resolve s) (Ext.deliver s) (Ext.lose s) (Ext.wake s)
    (Ext.timeout s) (Ext.tick s)

theorem Ext.run (s : Net) (ls : List Label) : Ext s (run s ls) :=
  run_keeps (P := Ext s) (fun s' l h => h.trans (Ext.step s' l)) (Ext.refl s) ls

theorem step_length (s : Net) (l : Label) : (step s l).machines.length = s.machines.length := by
  unfold Elvis.Arp.step
  split
  · rfl
  · cases l <;>
      simp only [Net.listen, Net.setSubnet, Net.resolve, Net.deliver, Net.lose, Net.wake, Net.timeout, Net.tick,
        Net.roundOrFail, Net.failMac] <;>
      (repeat' split) <;> simp only [List.length_set]

theorem step_taps (s : Net) (l : Label) : (step s l).taps = s.taps :=
  (Ext.step s l).ms.taps (step_length s l)

theorem run_taps (s : Net) (ls : List Label) : (run s ls).taps = s.taps :=
  run_keeps (P := fun s' => s'.taps = s.taps) (fun s' l h => (step_taps s' l).trans h) rfl ls

theorem assignMacs_sorted (slots : List Nat) (c : Nat) :
    (assignMacs c slots).flatten.Pairwise (· < ·) ∧ ∀ x ∈ (assignMacs c slots).flatten, c ≤ x := by
  induction slots generalizing c with
  | nil => simp [assignMacs]
  | cons n rest ih =>
    obtain ⟨ih1, ih2⟩ := ih (c + n)
    simp only [assignMacs, List.flatten_cons]
    constructor
    · rw [List.pairwise_append]
      refine ⟨?_, ih1, ?_⟩
      · exact List.Pairwise.map _ (fun a b h => Nat.add_lt_add_left h c) List.pairwise_lt_range
      · intro a ha b hb
        simp only [List.mem_map, List.mem_range] at ha
        obtain ⟨a', ha', rfl⟩ := ha
        have := ih2 b hb
        show c + a' < b
        omega
    · intro x hx
      rcases List.mem_append.mp hx with h | h
      · simp only [List.mem_map, List.mem_range] at h
        obtain ⟨a', _, rfl⟩ := h
        show c ≤ c + a'
        omega
      · have := ih2 x h
        omega

theorem row_unique {L : List (List Nat)} (h : L.flatten.Pairwise (· < ·)) {i j : Nat} {li lj : List Nat}
    (hi : L[i]? = some li) (hj : L[j]? = some lj) {x : Nat} (xi : x ∈ li) (xj : x ∈ lj) : i = j := by
  rw [List.pairwise_flatten] at h
  obtain ⟨_, h2⟩ := h
  rw [List.pairwise_iff_getElem] at h2
  have hil := List.lt_length_of_getElem? hi
  have hjl := List.lt_length_of_getElem? hj
  rw [List.getElem?_eq_getElem hil] at hi
  rw [List.getElem?_eq_getElem hjl] at hj
  cases hi; cases hj
  rcases Nat.lt_trichotomy i j with hlt | heq | hgt
  · exact absurd (h2 i j hil hjl hlt x xi x xj) (Nat.lt_irrefl x)
  · exact heq
  · exact absurd (h2 j i hjl hil hgt x xj x xi) (Nat.lt_irrefl x)

theorem init_taps (neg : Bool) (slots : List Nat) (mtu : Nat) : (initWith neg slots mtu).taps = assignMacs 0 slots := by
  simp [Net.taps, initWith, List.map_map, Function.comp_def]

end Elvis.Arp
