import ElvisVerif.Lemmas.TcpFullEst
/-!
# The handshake states, TCB level: where `process_segment` ends, one row per state

For a segment of the closed system nobody closes (no RST, no FIN, an ACK field — if any — in `[ISS + 1, SND.NXT]`) and a
TCB at rest in SYN-RECEIVED / SYN-SENT (`SND.UNA = ISS`), `proc_sr` / `proc_ss` list the ways `process_segment` can end:
for SYN-SENT the rows of `processSegment_synSent_rows` (`Lemmas/TcbNoop.lean`) read under these hypotheses, for
SYN-RECEIVED and ESTABLISHED one walk through the blocks (`processSegment_chain`: blocks 1 and 2 start from the given
TCB, the later blocks carry a predicate along that `Rest` keeps).  What the reorder loop needs is read off: `proc_stays` (while the
TCB stays in SYN-SENT / SYN-RECEIVED nothing leaves its retransmission queue — the SYN / SYN-ACK stays queued until
the state is ESTABLISHED —, and in SYN-RECEIVED the receive side does not change: a segment with text carries the ACK
bit, and an acceptable ACK moves the state to ESTABLISHED).
-/
namespace Elvis.Tcp.Full
open Elvis.ModCmp Elvis.Tcp.Tcb

def Sup (t t' : Tcb) : Prop := ∀ tr ∈ t.outgoing.retransmit, tr ∈ t'.outgoing.retransmit

theorem Sup.refl (t : Tcb) : Sup t t := fun _ h => h
theorem Sup.trans {a b c : Tcb} (h1 : Sup a b) (h2 : Sup b c) : Sup a c := fun tr h => h2 tr (h1 tr h)

theorem Sup.queued {t t' : Tcb} (h : Sup t t') {P : Segment → Prop}
    (e : ∃ g ∈ t.outgoing.retransmit.map (·.segment), P g) : ∃ g ∈ t'.outgoing.retransmit.map (·.segment), P g := by
  obtain ⟨g, hg, p⟩ := e
  obtain ⟨tr, htr, rfl⟩ := List.mem_map.1 hg
  exact ⟨tr.segment, List.mem_map.2 ⟨tr, h tr htr, rfl⟩, p⟩

theorem sup_enq (t : Tcb) (hd : Hdr) : Sup t (t.enqueueBuilt hd) := by
  by_cases hc : hd.ctl.syn = true ∨ hd.ctl.fin = true
  · rw [enqueueBuilt_retransmit t hd hc]
    exact fun tr h => List.mem_append_left _ h
  · rw [enqueueBuilt_oneshot t hd (by simpa using fun h => hc (Or.inl h)) (by simpa using fun h => hc (Or.inr h))]
    exact fun _ h => h

/-- what blocks 4 and 5 leave alone -/
structure Rest (text : List UInt8) (s s' : Tcb) : Prop where
  una : s'.snd.una = s.snd.una
  sup : Sup s s'
  state : s.state ≠ .SynSent → s'.state = s.state
  rcv : s.state ≠ .SynSent → text = [] → s'.rcv = s.rcv ∧ s'.incoming = s.incoming

theorem Rest.refl (text : List UInt8) (s : Tcb) : Rest text s s :=
  ⟨rfl, Sup.refl _, fun _ => rfl, fun _ _ => ⟨rfl, rfl⟩⟩

theorem Rest.trans {text : List UInt8} {a b c : Tcb} (h1 : Rest text a b) (h2 : Rest text b c) : Rest text a c :=
  ⟨h2.una.trans h1.una, h1.sup.trans h2.sup, fun hn => (h2.state (by rw [h1.state hn]; exact hn)).trans (h1.state hn), fun hn ht =>
    have hb : b.state ≠ .SynSent := by rw [h1.state hn]; exact hn
    ⟨(h2.rcv hb ht).1.trans (h1.rcv hn ht).1, (h2.rcv hb ht).2.trans (h1.rcv hn ht).2⟩⟩

theorem rest_enq (text : List UInt8) (s : Tcb) (hd : Hdr) : Rest text s (s.enqueueBuilt hd) :=
  ⟨congrArg Snd.una (enqueueBuilt_frame _ _).snd, sup_enq _ _, fun _ => state_enqueueBuilt _ _,
    fun _ _ => ⟨(enqueueBuilt_frame _ _).rcv, (enqueueBuilt_frame _ _).incoming⟩⟩

theorem synBlock_rest {text : List UInt8} {s s' : Tcb} {seg : Hdr} {r : Option ProcessSegmentResult}
    (e : synBlock s seg = .ok (s', r)) : Rest text s s' := by
  rcases synBlock_ok e with ⟨-, rfl, -⟩ | ⟨-, -, rfl, -⟩ | ⟨-, hst, -, -, rfl⟩ | ⟨-, hst, -, -, rfl⟩
  · exact Rest.refl _ _
  · exact rest_enq _ _ _
  · exact ⟨by rw [(enqueueBuilt_frame _ _).snd]; rfl, fun tr h => sup_enq _ _ tr h, fun hns => absurd hst hns,
      fun hns => absurd hst hns⟩
  · exact ⟨by rw [(enqueueBuilt_frame _ _).snd]; rfl, fun tr h => sup_enq _ _ tr h, fun hns => absurd hst hns,
      fun hns => absurd hst hns⟩

theorem textBlock_rest {s s' : Tcb} {seg : Hdr} {text : List UInt8} {tl : Seq} {r : Option ProcessSegmentResult}
    (e : textBlock s seg text tl = .ok (s', r)) : Rest text s s' := by
  obtain ⟨-, rfl | h⟩ := textBlock_ok e
  · exact Rest.refl _ _
  · rw [h.eq, textTaken, textBuffered, acceptText]
    exact ⟨congrArg Snd.una (enqueueBuilt_frame _ _).snd, fun tr h => sup_enq _ _ tr h,
      fun _ => state_enqueueBuilt _ _, fun _ ht => absurd ht h.nonempty⟩

theorem rstBlock_step {P Q : Tcb → Prop} {s s' : Tcb} {seg : Hdr} {r : Option ProcessSegmentResult}
    (hrst : seg.ctl.rst = false) (p : P s) (e : rstBlock s seg = .ok (s', r)) : (r = none → P s') ∧ (r ≠ none → Q s') := by
  rw [(rstBlock_ok e).1]
  exact ⟨fun _ => p, fun h => absurd ((rstBlock_ok e).2.2 hrst) h⟩

theorem established_rest {text : List UInt8} {s s' : Tcb} (p : s.state = .Established) (k : Rest text s s') :
    s'.state = .Established := by
  rw [k.state (by rw [p]; nofun)]
  exact p

variable {iss : Seq} {N : Nat}

theorem ackEst_cases (s : Tcb) (seg : Hdr) (s1 : Tcb) (r1 : ProcessSegmentResult)
    (e : s.ackEstablishedProcessing seg = .ok (s1, r1)) :
    s1.state = s.state ∧ (s1.snd.una = s.snd.una ∨ s1.snd.una = seg.ack) := by
  refine ⟨(aep_of_ok e).1 ▸ aep_state s seg, ?_⟩
  rcases ackEstablishedProcessing_ok e with ⟨rfl, -⟩ | ⟨rfl, -⟩ | ⟨-, -, rfl | rfl⟩
  · exact Or.inl rfl
  · exact Or.inl (congrArg Snd.una (enqueueBuilt_frame _ _).snd)
  · exact Or.inr rfl
  · exact Or.inr rfl

/-- block 2 in SYN-RECEIVED (RFC 9293 3.10.7.4, fifth) for an ACK field in `[ISS + 1, SND.NXT]` while `SND.UNA = ISS`:
    the field lies in `(SND.UNA, SND.NXT]`, the TCB becomes ESTABLISHED and `ack_established_processing` takes the ACK -/
theorem ackBlock_sr_est (hN : N < 2147483648) {t s' : Tcb} {seg : Hdr}
    {r : Option ProcessSegmentResult} (e : ackBlock t seg = .ok (s', r)) (hst : t.state = .SynReceived)
    (hiss : t.snd.iss = iss) (hsent : t.sent = N) (hu : t.snd.una = t.snd.iss) (hab : seg.ctl.ack = true)
    (ha : 1 ≤ off iss seg.ack ∧ off iss seg.ack ≤ N) : s'.state = .Established ∧ s'.snd.una = seg.ack := by
  obtain ⟨a1, a2⟩ := ha
  have hsentN : off iss t.snd.nxt = N := by rw [← hsent, ← hiss]; rfl
  have hb : modBounded t.snd.una .Lt seg.ack .Leq t.snd.nxt = true :=
    bounded_of_off iss _ _ _ (by omega) (by rw [hu, hiss, off_self]; omega) (by omega)
  have hnew : modLeq seg.ack t.snd.una = false := Bool.eq_false_iff.2 fun h => by
    have := (modLeq_iff_off iss seg.ack t.snd.una (by omega) (by rw [hu, hiss, off_self]; omega)).1 h
    rw [hu, hiss, off_self] at this
    omega
  rw [← (ackOut_of_ok e).1, ackOut_synReceived hab hst, if_pos hb]
  show (aep (synAcked t seg) seg).1.state = _ ∧ (aep (synAcked t seg) seg).1.snd.una = _
  rw [aep_new (s := synAcked t seg) hnew hb]
  unfold wndTaken
  split <;> exact ⟨rfl, rfl⟩

/-- SYN-RECEIVED: an unacceptable segment is acknowledged; an acceptable one without the ACK bit leaves state, queue
    and (if it has no text) the receive side alone; an acceptable one with the ACK bit makes the TCB ESTABLISHED -/
theorem proc_sr (hN : N < 2147483648) {t t' : Tcb} {g : Segment} {r : ProcessSegmentResult}
    (e : t.processSegment g = .ok (t', r)) (hst : t.state = .SynReceived) (hiss : t.snd.iss = iss) (hsent : t.sent = N)
    (hu : t.snd.una = t.snd.iss) (ha : g.hdr.ctl.ack = true → 1 ≤ off iss g.hdr.ack ∧ off iss g.hdr.ack ≤ N)
    (hfin : g.hdr.ctl.fin = false) :
    (t.isSeqOk (BitVec.ofNat 32 g.text.length) g.hdr.seq g.hdr.ctl.syn g.hdr.ctl.fin = .ok false ∧
      t' = t.enqueueBuilt t.ackHdr.built) ∨
    (t.isSeqOk (BitVec.ofNat 32 g.text.length) g.hdr.seq g.hdr.ctl.syn g.hdr.ctl.fin = .ok true ∧
      ((g.hdr.ctl.ack = false ∧ Rest g.text t t') ∨
        (g.hdr.ctl.ack = true ∧ t'.state = .Established ∧ t'.snd.una = g.hdr.ack))) := by
  have hns : t.state ≠ .SynSent := by rw [hst]; nofun
  let OK : Prop := t.isSeqOk (BitVec.ofNat 32 g.text.length) g.hdr.seq g.hdr.ctl.syn g.hdr.ctl.fin = .ok true
  -- after block 2: untouched (no ACK bit), or ESTABLISHED
  let D : Tcb → Prop := fun s => OK ∧
    ((g.hdr.ctl.ack = false ∧ Rest g.text t s) ∨
      (g.hdr.ctl.ack = true ∧ s.state = .Established ∧ s.snd.una = g.hdr.ack))
  let NO : Tcb → Prop := fun s =>
    t.isSeqOk (BitVec.ofNat 32 g.text.length) g.hdr.seq g.hdr.ctl.syn g.hdr.ctl.fin = .ok false ∧
      s = t.enqueueBuilt t.ackHdr.built
  let Q : Tcb → Prop := fun s => NO s ∨ D s
  have hD : ∀ {s s' : Tcb}, D s → Rest g.text s s' → D s' := fun d k =>
    ⟨d.1, d.2.imp (fun h => ⟨h.1, h.2.trans k⟩) fun h => ⟨h.1, established_rest h.2.1 k, k.una.trans h.2.2⟩⟩
  refine processSegment_chain g (P1 := (· = t)) (P2 := fun s => s = t ∧ OK) (P3 := D) (P4 := D) (P5 := D) (P6 := D)
    (Q := Q) ?_ ?_ (fun d e3 => ⟨fun _ => (rstBlock_ok e3).1 ▸ d, fun _ => Or.inr ((rstBlock_ok e3).1 ▸ d)⟩)
    (fun d e4 => ⟨fun _ => hD d (synBlock_rest e4), fun _ => Or.inr (hD d (synBlock_rest e4))⟩)
    (fun d e5 => ⟨fun _ => hD d (textBlock_rest e5), fun _ => Or.inr (hD d (textBlock_rest e5))⟩)
    (fun d e6 => Or.inr (C01.finBlock_eq hfin e6 ▸ d)) rfl e
  · intro s s' r hs e1
    rw [hs] at e1
    rcases seqCheck_ok e1 with ⟨rfl, rfl, h | h⟩ | ⟨-, hno, rfl, rfl⟩
    · exact absurd h hns
    · exact ⟨fun _ => ⟨rfl, h⟩, fun h => absurd rfl h⟩
    · exact ⟨nofun, fun _ => Or.inl ⟨hno, rfl⟩⟩
  · intro s s' r hs e2
    obtain ⟨hs, hok⟩ := hs
    rw [hs] at e2
    cases hab : g.hdr.ctl.ack with
    | false =>
      rw [ackBlock_noAck hab] at e2
      cases e2
      exact ⟨fun _ => ⟨hok, Or.inl ⟨hab, Rest.refl _ _⟩⟩, fun h => absurd rfl h⟩
    | true =>
      have st2 := ackBlock_sr_est hN e2 hst hiss hsent hu hab (ha hab)
      exact ⟨fun _ => ⟨hok, Or.inr ⟨hab, st2⟩⟩, fun _ => Or.inr ⟨hok, Or.inr ⟨hab, st2⟩⟩⟩

/-- **in SYN-RECEIVED an acceptable segment with an ACK field in `(ISS, SND.NXT]` moves to ESTABLISHED** -/
theorem proc_trigger (hN : N < 2147483648) (t : Tcb) (g : Segment) (t' : Tcb)
    (r : ProcessSegmentResult) (e : t.processSegment g = .ok (t', r)) (hst : t.state = .SynReceived)
    (hiss : t.snd.iss = iss) (hsent : t.sent = N) (hu : t.snd.una = t.snd.iss)
    (hab : g.hdr.ctl.ack = true) (ha : 1 ≤ off iss g.hdr.ack ∧ off iss g.hdr.ack ≤ N) (hfin : g.hdr.ctl.fin = false)
    (hok : t.isSeqOk (BitVec.ofNat 32 g.text.length) g.hdr.seq g.hdr.ctl.syn g.hdr.ctl.fin = .ok true) :
    t'.state = .Established := by
  rcases proc_sr hN e hst hiss hsent hu (fun _ => ha) hfin with ⟨h, -⟩ | ⟨-, ⟨h, -⟩ | ⟨-, h, -⟩⟩
  · rw [hok] at h; cases h
  · rw [hab] at h; cases h
  · exact h

/-- SYN-SENT: the segment is dropped (with a RST queued for it if it carries a SYN), or a SYN leads to SYN-RECEIVED with
    the SYN-ACK queued behind our SYN, or — our SYN acknowledged, by this segment or before — to ESTABLISHED -/
theorem proc_ss (hN : N < 2147483648) {t t' : Tcb} {g : Segment} {r : ProcessSegmentResult}
    (e : t.processSegment g = .ok (t', r)) (hst : t.state = .SynSent) (hiss : t.snd.iss = iss)
    (ha : g.hdr.ctl.ack = true → 1 ≤ off iss g.hdr.ack ∧ off iss g.hdr.ack ≤ N)
    (hrst : g.hdr.ctl.rst = false) (hfin : g.hdr.ctl.fin = false) :
    (t'.state = .SynSent ∧ t'.snd.una = t.snd.una ∧ Sup t t' ∧ t'.incoming = t.incoming ∧
      (g.hdr.ctl.syn = true → ∃ h ∈ t'.outgoing.oneshot, h.ctl.rst = true)) ∨
    (t'.state = .SynReceived ∧ t'.snd.una = t.snd.una ∧ Sup t t' ∧ t'.rcv.nxt = t'.rcv.irs + 1 ∧
      t'.incoming = t.incoming ∧
      ∃ σ ∈ t'.outgoing.retransmit.map (·.segment), σ.hdr.ctl.syn = true ∧ σ.hdr.ctl.ack = true) ∨
    (t'.state = .Established ∧ modGt t'.snd.una t.snd.iss = true ∧
      (t'.snd.una = t.snd.una ∨ (g.hdr.ctl.ack = true ∧ t'.snd.una = g.hdr.ack))) := by
  -- an ACK field in range is beyond ISS
  have hgt : g.hdr.ctl.ack = true → modGt g.hdr.ack t.snd.iss = true := fun hab => by
    obtain ⟨a1, a2⟩ := ha hab
    rw [hiss]
    exact (modGt_iff_off iss g.hdr.ack iss (by omega) (by rw [off_self]; omega)).2 (by rw [off_self]; omega)
  rcases processSegment_synSent_rows t g hst with ⟨-, ⟨hr, -⟩ | e'⟩ |
    ⟨v, hv, ⟨hr, -⟩ | ⟨-, hsyn, e'⟩ | ⟨-, -, hg, e'⟩ | ⟨-, -, hg, e'⟩⟩
  · rw [hrst] at hr; cases hr
  · -- a RST is queued for an ACK field that fails either test
    cases e'.symm.trans e
    refine .inl ⟨(state_enqueueBuilt _ _).trans hst, congrArg Snd.una (enqueueBuilt_frame _ _).snd, sup_enq _ _,
      (enqueueBuilt_frame _ _).incoming, fun _ => ?_⟩
    rw [enqueueBuilt_oneshot _ _ rfl rfl]
    exact ⟨(t.rstForAck g.hdr).built, List.mem_append_right _ List.mem_cons_self, rfl⟩
  · rw [hrst] at hr; cases hr
  · -- no SYN: discarded, and block 2 took nothing
    obtain rfl : v = t := hv.resolve_right fun h => by rw [hsyn] at h; cases h.2.1
    cases e'.symm.trans e
    exact .inl ⟨hst, rfl, Sup.refl _, rfl, fun h => by rw [hsyn] at h; cases h⟩
  · -- simultaneous open: our SYN is unacknowledged, so block 2 took nothing; the SYN,ACK joins the queue
    obtain rfl : v = t := hv.resolve_right fun ⟨hab, _, _, hva⟩ => by
      rw [hva, show modGt (ackTaken t g.hdr.ack).snd.una (ackTaken t g.hdr.ack).snd.iss = modGt g.hdr.ack t.snd.iss from rfl,
        hgt hab] at hg
      cases hg
    cases e'.symm.trans e
    refine .inr (.inl ⟨(state_enqueueBuilt _ _).trans rfl, by rw [(enqueueBuilt_frame _ _).snd]; rfl,
      fun tr h => sup_enq _ _ tr h, by rw [(enqueueBuilt_frame _ _).rcv]; rfl, (enqueueBuilt_frame _ _).incoming, ?_⟩)
    rw [enqueueBuilt_retransmit _ _ (Or.inl rfl)]
    refine ⟨_, List.mem_map.2 ⟨_, List.mem_append_right _ (List.mem_singleton.2 rfl), rfl⟩, ?_, ?_⟩ <;>
      simp [Transmit.new, synAckHdr, Hdr.built, Hdr.withSyn, Hdr.withAck, Hdr.withWnd, headerBuilder, Hdr.builder]
  · -- our SYN acknowledged, by this segment or before: ESTABLISHED, and blocks 5 and 6 keep it (no FIN)
    rw [e'] at e
    obtain ⟨s5, e5, e6⟩ := finish56_ok e
    cases C01.finBlock_eq hfin e6
    have k := textBlock_rest e5
    have hu : (synEst v g.hdr).snd.una = v.snd.una := by rw [(enqueueBuilt_frame _ _).snd]; rfl
    refine .inr (.inr ⟨established_rest (state_enqueueBuilt _ _) k, ?_, ?_⟩) <;> rw [k.una, hu]
    · rcases hv with rfl | ⟨-, -, -, rfl⟩ <;> exact hg
    · rcases hv with rfl | ⟨hab, -, -, rfl⟩
      · exact .inl rfl
      · exact .inr ⟨hab, rfl⟩

theorem proc_stays (hN : N < 2147483648) {t t' : Tcb} {g : Segment} {r : ProcessSegmentResult}
    (e : t.processSegment g = .ok (t', r)) (hst : t.state = .SynSent ∨ t.state = .SynReceived)
    (hiss : t.snd.iss = iss) (hsent : t.sent = N) (hu : t.state = .SynReceived → t.snd.una = t.snd.iss)
    (ha : g.hdr.ctl.ack = true → 1 ≤ off iss g.hdr.ack ∧ off iss g.hdr.ack ≤ N)
    (hta : g.text ≠ [] → g.hdr.ctl.ack = true) (hrst : g.hdr.ctl.rst = false) (hfin : g.hdr.ctl.fin = false)
    (hst' : t'.state = .SynSent ∨ t'.state = .SynReceived) :
    Sup t t' ∧ (t.state = .SynReceived → t'.rcv = t.rcv ∧ t'.incoming = t.incoming) := by
  rcases hst with hst | hst
  · refine ⟨?_, fun h => by rw [hst] at h; cases h⟩
    rcases proc_ss hN e hst hiss ha hrst hfin with ⟨-, -, k, -⟩ | ⟨-, -, k, -⟩ | ⟨h, -⟩
    · exact k
    · exact k
    · rcases hst' with h' | h' <;> (rw [h] at h'; cases h')
  · have hns : t.state ≠ .SynSent := by rw [hst]; nofun
    rcases proc_sr hN e hst hiss hsent (hu hst) ha hfin with ⟨-, rfl⟩ | ⟨-, ⟨hab, k⟩ | ⟨-, h, -⟩⟩
    · exact ⟨sup_enq _ _, fun _ => ⟨(enqueueBuilt_frame _ _).rcv, (enqueueBuilt_frame _ _).incoming⟩⟩
    · refine ⟨k.sup, fun _ => k.rcv hns ?_⟩
      -- without the ACK bit the segment carries no text
      cases hl : g.text with
      | nil => rfl
      | cons a l =>
        have := hta (by rw [hl]; nofun)
        rw [hab] at this
        cases this
    · rcases hst' with h' | h' <;> (rw [h] at h'; cases h')

/-- ESTABLISHED stays (no block leaves it without RST / FIN), `SND.UNA` moves forward within `[.., SND.NXT]`, and a SYN
    is answered by an ACK: by block 1 (not acceptable) or at the latest block 4 (a SYN outside SYN-SENT) -/
theorem proc_es (hN : N < 2147483648) {t t' : Tcb} {g : Segment} {r : ProcessSegmentResult}
    (e : t.processSegment g = .ok (t', r)) (hst : t.state = .Established) (hiss : t.snd.iss = iss) (hsent : t.sent = N)
    (hule : off iss t.snd.una ≤ N) (ha : g.hdr.ctl.ack = true → 1 ≤ off iss g.hdr.ack ∧ off iss g.hdr.ack ≤ N)
    (hrst : g.hdr.ctl.rst = false) (hfin : g.hdr.ctl.fin = false) :
    t'.state = .Established ∧ off iss t.snd.una ≤ off iss t'.snd.una ∧ off iss t'.snd.una ≤ N ∧
      (g.hdr.ctl.syn = true → t'.outgoing.oneshot ≠ []) := by
  let E : Tcb → Prop := fun s => s.state = .Established ∧ s.snd.iss = iss ∧ s.sent = N ∧
    off iss t.snd.una ≤ off iss s.snd.una ∧ off iss s.snd.una ≤ N
  have enq : ∀ (s : Tcb) (h : Hdr), E s → E (s.enqueueBuilt h) := fun s h p => by
    have f := enqueueBuilt_frame s h
    exact ⟨f.state.trans p.1, by rw [f.snd]; exact p.2.1,
      (sent_congr (by rw [f.snd]) (by rw [f.snd])).trans p.2.2.1, by rw [f.snd]; exact p.2.2.2⟩
  have ack1 : ∀ s : Tcb, (s.enqueueBuilt s.ackHdr.built).outgoing.oneshot ≠ [] := fun s => by
    rw [enqueueBuilt_oneshot _ _ rfl rfl]
    exact List.append_ne_nil_of_right_ne_nil _ (List.cons_ne_nil _ _)
  let Q : Tcb → Prop := fun s => E s ∧ (g.hdr.ctl.syn = true → s.outgoing.oneshot ≠ [])
  -- past block 4 the segment carries no SYN
  let F : Tcb → Prop := fun s => E s ∧ g.hdr.ctl.syn = false
  have hF : ∀ {s : Tcb}, F s → Q s := fun p => ⟨p.1, fun h => by rw [p.2] at h; cases h⟩
  have k : Q t' := by
    refine processSegment_chain g (P1 := E) (P2 := E) (P3 := E) (P4 := E) (P5 := F) (P6 := F) (Q := Q)
      ?_ ?_ (rstBlock_step hrst) ?_ ?_ (fun p e6 => hF (C01.finBlock_eq hfin e6 ▸ p))
      ⟨hst, hiss, hsent, Nat.le_refl _, hule⟩ e
    · intro s s' r p e1
      rcases seqCheck_ok e1 with ⟨rfl, rfl, -⟩ | ⟨-, -, rfl, rfl⟩
      · exact ⟨fun _ => p, fun h => absurd rfl h⟩
      · exact ⟨nofun, fun _ => ⟨enq _ _ p, fun _ => ack1 s⟩⟩
    · intro s s' r p e2
      cases hab : g.hdr.ctl.ack with
      | false =>
        rw [ackBlock_noAck hab] at e2
        cases e2
        exact ⟨fun _ => p, fun h => absurd rfl h⟩
      | true =>
        -- the ACK field is in `[ISS + 1, SND.NXT]`: `ack_established_processing` succeeds
        obtain ⟨t1, e1, fx⟩ := ackBlock_k hN s g.hdr p.1 p.2.1 p.2.2.1 p.2.2.2.2 hab (ha hab)
        cases e1.symm.trans e2
        exact ⟨fun _ => ⟨fx.st.trans p.1, fx.siss.trans p.2.1, (sent_congr fx.siss fx.nxt).trans p.2.2.1,
          Nat.le_trans p.2.2.2.1 fx.ulo, fx.uhi⟩, fun h => absurd rfl h⟩
    · intro s s' r p e4
      have hs : s.state = .Established := p.1
      rcases synBlock_ok e4 with ⟨hsyn, rfl, ⟨h, -⟩ | ⟨-, rfl⟩⟩ | ⟨-, -, rfl, rfl⟩ | ⟨-, h, -⟩ | ⟨-, h, -⟩
      any_goals (rw [hs] at h; cases h)
      · exact ⟨fun _ => ⟨p, hsyn⟩, fun h => absurd rfl h⟩
      · exact ⟨nofun, fun _ => ⟨enq _ _ p, fun _ => ack1 s⟩⟩
    · intro s s' r p e5
      obtain ⟨-, rfl | h⟩ := textBlock_ok e5
      · exact ⟨fun _ => p, fun _ => hF p⟩
      · have p' : F s' := by
          rw [h.eq, textTaken, textBuffered, acceptText]
          exact ⟨enq _ _ p.1, p.2⟩
        exact ⟨fun _ => p', fun _ => hF p'⟩
  exact ⟨k.1.1, k.1.2.2.2.1, k.1.2.2.2.2, k.2⟩

/-! ## `SND.UNA` in ESTABLISHED

`XU iss N t`: `SND.UNA − ISS ≤ N` and, in ESTABLISHED, `1 ≤ SND.UNA − ISS`.  Both ways into ESTABLISHED establish it:
SYN-RECEIVED → ESTABLISHED (block 2) moves `SND.UNA` to the ACK number, SYN-SENT → ESTABLISHED (block 4) tests
`mod_gt(SND.UNA, ISS)`; afterwards `SND.UNA` only moves forward. -/

structure XU (iss : Seq) (N : Nat) (t : Tcb) : Prop where
  le : off iss t.snd.una ≤ N
  est : t.state = .Established → 1 ≤ off iss t.snd.una

theorem XU.of_same {t t' : Tcb} (h : XU iss N t) (h1 : t'.snd.una = t.snd.una) (h2 : t'.state = t.state) : XU iss N t' :=
  ⟨by rw [h1]; exact h.le, fun hs => by rw [h1]; exact h.est (by rw [← h2]; exact hs)⟩

theorem xu_enq {t : Tcb} (h : XU iss N t) (hd : Hdr) : XU iss N (t.enqueueBuilt hd) :=
  h.of_same (by rw [(enqueueBuilt_frame _ _).snd]) (enqueueBuilt_frame _ _).state

theorem proc_xu (hN : N < 2147483648) {t t' : Tcb} {g : Segment} {r : ProcessSegmentResult}
    (e : t.processSegment g = .ok (t', r)) (h3 : C01.Ok3 t.state) (hiss : t.snd.iss = iss) (hsent : t.sent = N)
    (hu : t.state = .SynReceived → t.snd.una = t.snd.iss)
    (ha : g.hdr.ctl.ack = true → 1 ≤ off iss g.hdr.ack ∧ off iss g.hdr.ack ≤ N)
    (hrst : g.hdr.ctl.rst = false) (hfin : g.hdr.ctl.fin = false) (hx : XU iss N t) : XU iss N t' := by
  rcases h3.cases with hst | hst | hst
  · rcases proc_ss hN e hst hiss ha hrst hfin with ⟨h, hu', -⟩ | ⟨h, hu', -⟩ | ⟨-, hgt, hu'⟩
    · exact hx.of_same hu' (h.trans hst.symm)
    · exact ⟨by rw [hu']; exact hx.le, fun hs => by rw [h] at hs; cases hs⟩
    · refine ⟨?_, fun _ => ?_⟩
      · rcases hu' with h1 | ⟨hab, h1⟩
        · rw [h1]; exact hx.le
        · rw [h1]; exact (ha hab).2
      · unfold modGt at hgt
        rw [modLt_iff, hiss] at hgt
        unfold off
        omega
  · rcases proc_sr hN e hst hiss hsent (hu hst) ha hfin with ⟨-, rfl⟩ | ⟨-, ⟨-, k⟩ | ⟨hab, -, h1⟩⟩
    · exact xu_enq hx _
    · exact hx.of_same k.una (k.state (by rw [hst]; nofun))
    · exact ⟨by rw [h1]; exact (ha hab).2, fun _ => by rw [h1]; exact (ha hab).1⟩
  · obtain ⟨-, h1, h2, -⟩ := proc_es hN e hst hiss hsent hx.le ha hrst hfin
    exact ⟨h2, fun _ => Nat.le_trans (hx.est hst) h1⟩

end Elvis.Tcp.Full
