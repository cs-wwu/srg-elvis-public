import ElvisVerif.Model.Socket
/-! Helper lemmas for C02 (`Props/C02.lean`): `recvLoop_spec` / `recvWith_spec` (what `Socket::recv` returns, what stays
pending, the bound on what is returned — `B` is general so that `2n − 1` and `n` are both instances), the session
table after `setSession` / `setBinding`, and the big-endian port pair of the UDP header. -/
namespace Elvis.Sock

theorem pending_none (q : List Msg) : pending none q = q.flatten := by simp [pending]
theorem pending_some (m : Msg) (q : List Msg) : pending (some m) q = m ++ q.flatten := by simp [pending]

theorem recvLimit_ge (rem : Bool) (n b : Nat) : n ≤ b + recvLimit rem n b := by
  unfold recvLimit; split <;> omega

theorem recvLoop_spec (rem : Bool) (n : Nat) (blocking : Bool) (q : List Msg) (buf : Bytes) (stored : Option Msg)
    (h : stored = none ∨ n ≤ buf.length) :
    (recvLoop rem n blocking buf stored q).out
        ++ pending (recvLoop rem n blocking buf stored q).stored (recvLoop rem n blocking buf stored q).queue
      = buf ++ pending stored q ∧
    (n ≤ (recvLoop rem n blocking buf stored q).out.length
      ∨ ((recvLoop rem n blocking buf stored q).stored = none ∧ (recvLoop rem n blocking buf stored q).queue = [])) ∧
    ∀ B, (∀ b, b < n → b + recvLimit rem n b ≤ B) → buf.length ≤ B →
      (recvLoop rem n blocking buf stored q).out.length ≤ B := by
  fun_induction recvLoop rem n blocking buf stored q with
  | case1 buf stored => exact ⟨rfl, h.elim (fun h => .inr ⟨h, rfl⟩) .inl, fun _ _ hb => hb⟩
  | case2 buf stored m q hlt lim hm ih =>
    obtain rfl : stored = none := h.resolve_right (by omega)
    obtain ⟨i1, i2, i3⟩ := ih (.inl rfl)
    refine ⟨by rw [i1]; simp [pending], i2, fun B hB hb => i3 B hB ?_⟩
    have := hB _ hlt
    rw [List.length_append]; omega
  | case3 buf stored m q hlt lim hm ih =>
    obtain rfl : stored = none := h.resolve_right (by omega)
    have hge := recvLimit_ge rem n buf.length
    obtain ⟨i1, i2, i3⟩ := ih (.inr (by simp [List.length_take]; omega))
    refine ⟨?_, i2, fun B hB hb => i3 B hB ?_⟩
    · rw [i1]
      simp only [pending_some, pending_none, List.flatten_cons, List.append_assoc]
      rw [← List.append_assoc (m.take _), List.take_append_drop]
    · have := hB _ hlt
      rw [List.length_append, List.length_take]; omega
  | case4 buf stored m q hlt => exact ⟨rfl, .inl (Nat.le_of_not_lt hlt), fun _ _ hb => hb⟩

theorem recvLoop_queue_suffix (rem : Bool) (n : Nat) (blocking : Bool) :
    ∀ (q : List Msg) (buf : Bytes) (stored : Option Msg),
      ∃ k, (recvLoop rem n blocking buf stored q).queue = q.drop k := by
  intro q buf stored
  fun_induction recvLoop rem n blocking buf stored q with
  | case1 buf stored => exact ⟨0, rfl⟩
  | case2 buf stored m q hlt lim hm ih => obtain ⟨k, hk⟩ := ih; exact ⟨k + 1, hk⟩
  | case3 buf stored m q hlt lim hm ih => obtain ⟨k, hk⟩ := ih; exact ⟨k + 1, hk⟩
  | case4 buf stored m q hlt => exact ⟨0, rfl⟩

theorem recvWith_eq_loop (rem : Bool) (stored : Option Msg) (queue : List Msg) (n : Nat) (blocking : Bool) :
    ∃ buf st, recvWith rem stored queue n blocking = recvLoop rem n blocking buf st queue ∧
      buf.length ≤ n ∧ (st = none ∨ n ≤ buf.length) ∧ buf ++ pending st queue = pending stored queue := by
  unfold recvWith
  cases stored with
  | none => exact ⟨[], none, rfl, Nat.zero_le _, .inl rfl, rfl⟩
  | some m =>
    by_cases h : m.length ≤ n
    · simp only [h, if_true]
      exact ⟨m, none, rfl, h, .inl rfl, by rw [pending_some, pending_none]⟩
    · simp only [h, if_false]
      refine ⟨m.take n, some (m.drop n), rfl, ?_, .inr ?_, ?_⟩
      · rw [List.length_take]; omega
      · rw [List.length_take]; omega
      · rw [pending_some, pending_some, ← List.append_assoc, List.take_append_drop]

theorem recvWith_spec (rem : Bool) (stored : Option Msg) (queue : List Msg) (n : Nat) (blocking : Bool) :
    (recvWith rem stored queue n blocking).out
        ++ pending (recvWith rem stored queue n blocking).stored (recvWith rem stored queue n blocking).queue
      = pending stored queue ∧
    (n ≤ (recvWith rem stored queue n blocking).out.length
      ∨ ((recvWith rem stored queue n blocking).stored = none ∧ (recvWith rem stored queue n blocking).queue = [])) ∧
    ∀ B, n ≤ B → (∀ b, b < n → b + recvLimit rem n b ≤ B) → (recvWith rem stored queue n blocking).out.length ≤ B := by
  obtain ⟨buf, st, e, hb, hst, hp⟩ := recvWith_eq_loop rem stored queue n blocking
  obtain ⟨s1, s2, s3⟩ := recvLoop_spec rem n blocking queue buf st hst
  rw [e]
  exact ⟨s1.trans hp, s2, fun B hn hB => s3 B hB (by omega)⟩

theorem replayLoop_fits (cap : Nat) (pre chan : List Msg) (h : chan.length + pre.length ≤ cap) :
    replayLoop cap chan pre = (chan ++ pre, [], true) := by
  fun_induction replayLoop cap chan pre with
  | case1 chan => simp
  | case2 chan m rest hlt ih =>
    rw [ih (by simp only [List.length_append, List.length_cons, List.length_nil] at h ⊢; omega)]; simp
  | case3 chan m rest hge => simp only [List.length_cons] at h; omega

theorem replayLoop_true (cap : Nat) (pre chan : List Msg) (h : (replayLoop cap chan pre).2.2 = true) :
    replayLoop cap chan pre = (chan ++ pre, [], true) := by
  fun_induction replayLoop cap chan pre with
  | case1 chan => simp
  | case2 chan m rest hlt ih => rw [ih h]; simp
  | case3 chan m rest hge => cases h

theorem prefix_of_range {a b : List Nat} {n : Nat} (h : a ++ b = List.range n) : a = List.range a.length := by
  have h1 : a = (List.range n).take a.length := by rw [← h]; simp
  have h2 : a.length ≤ n := by
    have := congrArg List.length h
    simp at this; omega
  rw [List.take_range, Nat.min_eq_left h2] at h1
  exact h1

theorem map_getD_range (l : List Bytes) (k : Nat) (hk : k ≤ l.length) :
    (List.range k).map (fun w => l.getD w []) = l.take k := by
  induction k with
  | zero => simp
  | succ k ih =>
    rw [List.range_succ, List.map_append, ih (by omega), List.take_add_one]
    have : l[k]? = some l[k] := List.getElem?_eq_getElem (by omega)
    simp [List.getD, this]

theorem take_add_chunk (l : List UInt8) (a k : Nat) :
    l.take (a + ((l.drop a).take k).length) = l.take a ++ (l.drop a).take k := by
  rw [List.take_add, List.length_take, ← List.take_eq_take_min]

theorem outsOf_mem_lt {tcb chan : List Instr} {n w : Nat} (h : outsOf tcb ++ outsOf chan = List.range n)
    (hw : w ∈ outsOf tcb) : w < n := by
  have : w ∈ List.range n := by rw [← h]; simp [hw]
  simpa using this

theorem beq_endpoints_iff (a b : Endpoints) : (a == b) = true ↔ a = b := by simp

theorem find_map_set (id id' : Endpoints) (s : Session) (l : List (Endpoints × Session)) :
    (l.map fun e => if e.1 == id then (id, s) else e).find? (·.1 == id')
      = (l.find? (·.1 == id')).map fun e => if e.1 == id then (id, s) else e := by
  rw [List.find?_map]
  refine congrArg (fun p => (l.find? p).map _) (funext fun e => ?_)
  show ((if e.1 == id then (id, s) else e).1 == id') = (e.1 == id')
  by_cases he : e.1 = id
  · subst he; rw [if_pos (beq_self_eq_true _)]
  · rw [if_neg (by simpa using he)]

theorem session_setSession_self (a : Api) (id : Endpoints) (s : Session) :
    (a.setSession id s).session? id = some s := by
  unfold Api.setSession Api.session?
  cases h : a.sessions.any (·.1 == id) with
  | true =>
    obtain ⟨e, he⟩ := Option.isSome_iff_exists.1 (List.find?_isSome.2 (List.any_eq_true.1 h))
    have hk := List.find?_some he
    simp only [if_true, find_map_set, he, Option.map_some, hk]
  | false =>
    simp only [Bool.false_eq_true, if_false, List.find?_append, List.find?_eq_none.2 (List.any_eq_false.1 h)]
    simp

theorem session_setSession_other (a : Api) {id id' : Endpoints} (h : id' ≠ id) (s : Session) :
    (a.setSession id s).session? id' = a.session? id' := by
  unfold Api.setSession Api.session?
  cases a.sessions.any (·.1 == id) with
  | true =>
    simp only [if_true, find_map_set]
    cases hf : a.sessions.find? (·.1 == id') with
    | none => rfl
    | some e =>
      have he : e.1 = id' := by simpa using List.find?_some hf
      have hk : (e.1 == id) = false := by simp [he, h]
      simp only [Option.map_some, hk, Bool.false_eq_true, if_false]
  | false =>
    simp only [Bool.false_eq_true, if_false, List.find?_append]
    cases hf : a.sessions.find? (·.1 == id') with
    | some x => simp
    | none =>
      have : (id == id') = false := by simp; exact fun x => h x.symm
      simp [this]

theorem session_setBinding (a : Api) (b : Binding) (id : Endpoints) :
    (a.setBinding b).session? id = a.session? id := rfl

theorem outsOf_append (a b : List Instr) : outsOf (a ++ b) = outsOf a ++ outsOf b := by
  induction a with
  | nil => rfl
  | cons x a ih => cases x <;> simp [outsOf, ih]

theorem outsOf_nil_iff {l : List Instr} : outsOf l = [] ↔ ∀ i ∈ l, ∃ j, i = .inc j := by
  induction l with
  | nil => simp [outsOf]
  | cons x l ih => cases x <;> simp [outsOf, ih]

theorem rd16_be16 (v : Nat) (h : v < 65536) :
    rd16 (UInt8.ofNat (v / 256)) (UInt8.ofNat (v % 256)) = v := by
  simp only [rd16, UInt8.toNat_ofNat']
  omega

end Elvis.Sock
