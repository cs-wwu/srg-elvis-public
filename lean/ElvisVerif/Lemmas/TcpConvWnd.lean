import ElvisVerif.Lemmas.TcpConvLive
/-!
# Advertised windows and the shape of pure ACKs

`SStep`: a relation kept by every elementary change of `process_segment` (`Eff.sstep` over `Lemmas/TcbEff.lean`), in
the manner of `QStep` (`Lemmas/TcpAckBlocks.lean`):

* `SND.WND` changes only to the window field of the segment being processed (and is set from it
  when the TCB leaves SYN-SENT);
* `SND.NXT` and `RCV.WND` are untouched;
* every header newly queued advertises `RCV.WND`; a header newly put on the one-shot queue is a RST
  or a pure ACK numbered `SND.NXT` (`OneNew`).

With every endpoint advertising the constant 65535 this gives `SND.WND = 65535` outside SYN-SENT
(`Lemmas/TcpConvExt.lean`), and a pure ACK is never "ahead" of what its receiver expects once
everything sent has arrived.
-/
namespace Elvis.Tcp
open Elvis.ModCmp
namespace Tcb

def OneNew (s' : Tcb) (h : Hdr) : Prop :=
  h.wnd = s'.rcv.wnd ∧
    (h.ctl.rst = true ∨ (h.seq = s'.snd.nxt ∧ h.ctl.ack = true ∧ h.ctl.syn = false ∧ h.ctl.fin = false))

theorem OneNew.congr {a b : Tcb} {h : Hdr} (hn : OneNew a h) (h1 : b.rcv.wnd = a.rcv.wnd)
    (h2 : b.snd.nxt = a.snd.nxt) : OneNew b h := by
  unfold OneNew at *
  rw [h1, h2]; exact hn

theorem oneNew_ackHdr (s : Tcb) : OneNew s s.ackHdr.built := ⟨rfl, Or.inr ⟨rfl, rfl, rfl, rfl⟩⟩

structure SStep (W : U16 → Prop) (s s' : Tcb) : Prop where
  wnd : s'.snd.wnd = s.snd.wnd ∨ W s'.snd.wnd
  wnd1 : s.state = .SynSent → s'.state ≠ .SynSent → W s'.snd.wnd
  nxt : s'.snd.nxt = s.snd.nxt
  rwnd : s'.rcv.wnd = s.rcv.wnd
  one : ∀ h ∈ s'.outgoing.oneshot, h ∈ s.outgoing.oneshot ∨ OneNew s' h
  rtx : ∀ tr ∈ s'.outgoing.retransmit,
    (∃ t0 ∈ s.outgoing.retransmit, t0.segment = tr.segment) ∨
      (tr.segment.hdr.wnd = s'.rcv.wnd ∧ (tr.segment.hdr.ctl.ack = true ∨ tr.segment.hdr.ctl.syn = true))

theorem SStep.refl {W : U16 → Prop} (s : Tcb) : SStep W s s :=
  ⟨Or.inl rfl, fun h h' => absurd h h', rfl, rfl, fun _ h => Or.inl h, fun tr h => Or.inl ⟨tr, h, rfl⟩⟩

theorem SStep.trans {W : U16 → Prop} {a b c : Tcb} (h1 : SStep W a b) (h2 : SStep W b c) : SStep W a c := by
  refine ⟨?_, fun ha hc => ?_, h2.nxt.trans h1.nxt, h2.rwnd.trans h1.rwnd, fun h hh => ?_, fun tr hh => ?_⟩
  · rcases h2.wnd with e | e
    · rcases h1.wnd with e1 | e1
      · exact Or.inl (e.trans e1)
      · exact Or.inr (e ▸ e1)
    · exact Or.inr e
  · by_cases hb : b.state = .SynSent
    · exact h2.wnd1 hb hc
    · have := h1.wnd1 ha hb
      rcases h2.wnd with e | e
      · rw [e]; exact this
      · exact e
  · rcases h2.one h hh with e | e
    · rcases h1.one h e with e1 | e1
      · exact Or.inl e1
      · exact Or.inr (e1.congr h2.rwnd h2.nxt)
    · exact Or.inr e
  · rcases h2.rtx tr hh with ⟨t0, e, es⟩ | e
    · rcases h1.rtx t0 e with ⟨t1, e1, es1⟩ | e1
      · exact Or.inl ⟨t1, e1, es1.trans es⟩
      · right; rw [← es, h2.rwnd]; exact e1
    · exact Or.inr e

theorem SStep.mono {W W' : U16 → Prop} {s s' : Tcb} (h : SStep W s s') (hw : ∀ w, W w → W' w) : SStep W' s s' :=
  ⟨h.wnd.imp id (hw _), fun a b => hw _ (h.wnd1 a b), h.nxt, h.rwnd, h.one, h.rtx⟩

theorem SStep.of_eq {W : U16 → Prop} {s s' : Tcb} (h1 : s'.snd.wnd = s.snd.wnd) (h2 : s'.snd.nxt = s.snd.nxt)
    (h3 : s'.rcv.wnd = s.rcv.wnd) (h4 : s'.outgoing.oneshot = s.outgoing.oneshot)
    (h5 : s'.outgoing.retransmit = s.outgoing.retransmit) (h6 : s.state = .SynSent → s'.state = .SynSent) :
    SStep W s s' :=
  ⟨Or.inl h1, fun a b => absurd (h6 a) b, h2, h3, fun _ h => Or.inl (h4 ▸ h), fun tr h => Or.inl ⟨tr, h5 ▸ h, rfl⟩⟩

theorem sstep_enqueue {W : U16 → Prop} (s : Tcb) (hd : Hdr) (hw : hd.wnd = s.rcv.wnd)
    (ho : (hd.ctl.syn || hd.ctl.fin) = false → OneNew s hd)
    (ha : (hd.ctl.syn || hd.ctl.fin) = true → hd.ctl.ack = true ∨ hd.ctl.syn = true) :
    SStep W s (s.enqueueBuilt hd) := by
  cases hsf : (hd.ctl.syn || hd.ctl.fin) with
  | true =>
    -- a SYN or FIN goes to the retransmission queue
    rw [enqueueBuilt_retransmit s hd ((Bool.or_eq_true _ _).mp hsf)]
    refine ⟨Or.inl rfl, fun a b => absurd a b, rfl, rfl, fun _ h => Or.inl h, fun tr hh => ?_⟩
    rcases List.mem_append.1 hh with hh | hh
    · exact Or.inl ⟨tr, hh, rfl⟩
    · rw [List.mem_singleton.1 hh]
      exact Or.inr ⟨hw, ha hsf⟩
  | false =>
    rw [Bool.or_eq_false_iff] at hsf
    rw [enqueueBuilt_oneshot s hd hsf.1 hsf.2]
    refine ⟨Or.inl rfl, fun a b => absurd a b, rfl, rfl, fun h hh => ?_, fun tr h => Or.inl ⟨tr, h, rfl⟩⟩
    rcases List.mem_append.1 hh with hh | hh
    · exact Or.inl hh
    · rw [List.mem_singleton.1 hh]
      exact Or.inr (ho (by rw [hsf.1, hsf.2]; rfl))

theorem sstep_enqueue_ack {W : U16 → Prop} (s : Tcb) : SStep W s (s.enqueueBuilt s.ackHdr.built) :=
  sstep_enqueue s _ rfl (fun _ => oneNew_ackHdr s) (fun h => by cases h)

theorem SStep.of_state {W : U16 → Prop} {s s' : Tcb} (h1 : s'.snd = s.snd) (h2 : s'.rcv = s.rcv)
    (h3 : s'.outgoing = s.outgoing) (hs : s.state ≠ .SynSent) : SStep W s s' :=
  SStep.of_eq (by rw [h1]) (by rw [h1]) (by rw [h2]) (by rw [h3]) (by rw [h3]) (fun a => absurd a hs)

theorem SStep.of_rcvOnly {W : U16 → Prop} {s u : Tcb} (r : RcvOnly s u) : SStep W s u :=
  SStep.of_eq (congrArg Snd.wnd r.snd) (congrArg Snd.nxt r.snd) r.wnd (congrArg Outgoing.oneshot r.outgoing)
    (congrArg Outgoing.retransmit r.outgoing) (fun a => r.state.trans a)

theorem sstep_ackTaken {W : U16 → Prop} (s : Tcb) (ack : Seq) : SStep W s (ackTaken s ack) :=
  ⟨Or.inl rfl, fun a b => absurd a b, rfl, rfl, fun _ h => Or.inl h,
    fun tr h => Or.inl ⟨tr, (List.mem_filter.1 h).1, rfl⟩⟩

/-- every elementary change of `process_segment` for `g`: the send window moves only to `SEG.WND` (block 2's window
    update, the window of the peer's SYN), a reply advertises `RCV.WND`, everything else leaves window, `SND.NXT` and
    queues alone -/
theorem Eff.sstep {g : Segment} {k : Nat} {s s' : Tcb} (h : Eff g k s s') : SStep (· = g.hdr.wnd) s s' := by
  cases h with
  | reply hr =>
    rcases hr.hdr with rfl | rfl | rfl
    · exact sstep_enqueue_ack s
    · exact sstep_enqueue _ _ rfl (fun _ => ⟨rfl, Or.inl rfl⟩) (fun h => by cases h)
    · exact sstep_enqueue _ _ rfl (fun h => by cases h) (fun _ => Or.inl rfl)
  | ack _ _ _ => exact sstep_ackTaken s _
  | window _ => exact ⟨Or.inr rfl, fun a b => absurd a b, rfl, rfl, fun _ h => Or.inl h, fun tr h => Or.inl ⟨tr, h, rfl⟩⟩
  | established _ hst _ => exact .of_state rfl rfl rfl (by rw [hst]; nofun)
  | finWait2 _ hst _ => exact .of_state rfl rfl rfl (by rw [hst]; nofun)
  | timeWaitAcked _ hst _ => exact .of_state rfl rfl rfl (by rw [hst]; nofun)
  | syn _ _ hst =>
    -- leaving SYN-SENT the window is taken from the segment
    obtain ⟨-, ho, -, -, -, hn, -, hw, -⟩ := synMoved_frame s g.hdr (if modGt s.snd.una s.snd.iss then .Established else .SynReceived)
    exact ⟨Or.inr rfl, fun _ _ => rfl, hn, hw, fun _ h => Or.inl (ho ▸ h), fun tr h => Or.inl ⟨tr, ho ▸ h, rfl⟩⟩
  | text => exact .of_rcvOnly (acceptText_rcvOnly _ _ _)
  | fin => exact .of_rcvOnly (setRcvNxt_rcvOnly _ _)
  | closeWait _ hst => exact .of_state rfl rfl rfl (by rcases hst with h | h <;> rw [h] <;> nofun)
  | closing _ hst _ => exact .of_state rfl rfl rfl (by rw [hst]; nofun)
  | timeWaitFin _ hst =>
    exact .of_state rfl rfl rfl (by rcases hst with ⟨h, -⟩ | h | h <;> rw [h] <;> nofun)
  | rto _ hst => exact .of_state rfl rfl rfl (by rw [hst]; nofun)

theorem processSegment_s (s : Tcb) (segment : Segment) (s' : Tcb) (r : ProcessSegmentResult)
    (e : s.processSegment segment = .ok (s', r)) : SStep (· = segment.hdr.wnd) s s' :=
  processSegment_lift SStep.refl SStep.trans Eff.sstep e

/-- the window may come from the arriving segment or from one that was parked -/
theorem segmentArrives_s (s : Tcb) (segment : Segment) (s' : Tcb) (r : SegmentArrivesResult)
    (e : s.segmentArrives segment = .ok (s', r)) :
    SStep (fun w => ∃ σ ∈ segment :: s.incoming.segments, w = σ.hdr.wnd) s s' :=
  segmentArrives_lift_mem (Q := (· ∈ segment :: s.incoming.segments))
    (R := SStep (fun w => ∃ σ ∈ segment :: s.incoming.segments, w = σ.hdr.wnd)) SStep.refl SStep.trans
    (fun _ _ _ => SStep.of_eq rfl rfl rfl rfl rfl id)
    (fun hg _ e => (processSegment_s _ _ _ _ e).mono fun _ hw => ⟨_, hg, hw⟩)
    (fun a _ => sstep_enqueue_ack a) e List.mem_cons_self fun _ hx => List.mem_cons_of_mem _ hx

end Tcb
end Elvis.Tcp
