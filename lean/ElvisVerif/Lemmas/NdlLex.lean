import ElvisVerif.Lemmas.NdlTotal
/-!
# NDL line lexer: what it returns on a rendered line

Character classes of the grammar (`KeyOk`, `valOk`) and the lemmas that walk `general_parser`
through `renderLine dt ps ++ newlines ++ rest`; the same for a tag spelled in any letter case
(`SameCase`, `generalParser_spelled`); and the lines it refuses (duplicate argument, no type tag).
-/
namespace Elvis.Ndl
open Elvis.Gen.Ndl

/-- a key the grammar can carry: no `=`, no `]`, and it does not begin with a separator
    (a character whose low byte is space, tab or newline).  It may be empty. -/
def KeyOk (k : Text) : Prop :=
  (∀ c ∈ k, c ≠ '=' ∧ c ≠ ']') ∧ (∀ c r, k = c :: r → isSep c = false)

/-- a value the grammar can carry: no `]`; a quote only as the two characters `\'`; no other
    backslash.  It may be empty and may contain `=`, `[`, spaces, tabs, newlines, non-ASCII. -/
def valOk : Text → Bool
  | [] => true
  | c :: r =>
    if c = '\\' then
      match r with
      | q :: r' => q = '\'' && valOk r'
      | [] => false
    else c ≠ '\'' && c ≠ ']' && valOk r

def LineOk (ps : Params) : Prop :=
  (∀ kv ∈ ps, KeyOk kv.1 ∧ valOk kv.2 = true) ∧ (ps.map (·.1)).Nodup

theorem takeUntil_append (c : Char) : ∀ (x r : Text), (∀ d ∈ x, d ≠ c) →
    takeUntil c (x ++ c :: r) = some (x, c :: r)
  | [], r, _ => by simp [takeUntil]
  | d :: x, r, h => by
    have hd : d ≠ c := h d List.mem_cons_self
    have ih := takeUntil_append c x r (fun e he => h e (List.mem_cons_of_mem _ he))
    simp [takeUntil, hd, ih]

theorem valOk_no_bracket : ∀ v : Text, valOk v = true → ∀ c ∈ v, c ≠ ']'
  | [], _, c, hc => by simp at hc
  | [x], h, c, hc => by
    unfold valOk at h
    split at h
    · simp at h
    · simp at h hc; subst hc; exact h.1.2
  | x :: y :: r, h, c, hc => by
    unfold valOk at h
    split at h
    · rename_i hx
      simp at h
      simp at hc
      rcases hc with rfl | rfl | hc
      · rw [hx]; decide
      · rw [h.1]; decide
      · exact valOk_no_bracket r h.2 c hc
    · simp at h
      simp at hc
      rcases hc with rfl | hc
      · exact h.1.2
      · exact valOk_no_bracket (y :: r) h.2 c (by simpa using hc)

theorem escBody_quote (rest : Text) : escBody ('\'' :: rest) = some ([], '\'' :: rest) := by
  unfold escBody
  have h1 : ('\'' : Char) ≠ '\\' := by decide
  simp [h1]

theorem escBody_val : ∀ (v rest : Text), valOk v = true →
    escBody (v ++ '\'' :: rest) = some (v, '\'' :: rest)
  | [], rest, _ => by simp [escBody_quote]
  | [x], rest, h => by
    unfold valOk at h
    split at h
    · simp at h
    · rename_i hx
      simp at h
      simp [escBody, hx, h.1.1, escBody_quote]
  | x :: y :: r, rest, h => by
    unfold valOk at h
    split at h
    · rename_i hx
      simp at h
      have ih := escBody_val r rest h.2
      simp [escBody, hx, h.1, ih]
    · rename_i hx
      simp at h
      have ih := escBody_val (y :: r) rest h.2
      simp only [List.cons_append] at ih ⊢
      rw [escBody]
      simp [hx, h.1.1, ih]

theorem dropWhile_head (p : Char → Bool) (c : Char) (r : Text) (h : p c = false) :
    (c :: r).dropWhile p = c :: r := by simp [List.dropWhile, h]

theorem isSep_eq : isSep '=' = false := by decide
theorem isSep_space : isSep ' ' = true := by decide

theorem argument_render (k v rest : Text) (hk : KeyOk k) (hv : valOk v = true) :
    argument (' ' :: (k ++ '=' :: '\'' :: (v ++ '\'' :: rest))) = some ((k, v), rest) := by
  have h1 : skipSeps1 (' ' :: (k ++ '=' :: '\'' :: (v ++ '\'' :: rest))) =
      some (k ++ '=' :: '\'' :: (v ++ '\'' :: rest)) := by
    simp only [skipSeps1, isSep_space, if_true]
    cases k with
    | nil => simp [isSep_eq]
    | cons c r => simp [hk.2 c r rfl]
  have h2 := takeUntil_append '=' k ('\'' :: (v ++ '\'' :: rest)) (fun d hd => (hk.1 d hd).1)
  have h3 : valueBody (v ++ '\'' :: rest) = (v, '\'' :: rest) := by
    simp [valueBody, escBody_val v rest hv]
  simp [argument, h1, h2, h3]

theorem renderArgs_cons (k v : Text) (ps : Params) :
    renderArgs ((k, v) :: ps) = ' ' :: (k ++ '=' :: '\'' :: (v ++ '\'' :: renderArgs ps)) := by
  simp [renderArgs]

theorem arguments_render : ∀ (ps : Params) (fuel : Nat),
    (∀ kv ∈ ps, KeyOk kv.1 ∧ valOk kv.2 = true) → (renderArgs ps).length ≤ fuel →
    argumentsFuel fuel (renderArgs ps) = ([], ps)
  | [], fuel, _, _ => by
    cases fuel <;> simp [argumentsFuel, renderArgs, argument, skipSeps1]
  | (k, v) :: ps, fuel, h, hf => by
    rw [renderArgs_cons] at hf ⊢
    cases fuel with
    | zero => simp at hf
    | succ f =>
      have hkv := h (k, v) List.mem_cons_self
      have ih := arguments_render ps f (fun kv hkv => h kv (List.mem_cons_of_mem _ hkv))
        (by simp at hf; omega)
      simp [argumentsFuel, argument_render k v (renderArgs ps) hkv.1 hkv.2, ih]

def differs : Text → Text → Bool
  | k :: ks, c :: cs => c.toLower ≠ k.toLower || differs ks cs
  | _, _ => false

theorem keyword_append : ∀ (t x r y : Text), keyword t x = some r → keyword t (x ++ y) = some (r ++ y)
  | [], x, r, y, h => by simp [keyword] at h ⊢; rw [h]
  | _ :: _, [], r, y, h => by simp [keyword] at h
  | k :: ks, c :: cs, r, y, h => by
    simp only [keyword, List.cons_append] at h ⊢
    split at h
    · rename_i hc; simp only [hc, if_true]; exact keyword_append ks cs r y h
    · simp at h

theorem keyword_differs : ∀ (t x y : Text), differs t x = true → keyword t (x ++ y) = none
  | [], x, y, h => by simp [differs] at h
  | _ :: _, [], y, h => by simp [differs] at h
  | k :: ks, c :: cs, y, h => by
    simp only [differs, Bool.or_eq_true, decide_eq_true_eq] at h
    simp only [keyword, List.cons_append]
    split
    · rename_i hc
      rcases h with h | h
      · exact absurd hc h
      · exact keyword_differs ks cs y h
    · rfl

/-- which alternative `get_type` settles on, decided inside the prefix `x` of the input -/
def selects (table : List (Text × Text)) : List Text → Text → Option (Text × DecType)
  | [], _ => none
  | t :: ts, x =>
    if differs t x then selects table ts x
    else
      match keyword t x with
      | some r =>
        match decTypeFromWith table t with
        | .ok d => some (r, d)
        | .error _ => none
      | none => none

theorem selects_sound (table : List (Text × Text)) : ∀ (ts : List Text) (x r : Text) (d : DecType),
    selects table ts x = some (r, d) → ∀ (y : Text) (line : Nat),
    getTypeWith "keyword" table ts (x ++ y) line = .ok (r ++ y, d)
  | [], x, r, d, h, y, line => by simp [selects] at h
  | t :: ts, x, r, d, h, y, line => by
    unfold selects at h
    unfold getTypeWith matchTag
    simp only [if_true]
    split at h
    · rename_i hd
      rw [keyword_differs t x y hd]
      exact selects_sound table ts x r d h y line
    · split at h
      · rename_i r' hk
        rw [keyword_append t x r' y hk]
        split at h
        · rename_i d' hd
          simp at h
          obtain ⟨rfl, rfl⟩ := h
          simp [hd]
        · simp at h
      · simp at h

theorem selects_name_space (dt : DecType) :
    selects decTypeTable tagAlt (dt.name ++ [' ']) = some ([' '], dt) := by
  cases dt <;> decide +kernel

theorem getType_name_nil (dt : DecType) (line : Nat) : getType dt.name line = .ok ([], dt) := by
  cases dt <;> rfl

theorem getType_render (dt : DecType) (ps : Params) (line : Nat) :
    getType (dt.name ++ renderArgs ps) line = .ok (renderArgs ps, dt) := by
  cases ps with
  | nil => simp [renderArgs, getType_name_nil]
  | cons kv ps =>
    obtain ⟨k, v⟩ := kv
    rw [renderArgs_cons]
    have := selects_sound decTypeTable tagAlt (dt.name ++ [' ']) [' '] dt (selects_name_space dt)
      (k ++ '=' :: '\'' :: (v ++ '\'' :: renderArgs ps)) line
    unfold getType
    rw [tagMatcher_keyword]
    simpa using this

theorem renderArgs_no_bracket : ∀ (ps : Params), (∀ kv ∈ ps, KeyOk kv.1 ∧ valOk kv.2 = true) →
    ∀ c ∈ renderArgs ps, c ≠ ']'
  | [], _, c, hc => by simp [renderArgs] at hc
  | (k, v) :: ps, h, c, hc => by
    rw [renderArgs_cons] at hc
    have hkv := h (k, v) List.mem_cons_self
    simp only [List.mem_cons, List.mem_append] at hc
    rcases hc with rfl | hc | rfl | rfl | hc | rfl | hc
    · decide
    · exact ((hkv.1).1 c hc).2
    · decide
    · decide
    · exact valOk_no_bracket v hkv.2 c hc
    · decide
    · exact renderArgs_no_bracket ps (fun kv hkv => h kv (List.mem_cons_of_mem _ hkv)) c hc

theorem sectionP_tagged (tag : Text) (ps : Params) (after : Text) (htag : ∀ c ∈ tag, c ≠ ']')
    (h : ∀ kv ∈ ps, KeyOk kv.1 ∧ valOk kv.2 = true) :
    sectionP (('[' :: (tag ++ (renderArgs ps ++ [']']))) ++ after) = some (tag ++ renderArgs ps, after) := by
  have hnb : ∀ d ∈ tag ++ renderArgs ps, d ≠ ']' := by
    intro d hd
    rcases List.mem_append.1 hd with hd | hd
    · exact htag d hd
    · exact renderArgs_no_bracket ps h d hd
  have := takeUntil_append ']' (tag ++ renderArgs ps) after hnb
  simp only [List.cons_append, List.append_assoc, sectionP] at this ⊢
  simp [this]

theorem takeWhile_replicate_append (c : Char) (n : Nat) (rest : Text) (h : ∀ r, rest ≠ c :: r) :
    ((List.replicate n c ++ rest).takeWhile (· = c)).length = n := by
  induction n with
  | zero =>
    cases rest with
    | nil => rfl
    | cons x r =>
      have : x ≠ c := fun hc => h r (by rw [hc])
      simp [this]
  | succ n ih => simpa [List.replicate_succ] using ih

theorem countNl_replicate (n : Nat) (rest : Text) (h : ∀ r, rest ≠ '\n' :: r) :
    countNl (List.replicate n '\n' ++ rest) = n := takeWhile_replicate_append '\n' n rest h

theorem countTabs_replicate (d : Nat) (t : Text) (h : ∀ r, t ≠ '\t' :: r) :
    countTabs (List.replicate d '\t' ++ t) = d := takeWhile_replicate_append '\t' d t h

/-- equal up to ASCII letter case -/
def SameCase (a b : Text) : Prop := a.map Char.toLower = b.map Char.toLower

theorem SameCase.length {a b : Text} (h : SameCase a b) : a.length = b.length := by
  have := congrArg List.length h
  simpa using this

theorem keyword_case : ∀ (t i i' : Text), SameCase i i' →
    (keyword t i = none ∧ keyword t i' = none) ∨
    ∃ r r', keyword t i = some r ∧ keyword t i' = some r' ∧ SameCase r r'
  | [], i, i', h => .inr ⟨i, i', rfl, rfl, h⟩
  | _ :: _, [], [], _ => by simp [keyword]
  | _ :: _, [], _ :: _, h => by simp [SameCase] at h
  | _ :: _, _ :: _, [], h => by simp [SameCase] at h
  | k :: ks, c :: cs, c' :: cs', h => by
    simp only [SameCase, List.map_cons, List.cons.injEq] at h
    simp only [keyword, h.1]
    by_cases hc : c'.toLower = k.toLower
    · simp only [hc, if_true]
      exact keyword_case ks cs cs' h.2
    · simp only [hc, if_false]
      exact .inl ⟨trivial, trivial⟩

theorem getTypeWith_case (table : List (Text × Text)) : ∀ (ts : List Text) (i i' : Text) (line : Nat)
    (r' : Text) (d : DecType), SameCase i i' →
    getTypeWith "keyword" table ts i' line = .ok (r', d) →
    ∃ r, getTypeWith "keyword" table ts i line = .ok (r, d) ∧ SameCase r r' ∧ ∃ p, i = p ++ r
  | [], i, i', line, r', d, _, h => by simp [getTypeWith] at h
  | t :: ts, i, i', line, r', d, hc, h => by
    unfold getTypeWith matchTag at h ⊢
    simp only [if_true] at h ⊢
    rcases keyword_case t i i' hc with ⟨h1, h2⟩ | ⟨r, r2, h1, h2, h3⟩
    · rw [h2] at h
      rw [h1]
      exact getTypeWith_case table ts i i' line r' d hc h
    · rw [h2] at h
      rw [h1]
      simp only [] at h ⊢
      cases hd : decTypeFromWith table t with
      | error e => rw [hd] at h; cases h
      | ok d' =>
        rw [hd] at h
        simp only [Except.ok.injEq, Prod.mk.injEq] at h ⊢
        obtain ⟨rfl, rfl⟩ := h
        exact ⟨r, ⟨rfl, rfl⟩, h3, keyword_suffix t i r h1⟩

theorem getType_spelled (dt : DecType) (tag : Text) (htag : SameCase tag dt.name) (ps : Params) (line : Nat) :
    getType (tag ++ renderArgs ps) line = .ok (renderArgs ps, dt) := by
  have h0 := getType_render dt ps line
  unfold getType at h0 ⊢
  rw [tagMatcher_keyword] at h0 ⊢
  have hc : SameCase (tag ++ renderArgs ps) (dt.name ++ renderArgs ps) := by
    unfold SameCase at htag ⊢
    rw [List.map_append, List.map_append, htag]
  obtain ⟨r, h1, h2, p, h3⟩ := getTypeWith_case decTypeTable tagAlt _ _ line _ dt hc h0
  have hl := h2.length
  have hlen : tag.length = p.length := by
    have := congrArg List.length h3
    simp only [List.length_append] at this
    omega
  have := (List.append_inj h3 hlen).2
  rw [h1, ← this]

theorem tag_not_mem (dt : DecType) (tag : Text) (htag : SameCase tag dt.name) (c : Char)
    (hc : c.toLower ∉ dt.name.map Char.toLower) : c ∉ tag := by
  intro hm
  apply hc
  rw [← htag]
  exact List.mem_map_of_mem hm

theorem tag_no_bracket (dt : DecType) (tag : Text) (htag : SameCase tag dt.name) : ∀ c ∈ tag, c ≠ ']' := by
  intro c hc he
  subst he
  exact tag_not_mem dt tag htag ']' (by cases dt <;> decide +kernel) hc

theorem tag_no_space_cr (dt : DecType) (tag : Text) (htag : SameCase tag dt.name) :
    ' ' ∉ tag ∧ '\r' ∉ tag :=
  ⟨tag_not_mem dt tag htag ' ' (by cases dt <;> decide +kernel), tag_not_mem dt tag htag '\r' (by cases dt <;> decide +kernel)⟩

def NoNl (t : Text) : Prop := ∀ r, t ≠ '\n' :: r

theorem generalParser_spelled (dt : DecType) (tag : Text) (htag : SameCase tag dt.name) (ps : Params)
    (hps : LineOk ps) (n : Nat) (rest : Text) (hrest : NoNl rest) (line : Nat) (hb : line + n ≤ i32Max) :
    generalParser (('[' :: (tag ++ (renderArgs ps ++ [']']))) ++ (List.replicate n '\n' ++ rest)) line =
      .ok ⟨dt, ps, rest, line + n⟩ := by
  unfold generalParser
  rw [sectionP_tagged tag ps _ (tag_no_bracket dt tag htag) hps.1]
  simp only [getType_spelled dt tag htag]
  have ha : arguments (renderArgs ps) = ([], ps) := arguments_render ps _ hps.1 (Nat.le_refl _)
  have hi : insertAll ps [] = some ps := by
    rw [insertAll_eq, if_pos ⟨hps.2, fun _ _ => List.not_mem_nil⟩]; rfl
  have hc := countNl_replicate n rest hrest
  have hd : byteDrop n (List.replicate n '\n' ++ rest) = some rest := by
    have := byteDrop_nl (List.replicate n '\n' ++ rest)
    rw [hc] at this
    simpa using this
  have hno : ¬ (line + n > i32Max) := by omega
  simp [ha, hi, hc, hd, hno]

theorem generalParser_spelled_dup (dt : DecType) (tag : Text) (htag : SameCase tag dt.name) (ps : Params)
    (hps : ∀ kv ∈ ps, KeyOk kv.1 ∧ valOk kv.2 = true) (hdup : ¬ (ps.map (·.1)).Nodup) (after : Text) (line : Nat) :
    generalParser (('[' :: (tag ++ (renderArgs ps ++ [']']))) ++ after) line = .error (.err .dupArg line) := by
  unfold generalParser
  rw [sectionP_tagged tag ps after (tag_no_bracket dt tag htag) hps]
  simp only [getType_spelled dt tag htag]
  have ha : arguments (renderArgs ps) = ([], ps) := arguments_render ps _ hps (Nat.le_refl _)
  simp [ha, insertAll_eq, if_neg fun hf : Fresh [] ps => hdup hf.1]

theorem getTypeWith_none (table : List (Text × Text)) : ∀ (ts : List Text) (i : Text) (line : Nat),
    (∀ t ∈ ts, keyword t i = none) → getTypeWith "keyword" table ts i line = .error (.err .dectype line)
  | [], _, _, _ => rfl
  | t :: ts, i, line, h => by
    unfold getTypeWith matchTag
    simp only [if_true, h t List.mem_cons_self]
    exact getTypeWith_none table ts i line (fun t' ht' => h t' (List.mem_cons_of_mem _ ht'))

end Elvis.Ndl
