import ElvisVerif.Lemmas.TcpRelFwd
import ElvisVerif.Lemmas.TcpConvBatch
/-!
# One endpoint takes the other's FIN, step by step

After a simultaneous close from a quiet state
(`actA1`: `close()` done, the FIN emitted): the peer's FIN (`sim_fin`: CLOSING, its ACK emitted), then the peer's ACK
(`sim_ack`: TIME-WAIT); the TCBs are explicit terms of the starting TCB.  In ESTABLISHED, behind any batch `gs` that left
nothing parked, unsent or outstanding: `fin_answered` (CLOSE-WAIT; the application reads; the next `segments()` sends
what was waiting and, last, the ACK of the FIN).
-/
namespace Elvis.Tcp
open Elvis.ModCmp
namespace Tcb

def actA1 (t : Tcb) : Tcb := emitT (closedT t)

theorem sim_fin (x : SideId) (t u : Tcb) (q : QuietX x t u) (gF : Segment) (hF : IsFin gF t.rcv.nxt t.snd.nxt) :
    (actA1 t).arriveList [gF] = .ok (closingT (actA1 t)) ∧
      (closingT (actA1 t)).receive = (closingT (actA1 t), []) ∧
      (closingT (actA1 t)).segments = .ok (emitT (closingT (actA1 t)), [⟨(actA1 t).finAckHdr, []⟩]) ∧
      IsAck ⟨(actA1 t).finAckHdr, []⟩ (t.snd.nxt + 1) (t.rcv.nxt + 1) ∧
      (actA1 t).finAckHdr.srcPort = t.localPort ∧ (actA1 t).finAckHdr.dstPort = t.remotePort := by
  have e := arrive_fin_fw1 (actA1 t) rfl q.wnd q.heap
    (by
      show (t.snd.nxt + 1 == t.snd.una) = false
      rw [q.una]; exact succ_ne _)
    hF (by show modLeq t.snd.nxt t.snd.una = true; rw [q.una]; exact modLeq_self _)
  refine ⟨by simp only [arriveList, e]; rfl, receive_quiet _ (Or.inl rfl), ?_, ⟨rfl, rfl, rfl, rfl, rfl, rfl, rfl⟩, rfl, rfl⟩
  have := segments_notext_eq (closingT (actA1 t)) q.text q.mtu
  rw [emitOut_oneshot (closingT (actA1 t)) [(actA1 t).finAckHdr] rfl (filter_unflag _)] at this
  exact this

theorem sim_ack (x : SideId) (t u : Tcb) (q : QuietX x t u) (gA : Segment)
    (hA : IsAck gA (t.rcv.nxt + 1) (t.snd.nxt + 1)) :
    ∃ t4, (emitT (closingT (actA1 t))).arriveList [gA] = .ok t4 ∧ t4.receive = (t4, []) ∧
      t4.timeouts.timeWait = some TIME_WAIT := by
  have hd : ((emitT (closingT (actA1 t))).snd.nxt - (emitT (closingT (actA1 t))).snd.una).toNat = 1 := by
    show (t.snd.nxt + 1 - t.snd.una).toNat = 1
    rw [q.una]
    exact succ_sub _
  obtain ⟨t4, e4, s4, w4⟩ := arrive_ack_closing (emitT (closingT (actA1 t))) rfl q.wnd q.heap q.text hA hd
  exact ⟨t4, by simp only [arriveList, e4], receive_quiet _ (Or.inr (Or.inl s4)), w4⟩

/-- the TCB after the peer's FIN in ESTABLISHED (`arrive_fin_est`) -/
def finTakenT (t : Tcb) : Tcb :=
  { t with state := .CloseWait, rcv.nxt := t.rcv.nxt + 1, outgoing.oneshot := t.outgoing.oneshot ++ [t.finAckHdr] }

theorem fin_answered {t1 t2 : Tcb} {gs : List Segment} {g : Segment} {a : Seq} (e : t1.arriveList gs = .ok t2)
    (hst : t2.state = .Established) (hw : t2.rcv.wnd = 65535#16) (hheap : t2.incoming.segments = [])
    (htext : t2.outgoing.text = []) (hrtx : t2.outgoing.retransmit = []) (hm : ¬ t2.mtu.toNat < SPACE_FOR_HEADERS)
    (hF : IsFin g t2.rcv.nxt a) (hold : modLeq a t2.snd.una = true) :
    t1.arriveList (gs ++ [g]) = .ok (finTakenT t2) ∧
    (finTakenT t2).receive = (({ finTakenT t2 with incoming.text := [] } : Tcb), (finTakenT t2).receive.2) ∧
    ({ finTakenT t2 with incoming.text := [] } : Tcb).segments =
      .ok (emitT { finTakenT t2 with incoming.text := [] },
        (t2.outgoing.oneshot ++ [t2.finAckHdr]).map fun h => (⟨h, []⟩ : Segment)) := by
  refine ⟨?_, rfl, ?_⟩
  · rw [arriveList_append gs [g] t1 t2 e]
    simp only [arriveList, arrive_fin_est t2 hst hw hheap hF hold]
    rfl
  · rw [segments_notext_eq ({ finTakenT t2 with incoming.text := [] } : Tcb) htext hm,
      emitOut_oneshot ({ finTakenT t2 with incoming.text := [] } : Tcb) _ rfl
        (by show List.filter _ t2.outgoing.retransmit = []; rw [hrtx]; rfl)]
    rfl

end Tcb
end Elvis.Tcp
