import ElvisVerif.Model.Codec.Udp
import ElvisVerif.Lemmas.Ipv4
/-!
Helper lemmas for the UDP codec: inversion of an accepting `from_bytes_ipv4`,
and the accumulators of decoder and builder tracked against the plain sum of words.
-/
namespace Elvis.Codec.Udp
open Elvis.Ck Elvis.Codec Elvis.Rfc1071

/-- accumulator of `from_bytes_ipv4` in code order: ports, length twice, pseudo-header
    addresses and protocol, then the rest of the packet -/
def accDec (ck : Bool) (sp dp len src dst : Nat) (rest : List UInt8) : Nat :=
  accumulateRemainder ck (addU8 ck (addWord32 ck (addWord32 ck (add16 ck (add16 ck (add16 ck
    (add16 ck 0 sp) dp) len) len) src) dst) 0 17) rest

/-- accumulator of `build_udp_header` in code order: text first, then length twice, pseudo
    header, ports -/
def accBuild (ck : Bool) (src sp dst dp len : Nat) (text : List UInt8) : Nat :=
  add16 ck (add16 ck (addU8 ck (addWord32 ck (addWord32 ck (add16 ck (add16 ck
    (accumulateRemainder ck 0 text) len) len) src) dst) 0 17) sp) dp

/-- plain sum of all 16-bit words covered by the UDP checksum except the checksum field -/
def coveredSum (src sp dst dp len : Nat) (text : List UInt8) : Nat :=
  (src / 65536 % 65536 + src % 65536) + (dst / 65536 % 65536 + dst % 65536) + 17 + len
    + sp + dp + len + (wordsOf text).sum

theorem accDec_tracks {sp dp len : Nat} (src dst : Nat) (rest : List UInt8)
    (h1 : sp < 65536) (h2 : dp < 65536) (h3 : len < 65536) :
    Tracks (accDec true sp dp len src dst rest) (coveredSum src sp dst dp len rest) := by
  unfold accDec coveredSum
  have t := ((((Tracks.zero.add16 h1).add16 h2).add16 h3).add16 h3)
  have t := accumulateRemainder_tracks rest
    (((t.addWord32 (v := src)).addWord32 (v := dst)).addU8 (a := 0) (b := 17) (by omega) (by omega))
  exact t.congr (by omega)

theorem accBuild_tracks {sp dp len : Nat} (src dst : Nat) (text : List UInt8)
    (h1 : sp < 65536) (h2 : dp < 65536) (h3 : len < 65536) :
    Tracks (accBuild true src sp dst dp len text) (coveredSum src sp dst dp len text) := by
  unfold accBuild coveredSum
  have t := accumulateRemainder_tracks text Tracks.zero
  have t := ((t.add16 h3).add16 h3)
  have t := ((((t.addWord32 (v := src)).addWord32 (v := dst)).addU8 (a := 0) (b := 17)
    (by omega) (by omega)).add16 h1).add16 h2
  exact t.congr (by omega)

theorem acc_off (sp dp len src dst : Nat) (bs : List UInt8) :
    accDec false sp dp len src dst bs = 0 ∧ accBuild false src sp dst dp len bs = 0 := by
  simp [accDec, accBuild, Ck.add16, Ck.addU8, Ck.addWord32, Ck.addU32, accumulateRemainder_off]

/-- decoder and builder add the same words in different orders: same accumulator -/
theorem accDec_eq_accBuild (ck : Bool) {sp dp len : Nat} (src dst : Nat) (text : List UInt8)
    (h1 : sp < 65536) (h2 : dp < 65536) (h3 : len < 65536) :
    accDec ck sp dp len src dst text = accBuild ck src sp dst dp len text := by
  cases ck
  · rw [(acc_off ..).1, (acc_off ..).2]
  · rw [(accDec_tracks src dst text h1 h2 h3).eq, (accBuild_tracks src dst text h1 h2 h3).eq]

theorem fromBytes_ok_inv {ck : Bool} {bs : List UInt8} {plen src dst : Nat} {hd : Header}
    (h : fromBytes ck bs plen src dst = .ok hd) :
    ∃ b0 b1 b2 b3 b4 b5 b6 b7 rest,
      bs = b0 :: b1 :: b2 :: b3 :: b4 :: b5 :: b6 :: b7 :: rest ∧ plen = W b4 b5 ∧
      matchesField ck (accDec ck (W b0 b1) (W b2 b3) (W b4 b5) src dst rest) (W b6 b7) = true ∧
      hd = { source := W b0 b1, destination := W b2 b3, length := W b4 b5, checksum := W b6 b7 } := by
  unfold fromBytes at h
  obtain ⟨b0, b1, _, rfl, h⟩ := ok_of_nextU16 h
  obtain ⟨b2, b3, _, rfl, h⟩ := ok_of_nextU16 h
  obtain ⟨b4, b5, _, rfl, h⟩ := ok_of_nextU16 h
  obtain ⟨b6, b7, rest, rfl, h⟩ := ok_of_nextU16 h
  obtain ⟨hl, h⟩ := ok_of_ite_error h
  obtain ⟨hm, h⟩ := ok_of_ite_error h
  exact ⟨b0, b1, b2, b3, b4, b5, b6, b7, rest, rfl, Decidable.not_not.mp hl,
    Decidable.not_not.mp hm, (Except.ok.inj h).symm⟩

theorem fromBytes_cons8 (ck : Bool) (b0 b1 b2 b3 b4 b5 b6 b7 : UInt8) (rest : List UInt8)
    (plen src dst : Nat) :
    fromBytes ck (b0 :: b1 :: b2 :: b3 :: b4 :: b5 :: b6 :: b7 :: rest) plen src dst =
      if plen ≠ W b4 b5 then .error (.err .lengthMismatch)
      else if ¬ matchesField ck (accDec ck (W b0 b1) (W b2 b3) (W b4 b5) src dst rest) (W b6 b7) then
        .error (.err (.checksum (asU16 ck (accDec ck (W b0 b1) (W b2 b3) (W b4 b5) src dst rest)) (W b6 b7)))
      else .ok { source := W b0 b1, destination := W b2 b3, length := W b4 b5, checksum := W b6 b7 } := by
  simp only [fromBytes, nextU16]
  rfl

end Elvis.Codec.Udp
