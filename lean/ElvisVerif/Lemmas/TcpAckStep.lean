import ElvisVerif.Lemmas.TcpAckSys
/-!
# One step of the closed system keeps the acknowledgment invariant; runs

`Op.Closed` = `Op.Clean` (write, read, tick, emit, close, delivery of any history element to the
side it is addressed to) or `drop`.  `Full sys` = `Inv` (TcpSysInv) ∧ `SysInv` (ShiftInv) ∧ `AckInv`.
-/
namespace Elvis.Tcp
open Tcb

theorem ackInv_arrive {s s' : Sys} {x : SideId} {σ : Segment} {r : Res} (ha : AckInv s) (a : s.Arrive x σ s' r)
    (hi : Inv s) (hs : SysInv s) (hroom : RoomOk s) (hσ : σ ∈ s.history) (hsrc : σ.hdr.srcPort = x.peer.port) :
    AckInv s' := by
  cases a with
  | tcb ht h => exact ackInv_arrive_tcb s hi hs ha hroom x _ _ σ ht hσ hsrc h _ rfl rfl
  | close => exact ackInv_delete s ha x _ rfl rfl
  | ignore | closed => exact ha
  | create ht hl h => exact ackInv_create s hi ha x _ _ σ _ ht hl hσ hsrc h _ rfl rfl
  | refuse ht _ h =>
    refine ackInv_respond s ha x ht _ (fun _ τ hτ => ?_)
    -- the reply of LISTEN: a RST without ACK bit
    rw [List.mem_singleton.1 hτ, (segmentArrivesListen_response h).2.2]
    rfl
  | reset ht hl =>
    refine ackInv_respond s ha x ht _ (fun h => ?_)
    rw [hl] at h
    cases h

theorem ackInv_step (s : Sys) (hi : Inv s) (hs : SysInv s) (ha : AckInv s) (hroom : RoomOk s) (op : Op)
    (hc : Op.Clean s op) (s' : Sys) (r : Res) (e : s.step op = .ok (s', r)) : AckInv s' := by
  have loc : ∀ {x t t' sd'}, (s.side x).tcb = some t → sd'.tcb = some t' → sd'.listen = (s.side x).listen →
      LStep t t' → AckInv (s.setSide x sd') := fun ht hsd hl l =>
    ackInv_update s hi ha _ _ _ _ [] ht hsd hl l (fun _ h => nomatch h) (fun _ h => nomatch h)
  cases step_iff.1 e with
  | «open» | listen | inject | abort | drop => exact hc.elim
  | noSeg | noTcb => exact ha
  | deliver hn a => exact ackInv_arrive ha a hi hs hroom (nth_mem s _ _ hn) (hc _ hn).1
  | write ht => exact loc ht rfl rfl (send_l _ _)
  | read ht => exact loc ht rfl rfl (receive_l _)
  | tick ht h => exact loc ht rfl rfl (advanceTime_l _ _ _ h)
  | expire => exact ackInv_delete s ha _ _ rfl rfl
  | @emit x tcb tcb' segs ht h =>
    obtain ⟨b0, p1, _⟩ := (hi.link x).snd tcb ht
    have o1 := (segments_snd tcb tcb' segs h).2 b0 (hroom x tcb ht)
    obtain ⟨l, hnew⟩ := segments_l tcb tcb' segs h (hs x tcb ht).fresh
    exact ackInv_update s hi ha x tcb tcb' _ segs ht rfl rfl l (fun σ hσ => by rw [(o1 σ hσ).2.1, p1]) hnew
  | close ht h => exact loc ht rfl rfl (close_l _ _ _ h)

theorem sysInv_clean (sys : Sys) (hs : SysInv sys) (op : Op) (hc : Op.Clean sys op) (sys' : Sys) (r : Res)
    (e : sys.step op = .ok (sys', r)) : SysInv sys' :=
  sysInv_step_dst hs (fun seg hn => by cases op <;> first | exact hc.elim | cases hn | exact (hc seg hn).2) e

structure Full (sys : Sys) : Prop where
  inv : Inv sys
  fresh : SysInv sys
  ack : AckInv sys

def Op.Closed (sys : Sys) (op : Op) : Prop := Op.Clean sys op ∨ ∃ x, op = .drop x

theorem full_step (sys : Sys) (h : Full sys) (hroom : RoomOk sys) (op : Op) (hc : Op.Closed sys op)
    (sys' : Sys) (r : Res) (e : sys.step op = .ok (sys', r)) : Full sys' := by
  rcases hc with hc | ⟨x, rfl⟩
  · exact ⟨inv_step sys h.inv hroom op hc sys' r e, sysInv_clean sys h.fresh op hc sys' r e,
      ackInv_step sys h.inv h.fresh h.ack hroom op hc sys' r e⟩
  · cases e
    exact ⟨inv_delete sys h.inv x _ rfl rfl, sysInv_gone sys x h.fresh, ackInv_delete sys h.ack x _ rfl rfl⟩

/-- a run of the closed system; before every step both endpoints have room below 2^31 sequence
    numbers (H31) -/
inductive ClosedRun : Sys → Sys → Prop
  | refl (s : Sys) : ClosedRun s s
  | step {s s1 s2 : Sys} {op : Op} {r : Res} : ClosedRun s s1 → RoomOk s1 → Op.Closed s1 op →
      s1.step op = .ok (s2, r) → ClosedRun s s2

theorem full_run {s s' : Sys} (h : Full s) (r : ClosedRun s s') : Full s' := by
  induction r with
  | refl => exact h
  | step _ hroom hc e ih => exact full_step _ ih hroom _ hc _ _ e

theorem ClosedRun.of_clean {s s' : Sys} (r : CleanRun s s') : ClosedRun s s' := by
  induction r with
  | refl => exact .refl _
  | step _ hroom hc e ih => exact .step ih hroom (Or.inl hc) e

theorem ClosedRun.head {s s1 s2 : Sys} {op : Op} {r : Res} (hroom : RoomOk s) (hc : Op.Closed s op)
    (e : s.step op = .ok (s1, r)) (h : ClosedRun s1 s2) : ClosedRun s s2 := by
  induction h with
  | refl => exact .step (.refl _) hroom hc e
  | step _ hr hcl he ih => exact .step ih hr hcl he

theorem full_init {ia ib : Seq} {ma mb : U16} {simultaneous : Bool} {sys : Sys} {rs : List Res}
    (e : Sys.run {} [.open .A ia ma, if simultaneous then .open .B ib mb else .listen .B ib mb] = .ok (sys, rs)) :
    Full sys := by
  obtain ⟨hh, _, ho⟩ := start_state e
  -- what `open` made: SYN-SENT, nothing with an ACK bit
  have fresh : ∀ x t, (sys.side x).tcb = some t → t.state = .SynSent ∧ NoAck t := by
    intro x t ht
    obtain ⟨iss, mtu, h⟩ := ho x t ht
    obtain ⟨una, one, rtx, heap, -⟩ := open_ack _ _ _ _ _ h
    obtain ⟨-, hiss, -, -, -, st, -⟩ := open_snd _ _ _ _ _ h
    refine ⟨st, ?_, fun tr hh => (rtx tr hh).1, ?_, una.trans hiss.symm⟩
    · rw [one]; exact fun _ h => nomatch h
    · rw [heap]; exact fun _ h => nomatch h
  refine ⟨inv_init e, fun x t ht => ?_, fun x => ?_⟩
  · obtain ⟨iss, mtu, h⟩ := ho x t ht
    exact tcbFresh_open x iss mtu t h
  · unfold AckLink
    rw [hh]
    cases ht : (sys.side x).tcb with
    | none => exact AckCore.of_none _ _ _ _
    | some t =>
      obtain ⟨-, n⟩ := fresh x t ht
      exact AckCore.of_noack (fun _ h => nomatch h) n.heap n.una (fun _ => ⟨n.one, n.rtx⟩)
        fun u hu => ⟨(fresh x.peer u hu).1, (fresh x.peer u hu).2.one, (fresh x.peer u hu).2.rtx⟩

theorem full_init_active_passive (ia ib : Seq) (ma mb : U16) (sys : Sys) (rs : List Res)
    (e : Sys.run {} [.open .A ia ma, .listen .B ib mb] = .ok (sys, rs)) : Full sys :=
  full_init (simultaneous := false) e

theorem full_init_simultaneous (ia ib : Seq) (ma mb : U16) (sys : Sys) (rs : List Res)
    (e : Sys.run {} [.open .A ia ma, .open .B ib mb] = .ok (sys, rs)) : Full sys :=
  full_init (simultaneous := true) e

end Elvis.Tcp
