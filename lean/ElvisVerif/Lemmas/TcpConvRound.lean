import ElvisVerif.Lemmas.TcpConvExchange
/-!
# Iterating the exchange phase: everything unsent gets through

`Done s ta tb`: steady, and on both sides no unsent text, empty retransmission queue, empty one-shot
queue.  `phases_done`: from a steady state whose unsent texts are at most `65535 · n` bytes, `2n + 1`
phases end in a `Done` state (two phases retire a full window of 65535 bytes: one sends, the next
brings the acknowledgment that reopens the window).  `done_stream`: in a `Done` state everything
submitted has been handed to the peer's application.  A `Done` state is silent (`done_silent`) and
stays `Done` (`phase_done`), so the history stops growing (`done_fairRound`).
-/
namespace Elvis.Tcp
open Tcb Elvis.ModCmp

structure DoneX (t : Tcb) : Prop where
  text : t.outgoing.text = []
  rtx : t.outgoing.retransmit = []
  one : t.outgoing.oneshot = []

theorem DoneX.congr {t t1 : Tcb} (d : DoneX t) (h : t1.outgoing = t.outgoing) : DoneX t1 := by
  obtain ⟨a, b, c⟩ := d
  rw [← h] at a b c
  exact ⟨a, b, c⟩

structure Done (s : Sys) (ta tb : Tcb) : Prop where
  steady : Steady s ta tb
  a : DoneX ta
  b : DoneX tb

theorem phases_add (a b : Nat) (s : Sys) :
    phases (a + b) s = match phases a s with
      | .error e => .error e
      | .ok s' => phases b s' := by
  induction a generalizing s with
  | zero => simp [phases]
  | succ n ih =>
    rw [show n + 1 + b = (n + b) + 1 by omega]
    simp only [phases]
    cases phase s with
    | error e => rfl
    | ok s1 => exact ih s1

section
variable {iss : SideId → Seq}

theorem emitAmount_eq {s : Sys} (hg : Good iss s) (x : SideId) (t : Tcb) (ht : (s.side x).tcb = some t)
    (hst : t.state = .Established) :
    emitAmount t = min t.outgoing.text.length (65535 - rtxBytes t.outgoing.retransmit) := by
  unfold emitAmount
  rw [hg.swnd x t ht hst]
  rfl

theorem phase_done (s : Sys) (hg : Good iss s) (ta tb : Tcb) (hs : Steady s ta tb)
    (wa : ta.outgoing.text = []) (wb : tb.outgoing.text = []) :
    ∃ s' ta' tb', phase s = .ok s' ∧ PlainRun s s' ∧ Good iss s' ∧ Done s' ta' tb' := by
  obtain ⟨s', ta', tb', hp, hr, hg', hs', pa, pb⟩ := phase_steady s hg ta tb hs
  have ea := emitAmount_notext wa
  have eb := emitAmount_notext wb
  have hsa' : (s'.side .A).tcb = some ta' := hs'.ha
  have hsb' : (s'.side .B).tcb = some tb' := hs'.hb
  -- everything is acknowledged, so the queues are empty
  have empty : ∀ (x : SideId) (t u : Tcb), (s'.side x).tcb = some t → SteadyX t u → u.outgoing.oneshot = [] →
      t.outgoing.retransmit = [] :=
    fun x t u ht st hu => hg'.acked_empty x t ht (st.acked hu)
  have qa := empty .A ta' tb' hsa' hs'.a (pb.one ea)
  have qb := empty .B tb' ta' hsb' hs'.b (pa.one eb)
  exact ⟨s', ta', tb', hp, hr, hg', hs', ⟨by rw [pa.text, wa]; simp, qa, pa.one eb⟩,
    ⟨by rw [pb.text, wb]; simp, qb, pb.one ea⟩⟩

/-- of `l` unsent bytes a phase sends `e`, as many as the window admits; at most `r ≤ e` stay queued, so the next
    phase sends the rest of a full window -/
theorem second_window {l e r : Nat} (he : e ≤ 65535) (hr : r ≤ e) :
    l - e - min (l - e) (65535 - r) ≤ l - min l 65535 := by
  rcases Nat.le_total (l - e) (65535 - r) with h | h
  · rw [Nat.min_eq_left h, Nat.sub_self]
    exact Nat.zero_le _
  · rw [Nat.min_eq_right h]
    have hm := Nat.min_le_right l 65535
    generalize min l 65535 = m at hm ⊢
    omega

theorem window_off {l l2 n : Nat} (h : l2 ≤ l - min l 65535) (w : l ≤ 65535 * (n + 1)) : l2 ≤ 65535 * n := by omega

theorem phase_two (s : Sys) (hg : Good iss s) (ta tb : Tcb) (hs : Steady s ta tb) :
    ∃ s' ta' tb', phases 2 s = .ok s' ∧ PlainRun s s' ∧ Good iss s' ∧ Steady s' ta' tb' ∧
      ta'.outgoing.text.length ≤ ta.outgoing.text.length - min ta.outgoing.text.length 65535 ∧
      tb'.outgoing.text.length ≤ tb.outgoing.text.length - min tb.outgoing.text.length 65535 := by
  obtain ⟨s1, ta1, tb1, hp1, hr1, hg1, hs1, pa1, pb1⟩ := phase_steady s hg ta tb hs
  obtain ⟨s2, ta2, tb2, hp2, hr2, hg2, hs2, pa2, pb2⟩ := phase_steady s1 hg1 ta1 tb1 hs1
  -- a side sends what the window allows; what stays queued after the first phase is at most that, so the second
  -- phase sends the rest of a full window
  have shrink : ∀ (x : SideId) (t u t1 u1 t2 : Tcb), (s.side x).tcb = some t → t.state = .Established →
      (s1.side x).tcb = some t1 → t1.state = .Established → PhaseX t u t1 → PhaseX t1 u1 t2 →
      t2.outgoing.text.length ≤ t.outgoing.text.length - min t.outgoing.text.length 65535 := by
    intro x t u t1 u1 t2 ht hst ht1 hst1 p1 p2
    rw [p2.text, List.length_drop, emitAmount_eq hg1 x t1 ht1 hst1, p1.text, List.length_drop]
    exact second_window (emitAmount_le t) p1.bytes
  exact ⟨s2, ta2, tb2, by simp only [phases, hp1, hp2], hr1.trans hr2, hg2, hs2,
    shrink .A ta tb ta1 tb1 ta2 hs.ha hs.a.st hs1.ha hs1.a.st pa1 pa2,
    shrink .B tb ta tb1 ta1 tb2 hs.hb hs.b.st hs1.hb hs1.b.st pb1 pb2⟩

theorem phases_done (n : Nat) : ∀ (s : Sys) (ta tb : Tcb), Good iss s → Steady s ta tb →
    ta.outgoing.text.length ≤ 65535 * n → tb.outgoing.text.length ≤ 65535 * n →
    ∃ s' ta' tb', phases (2 * n + 1) s = .ok s' ∧ PlainRun s s' ∧ Good iss s' ∧ Done s' ta' tb' := by
  induction n with
  | zero =>
    intro s ta tb hg hs wa wb
    obtain ⟨s', ta', tb', hp, hr, hg', hd⟩ := phase_done s hg ta tb hs
      (List.eq_nil_of_length_eq_zero (Nat.le_zero.1 wa)) (List.eq_nil_of_length_eq_zero (Nat.le_zero.1 wb))
    exact ⟨s', ta', tb', by simp only [phases, hp], hr, hg', hd⟩
  | succ n ih =>
    intro s ta tb hg hs wa wb
    obtain ⟨s2, ta2, tb2, hp2, hr2, hg2, hs2, la, lb⟩ := phase_two s hg ta tb hs
    obtain ⟨s', ta', tb', hp, hr, hg', hd⟩ := ih s2 ta2 tb2 hg2 hs2 (window_off la wa) (window_off lb wb)
    refine ⟨s', ta', tb', ?_, hr2.trans hr, hg', hd⟩
    rw [show 2 * (n + 1) + 1 = 2 + (2 * n + 1) by omega, phases_add, hp2]
    exact hp

/-- a side with nothing unsent whose peer has received all it sent and read all it received: the peer's application has
    been handed everything submitted -/
theorem stream_delivered {s : Sys} (hg : Good iss s) (x : SideId) (t u : Tcb) (ht : (s.side x).tcb = some t)
    (hu : (s.side x.peer).tcb = some u) (hsync : u.rcv.nxt = t.snd.nxt) (hns : u.state ≠ .SynSent)
    (hbuf : u.incoming.text = []) (htext : t.outgoing.text = []) :
    (s.side x.peer).delivered = (s.side x).submitted := by
  have tx := hg.tinv x t ht
  have tu := hg.tinv x.peer u hu
  rw [SideId.peer_peer] at tu
  obtain ⟨pre, hsub, hnxt⟩ := tx.out
  rw [htext, List.append_nil] at hsub
  obtain ⟨hrn, hpre⟩ := tu.rcv1 hns
  rw [hbuf, List.append_nil] at hpre
  rw [hbuf] at hrn
  have hb := hg.room.side x
  have hlen := hpre.length_le
  have hl : pre.length = (s.side x).submitted.length := by rw [hsub]
  have e : (s.side x.peer).delivered.length + ([] : List UInt8).length = pre.length :=
    C01.add_ofNat_inj (by rw [List.length_nil]; omega) (by omega) (by rw [← hrn, ← hnxt]; exact hsync)
  exact hpre.eq_of_length (by rw [List.length_nil] at e; omega)

theorem done_stream {s : Sys} (hg : Good iss s) (ta tb : Tcb) (hd : Done s ta tb) :
    s.b.delivered = s.a.submitted ∧ s.a.delivered = s.b.submitted :=
  ⟨stream_delivered hg .A ta tb hd.steady.ha hd.steady.hb hd.steady.a.sync (by rw [hd.steady.b.st]; nofun)
      hd.steady.b.buf hd.a.text,
    stream_delivered hg .B tb ta hd.steady.hb hd.steady.ha hd.steady.b.sync (by rw [hd.steady.a.st]; nofun)
      hd.steady.a.buf hd.b.text⟩

structure TmoOnly (t t1 : Tcb) : Prop where
  st : t1.state = t.state
  snd : t1.snd = t.snd
  rcv : t1.rcv = t.rcv
  out : t1.outgoing = t.outgoing
  inc : t1.incoming = t.incoming
  mtu : t1.mtu = t.mtu

theorem advanceTime_quiet (t : Tcb) (dt : Nat) (hq : t.outgoing.retransmit = []) (htw : t.timeouts.timeWait = none) :
    ∃ t1, t.advanceTime dt = .ok (t1, .Ignore) ∧ TmoOnly t t1 := by
  rw [advanceTime_eq, htw]
  refine ⟨_, rfl, ?_⟩
  -- with nothing queued an expiring timer has nothing to flag
  by_cases h : dt > t.timeouts.retransmission
  · rw [timerRun_expired h]
    refine ⟨rfl, rfl, rfl, ?_, rfl, rfl⟩
    show ({ t.outgoing with retransmit := t.outgoing.retransmit.map _ } : Outgoing) = t.outgoing
    rw [hq]
    cases ho : t.outgoing with
    | mk tx rt os => rw [ho] at hq; simp only at hq; subst hq; rfl
  · rw [timerRun_running h]
    exact ⟨rfl, rfl, rfl, rfl, rfl, rfl⟩

theorem SteadyX.of_tmo_left {t u t1 : Tcb} (S : SteadyX t u) (h : TmoOnly t t1) : SteadyX t1 u :=
  ⟨by rw [h.st]; exact S.st, by rw [h.inc]; exact S.heap, by rw [h.inc]; exact S.buf, by rw [h.snd]; exact S.sync,
    by rw [h.out]; exact S.unflag, by rw [h.snd]; exact S.lastack, by rw [h.mtu]; exact S.mtu⟩

theorem SteadyX.of_tmo_right {t u u1 : Tcb} (S : SteadyX t u) (h : TmoOnly u u1) : SteadyX t u1 :=
  ⟨S.st, S.heap, S.buf, by rw [h.rcv]; exact S.sync, S.unflag, by rw [h.out, h.rcv]; exact S.lastack, S.mtu⟩

/-- the two ticks of a fair round from a steady state with empty queues: only the timers move -/
theorem round_quiet (s : Sys) (hg : Good iss s) (ta tb : Tcb) (hs : Steady s ta tb)
    (qa : ta.outgoing.retransmit = []) (qb : tb.outgoing.retransmit = []) :
    ∃ s2 ta1 tb1, (∀ k, fairRound k s = phases k s2) ∧ PlainRun s s2 ∧ Good iss s2 ∧ Steady s2 ta1 tb1 ∧
      ta1.outgoing = ta.outgoing ∧ tb1.outgoing = tb.outgoing ∧ s2.historyLen = s.historyLen := by
  have v := View.start s .A ta tb hs.ha hs.hb
  obtain ⟨ta1, e1, ka⟩ := advanceTime_quiet ta (RTO + 1) qa (hg.timeWait_none .A ta hs.ha (by rw [hs.a.st]; nofun))
  obtain ⟨tb1, e2, kb⟩ := advanceTime_quiet tb (RTO + 1) qb (hg.timeWait_none .B tb hs.hb (by rw [hs.b.st]; nofun))
  obtain ⟨s2, hf, p, v2⟩ := v.fairRound e1 e2
  exact ⟨s2, ta1, tb1, hf, p, View.good hg p v v2 rfl rfl,
    ⟨v2.t, v2.u, (hs.a.of_tmo_left ka).of_tmo_right kb, (hs.b.of_tmo_left kb).of_tmo_right ka⟩, ka.out, kb.out, v2.n⟩

theorem segments_done (t : Tcb) (hm : SPACE_FOR_HEADERS < t.mtu.toNat) (dx : DoneX t) :
    ∃ t1, t.segments = .ok (t1, []) := by
  refine ⟨emitT t, ?_⟩
  rw [segments_notext_eq t dx.text (Nat.not_lt.2 (Nat.le_of_lt hm))]
  unfold emitOut
  rw [dx.one, dx.rtx]
  rfl

theorem done_silent {s : Sys} (hg : Good iss s) (ta tb : Tcb) (hd : Done s ta tb) (x : SideId) :
    ∃ s1, s.step (.emit x) = .ok (s1, .emitted s.historyLen []) ∧ s1.history = s.history := by
  have key : ∀ (t : Tcb), (s.side x).tcb = some t → SPACE_FOR_HEADERS < t.mtu.toNat →
      DoneX t → ∃ s1, s.step (.emit x) = .ok (s1, .emitted s.historyLen []) ∧ s1.history = s.history := by
    intro t ht hm dx
    obtain ⟨t1, e⟩ := segments_done t hm dx
    refine ⟨_, step_iff.2 (.emit ht e), ?_⟩
    show ([] : List Segment).reverse ++ (s.setSide x _).history = s.history
    rw [history_setSide]; rfl
  cases x with
  | A => exact key ta hd.steady.ha hd.steady.a.mtu hd.a
  | B => exact key tb hd.steady.hb hd.steady.b.mtu hd.b

theorem fairRound_done (n : Nat) (s : Sys) (ta tb : Tcb) (hg : Good iss s) (hs : Steady s ta tb)
    (qa : ta.outgoing.retransmit = []) (qb : tb.outgoing.retransmit = [])
    (wa : ta.outgoing.text.length ≤ 65535 * n) (wb : tb.outgoing.text.length ≤ 65535 * n) :
    ∃ s' ta' tb', fairRound (2 * n + 1) s = .ok s' ∧ PlainRun s s' ∧ Good iss s' ∧ Done s' ta' tb' := by
  obtain ⟨s2, ta2, tb2, hf, p2, g2, st2, oa, ob, _⟩ := round_quiet s hg ta tb hs qa qb
  obtain ⟨s', ta', tb', hp, hr, hg', hd⟩ := phases_done n s2 ta2 tb2 g2 st2 (by rw [oa]; exact wa) (by rw [ob]; exact wb)
  exact ⟨s', ta', tb', (hf _).trans hp, p2.trans hr, hg', hd⟩

theorem done_phase_len (s : Sys) (hg : Good iss s) (ta tb : Tcb) (hd : Done s ta tb) :
    ∃ s' ta' tb', phase s = .ok s' ∧ PlainRun s s' ∧ Good iss s' ∧ Done s' ta' tb' ∧ s'.historyLen = s.historyLen := by
  obtain ⟨s', ta', tb', hp, hr, hg', hd'⟩ := phase_done s hg ta tb hd.steady hd.a.text hd.b.text
  refine ⟨s', ta', tb', hp, hr, hg', hd', ?_⟩
  -- the phase once more: both emits return nothing
  obtain ⟨ta1, eA⟩ := segments_done ta hd.steady.a.mtu hd.a
  obtain ⟨tb1, eB⟩ := segments_done tb hd.steady.b.mtu hd.b
  obtain ⟨s6, hph, _, v⟩ := (View.start s .A ta tb hd.steady.ha hd.steady.hb).phase eA eB rfl rfl rfl rfl
    (fun _ h => nomatch h) (fun _ h => nomatch h)
  rw [hp] at hph
  cases hph
  exact v.n

theorem done_phases (k : Nat) : ∀ (s : Sys) (ta tb : Tcb), Good iss s → Done s ta tb →
    ∃ s' ta' tb', phases k s = .ok s' ∧ PlainRun s s' ∧ Good iss s' ∧ Done s' ta' tb' ∧ s'.historyLen = s.historyLen := by
  induction k with
  | zero => intro s ta tb hg hd; exact ⟨s, ta, tb, rfl, .refl _, hg, hd, rfl⟩
  | succ k ih =>
    intro s ta tb hg hd
    obtain ⟨s1, ta1, tb1, hp, hr, hg1, hd1, hl1⟩ := done_phase_len s hg ta tb hd
    obtain ⟨s', ta', tb', hp', hr', hg', hd', hl'⟩ := ih s1 ta1 tb1 hg1 hd1
    exact ⟨s', ta', tb', by simp only [phases, hp]; exact hp', hr.trans hr', hg', hd', by omega⟩

/-- **silence for ever**: any further fair round from a `Done` state ends in a `Done` state with the
    history unchanged — no `segments()` call and no LISTEN/CLOSED handler returned anything -/
theorem done_fairRound (k : Nat) (s : Sys) (ta tb : Tcb) (hg : Good iss s) (hd : Done s ta tb) :
    ∃ s' ta' tb', fairRound k s = .ok s' ∧ PlainRun s s' ∧ Good iss s' ∧ Done s' ta' tb' ∧
      s'.historyLen = s.historyLen := by
  obtain ⟨s2, ta2, tb2, hf, p2, g2, st2, oa, ob, l2⟩ := round_quiet s hg ta tb hd.steady hd.a.rtx hd.b.rtx
  obtain ⟨s', ta', tb', hp, hr, hg', hd', hl⟩ := done_phases k s2 ta2 tb2 g2 ⟨st2, hd.a.congr oa, hd.b.congr ob⟩
  exact ⟨s', ta', tb', (hf _).trans hp, p2.trans hr, hg', hd', hl.trans l2⟩

/-- what a run that has reached a `Done` state has achieved: the stream is complete both ways, `segments()` returns
    nothing on either side, and every further fair round ends in such a state again with the history unchanged -/
theorem done_forever {s s' : Sys} {ta' tb' : Tcb} (hr : PlainRun s s') (hg' : Good iss s') (hd : Done s' ta' tb') :
    Done s' ta' tb' ∧ s'.b.delivered = s'.a.submitted ∧ s'.a.delivered = s'.b.submitted ∧
      s.a.submitted <+: s'.a.submitted ∧ s.b.submitted <+: s'.b.submitted ∧
      (∀ x, ∃ s1, s'.step (.emit x) = .ok (s1, .emitted s'.historyLen []) ∧ s1.history = s'.history) ∧
      (∀ k, ∃ s'' ta'' tb'', fairRound k s' = .ok s'' ∧ Done s'' ta'' tb'' ∧ s''.historyLen = s'.historyLen ∧
        s''.b.delivered = s''.a.submitted ∧ s''.a.delivered = s''.b.submitted) := by
  obtain ⟨d1, d2⟩ := done_stream hg' ta' tb' hd
  refine ⟨hd, d1, d2, hr.sub .A, hr.sub .B, fun x => done_silent hg' ta' tb' hd x, fun k => ?_⟩
  obtain ⟨s'', ta'', tb'', hf', _, hg'', hd', hl⟩ := done_fairRound k s' ta' tb' hg' hd
  obtain ⟨e1, e2⟩ := done_stream hg'' ta'' tb'' hd'
  exact ⟨s'', ta'', tb'', hf', hd', hl, e1, e2⟩

end
end Elvis.Tcp
