import ElvisVerif.Lemmas.Tcb
/-!
# C01 — sequence-number and byte-list arithmetic of the text block

Everything the stream-safety invariant needs about `u32` wrap-around, in offset form
(DESIGN.md section 4, "Proof discipline for modular arithmetic"): cancellation lemmas
first, then `omega` over `Nat` with at most two `% 2^32` terms.  Plus the pure list facts
about `drop`/`take` slices of the submitted byte string.
-/
namespace Elvis.Tcp.C01
open Elvis.ModCmp

theorem cancel (base x y : Seq) : (base + x) - (base + y) = x - y := by
  rw [← BitVec.sub_sub, BitVec.add_comm base x, BitVec.add_sub_cancel]

theorem off_sub (base : Seq) (a b : Nat) (h : b ≤ a) :
    base + BitVec.ofNat 32 a - (base + BitVec.ofNat 32 b) = BitVec.ofNat 32 (a - b) := by
  obtain ⟨d, rfl⟩ := Nat.exists_eq_add_of_le h
  rw [cancel, Nat.add_sub_cancel_left, BitVec.ofNat_add, BitVec.add_comm, BitVec.add_sub_cancel]

theorem sub_zero_ofNat (x : Seq) : x - BitVec.ofNat 32 (false.toNat) = x := BitVec.sub_zero x

/-- `RCV.NXT - SEG.SEQ` is the linear distance when `SEG.SEQ` is not ahead -/
theorem dist_toNat (base : Seq) (p q : Nat) (hpq : p ≤ q) (hq : q < 4294967296) :
    ((base + BitVec.ofNat 32 q) - (base + BitVec.ofNat 32 p)).toNat = q - p := by
  rw [off_sub _ _ _ hpq, BitVec.toNat_ofNat]
  exact Nat.mod_eq_of_lt (by omega)

/-- the heap gate of `segment_arrives` (`mod_gt(SEG.SEQ, RCV.NXT)` false) orders two offsets
    below `2^31` linearly -/
theorem gate_le (base : Seq) (p q : Nat) (hp : p < 2147483648) (hq : q < 2147483648)
    (h : modGt (base + BitVec.ofNat 32 p) (base + BitVec.ofNat 32 q) = false) : p ≤ q := by
  refine Nat.le_of_not_lt fun hlt => ?_
  have : modLt (base + BitVec.ofNat 32 q) (base + BitVec.ofNat 32 p) = true := by
    rw [modLt_iff, dist_toNat _ _ _ (Nat.le_of_lt hlt) (by omega)]
    omega
  unfold modGt at h
  rw [this] at h
  cases h

theorem ofNat_toNat_lt (n : Nat) (h : n < 4294967296) : (BitVec.ofNat 32 n).toNat = n := by
  simp only [BitVec.toNat_ofNat]; omega

theorem add_ofNat_inj {base : Seq} {a b : Nat} (ha : a < 4294967296) (hb : b < 4294967296)
    (e : base + BitVec.ofNat 32 a = base + BitVec.ofNat 32 b) : a = b := by
  have h := congrArg BitVec.toNat ((BitVec.add_right_inj _).1 e)
  rwa [ofNat_toNat_lt _ ha, ofNat_toNat_lt _ hb] at h

theorem add_ofNat_assoc (base : Seq) (a b : Nat) :
    base + BitVec.ofNat 32 a + BitVec.ofNat 32 b = base + BitVec.ofNat 32 (a + b) := by
  rw [BitVec.ofNat_add, BitVec.add_assoc]

theorem add_ofNat_zero (base : Seq) : base + BitVec.ofNat 32 0 = base := by
  simp

variable {α : Type}

theorem prefix_extend (l sub : List α) (k : Nat) (h : l <+: sub) :
    l ++ (sub.drop l.length).take k <+: sub := by
  have e := List.prefix_iff_eq_take.1 h
  have : l ++ (sub.drop l.length).take k = sub.take (l.length + k) := by
    rw [List.take_add, ← e]
  rw [this]
  exact List.take_prefix _ _

/-- the accepted part of a retransmitted slice: skipping what was already received
    (`min (q-p) len` bytes) of `submitted[p, p+len)` and keeping at most `acc` of the rest is
    `submitted[q, q+acc)` -/
theorem slice_accept (sub : List α) (p q len acc : Nat) (hpq : p ≤ q)
    (hacc : acc ≤ len - min (q - p) len) :
    (((sub.drop p).take len).drop (min (q - p) len)).take acc = (sub.drop q).take acc := by
  by_cases hc : q - p ≤ len
  · have hm : min (q - p) len = q - p := Nat.min_eq_left hc
    rw [hm] at hacc ⊢
    rw [List.drop_take, List.drop_drop, List.take_take]
    have e1 : p + (q - p) = q := by omega
    have e2 : min acc (len - (q - p)) = acc := Nat.min_eq_left hacc
    rw [e1, e2]
  · have hm : min (q - p) len = len := Nat.min_eq_right (by omega)
    rw [hm] at hacc
    have : acc = 0 := by omega
    subst this
    simp

theorem length_drop_take (sub : List α) (q acc : Nat) (h : q + acc ≤ sub.length) :
    ((sub.drop q).take acc).length = acc := by
  rw [List.length_take, List.length_drop]
  omega

theorem take_length_take (b : Nat) (l : List α) : l.take (l.take b).length = l.take b := by
  rw [List.length_take]
  by_cases hb : b ≤ l.length
  · rw [Nat.min_eq_left hb]
  · rw [Nat.min_eq_right (by omega), List.take_length, List.take_of_length_le (by omega)]

end Elvis.Tcp.C01
