import ElvisVerif.Model.Tcb
import ElvisVerif.Lemmas.ModCmp
import ElvisVerif.Lemmas.ListHeap
/-!
# Basic lemmas about the TCB model

* `enqueue` never fails; its effect as an equation (`enqueue_eq`) and the fields it leaves alone.
* offset form of the receive-window test (`isInRcvWindow_iff`) and the acceptance arithmetic.
-/
namespace Elvis.Tcp
open Elvis.ModCmp

/-- what `TcpHeaderBuilder::build` adds to the builder's header -/
def Hdr.built (h : Hdr) : Hdr :=
  { h with dataOffset := BitVec.ofNat 8 Elvis.Gen.Tcb.baseHeaderWords,
           checksum := BitVec.ofNat 16 Elvis.Gen.Tcb.checksumWithoutFeature }

theorem Hdr.build_eq (h : Hdr) (n : Nat) (hn : n + BASE_HEADER_OCTETS ≤ 65535) :
    h.build n = some h.built := by
  unfold Hdr.build Hdr.built
  rw [if_neg (by omega)]

theorem Hdr.build_zero (h : Hdr) : h.build 0 = some h.built :=
  Hdr.build_eq h 0 (by decide)

theorem hdr_build_some {h hd : Hdr} {n : Nat} (hb : h.build n = some hd) : hd = h.built := by
  unfold Hdr.build at hb
  split at hb
  · cases hb
  · exact (Option.some.inj hb).symm

theorem Segment.segLen_eq (g : Segment) :
    g.segLen = g.text.length + g.hdr.ctl.syn.toNat + g.hdr.ctl.fin.toNat := rfl

theorem Segment.segLen_plain {g : Segment} (hs : g.hdr.ctl.syn = false) (hf : g.hdr.ctl.fin = false) :
    g.segLen = g.text.length := by
  rw [Segment.segLen_eq, hs, hf]
  rfl

namespace Tcb

theorem enqueue_eq (s : Tcb) (hb : Hdr) : s.enqueue hb = .ok (s.enqueueBuilt hb.built) := by
  unfold enqueue
  rw [Hdr.build_zero]

theorem enqueueBuilt_oneshot (s : Tcb) (h : Hdr) (hs : h.ctl.syn = false) (hf : h.ctl.fin = false) :
    s.enqueueBuilt h = { s with outgoing.oneshot := s.outgoing.oneshot ++ [h] } := by
  unfold Tcb.enqueueBuilt
  rw [hs, hf]
  rfl

theorem enqueueBuilt_retransmit (s : Tcb) (h : Hdr) (hc : h.ctl.syn = true ∨ h.ctl.fin = true) :
    s.enqueueBuilt h = { s with outgoing.retransmit := s.outgoing.retransmit ++ [Transmit.new ⟨h, []⟩] } := by
  unfold Tcb.enqueueBuilt
  rw [if_pos (by rw [Bool.or_eq_true]; exact hc)]

theorem enqueueBuilt_cases (s : Tcb) (h : Hdr) :
    ((h.ctl.syn = true ∨ h.ctl.fin = true) ∧
      s.enqueueBuilt h = { s with outgoing.retransmit := s.outgoing.retransmit ++ [Transmit.new ⟨h, []⟩] }) ∨
    (h.ctl.syn = false ∧ h.ctl.fin = false ∧
      s.enqueueBuilt h = { s with outgoing.oneshot := s.outgoing.oneshot ++ [h] }) := by
  cases hs : h.ctl.syn
  · cases hf : h.ctl.fin
    · exact Or.inr ⟨rfl, rfl, enqueueBuilt_oneshot s h hs hf⟩
    · exact Or.inl ⟨Or.inr rfl, enqueueBuilt_retransmit s h (Or.inr hf)⟩
  · exact Or.inl ⟨Or.inl rfl, enqueueBuilt_retransmit s h (Or.inl hs)⟩

theorem finPending_def (s : Tcb) :
    s.finPending = ((s.state = .FinWait1 ∨ s.state = .Closing ∨ s.state = .LastAck) && !s.outgoing.text.isEmpty) := by
  unfold Tcb.finPending
  cases s.state <;> simp

/-- `u` is `s` up to the one-shot and retransmission queues -/
structure QueuesOnly (s u : Tcb) : Prop where
  mtu : u.mtu = s.mtu
  rcv : u.rcv = s.rcv
  snd : u.snd = s.snd
  incoming : u.incoming = s.incoming
  state : u.state = s.state
  timeouts : u.timeouts = s.timeouts
  text : u.outgoing.text = s.outgoing.text
  initiation : u.initiation = s.initiation
  localPort : u.localPort = s.localPort
  remotePort : u.remotePort = s.remotePort

theorem enqueueBuilt_frame (s : Tcb) (h : Hdr) : QueuesOnly s (s.enqueueBuilt h) := by
  unfold enqueueBuilt
  split <;> exact ⟨rfl, rfl, rfl, rfl, rfl, rfl, rfl, rfl, rfl, rfl⟩

theorem state_enqueueBuilt (s : Tcb) (h : Hdr) : (s.enqueueBuilt h).state = s.state := (enqueueBuilt_frame s h).state

theorem enqueueThen_eq (s : Tcb) (hb : Hdr) (k : Tcb → B) :
    enqueueThen s hb k = k (s.enqueueBuilt hb.built) := by
  unfold enqueueThen
  rw [enqueue_eq]

theorem sub_shift (nxt n : Seq) : n - (nxt - 1 - 1) = (n - nxt) + 2 := by
  simp only [BitVec.sub_eq_add_neg, BitVec.neg_add, BitVec.neg_neg]
  ac_rfl

theorem edge_shift (nxt w : Seq) : (nxt + w + 0) - (nxt - 1 - 1) = w + 2 := by
  rw [sub_shift]
  show nxt + w + 0#32 - nxt + 2 = w + 2
  rw [BitVec.add_zero, BitVec.add_comm nxt w, BitVec.add_sub_cancel]

/-- `is_in_rcv_window(n)` ⇔ `n` is `RCV.NXT - 1` or one of the `RCV.WND` numbers from `RCV.NXT` -/
theorem isInRcvWindow_iff (s : Tcb) (n : Seq) :
    s.isInRcvWindow n = true ↔
      (n - s.rcv.nxt).toNat < s.rcv.wnd.toNat ∨ (n - s.rcv.nxt).toNat = 4294967295 := by
  unfold isInRcvWindow modBounded
  rw [cyc_iff]
  simp only [Cmp.offset]
  rw [sub_shift, edge_shift]
  generalize (n - s.rcv.nxt) = d
  have hw := s.rcv.wnd.isLt
  have h2 : (2 : BitVec 32).toNat = 2 := rfl
  simp only [BitVec.toNat_add, h2, BitVec.toNat_ofNat]
  have h1 := d.isLt
  omega

theorem isFinAcked_eq (s : Tcb) : s.isFinAcked = (!s.finPending && s.snd.nxt == s.snd.una) := rfl

theorem isInRcvWindow_congr {s s' : Tcb} (h : s'.rcv = s.rcv) (n : Seq) : s'.isInRcvWindow n = s.isInRcvWindow n := by
  unfold isInRcvWindow
  rw [h]

theorem isInRcvWindow_nxt {s : Tcb} (hw : s.rcv.wnd ≠ 0) : s.isInRcvWindow s.rcv.nxt = true := by
  rw [isInRcvWindow_iff, BitVec.sub_self]
  left
  show 0 < s.rcv.wnd.toNat
  exact Nat.pos_of_ne_zero fun h => hw (BitVec.eq_of_toNat_eq h)

/-- the number before `RCV.NXT` is where a keep-alive or a retransmitted SYN sits -/
theorem isInRcvWindow_pred {s : Tcb} {seq : Seq} (h : seq + 1 = s.rcv.nxt) : s.isInRcvWindow seq = true := by
  rw [isInRcvWindow_iff, ← h]
  right
  have : seq - (seq + 1) = 4294967295#32 := by bv_omega
  rw [this]
  rfl

/-- the two-ended window test of `is_seq_ok` implies the test the text block asserts
    (`SEG.SEQ` or `SEG.SEQ + text_len` in the window), for a non-empty text of at most
    `RCV.WND + 1` bytes without SYN -/
theorem assert_of_seqOk (s : Tcb) (seq tl : Seq) (fin : Bool)
    (hl : 0 < tl.toNat) (hlw : tl.toNat ≤ s.rcv.wnd.toNat + 1)
    (h : (s.isInRcvWindow seq || s.isInRcvWindow (seq + BitVec.ofNat 32 (tl.toNat + fin.toNat + 0) - 1)) = true) :
    (s.isInRcvWindow seq || s.isInRcvWindow (seq + tl)) = true := by
  rw [Bool.or_eq_true] at h ⊢
  rcases h with h | h
  · exact Or.inl h
  · rw [isInRcvWindow_iff] at h ⊢
    rw [isInRcvWindow_iff]
    have hw := s.rcv.wnd.isLt
    have e1 : seq + tl - s.rcv.nxt = (seq - s.rcv.nxt) + tl := by
      rw [BitVec.sub_eq_add_neg, BitVec.sub_eq_add_neg]; ac_rfl
    rw [e1]
    cases fin with
    | true =>
      -- the last octet of text-plus-FIN is `SEG.SEQ + text_len`
      have e2 : seq + BitVec.ofNat 32 (tl.toNat + true.toNat + 0) - 1 - s.rcv.nxt = (seq - s.rcv.nxt) + tl := by
        rw [Nat.add_zero, BitVec.ofNat_add, BitVec.ofNat_toNat, BitVec.setWidth_eq, ← BitVec.add_assoc]
        show seq + tl + 1 - 1 - s.rcv.nxt = _
        rw [BitVec.add_sub_cancel, BitVec.sub_eq_add_neg, BitVec.sub_eq_add_neg]; ac_rfl
      rw [e2] at h
      exact Or.inr h
    | false =>
      have e2 : seq + BitVec.ofNat 32 (tl.toNat + false.toNat + 0) - 1 - s.rcv.nxt = (seq - s.rcv.nxt) + tl - 1 := by
        rw [Nat.add_zero, show false.toNat = 0 from rfl, Nat.add_zero, BitVec.ofNat_toNat, BitVec.setWidth_eq]
        simp only [BitVec.sub_eq_add_neg]; ac_rfl
      rw [e2] at h
      generalize (seq - s.rcv.nxt) = d at h ⊢
      have h1 : (1 : BitVec 32).toNat = 1 := rfl
      simp only [BitVec.toNat_add, BitVec.toNat_sub, h1] at h ⊢
      have hd := d.isLt
      have ht := tl.isLt
      omega

end Tcb
end Elvis.Tcp
