import ElvisVerif.Lemmas.TcbBlocks
/-!
# What a segment can do to a TCB, one elementary change at a time

`Eff g k s s'`: `s'` is `s` after ONE of the elementary changes `process_segment` makes for the segment `g` (queue a
reply, take an acknowledgment, take a window update, one of the state moves, take the peer's SYN, buffer text,
advance over a FIN, re-arm a timer), with the tests the code made on the way to it (of a window update only the ACK
bit); `k` is the block that makes it (a reply: any block).  `Effs g k` are the finite compositions within one block,
`Upto g k` those of blocks 1 … `k` in order.  Every block of `process_segment` — hence `process_segment`, the reorder
loop and `segment_arrives` — is such a composition (`*_effs`, proved once from the inversions of
`Lemmas/TcbBlocks.lean`); `Returned g s' r` says what a result that deletes the TCB tells about `g` and `s'`.

An invariant file proves its relation for the constructors (`cases h`), and has it for `process_segment`, the loop
and `segment_arrives` by `processSegment_lift` / `segmentArrives_lift` (or `segmentArrives_lift_mem`, when the relation
asks a fact of every segment processed).  The order of the blocks is used twice: in `processSegment_effs` (text is
buffered only outside SYN-SENT, the peer's SYN is taken only without RST) and in `Upto.move` of `Lemmas/TcbPath.lean`,
which reads `Upto` block by block.

The reorder loop is the relation `Drains s r s'`, without fuel (`drain_iff`, `segmentArrives_iff`; `Stops`, `Pops`);
`segmentArrives_idle`: with nothing parked `segment_arrives` is `process_segment`.
-/
namespace Elvis.Tcp
open Elvis.ModCmp
namespace Tcb

/-- the headers `process_segment` answers with: the pure ACK; the RST for an ACK field that fails the test of
    SYN-SENT (it acknowledges something at or before ISS, or nothing outstanding) or of SYN-RECEIVED; the SYN,ACK -/
def Reply (g : Segment) (s : Tcb) (hd : Hdr) : Prop :=
  (s.state ≠ .SynSent ∧ hd = s.ackHdr) ∨
  (hd = s.rstForAck g.hdr ∧ g.hdr.ctl.ack = true ∧
    ((s.state = .SynSent ∧ (modBounded s.snd.nxt .Lt g.hdr.ack .Leq s.snd.iss = true ∨
        modBounded s.snd.una .Lt g.hdr.ack .Leq s.snd.nxt = false)) ∨
     (s.state = .SynReceived ∧ modBounded s.snd.una .Lt g.hdr.ack .Leq s.snd.nxt = false))) ∨
  (s.state = .SynReceived ∧ hd = s.synAckHdr)

theorem Reply.hdr {g : Segment} {s : Tcb} {hd : Hdr} (h : Reply g s hd) :
    hd = s.ackHdr ∨ hd = s.rstForAck g.hdr ∨ hd = s.synAckHdr :=
  h.elim (fun h => .inl h.2) fun h => h.elim (fun h => .inr (.inl h.1)) fun h => .inr (.inr h.2)

/-- `SEG.LEN` without the control bits, as the `u32` the code computes -/
abbrev tl (g : Segment) : Seq := BitVec.ofNat 32 g.text.length

/-- one elementary change; the number is the block of `process_segment` that makes it, except that `reply` is for any
    block.  `window` records only the ACK bit: it stands for the guarded update of `ack_established_processing` and for
    the unconditional one of SYN-RECEIVED → ESTABLISHED alike -/
inductive Eff (g : Segment) : Nat → Tcb → Tcb → Prop
  | reply {k : Nat} {s : Tcb} {hd : Hdr} : Reply g s hd → Eff g k s (s.enqueueBuilt hd.built)
  | ack {s : Tcb} : g.hdr.ctl.ack = true → (s.state = .SynSent → g.hdr.ctl.syn = true) → s.state ≠ .SynReceived →
      modBounded s.snd.una .Lt g.hdr.ack .Leq s.snd.nxt = true → Eff g 2 s (ackTaken s g.hdr.ack)
  | window {s : Tcb} : g.hdr.ctl.ack = true →
      Eff g 2 s { s with snd.wnd := g.hdr.wnd, snd.wl1 := g.hdr.seq, snd.wl2 := g.hdr.ack }
  | established {s : Tcb} : g.hdr.ctl.ack = true → s.state = .SynReceived →
      modBounded s.snd.una .Lt g.hdr.ack .Leq s.snd.nxt = true → Eff g 2 s { s with state := .Established }
  | finWait2 {s : Tcb} : g.hdr.ctl.ack = true → s.state = .FinWait1 → s.isFinAcked = true →
      Eff g 2 s { s with state := .FinWait2 }
  | timeWaitAcked {s : Tcb} : g.hdr.ctl.ack = true → s.state = .Closing → s.isFinAcked = true →
      Eff g 2 s { s with state := .TimeWait, timeouts.timeWait := some TIME_WAIT }
  | syn {s : Tcb} : g.hdr.ctl.syn = true → g.hdr.ctl.rst = false → s.state = .SynSent →
      Eff g 4 s (synMoved s g.hdr (if modGt s.snd.una s.snd.iss then .Established else .SynReceived))
  | text {s : Tcb} {n : Nat} {t : List UInt8} : s.state ≠ .SynSent →
      TextTaken s g.hdr g.text (tl g) (textTaken s g.hdr g.text (tl g)) → n = acceptLen s g.hdr (tl g) →
      t = (g.text.drop (alreadyReceived s g.hdr (tl g)).toNat).take n → Eff g 5 s (acceptText s (BitVec.ofNat 32 n) t)
  | fin {s : Tcb} : g.hdr.ctl.fin = true → s.state ≠ .SynSent →
      (s.rcv.nxt = g.hdr.seq + tl g ∨ s.rcv.nxt = g.hdr.seq + tl g + 1) →
      Eff g 6 s (setRcvNxt s (g.hdr.seq + tl g + 1))
  | closeWait {s : Tcb} : g.hdr.ctl.fin = true → (s.state = .SynReceived ∨ s.state = .Established) →
      Eff g 6 s { s with state := .CloseWait }
  | closing {s : Tcb} : g.hdr.ctl.fin = true → s.state = .FinWait1 → s.isFinAcked = false →
      Eff g 6 s { s with state := .Closing }
  | timeWaitFin {s : Tcb} : g.hdr.ctl.fin = true →
      ((s.state = .FinWait1 ∧ s.isFinAcked = true) ∨ s.state = .FinWait2 ∨ s.state = .TimeWait) →
      Eff g 6 s { s with state := .TimeWait, timeouts.timeWait := some TIME_WAIT }
  | rto {s : Tcb} : g.hdr.ctl.fin = true → s.state = .FinWait2 → Eff g 6 s { s with timeouts.retransmission := RTO }

/-! ### what the targets leave alone

The three changes of the receive side are stated over `acceptText`, `setRcvNxt` and `synMoved`; what these leave
alone is said here once, so that an invariant's frame cases are projections. -/

/-- `u` is `s` with at most `RCV.NXT` and the buffered text changed -/
structure RcvOnly (s u : Tcb) : Prop where
  state : u.state = s.state
  snd : u.snd = s.snd
  outgoing : u.outgoing = s.outgoing
  heap : u.incoming.segments = s.incoming.segments
  timeouts : u.timeouts = s.timeouts
  irs : u.rcv.irs = s.rcv.irs
  wnd : u.rcv.wnd = s.rcv.wnd
  mtu : u.mtu = s.mtu
  initiation : u.initiation = s.initiation
  localPort : u.localPort = s.localPort
  remotePort : u.remotePort = s.remotePort

theorem acceptText_rcvOnly (s : Tcb) (n : Seq) (t : List UInt8) : RcvOnly s (acceptText s n t) :=
  ⟨rfl, rfl, rfl, rfl, rfl, rfl, rfl, rfl, rfl, rfl, rfl⟩

theorem setRcvNxt_rcvOnly (s : Tcb) (n : Seq) : RcvOnly s (setRcvNxt s n) :=
  ⟨rfl, rfl, rfl, rfl, rfl, rfl, rfl, rfl, rfl, rfl, rfl⟩

theorem synMoved_frame (s : Tcb) (seg : Hdr) (st : State) :
    (synMoved s seg st).state = st ∧ (synMoved s seg st).outgoing = s.outgoing ∧
    (synMoved s seg st).incoming = s.incoming ∧ (synMoved s seg st).timeouts = s.timeouts ∧
    (synMoved s seg st).snd.una = s.snd.una ∧ (synMoved s seg st).snd.nxt = s.snd.nxt ∧
    (synMoved s seg st).snd.iss = s.snd.iss ∧ (synMoved s seg st).rcv.wnd = s.rcv.wnd ∧
    (synMoved s seg st).mtu = s.mtu ∧ (synMoved s seg st).initiation = s.initiation ∧
    (synMoved s seg st).localPort = s.localPort ∧ (synMoved s seg st).remotePort = s.remotePort :=
  ⟨rfl, rfl, rfl, rfl, rfl, rfl, rfl, rfl, rfl, rfl, rfl, rfl⟩

inductive Star (r : Tcb → Tcb → Prop) : Tcb → Tcb → Prop
  | refl (s : Tcb) : Star r s s
  | tail {a b c : Tcb} : Star r a b → r b c → Star r a c

theorem Star.one {r : Tcb → Tcb → Prop} {a b : Tcb} (h : r a b) : Star r a b := .tail (.refl a) h

theorem Star.trans {r : Tcb → Tcb → Prop} {a b c : Tcb} (h1 : Star r a b) (h2 : Star r b c) : Star r a c := by
  induction h2 with
  | refl => exact h1
  | tail _ e ih => exact .tail ih e

theorem Star.lift {r R : Tcb → Tcb → Prop} (refl : ∀ s, R s s) (trans : ∀ {a b c}, R a b → R b c → R a c)
    (step : ∀ {a b}, r a b → R a b) {s s' : Tcb} (h : Star r s s') : R s s' := by
  induction h with
  | refl => exact refl _
  | tail _ e ih => exact trans ih (step e)

/-- the changes one block makes -/
abbrev Effs (g : Segment) (k : Nat) : Tcb → Tcb → Prop := Star (Eff g k)

/-- what a result tells: the TCB is deleted on a RST (in SYN-SENT only with ACK), or in LAST-ACK when our FIN is
    acknowledged -/
def Returned (g : Segment) (s' : Tcb) (r : ProcessSegmentResult) : Prop :=
  r.shouldDeleteTcb = true →
    (g.hdr.ctl.rst = true ∧ (s'.state = .SynSent → g.hdr.ctl.ack = true)) ∨
    (r = .FinalizeClose ∧ g.hdr.ctl.ack = true ∧ s'.state = .LastAck ∧ s'.isFinAcked = true)

/-- the outcome of block `k`: the changes made, and what an early return tells -/
def Blk (g : Segment) (k : Nat) (s s' : Tcb) (q : Option ProcessSegmentResult) : Prop :=
  Effs g k s s' ∧ ∀ x, q = some x → Returned g s' x

theorem Blk.keep {g : Segment} {k : Nat} {s s' : Tcb} {q : Option ProcessSegmentResult} (h : Effs g k s s')
    (hq : ∀ x, q = some x → x.shouldDeleteTcb = false) : Blk g k s s' q :=
  ⟨h, fun x hx hd => absurd hd (by rw [hq x hx]; decide)⟩

/-! ## the blocks -/

theorem seqCheck_effs {g : Segment} {s s' : Tcb} {q : Option ProcessSegmentResult}
    (e : seqCheck s g.hdr (tl g) = .ok (s', q)) : Blk g 1 s s' q := by
  rcases seqCheck_ok e with ⟨rfl, rfl, -⟩ | ⟨hns, -, rfl, rfl⟩
  · exact .keep (.refl _) nofun
  · exact .keep (.one (.reply (.inl ⟨hns, rfl⟩))) (fun _ h => by cases h; rfl)

theorem ackEstablished_effs {g : Segment} {s u : Tcb} {r : ProcessSegmentResult} (ha : g.hdr.ctl.ack = true)
    (hns : s.state ≠ .SynSent) (hnr : s.state ≠ .SynReceived) (h : s.ackEstablishedProcessing g.hdr = .ok (u, r)) :
    Effs g 2 s u ∧ u.state = s.state ∧ r.shouldDeleteTcb = false := by
  rcases ackEstablishedProcessing_ok h with ⟨rfl, rfl⟩ | ⟨rfl, rfl⟩ | ⟨hb, rfl, rfl | rfl⟩
  · exact ⟨.refl _, rfl, rfl⟩
  · exact ⟨.one (.reply (.inl ⟨hns, rfl⟩)), (enqueueBuilt_frame _ _).state, rfl⟩
  · exact ⟨.one (.ack ha (absurd · hns) hnr hb), rfl, rfl⟩
  · exact ⟨.tail (.one (.ack ha (absurd · hns) hnr hb)) (.window ha), rfl, rfl⟩

theorem ackResult_keeps {r1 : ProcessSegmentResult} (hr : r1.shouldDeleteTcb = false) :
    ∀ x, ackResult r1 = some x → x.shouldDeleteTcb = false := by
  unfold ackResult
  split
  · exact nofun
  · exact fun x h => by cases h; exact hr

theorem ackBlock_effs {g : Segment} {s s' : Tcb} {q : Option ProcessSegmentResult}
    (e : ackBlock s g.hdr = .ok (s', q)) : Blk g 2 s s' q := by
  cases ha : g.hdr.ctl.ack with
  | false =>
    rw [ackBlock_noAck ha] at e
    cases e
    exact .keep (.refl _) nofun
  | true =>
    obtain ⟨rfl, rfl⟩ := ackOut_of_ok e
    by_cases hss : s.state = .SynSent
    · -- an ACK at or before ISS (unless the segment carries a RST), or of nothing outstanding, is answered by a RST
      rw [ackOut_synSent ha hss]
      rcases ackSynSent_cases s g.hdr with ⟨-, -, h⟩ | ⟨hb, h⟩ | ⟨-, hb, ⟨hsyn, h⟩ | ⟨-, h⟩⟩ <;> rw [h]
      · exact .keep (.refl _) (fun _ h => by cases h; rfl)
      · exact .keep (.one (.reply (.inr (.inl ⟨rfl, ha, .inl ⟨hss, hb⟩⟩)))) (fun _ h => by cases h; rfl)
      · exact .keep (.one (.ack ha (fun _ => hsyn) (by rw [hss]; nofun) hb)) nofun
      · exact .keep (.refl _) nofun
    by_cases hsr : s.state = .SynReceived
    · -- an acceptable ACK makes the connection ESTABLISHED before it is processed as there
      rw [ackOut_synReceived ha hsr]
      by_cases hb : modBounded s.snd.una .Lt g.hdr.ack .Leq s.snd.nxt = true
      · rw [if_pos hb]
        obtain ⟨k, -, nd⟩ := ackEstablished_effs ha (s := synAcked s g.hdr) nofun nofun (ackEstablishedProcessing_eq _ _)
        exact .keep ((Star.tail (.one (.established ha hsr hb)) (.window ha)).trans k) (ackResult_keeps nd)
      · rw [if_neg hb]
        exact .keep (.one (.reply (.inr (.inl ⟨rfl, ha, .inr ⟨hsr, Bool.eq_false_iff.2 hb⟩⟩)))) nofun
    by_cases htw : s.state = .TimeWait
    · rw [ackOut_timeWait htw]
      exact .keep (.refl _) nofun
    -- the synchronized states: `ack_established_processing`, then the moves our acknowledged FIN allows
    rw [ackOut_synchronized ha hss hsr htw]
    obtain ⟨k, st, nd⟩ := ackEstablished_effs ha hss hsr (ackEstablishedProcessing_eq s g.hdr)
    obtain ⟨hr, hu⟩ := ackExit_cases s.state (aep s g.hdr)
    have k' : Effs g 2 s (ackExit s.state (aep s g.hdr)).1 := by
      rcases hu with h | ⟨h1, h2, h⟩ | ⟨h1, h2, h⟩ <;> rw [h]
      · exact k
      · exact .tail k (.finWait2 ha (st.trans h1) h2)
      · exact .tail k (.timeWaitAcked ha (st.trans h1) h2)
    refine ⟨k', fun x hx hd => ?_⟩
    rcases hr with ⟨hl, hf, hr⟩ | ⟨-, hr⟩
    · -- LAST-ACK: nothing follows `ack_established_processing`
      rw [hr] at hx
      cases hx
      rcases hu with h | ⟨h1, -⟩ | ⟨h1, -⟩
      · rw [h]; exact .inr ⟨rfl, ha, st.trans hl, hf⟩
      · rw [hl] at h1; cases h1
      · rw [hl] at h1; cases h1
    · rw [hr] at hx
      exact absurd hd (by rw [ackResult_keeps nd x hx]; decide)

theorem rstBlock_effs {g : Segment} {s s' : Tcb} {q : Option ProcessSegmentResult}
    (e : rstBlock s g.hdr = .ok (s', q)) : Blk g 3 s s' q ∧ (q = none → g.hdr.ctl.rst = false) := by
  obtain ⟨rfl, hq⟩ := rstBlock_ok e
  refine ⟨⟨.refl _, fun x hx hd => .inl ?_⟩, hq.1⟩
  have hrst : g.hdr.ctl.rst = true := by
    cases h : g.hdr.ctl.rst with
    | true => rfl
    | false => rw [hq.2 h] at hx; cases hx
  refine ⟨hrst, fun hst => ?_⟩
  cases hack : g.hdr.ctl.ack with
  | true => rfl
  | false =>
    unfold rstBlock at e
    rw [hrst, hst, hack] at e
    cases e
    cases hx
    cases hd

theorem synBlock_effs {g : Segment} {s s' : Tcb} {q : Option ProcessSegmentResult}
    (e : synBlock s g.hdr = .ok (s', q)) (hrst : g.hdr.ctl.rst = false) : Blk g 4 s s' q := by
  rcases synBlock_ok e with ⟨-, rfl, ⟨-, rfl⟩ | ⟨-, rfl⟩⟩ | ⟨-, hns, rfl, rfl⟩ | ⟨hsyn, hst, hg, rfl, rfl⟩ |
    ⟨hsyn, hst, hg, rfl, rfl⟩
  · exact .keep (.refl _) (fun _ h => by cases h; rfl)
  · exact .keep (.refl _) nofun
  · exact .keep (.one (.reply (.inl ⟨hns, rfl⟩))) (fun _ h => by cases h; rfl)
  · have h1 := Eff.syn hsyn hrst hst
    rw [hg, if_pos rfl] at h1
    exact .keep (.tail (.one h1) (.reply (.inl ⟨nofun, rfl⟩))) nofun
  · have h1 := Eff.syn hsyn hrst hst
    rw [hg, if_neg (by decide)] at h1
    exact .keep (.tail (.one h1) (.reply (.inr (.inr ⟨rfl, rfl⟩)))) (fun _ h => by cases h; rfl)

theorem synBlock_falls {seg : Hdr} {s s' : Tcb} (e : synBlock s seg = .ok (s', none)) : s'.state ≠ .SynSent := by
  rcases synBlock_ok e with ⟨-, rfl, ⟨-, h⟩ | ⟨h, -⟩⟩ | ⟨-, -, -, h⟩ | ⟨-, -, -, -, rfl⟩ | ⟨-, -, -, h, -⟩
  · cases h
  · exact h
  · cases h
  · rw [(enqueueBuilt_frame _ _).state]; nofun
  · cases h

theorem textBlock_effs {g : Segment} {s s' : Tcb} {q : Option ProcessSegmentResult} (hns : s.state ≠ .SynSent)
    (e : textBlock s g.hdr g.text (tl g) = .ok (s', q)) : Blk g 5 s s' q := by
  obtain ⟨rfl, rfl | h⟩ := textBlock_ok e
  · exact .keep (.refl _) nofun
  · rw [h.eq]
    exact .keep (.tail (.one (.text hns (h.eq ▸ h) rfl rfl)) (.reply (.inl ⟨hns, rfl⟩))) nofun

theorem finBlock_effs {g : Segment} {s s' : Tcb} {q : Option ProcessSegmentResult}
    (e : finBlock s g.hdr (tl g) = .ok (s', q)) : Blk g 6 s s' q := by
  obtain ⟨rfl, ⟨-, rfl⟩ | ⟨hfin, s1, h1, h2⟩⟩ := finBlock_ok e
  · exact .keep (.refl _) nofun
  · refine .keep ?_ nofun
    have k1 : Effs g 6 s s1 := by
      rcases finAdvance_ok h1 with rfl | ⟨hns, hc, rfl⟩
      · exact .refl _
      · exact .tail (.one (.fin hfin hns hc)) (.reply (.inl ⟨hns, rfl⟩))
    refine k1.trans ?_
    rcases (finState_ok h2).2 with ⟨hs, rfl⟩ | ⟨hs, hf, rfl⟩ | ⟨hs, hf, rfl⟩ | ⟨hs, rfl⟩ | ⟨hs, rfl⟩ | ⟨-, rfl⟩
    · exact .one (.closeWait hfin hs)
    · exact .one (.timeWaitFin hfin (.inl ⟨hs, hf⟩))
    · exact .one (.closing hfin hs hf)
    · exact .tail (.one (.rto hfin hs)) (.timeWaitFin hfin (.inr (.inl hs)))
    · have h := Eff.timeWaitFin (g := g) (s := s1) hfin (.inr (.inr hs))
      rw [← hs] at h
      exact .one h
    · exact .refl _

/-! ## the pipeline -/

/-- the changes of blocks 1 … `k`, in this order -/
def Upto (g : Segment) : Nat → Tcb → Tcb → Prop
  | 0, s, u => u = s
  | k + 1, s, u => ∃ m, Upto g k s m ∧ Effs g (k + 1) m u

theorem Upto.succ {g : Segment} {k : Nat} {s u : Tcb} (h : Upto g k s u) : Upto g (k + 1) s u := ⟨u, h, .refl u⟩

theorem Upto.lift {g : Segment} {R : Tcb → Tcb → Prop} (refl : ∀ s, R s s) (trans : ∀ {a b c}, R a b → R b c → R a c)
    (eff : ∀ {k a b}, Eff g k a b → R a b) {k : Nat} {s u : Tcb} (h : Upto g k s u) : R s u := by
  induction k generalizing u with
  | zero => cases h; exact refl _
  | succ k ih =>
    obtain ⟨m, h1, h2⟩ := h
    exact trans (ih h1) (h2.lift refl trans eff)

theorem andThen_effs {g : Segment} {k : Nat} {x : B} {f : Tcb → B} {s s' : Tcb} {q : Option ProcessSegmentResult}
    (e : x.andThen f = .ok (s', q))
    (hx : ∀ {u p}, x = .ok (u, p) → Upto g k s u ∧ ∀ r0, p = some r0 → Returned g u r0)
    (hf : ∀ {u}, x = .ok (u, none) → f u = .ok (s', q) → Blk g (k + 1) u s' q) :
    Upto g (k + 1) s s' ∧ ∀ r0, q = some r0 → Returned g s' r0 := by
  rcases andThen_ok e with ⟨r0, e1, rfl⟩ | ⟨s1, e1, e2⟩
  · exact ⟨(hx e1).1.succ, (hx e1).2⟩
  · exact ⟨⟨s1, (hx e1).1, (hf e1 e2).1⟩, (hf e1 e2).2⟩

theorem processSegment_effs {s s' : Tcb} {g : Segment} {r : ProcessSegmentResult}
    (e : processSegment s g = .ok (s', r)) : Upto g 6 s s' ∧ Returned g s' r := by
  rw [processSegment_eq] at e
  obtain ⟨q, hx, hq⟩ := finish_ok e
  have k : Upto g 6 s s' ∧ ∀ r0, q = some r0 → Returned g s' r0 :=
    andThen_effs hx
      (fun e5 => andThen_effs e5
        (fun e4 => andThen_effs e4
          (fun e3 => andThen_effs e3
            (fun e2 => andThen_effs e2 (fun e1 => ⟨⟨s, rfl, (seqCheck_effs e1).1⟩, (seqCheck_effs e1).2⟩)
              fun _ => ackBlock_effs)
            fun _ h => (rstBlock_effs h).1)
          fun e3 h => by
            rcases andThen_ok e3 with ⟨_, _, h0⟩ | ⟨_, _, h3⟩
            · cases h0
            · exact synBlock_effs h ((rstBlock_effs h3).2 rfl))
        fun e4 => by
          rcases andThen_ok e4 with ⟨_, _, h0⟩ | ⟨_, _, h4⟩
          · cases h0
          · exact textBlock_effs (synBlock_falls h4))
      fun _ => finBlock_effs
  refine ⟨k.1, ?_⟩
  rcases hq with rfl | ⟨-, rfl⟩
  · exact k.2 r rfl
  · exact nofun

theorem processSegment_lift {R : Tcb → Tcb → Prop} {g : Segment} (refl : ∀ s, R s s)
    (trans : ∀ {a b c}, R a b → R b c → R a c) (eff : ∀ {k a b}, Eff g k a b → R a b) {s s' : Tcb}
    {r : ProcessSegmentResult} (e : processSegment s g = .ok (s', r)) : R s s' :=
  (processSegment_effs e).1.lift refl trans eff

/-! ## the reorder loop as a relation

`Drains s r s'` is what the loop of `segment_arrives` does from `s` when it has fuel to spare, which it always has
(`segment_arrives` hands it one more than there are parked segments, every round pops one, and `process_segment`
parks none).  Statements about the loop are made on `Drains`, without fuel: by induction on the derivation the
stop case knows why the loop stopped, and a forward evaluation builds a derivation. -/

theorem processSegment_heap (s : Tcb) (g : Segment) (s' : Tcb) (r : ProcessSegmentResult)
    (e : s.processSegment g = .ok (s', r)) : s'.incoming.segments = s.incoming.segments :=
  processSegment_lift (R := fun s s' => s'.incoming.segments = s.incoming.segments) (fun _ => rfl)
    (fun h1 h2 => h2.trans h1)
    (fun h => by
      cases h with
      | reply => exact congrArg Incoming.segments (enqueueBuilt_frame _ _).incoming
      | _ => rfl) e

/-- the loop has nothing to do: the heap is empty or, outside SYN-SENT, its root is ahead of `RCV.NXT` -/
def Stops (s : Tcb) : Prop :=
  ∀ top, LHeap.peek s.incoming.segments = some top → s.state ≠ .SynSent ∧ modGt top.hdr.seq s.rcv.nxt = true

/-- one round of the loop: the root `g` is not held back, is popped and processed -/
structure Pops (s : Tcb) (g : Segment) (rest : List Segment) (s1 : Tcb) (r1 : ProcessSegmentResult) : Prop where
  pop : LHeap.pop segLe s.incoming.segments = (some g, rest)
  gate : s.state ≠ .SynSent → modGt g.hdr.seq s.rcv.nxt = false
  proc : processSegment { s with incoming.segments := rest } g = .ok (s1, r1)

inductive Drains : Tcb → SegmentArrivesResult → Tcb → Prop
  | stop {s : Tcb} : Stops s → Drains s .Ok s
  | close {s s1 : Tcb} {g : Segment} {rest : List Segment} {r1 : ProcessSegmentResult} :
      Pops s g rest s1 r1 → r1.shouldDeleteTcb = true → Drains s .Close s1
  | step {s s1 s' : Tcb} {g : Segment} {rest : List Segment} {r1 : ProcessSegmentResult} {r : SegmentArrivesResult} :
      Pops s g rest s1 r1 → r1.shouldDeleteTcb = false → Drains s1 r s' → Drains s r s'

theorem Pops.peek {s s1 : Tcb} {g : Segment} {rest : List Segment} {r1 : ProcessSegmentResult}
    (p : Pops s g rest s1 r1) : LHeap.peek s.incoming.segments = some g := by
  rw [← LHeap.pop_fst segLe, p.pop]

theorem Pops.heap {s s1 : Tcb} {g : Segment} {rest : List Segment} {r1 : ProcessSegmentResult}
    (p : Pops s g rest s1 r1) : s1.incoming.segments = rest := processSegment_heap _ _ _ _ p.proc

theorem Pops.length {s s1 : Tcb} {g : Segment} {rest : List Segment} {r1 : ProcessSegmentResult}
    (p : Pops s g rest s1 r1) : s1.incoming.segments.length + 1 = s.incoming.segments.length := by
  rw [p.heap]; exact LHeap.pop_length p.pop

theorem Pops.mem {s s1 : Tcb} {g : Segment} {rest : List Segment} {r1 : ProcessSegmentResult}
    (p : Pops s g rest s1 r1) (x : Segment) : x ∈ s.incoming.segments ↔ x = g ∨ x ∈ s1.incoming.segments := by
  rw [p.heap, ← (LHeap.pop_perm segLe _ g rest p.pop).mem_iff]
  simp

theorem drain_round (n : Nat) (s : Tcb) :
    (Stops s ∧ drain (n + 1) s = .ok (s, .Ok)) ∨
    ∃ g rest, LHeap.pop segLe s.incoming.segments = (some g, rest) ∧
      (s.state ≠ .SynSent → modGt g.hdr.seq s.rcv.nxt = false) ∧
      drain (n + 1) s = match processSegment { s with incoming.segments := rest } g with
        | .error e => .error e
        | .ok (s1, r1) => if r1.shouldDeleteTcb then .ok (s1, .Close) else drain n s1 := by
  rw [Elvis.Tcp.drain_succ]
  cases hpeek : LHeap.peek s.incoming.segments with
  | none => exact Or.inl ⟨fun top h => (by rw [hpeek] at h; cases h), rfl⟩
  | some top =>
    dsimp only
    by_cases hgate : (s.state ≠ .SynSent && modGt top.hdr.seq s.rcv.nxt) = true
    · rw [if_pos hgate]
      refine Or.inl ⟨fun top' h => ?_, rfl⟩
      rw [hpeek] at h
      cases h
      simpa using hgate
    · rw [if_neg hgate]
      obtain ⟨rest, hpop⟩ := LHeap.pop_of_peek (le := segLe) hpeek
      refine Or.inr ⟨top, rest, hpop, fun hne => ?_, by rw [hpop]; rfl⟩
      cases hm : modGt top.hdr.seq s.rcv.nxt with
      | false => rfl
      | true => exact absurd (by simp [hne, hm]) hgate

theorem drains_of_drain (fuel : Nat) {s s' : Tcb} {r : SegmentArrivesResult} (hf : s.incoming.segments.length < fuel)
    (e : drain fuel s = .ok (s', r)) : Drains s r s' := by
  induction fuel generalizing s with
  | zero => omega
  | succ n ih =>
    rcases drain_round n s with ⟨hs, e0⟩ | ⟨g, rest, hpop, hgate, e0⟩
    · rw [e0] at e
      cases e
      exact .stop hs
    · rw [e0] at e
      cases hp : processSegment { s with incoming.segments := rest } g with
      | error x => rw [hp] at e; cases e
      | ok p =>
        obtain ⟨s1, r1⟩ := p
        rw [hp] at e
        dsimp only at e
        have P : Pops s g rest s1 r1 := ⟨hpop, hgate, hp⟩
        cases hd : r1.shouldDeleteTcb with
        | true => rw [hd, if_pos rfl] at e; cases e; exact .close P hd
        | false =>
          rw [hd, if_neg (by decide)] at e
          exact .step P hd (ih (by have := P.length; omega) e)

theorem drain_of_drains {s s' : Tcb} {r : SegmentArrivesResult} (d : Drains s r s') :
    ∀ fuel, s.incoming.segments.length < fuel → drain fuel s = .ok (s', r) := by
  -- a derivation that pops cannot meet a loop that stops, and pops what the loop pops
  have round : ∀ {s s1 : Tcb} {g rest r1} (n : Nat), Pops s g rest s1 r1 →
      drain (n + 1) s = if r1.shouldDeleteTcb then .ok (s1, .Close) else drain n s1 := by
    intro s s1 g rest r1 n P
    rcases drain_round n s with ⟨hs, _⟩ | ⟨g', rest', hpop', _, e0⟩
    · obtain ⟨hns, hgt⟩ := hs _ P.peek
      rw [P.gate hns] at hgt
      cases hgt
    · rw [P.pop] at hpop'
      cases hpop'
      rw [e0, P.proc]
  induction d with
  | @stop s hs =>
    intro fuel hf
    obtain ⟨n, rfl⟩ : ∃ n, fuel = n + 1 := ⟨fuel - 1, by omega⟩
    rcases drain_round n s with ⟨_, e0⟩ | ⟨g, rest, hpop, hgate, _⟩
    · exact e0
    · have hpeek : LHeap.peek s.incoming.segments = some g := by rw [← LHeap.pop_fst segLe, hpop]
      obtain ⟨hns, hgt⟩ := hs g hpeek
      rw [hgate hns] at hgt
      cases hgt
  | close P hd =>
    intro fuel hf
    obtain ⟨n, rfl⟩ : ∃ n, fuel = n + 1 := ⟨fuel - 1, by omega⟩
    rw [round n P, hd, if_pos rfl]
  | step P hd _ ih =>
    intro fuel hf
    obtain ⟨n, rfl⟩ : ∃ n, fuel = n + 1 := ⟨fuel - 1, by omega⟩
    rw [round n P, hd, if_neg (by decide)]
    exact ih n (by have := P.length; omega)

theorem drain_iff (fuel : Nat) {s s' : Tcb} {r : SegmentArrivesResult} (hf : s.incoming.segments.length < fuel) :
    drain fuel s = .ok (s', r) ↔ Drains s r s' :=
  ⟨drains_of_drain fuel hf, fun d => drain_of_drains d fuel hf⟩

theorem segmentArrives_iff {s s' : Tcb} {g : Segment} {r : SegmentArrivesResult} :
    s.segmentArrives g = .ok (s', r) ↔
    (s.state ≠ .SynSent ∧ s.isSeqOk (BitVec.ofNat 32 g.text.length) g.hdr.seq g.hdr.ctl.syn g.hdr.ctl.fin = .ok false ∧
      s' = s.enqueueBuilt s.ackHdr.built ∧ r = .Ok) ∨
    ((s.state = .SynSent ∨
        s.isSeqOk (BitVec.ofNat 32 g.text.length) g.hdr.seq g.hdr.ctl.syn g.hdr.ctl.fin = .ok true) ∧
      Drains { s with incoming.segments := LHeap.push segLe s.incoming.segments g } r s') := by
  constructor
  · intro e
    rcases segmentArrives_ok e with h | ⟨h, e1⟩
    · exact Or.inl h
    · exact Or.inr ⟨h, drains_of_drain _ (Nat.lt_succ_self _) e1⟩
  · rintro (⟨hns, hno, rfl, rfl⟩ | ⟨h, d⟩)
    · unfold segmentArrives
      dsimp only
      rw [if_neg hns, hno]
      dsimp only
      rw [enqueue_eq]
    · have e1 := drain_of_drains d _ (Nat.lt_succ_self _)
      unfold segmentArrives
      dsimp only
      by_cases hst : s.state = .SynSent
      · rw [if_pos hst]; exact e1
      · rw [if_neg hst, h.resolve_left hst]; exact e1

theorem Drains.rest {s s' : Tcb} (d : Drains s .Ok s') : Stops s' := by
  generalize hr : SegmentArrivesResult.Ok = r at d
  induction d with
  | stop hs => exact hs
  | close _ _ => cases hr
  | step _ _ _ ih => exact ih hr

theorem Drains.lift {R : Tcb → Tcb → Prop} (refl : ∀ s, R s s)
    (step : ∀ {s s1 s' : Tcb} {g : Segment} {rest : List Segment} {r1 : ProcessSegmentResult},
      Pops s g rest s1 r1 → R s1 s' → R s s') {s s' : Tcb} {r : SegmentArrivesResult} (d : Drains s r s') : R s s' := by
  induction d with
  | stop _ => exact refl _
  | close P _ => exact step P (refl _)
  | step P _ _ ih => exact step P ih

theorem Drains.sub {s s' : Tcb} {r : SegmentArrivesResult} (d : Drains s r s') :
    ∀ x ∈ s'.incoming.segments, x ∈ s.incoming.segments :=
  d.lift (R := fun s s' => ∀ x ∈ s'.incoming.segments, x ∈ s.incoming.segments) (fun _ _ h => h)
    fun P k x hx => (P.mem x).2 (Or.inr (k x hx))

/-! ### `segment_arrives` for a relation that asks something of the segments

`Q` is what is known of the arriving and of every parked segment.  The loop processes only what is parked, each
segment past the gate, and parks nothing; so it is enough that `process_segment` keeps the relation for a segment
with `Q` that passed the gate (`proc`), that the relation does not mind which segments with `Q` are parked (`heap`),
and that it holds when the segment is acknowledged and dropped (`reject`). -/

theorem segmentArrives_lift_mem {Q : Segment → Prop} {R : Tcb → Tcb → Prop} (refl : ∀ s, R s s)
    (trans : ∀ {a b c}, R a b → R b c → R a c)
    (heap : ∀ (s : Tcb) (h : List Segment), (∀ x ∈ h, Q x) → R s { s with incoming.segments := h })
    (proc : ∀ {s s' : Tcb} {g : Segment} {r : ProcessSegmentResult}, Q g →
      (s.state ≠ .SynSent → ModCmp.modGt g.hdr.seq s.rcv.nxt = false) → s.processSegment g = .ok (s', r) → R s s')
    (reject : ∀ s : Tcb, s.state ≠ .SynSent → R s (s.enqueueBuilt s.ackHdr.built))
    {s s' : Tcb} {g : Segment} {r : SegmentArrivesResult} (e : s.segmentArrives g = .ok (s', r)) (hg : Q g)
    (hq : ∀ x ∈ s.incoming.segments, Q x) : R s s' := by
  rcases segmentArrives_iff.1 e with ⟨hns, -, rfl, -⟩ | ⟨-, d⟩
  · exact reject s hns
  · have hp := LHeap.forall_mem_push (le := segLe) hg hq
    refine trans (heap s _ hp) (d.lift (R := fun s s' => (∀ x ∈ s.incoming.segments, Q x) → R s s')
      (fun s _ => refl s) ?_ hp)
    intro s s1 s' g rest r1 P k hq
    have hrest : ∀ x ∈ s1.incoming.segments, Q x := fun x hx => hq x ((P.mem x).2 (Or.inr hx))
    exact trans (heap s rest (P.heap ▸ hrest)) (trans (proc (hq g ((P.mem g).2 (Or.inl rfl))) P.gate P.proc) (k hrest))

theorem segmentArrives_lift {R : Tcb → Tcb → Prop} (refl : ∀ s, R s s) (trans : ∀ {a b c}, R a b → R b c → R a c)
    (heap : ∀ (s : Tcb) (h : List Segment), R s { s with incoming.segments := h })
    (eff : ∀ {g k a b}, Eff g k a b → R a b) {s s' : Tcb} {g : Segment} {r : SegmentArrivesResult}
    (e : s.segmentArrives g = .ok (s', r)) : R s s' :=
  segmentArrives_lift_mem (Q := fun _ => True) refl trans (fun s h _ => heap s h)
    (fun _ _ e => processSegment_lift refl trans eff e)
    (fun s hns => eff (g := g) (k := 1) (.reply (.inl ⟨hns, rfl⟩))) e trivial fun _ _ => trivial

theorem segmentArrives_parked {Q : Segment → Prop} {s s' : Tcb} {g : Segment} {r : SegmentArrivesResult}
    (e : s.segmentArrives g = .ok (s', r)) (hg : Q g) (hq : ∀ x ∈ s.incoming.segments, Q x) :
    ∀ x ∈ s'.incoming.segments, Q x := by
  rcases segmentArrives_iff.1 e with ⟨-, -, rfl, -⟩ | ⟨-, d⟩
  · rw [(enqueueBuilt_frame _ _).incoming]; exact hq
  · exact fun x hx => LHeap.forall_mem_push hg hq x (d.sub x hx)

theorem segmentArrives_idle {t t' : Tcb} {g : Segment} {res : SegmentArrivesResult} (hheap : t.incoming.segments = [])
    (hok : t.state ≠ .SynSent →
      t.isSeqOk (BitVec.ofNat 32 g.text.length) g.hdr.seq g.hdr.ctl.syn g.hdr.ctl.fin = .ok true ∧
      ModCmp.modGt g.hdr.seq t.rcv.nxt = false) :
    t.segmentArrives g = .ok (t', res) ↔
      ∃ r, t.processSegment g = .ok (t', r) ∧ res = if r.shouldDeleteTcb then .Close else .Ok := by
  have hpush : LHeap.push segLe t.incoming.segments g = [g] := by rw [hheap]; rfl
  -- a round pops `g` and leaves nothing
  have pops : ∀ {x rest s1 r1}, Pops { t with incoming.segments := [g] } x rest s1 r1 →
      t.processSegment g = .ok (s1, r1) ∧ s1.incoming.segments = [] := fun P => by
    have hp := P.pop
    rw [show LHeap.pop segLe [g] = (some g, []) from rfl] at hp
    cases hp
    refine ⟨?_, P.heap⟩
    rw [← P.proc, ← hheap]
  constructor
  · intro e
    rcases segmentArrives_iff.1 e with ⟨hns, hno, -⟩ | ⟨-, d⟩
    · rw [(hok hns).1] at hno; cases hno
    rw [hpush] at d
    cases d with
    | stop hs =>
      obtain ⟨hns, hgt⟩ := hs g rfl
      rw [(hok hns).2] at hgt; cases hgt
    | close P hd => exact ⟨_, (pops P).1, by rw [hd]; rfl⟩
    | step P hd d1 =>
      cases d1 with
      | stop _ => exact ⟨_, (pops P).1, by rw [hd]; rfl⟩
      | close P2 _ | step P2 _ _ => have := P2.peek; rw [(pops P).2] at this; cases this
  · rintro ⟨r, hp, rfl⟩
    have P : Pops { t with incoming.segments := LHeap.push segLe t.incoming.segments g } g [] t' r :=
      ⟨by rw [hpush]; rfl, fun h => (hok h).2, by rw [← hp, ← hheap]⟩
    refine segmentArrives_iff.2 (Or.inr ⟨Classical.or_iff_not_imp_left.2 fun h => (hok h).1, ?_⟩)
    cases hd : r.shouldDeleteTcb with
    | true => exact .close P hd
    | false =>
      exact .step P hd (.stop fun top h => by rw [processSegment_heap _ _ _ _ hp, hheap] at h; cases h)

end Tcb
end Elvis.Tcp
