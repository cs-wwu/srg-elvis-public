import ElvisVerif.Base.Heap
/-!
Correctness of the `std::collections::BinaryHeap` model (`Base/Heap.lean`) for element orders
that are total preorders (ties allowed — the reassembler's `Fragment` order):

* `push` / `pop` keep the heap shape invariant (`IsHeap`) and permute the contents;
* the root of a heap is a maximum, so `pop` returns a maximum;
* `drain` (pop until empty) lists the contents in non-increasing order.

For orders that are *not* total preorders (the TCB's circular sequence order) only the
permutation and size lemmas apply; they need no hypothesis on `le`.
-/
namespace Elvis.Heap
variable {α : Type}

structure TotalPreorder (le : α → α → Bool) : Prop where
  total : ∀ a b, le a b = true ∨ le b a = true
  trans : ∀ a b c, le a b = true → le b c = true → le a c = true

theorem TotalPreorder.refl {le : α → α → Bool} (tp : TotalPreorder le) (a : α) : le a a = true := by
  cases tp.total a a <;> assumption

def IsHeap (le : α → α → Bool) (d : Array α) : Prop :=
  ∀ i (hi : i < d.size), 0 < i → le d[i] (d[(i - 1) / 2]'(by omega)) = true

theorem siftUpF_perm (le : α → α → Bool) (fuel : Nat) (d : Array α) (pos : Nat)
    (h : pos < d.size) : (siftUpF le fuel d pos h).Perm d := by
  induction fuel generalizing d pos with
  | zero => exact .refl _
  | succ fuel ih =>
    unfold siftUpF
    split
    · split
      · exact .refl _
      · exact (ih _ _ _).trans (Array.swap_perm _ _)
    · exact .refl _

theorem siftUp_perm (le : α → α → Bool) (d : Array α) (pos : Nat) (h : pos < d.size) :
    (siftUp le d pos h).Perm d := siftUpF_perm le pos d pos h

theorem siftDownF_perm (le : α → α → Bool) (fuel : Nat) (d : Array α) (pos : Nat)
    (h : pos < d.size) : (siftDownF le fuel d pos h).Perm d := by
  induction fuel generalizing d pos with
  | zero => exact siftUp_perm le d pos h
  | succ fuel ih =>
    unfold siftDownF
    split
    · split <;> exact (ih _ _ _).trans (Array.swap_perm _ _)
    · split
      · exact (siftUp_perm le _ _ _).trans (Array.swap_perm _ _)
      · exact siftUp_perm le d pos h

@[simp] theorem size_siftUpF (le : α → α → Bool) (fuel : Nat) (d : Array α) (pos : Nat)
    (h : pos < d.size) : (siftUpF le fuel d pos h).size = d.size :=
  (siftUpF_perm le fuel d pos h).size_eq

@[simp] theorem size_siftUp (le : α → α → Bool) (d : Array α) (pos : Nat) (h : pos < d.size) :
    (siftUp le d pos h).size = d.size :=
  (siftUp_perm le d pos h).size_eq

@[simp] theorem size_siftDownF (le : α → α → Bool) (fuel : Nat) (d : Array α) (pos : Nat)
    (h : pos < d.size) : (siftDownF le fuel d pos h).size = d.size :=
  (siftDownF_perm le fuel d pos h).size_eq

@[simp] theorem size_push (le : α → α → Bool) (d : Array α) (x : α) :
    (push le d x).size = d.size + 1 := by simp [push]

theorem size_pop (le : α → α → Bool) (d : Array α) : (pop le d).2.size = d.size - 1 := by
  unfold pop
  by_cases h0 : d.size = 0
  · simp [h0]
  · simp only [h0, dite_false]
    by_cases h1 : d.pop.size = 0
    · simp only [h1, dite_true]; simp at h1; omega
    · simp only [h1, dite_false]; simp [siftDownToBottom]

theorem push_perm (le : α → α → Bool) (d : Array α) (x : α) : (push le d x).Perm (d.push x) :=
  siftUp_perm le _ _ _

theorem pop_empty (le : α → α → Bool) (d : Array α) (h : d.size = 0) : pop le d = (none, d) := by
  simp [pop, h]

theorem set_pop_push_perm (d : Array α) (h0 : 0 < d.size) (h : 0 < d.pop.size) :
    ((d.pop.set 0 (d[d.size - 1]'(by omega)) h).push d[0]).Perm d := by
  rw [Array.size_pop] at h
  have hsw : (d.pop.set 0 (d[d.size - 1]'(by omega)) (by rw [Array.size_pop]; exact h)).push d[0]
      = d.swap 0 (d.size - 1) h0 (by omega) := by
    apply Array.ext
    · rw [Array.size_push, Array.size_set, Array.size_pop, Array.size_swap]; omega
    · intro i hi1 hi2
      rw [Array.size_swap] at hi2
      rw [Array.getElem_push, Array.getElem_swap]
      simp only [Array.size_set, Array.size_pop, Array.getElem_set, Array.getElem_pop]
      by_cases ha : i < d.size - 1
      · rw [dif_pos ha]
        by_cases hb : i = 0
        · rw [if_pos hb.symm, if_pos hb]
        · rw [if_neg (Ne.symm hb), if_neg hb, if_neg (by omega)]
      · rw [dif_neg ha, if_neg (by omega), if_pos (by omega)]
  rw [hsw]
  exact Array.swap_perm _ _

theorem pop_nonempty (le : α → α → Bool) (d : Array α) (h : 0 < d.size) :
    ∃ d', pop le d = (some d[0], d') ∧ (d'.push d[0]).Perm d := by
  unfold pop
  have hne : ¬ d.size = 0 := by omega
  simp only [hne, dite_false]
  by_cases h1 : d.pop.size = 0
  · simp only [h1, dite_true]
    rw [Array.size_pop] at h1
    have hs : d.size - 1 = 0 := h1
    refine ⟨d.pop, by simp only [hs], ?_⟩
    have : d.pop.push d[0] = d := by
      apply Array.ext
      · rw [Array.size_push, Array.size_pop]; omega
      · intro i hi1 hi2
        obtain rfl : i = 0 := by omega
        rw [Array.getElem_push, dif_neg (by rw [Array.size_pop]; omega)]
    rw [this]
  · simp only [h1, dite_false]
    refine ⟨_, Prod.ext (by simp [Array.getElem_pop]) rfl, ?_⟩
    exact ((siftDownF_perm le _ _ _ _).push _).trans (set_pop_push_perm d h (by omega))

/-- heap except that the element at `pos` (a position without children out of order) may be
    greater than its ancestors -/
def UpInv (le : α → α → Bool) (d : Array α) (pos : Nat) (_h : pos < d.size) : Prop :=
  (∀ i (hi : i < d.size), 0 < i → i ≠ pos → le d[i] (d[(i - 1) / 2]'(by omega)) = true) ∧
  (∀ c (hc : c < d.size), 0 < c → (c - 1) / 2 = pos → 0 < pos →
    le d[c] (d[(pos - 1) / 2]'(by omega)) = true)

theorem UpInv.isHeap {le : α → α → Bool} {d : Array α} {pos : Nat} {h : pos < d.size}
    (inv : UpInv le d pos h) (hle : ∀ hp : 0 < pos, le d[pos] (d[(pos - 1) / 2]'(by omega)) = true) :
    IsHeap le d := by
  intro i hi hi0
  by_cases hip : i = pos
  · subst hip; exact hle hi0
  · exact inv.1 i hi hi0 hip

theorem UpInv.swap_parent {le : α → α → Bool} (tp : TotalPreorder le) {d : Array α} {pos : Nat}
    {h : pos < d.size} (inv : UpInv le d pos h) (hp : 0 < pos)
    (hle : le (d[(pos - 1) / 2]'(by omega)) d[pos] = true) :
    UpInv le (d.swap pos ((pos - 1) / 2) h (by omega)) ((pos - 1) / 2)
      (by rw [Array.size_swap]; omega) := by
  obtain ⟨i1, i2⟩ := inv
  constructor
  · intro i hi hi0 hne
    rw [Array.size_swap] at hi
    rw [Array.getElem_swap, Array.getElem_swap]
    by_cases hip : i = pos
    · -- the two exchanged positions
      subst hip
      rw [if_pos rfl, if_neg (by omega), if_pos rfl]
      exact hle
    · rw [if_neg hip, if_neg hne]
      by_cases hpp : (i - 1) / 2 = pos
      · -- a child of `pos` is now under the former parent of `pos`
        rw [if_pos hpp]
        exact i2 i hi hi0 hpp hp
      · rw [if_neg hpp]
        have hi1 := i1 i hi hi0 hip
        by_cases hpq : (i - 1) / 2 = (pos - 1) / 2
        · -- the sibling of `pos` is now under the former `d[pos]`
          rw [if_pos hpq]
          simp only [hpq] at hi1
          exact tp.trans _ _ _ hi1 hle
        · rw [if_neg hpq]
          exact hi1
  · -- `pos` and its sibling against their grandparent, which the swap leaves alone
    intro c hc hc0 hcp hq0
    rw [Array.size_swap] at hc
    rw [Array.getElem_swap, Array.getElem_swap]
    have hq := i1 ((pos - 1) / 2) (by omega) hq0 (by omega)
    -- each `if_neg (by omega)` rewrites the first conditional left in the goal
    by_cases hcpos : c = pos
    · rw [if_pos hcpos, if_neg (by omega), if_neg (by omega)]
      exact hq
    · rw [if_neg hcpos, if_neg (by omega), if_neg (by omega), if_neg (by omega)]
      have hc1 := i1 c hc hc0 hcpos
      simp only [hcp] at hc1
      exact tp.trans _ _ _ hc1 hq

theorem siftUpF_heap {le : α → α → Bool} (tp : TotalPreorder le) (fuel : Nat) :
    ∀ (d : Array α) (pos : Nat) (h : pos < d.size), pos ≤ fuel → UpInv le d pos h →
      IsHeap le (siftUpF le fuel d pos h) := by
  induction fuel with
  | zero => intro d pos h hf inv; exact inv.isHeap (fun hp => by omega)
  | succ fuel ih =>
    intro d pos h hf inv
    unfold siftUpF
    split
    · rename_i hp
      split
      · rename_i hle
        exact inv.isHeap (fun _ => hle)
      · rename_i hle
        apply ih _ _ _ (by omega)
        exact inv.swap_parent tp hp ((tp.total _ _).resolve_left hle)
    · exact inv.isHeap (fun hp => by omega)

theorem siftUp_heap {le : α → α → Bool} (tp : TotalPreorder le) (d : Array α) (pos : Nat)
    (h : pos < d.size) (inv : UpInv le d pos h) : IsHeap le (siftUp le d pos h) :=
  siftUpF_heap tp pos d pos h (Nat.le_refl _) inv

/-- heap with a hole at `pos`: nothing is known about the element at `pos` -/
def DownInv (le : α → α → Bool) (d : Array α) (pos : Nat) (_h : pos < d.size) : Prop :=
  (∀ i (hi : i < d.size), 0 < i → i ≠ pos → (i - 1) / 2 ≠ pos →
    le d[i] (d[(i - 1) / 2]'(by omega)) = true) ∧
  (∀ c (hc : c < d.size), 0 < c → (c - 1) / 2 = pos → 0 < pos →
    le d[c] (d[(pos - 1) / 2]'(by omega)) = true)

theorem DownInv.up {le : α → α → Bool} {d : Array α} {pos : Nat} {h : pos < d.size}
    (inv : DownInv le d pos h) (leaf : ∀ i, i < d.size → 0 < i → (i - 1) / 2 ≠ pos) :
    UpInv le d pos h :=
  ⟨fun i hi hi0 hip => inv.1 i hi hi0 hip (leaf i hi hi0), inv.2⟩

theorem DownInv.swap_child {le : α → α → Bool} {d : Array α} {pos c : Nat} {h : pos < d.size}
    (inv : DownInv le d pos h) (hc : c < d.size) (hc0 : 0 < c) (hcp : (c - 1) / 2 = pos)
    (hmax : ∀ i (hi : i < d.size), 0 < i → (i - 1) / 2 = pos → le d[i] d[c] = true) :
    DownInv le (d.swap pos c h hc) c (by rw [Array.size_swap]; exact hc) := by
  obtain ⟨i1, i2⟩ := inv
  constructor
  · intro i hi hi0 hne hpne
    rw [Array.size_swap] at hi
    rw [Array.getElem_swap, Array.getElem_swap]
    by_cases hip : i = pos
    · -- the former `d[c]` against the parent of `pos`
      subst hip
      rw [if_pos rfl, if_neg (by omega), if_neg (by omega)]
      exact i2 c hc hc0 hcp hi0
    · rw [if_neg hip, if_neg hne]
      by_cases hpp : (i - 1) / 2 = pos
      · -- the other child of `pos` against the former `d[c]`
        rw [if_pos hpp]
        exact hmax i hi hi0 hpp
      · rw [if_neg hpp, if_neg hpne]
        exact i1 i hi hi0 hip hpp
  · -- a child of `c` against the former `d[c]`, now at `pos`
    intro k hk hk0 hkc _
    rw [Array.size_swap] at hk
    rw [Array.getElem_swap, Array.getElem_swap, if_neg (by omega), if_neg (by omega), if_pos hcp]
    have hk1 := i1 k hk hk0 (by omega) (by omega)
    simp only [hkc] at hk1
    exact hk1

theorem siftDownF_heap {le : α → α → Bool} (tp : TotalPreorder le) (fuel : Nat) :
    ∀ (d : Array α) (pos : Nat) (h : pos < d.size), d.size ≤ pos + fuel → DownInv le d pos h →
      IsHeap le (siftDownF le fuel d pos h) := by
  induction fuel with
  | zero => intro d pos h hf _; omega
  | succ fuel ih =>
    intro d pos h hf inv
    unfold siftDownF
    split
    · rename_i h2
      split
      · rename_i hc
        apply ih _ _ _ (by rw [Array.size_swap]; omega)
        apply inv.swap_child h2 (by omega) (by omega)
        intro i hi _ hip
        rcases (by omega : i = 2 * pos + 1 ∨ i = 2 * pos + 2) with rfl | rfl
        · exact hc
        · exact tp.refl _
      · rename_i hc
        apply ih _ _ _ (by rw [Array.size_swap]; omega)
        apply inv.swap_child (by omega) (by omega) (by omega)
        intro i hi _ hip
        rcases (by omega : i = 2 * pos + 1 ∨ i = 2 * pos + 2) with rfl | rfl
        · exact tp.refl _
        · exact (tp.total _ _).resolve_left hc
    · split
      · apply siftUp_heap tp
        apply DownInv.up
        · apply inv.swap_child (by omega) (by omega) (by omega)
          intro i hi _ hip
          obtain rfl : i = 2 * pos + 1 := by omega
          exact tp.refl _
        · intro i hi _
          rw [Array.size_swap] at hi
          omega
      · apply siftUp_heap tp
        exact inv.up (fun i hi _ => by omega)

theorem push_heap {le : α → α → Bool} (tp : TotalPreorder le) (d : Array α) (x : α)
    (hd : IsHeap le d) : IsHeap le (push le d x) := by
  apply siftUp_heap tp
  constructor
  · intro i hi hpos hne
    simp only [Array.size_push] at hi
    have hi' : i < d.size := by omega
    have := hd i hi' hpos
    simp only [Array.getElem_push]
    rw [dif_pos hi', dif_pos (by omega)]
    exact this
  · intro c hc hcpos hcp hpp
    simp only [Array.size_push] at hc
    omega

theorem pop_heap {le : α → α → Bool} (tp : TotalPreorder le) (d : Array α) (hd : IsHeap le d) :
    IsHeap le (pop le d).2 := by
  unfold pop
  by_cases h0 : d.size = 0
  · simp only [h0, dite_true]; exact hd
  · simp only [h0, dite_false]
    by_cases h1 : d.pop.size = 0
    · simp only [h1, dite_true]
      intro i hi; omega
    · simp only [h1, dite_false]
      apply siftDownF_heap tp _ _ _ _ (by omega)
      constructor
      · intro i hi hpos hne hpar
        simp only [Array.size_set, Array.size_pop] at hi
        have := hd i (by omega) hpos
        simp only [Array.getElem_set, Array.getElem_pop]
        rw [if_neg (by omega), if_neg (by omega)]
        exact this
      · intro c hc hcpos hcp hpp
        omega

theorem root_max {le : α → α → Bool} (tp : TotalPreorder le) (d : Array α) (hd : IsHeap le d) :
    ∀ i (hi : i < d.size), le d[i] (d[0]'(by omega)) = true := by
  intro i
  induction i using Nat.strongRecOn with
  | _ i ih =>
    intro hi
    by_cases h0 : i = 0
    · subst h0; exact tp.refl _
    · have h1 := hd i hi (by omega)
      have h2 := ih ((i - 1) / 2) (by omega) (by omega)
      exact tp.trans _ _ _ h1 h2

theorem pop_spec {le : α → α → Bool} (tp : TotalPreorder le) (d : Array α) (hd : IsHeap le d)
    (h : 0 < d.size) :
    ∃ x d', pop le d = (some x, d') ∧ (x :: d'.toList).Perm d.toList ∧ IsHeap le d' ∧
      (∀ y ∈ d.toList, le y x = true) ∧ d'.size = d.size - 1 := by
  obtain ⟨d', e, p⟩ := pop_nonempty le d h
  refine ⟨d[0], d', e, ?_, ?_, ?_, ?_⟩
  · have := Array.perm_iff_toList_perm.1 p
    simp only [Array.toList_push] at this
    exact (List.perm_append_singleton _ _).symm.trans this
  · have := pop_heap tp d hd; rw [e] at this; exact this
  · intro y hy
    obtain ⟨i, hi, rfl⟩ := List.getElem_of_mem hy
    have := root_max tp d hd i (by simpa using hi)
    simpa using this
  · have := size_pop le d; rw [e] at this; exact this

theorem drainFuel_spec {le : α → α → Bool} (tp : TotalPreorder le) (n : Nat) :
    ∀ (d : Array α), IsHeap le d → d.size = n →
      (drainFuel le n d).Perm d.toList ∧
      (drainFuel le n d).Pairwise (fun a b => le b a = true) := by
  induction n with
  | zero =>
    intro d _ hs
    have : d = #[] := by apply Array.eq_empty_of_size_eq_zero hs
    subst this
    simp [drainFuel]
  | succ n ih =>
    intro d hd hs
    obtain ⟨x, d', e, p, hd', hmax, hs'⟩ := pop_spec tp d hd (by omega)
    obtain ⟨p', s'⟩ := ih d' hd' (by omega)
    simp only [drainFuel, e]
    refine ⟨(List.Perm.cons x p').trans p, ?_⟩
    rw [List.pairwise_cons]
    refine ⟨?_, s'⟩
    intro y hy
    have hy' : y ∈ d'.toList := p'.mem_iff.1 hy
    exact hmax y (p.mem_iff.1 (List.mem_cons_of_mem x hy'))

theorem drain_spec {le : α → α → Bool} (tp : TotalPreorder le) (d : Array α) (hd : IsHeap le d) :
    (drain le d).Perm d.toList ∧ (drain le d).Pairwise (fun a b => le b a = true) :=
  drainFuel_spec tp d.size d hd rfl

theorem isHeap_empty (le : α → α → Bool) : IsHeap le (#[] : Array α) := by
  intro i hi; simp at hi

end Elvis.Heap
