import ElvisVerif.Lemmas.TcpRelSeqSys
/-!
# The two `close()` calls of a simultaneous close commute

`releaseRoundBA` is `releaseRound` (`Lemmas/TcpRelSys.lean`) with the closes issued in the other order
(`close B`, `close A`).  `close` on one side reads and writes that side only, so whenever `releaseRound` is
defined, `releaseRoundBA` is defined and ends in the same state.
-/
namespace Elvis.Tcp
open Tcb

theorem close_comm (s s1 s2 : Sys) (r1 r2 : Res) (h1 : s.step (.close .A) = .ok (s1, r1))
    (h2 : s1.step (.close .B) = .ok (s2, r2)) :
    ∃ s1' r1' r2', s.step (.close .B) = .ok (s1', r1') ∧ s1'.step (.close .A) = .ok (s2, r2') := by
  cases step_iff.1 h1 with
  | noTcb _ ha =>
    cases step_iff.1 h2 with
    | noTcb _ hb => exact ⟨s, _, _, h2, h1⟩
    | close hb e => exact ⟨_, _, _, h2, step_iff.2 (.noTcb (op := .close .A) trivial ha)⟩
  | close ha ea =>
    cases step_iff.1 h2 with
    | noTcb _ hb => exact ⟨s, _, _, step_iff.2 (.noTcb (op := .close .B) trivial hb), h1⟩
    | close hb eb =>
      exact ⟨_, _, _, step_iff.2 (Sys.Step.close (s := s) (x := .B) hb eb),
        step_iff.2 (Sys.Step.close (x := .A) ha ea)⟩

def releaseRoundBA (s : Sys) : Except String Sys :=
  match s.step (.close .B) with
  | .error e => .error e
  | .ok (s1, _) =>
  match s1.step (.close .A) with
  | .error e => .error e
  | .ok (s2, _) =>
  match phase s2 with
  | .error e => .error e
  | .ok s3 =>
  match phase s3 with
  | .error e => .error e
  | .ok s4 =>
  match s4.step (.tick .A (TIME_WAIT + 1)) with
  | .error e => .error e
  | .ok (s5, _) =>
  match s5.step (.tick .B (TIME_WAIT + 1)) with
  | .error e => .error e
  | .ok (s6, _) => .ok s6

theorem releaseRoundBA_of_releaseRound (s s' : Sys) (h : releaseRound s = .ok s') : releaseRoundBA s = .ok s' := by
  unfold releaseRound at h
  split at h
  · cases h
  · rename_i s1 r1 st1
    split at h
    · cases h
    · rename_i s2 r2 st2
      obtain ⟨s1', r1', r2', e1, e2⟩ := close_comm s s1 s2 r1 r2 st1 st2
      unfold releaseRoundBA
      rw [e1]
      dsimp only
      rw [e2]
      exact h

end Elvis.Tcp
