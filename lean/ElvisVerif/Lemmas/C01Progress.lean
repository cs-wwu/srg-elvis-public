import ElvisVerif.Lemmas.C01Proc
/-!
# C01 — forward evaluation of one arrival in ESTABLISHED; the single-step progress facts of `Props/C01Progress.lean`

An ESTABLISHED endpoint (advertising 65535) with an empty reorder heap takes a segment without RST, SYN, FIN: the
segment is parked, popped again and processed at once (`arrive_one`); block 2 processes the ACK field (`ackEst_fwd` /
`AckFx`, `ackBlock_success`), block 5 the text (`textBlock_fwd`), the other blocks do nothing (`processSegment_est`,
`arrive_plain`).
-/
namespace Elvis.Tcp.C01
open Elvis.ModCmp Elvis.Tcp.Tcb

theorem gate_pass (seq nxt : Seq) (d : Nat) (hd : d < 2147483648) (h : seq + BitVec.ofNat 32 d = nxt) :
    modGt seq nxt = false := by
  subst h
  unfold modGt
  cases hm : modLt (seq + BitVec.ofNat 32 d) seq with
  | false => rfl
  | true =>
    rw [modLt_iff, ← BitVec.sub_sub, BitVec.sub_self, BitVec.zero_sub, BitVec.toNat_neg, BitVec.toNat_ofNat] at hm
    omega

theorem isSeqOk_ack {t : Tcb} {g : Segment} (hw : t.rcv.wnd = 65535#16) (htext : g.text = [])
    (hsyn : g.hdr.ctl.syn = false) (hfin : g.hdr.ctl.fin = false) (hseq : g.hdr.seq = t.rcv.nxt) :
    t.isSeqOk (BitVec.ofNat 32 g.text.length) g.hdr.seq g.hdr.ctl.syn g.hdr.ctl.fin = .ok true := by
  rw [hseq]
  exact isSeqOk_nxt (by rw [hw]; decide) (by rw [htext, hsyn, hfin]; decide)

theorem push_nil (g : Segment) : LHeap.push segLe [] g = [g] := rfl
theorem peek_single (g : Segment) : LHeap.peek [g] = some g := rfl
theorem pop_single (g : Segment) : LHeap.pop segLe [g] = (some g, []) := rfl

end Elvis.Tcp.C01

namespace Elvis.Tcp.Tcb
open Elvis.ModCmp

/-- `segment_arrives` with an empty reorder heap, for a segment that passes the acceptability test and the gate
    (SYN-SENT asks neither): the segment is pushed, popped again and processed, and the loop finds nothing more -/
theorem arrive_one (t : Tcb) (g : Segment) (hheap : t.incoming.segments = [])
    (hok : t.state ≠ .SynSent →
      t.isSeqOk (BitVec.ofNat 32 g.text.length) g.hdr.seq g.hdr.ctl.syn g.hdr.ctl.fin = .ok true ∧
      modGt g.hdr.seq t.rcv.nxt = false)
    (t' : Tcb) (r : ProcessSegmentResult) (hp : t.processSegment g = .ok (t', r)) :
    t.segmentArrives g = .ok (t', if r.shouldDeleteTcb then .Close else .Ok) :=
  (segmentArrives_idle hheap hok).2 ⟨r, hp, rfl⟩

/-- the effect of `ack_established_processing` for an ACK field that is old or acceptable -/
structure AckFx (t : Tcb) (seg : Hdr) (t1 : Tcb) : Prop where
  una : t1.snd.una = if modLeq seg.ack t.snd.una then t.snd.una else seg.ack
  rtx : t1.outgoing.retransmit = if modLeq seg.ack t.snd.una then t.outgoing.retransmit
    else t.outgoing.retransmit.filter (keepFor seg.ack)
  rcv : t1.rcv = t.rcv
  inc : t1.incoming = t.incoming
  st : t1.state = t.state
  otext : t1.outgoing.text = t.outgoing.text
  one : t1.outgoing.oneshot = t.outgoing.oneshot
  nxt : t1.snd.nxt = t.snd.nxt
  iss : t1.snd.iss = t.snd.iss
  mtu : t1.mtu = t.mtu

theorem ackEst_fwd (t : Tcb) (seg : Hdr)
    (hg : modLeq seg.ack t.snd.una = true ∨ modBounded t.snd.una .Lt seg.ack .Leq t.snd.nxt = true) :
    ∃ t1, t.ackEstablishedProcessing seg = .ok (t1, .Success) ∧ AckFx t seg t1 := by
  rw [ackEstablishedProcessing_eq]
  by_cases h1 : modLeq seg.ack t.snd.una = true
  · rw [aep_old h1]
    exact ⟨t, rfl, by rw [if_pos h1], by rw [if_pos h1], rfl, rfl, rfl, rfl, rfl, rfl, rfl, rfl⟩
  · rw [aep_new (Bool.eq_false_iff.2 h1) (hg.resolve_left h1)]
    refine ⟨_, rfl, ?_⟩
    -- the window update touches `SND.WND`, `SND.WL1`, `SND.WL2` only
    unfold wndTaken
    split <;> exact ⟨by rw [if_neg h1]; rfl, by rw [if_neg h1]; rfl, rfl, rfl, rfl, rfl, rfl, rfl, rfl, rfl⟩

theorem ackBlock_success (t t1 : Tcb) (seg : Hdr) (hack : seg.ctl.ack = true)
    (e1 : t.ackEstablishedProcessing seg = .ok (t1, .Success)) :
    (t.state = .Established ∨ t.state = .FinWait2 → ackBlock t seg = .ok (t1, none)) ∧
    (t.state = .FinWait1 →
      ackBlock t seg = .ok (if t1.isFinAcked then ({ t1 with state := .FinWait2 } : Tcb) else t1, none)) ∧
    (t.state = .Closing → ackBlock t seg =
      .ok (if t1.isFinAcked then ({ t1 with state := .TimeWait, timeouts.timeWait := some TIME_WAIT } : Tcb) else t1,
        none)) := by
  have hv : aep t seg = (t1, .Success) := by
    rw [ackEstablishedProcessing_eq] at e1
    exact Except.ok.inj e1
  have key : ∀ st, t.state = st → st ≠ .SynSent → st ≠ .SynReceived → st ≠ .TimeWait →
      ackBlock t seg = .ok (ackExit st (t1, .Success)) := by
    intro st h h1 h2 h3
    subst h
    rw [ackBlock_eq, ackOut_synchronized hack h1 h2 h3, hv]
  refine ⟨fun h => ?_, fun h => key _ h (by simp) (by simp) (by simp), fun h => key _ h (by simp) (by simp) (by simp)⟩
  rcases h with h | h
  all_goals exact key _ h (by simp) (by simp) (by simp)

structure Plain (t : Tcb) (g : Hdr) : Prop where
  rst : g.ctl.rst = false
  syn : g.ctl.syn = false
  fin : g.ctl.fin = false
  ack : g.ctl.ack = true
  good : modLeq g.ack t.snd.una = true ∨ modBounded t.snd.una .Lt g.ack .Leq t.snd.nxt = true

theorem processSegment_est {t t1 t' : Tcb} {g : Segment} (hst : t.state = .Established)
    (hok : t.isSeqOk (BitVec.ofNat 32 g.text.length) g.hdr.seq g.hdr.ctl.syn g.hdr.ctl.fin = .ok true)
    (hrst : g.hdr.ctl.rst = false) (hsyn : g.hdr.ctl.syn = false) (hfin : g.hdr.ctl.fin = false)
    (e2 : ackBlock t g.hdr = .ok (t1, none)) (hst1 : t1.state = .Established)
    (e5 : textBlock t1 g.hdr g.text (BitVec.ofNat 32 g.text.length) = .ok (t', none)) :
    t.processSegment g = .ok (t', .Success) :=
  processSegment_plain (seqCheck_pass (by rw [hst]; nofun) hok) e2 (by rw [hst1]; nofun) hrst hsyn e5 (finBlock_pass hfin)

theorem arrive_plain (t : Tcb) (g : Segment) (hst : t.state = .Established) (hheap : t.incoming.segments = [])
    (hp : Plain t g.hdr)
    (hok : t.isSeqOk (BitVec.ofNat 32 g.text.length) g.hdr.seq g.hdr.ctl.syn g.hdr.ctl.fin = .ok true)
    (hgate : modGt g.hdr.seq t.rcv.nxt = false) :
    ∃ t1, AckFx t g.hdr t1 ∧ ∀ t', textBlock t1 g.hdr g.text (BitVec.ofNat 32 g.text.length) = .ok (t', none) →
      t.segmentArrives g = .ok (t', .Ok) := by
  obtain ⟨t1, e1, fx⟩ := ackEst_fwd t g.hdr hp.good
  exact ⟨t1, fx, fun t' e5 => arrive_one t g hheap (fun _ => ⟨hok, hgate⟩) t' _
    (processSegment_est hst hok hp.rst hp.syn hp.fin ((ackBlock_success t t1 g.hdr hp.ack e1).1 (Or.inl hst))
      (fx.st.trans hst) e5)⟩

theorem arrive_ack_fwd (t : Tcb) (g : Segment) (hst : t.state = .Established) (hw : t.rcv.wnd = 65535#16)
    (hheap : t.incoming.segments = []) (hp : Plain t g.hdr) (htext : g.text = []) (hseq : g.hdr.seq = t.rcv.nxt) :
    ∃ t1, t.segmentArrives g = .ok (t1, .Ok) ∧ AckFx t g.hdr t1 := by
  have hok := C01.isSeqOk_ack hw htext hp.syn hp.fin hseq
  obtain ⟨t1, fx, hk⟩ := arrive_plain t g hst hheap hp hok (by rw [hseq]; exact modGt_self _)
  exact ⟨t1, hk t1 (by rw [htext]; exact textBlock_pass _ _ _), fx⟩

theorem behind_toNat (seq nxt : Seq) (d : Nat) (hd : d < 2147483648) (h : seq + BitVec.ofNat 32 d = nxt) :
    (nxt - seq).toNat = d := by
  rw [← h, BitVec.add_comm, BitVec.add_sub_cancel, BitVec.toNat_ofNat]
  omega

theorem isSeqOk_catch (t : Tcb) (seq : Seq) (len d : Nat) (hw : t.rcv.wnd = 65535#16)
    (hseq : seq + BitVec.ofNat 32 d = t.rcv.nxt) (hpos : 0 < len) (hd : d ≤ len) (hlen : len ≤ 65535) :
    t.isSeqOk (BitVec.ofNat 32 len) seq false false = .ok true := by
  have htl : (BitVec.ofNat 32 len).toNat = len := C01.ofNat_toNat_lt _ (by omega)
  have hw0 : ¬ t.rcv.wnd = 0 := by rw [hw]; decide
  -- the last byte of the segment is in the window, or (`d = SEG.LEN`) it is the byte just before the window
  have : t.isInRcvWindow (seq + BitVec.ofNat 32 len - 1) = true := by
    obtain ⟨m, rfl⟩ : ∃ m, len = m + 1 := ⟨len - 1, by omega⟩
    have one : BitVec.ofNat 32 1 = (1 : Seq) := rfl
    have h16 : (65535#16 : BitVec 16).toNat = 65535 := rfl
    rw [isInRcvWindow_iff, ← hseq, BitVec.ofNat_add, ← BitVec.add_assoc, one, BitVec.add_sub_cancel, C01.cancel, hw,
      BitVec.toNat_sub, BitVec.toNat_ofNat, BitVec.toNat_ofNat, Nat.mod_eq_of_lt (show m < 2 ^ 32 by omega),
      Nat.mod_eq_of_lt (show d < 2 ^ 32 by omega), h16]
    omega
  rw [isSeqOk_eq, htl]
  simp only [Bool.toNat_false, Nat.add_zero]
  rw [if_neg (by omega), acceptable_pos (by omega) hw0, this, Bool.or_true]

theorem textBlock_fwd (t : Tcb) (seg : Hdr) (text : List UInt8) (d : Nat) (hst : t.state = .Established)
    (hw : t.rcv.wnd = 65535#16) (hsyn : seg.ctl.syn = false) (hseq : seg.seq + BitVec.ofNat 32 d = t.rcv.nxt)
    (hne : text ≠ []) (hd : d ≤ text.length) (hlen : text.length ≤ 65535) (hin : t.incoming.text.length ≤ 65535) :
    textBlock t seg text (BitVec.ofNat 32 text.length) =
      .ok (textTaken t seg text (BitVec.ofNat 32 text.length), none) ∧
    (alreadyReceived t seg (BitVec.ofNat 32 text.length)).toNat = d ∧
    acceptLen t seg (BitVec.ofNat 32 text.length) = min (text.length - d) (65535 - t.incoming.text.length) := by
  have h16 : (65535#16 : BitVec 16).toNat = 65535 := rfl
  have hlt : text.length < 4294967296 := Nat.lt_of_le_of_lt hlen (by decide)
  have htl : (BitVec.ofNat 32 text.length).toNat = text.length := C01.ofNat_toNat_lt _ hlt
  have hmod : t.incoming.text.length % 4294967296 = t.incoming.text.length :=
    Nat.mod_eq_of_lt (Nat.lt_of_le_of_lt hin (by decide))
  -- the `assert!`: the first byte (`d = 0`) or the byte after the last is in the window
  have hwin : (t.isInRcvWindow seg.seq || t.isInRcvWindow (seg.seq + BitVec.ofNat 32 text.length)) = true := by
    rw [Bool.or_eq_true, isInRcvWindow_iff, isInRcvWindow_iff, hw, h16]
    by_cases hd0 : d = 0
    · left; left
      have : seg.seq - t.rcv.nxt = 0 := by rw [← hseq, hd0]; simp
      rw [this]; decide
    · right; left
      have e : seg.seq + BitVec.ofNat 32 text.length = t.rcv.nxt + BitVec.ofNat 32 (text.length - d) := by
        rw [← hseq, C01.add_ofNat_assoc, Nat.add_sub_cancel' hd]
      rw [e, BitVec.add_comm, BitVec.add_sub_cancel, BitVec.toNat_ofNat]
      omega
  have ha : (alreadyReceived t seg (BitVec.ofNat 32 text.length)).toNat = d := by
    rw [alreadyReceived_toNat, hsyn, C01.sub_zero_ofNat, behind_toNat _ _ _ (Nat.lt_of_le_of_lt hd (by omega)) hseq, htl]
    exact Nat.min_eq_left hd
  have hacc : acceptLen t seg (BitVec.ofNat 32 text.length) = min (text.length - d) (65535 - t.incoming.text.length) := by
    unfold acceptLen
    rw [ha, htl, hw, h16, hmod]
  exact ⟨textBlock_taken hne (by rw [hst]; rfl) hwin (by rw [ha, htl]; exact hd) (by rw [hmod, hw, h16]; exact hin)
    (by rw [ha, hacc]; omega) (by rw [ha, hacc]; omega), ha, hacc⟩

end Elvis.Tcp.Tcb

namespace Elvis.Tcp.C01
open Elvis.ModCmp Elvis.Tcp.Tcb

theorem ackBlock_falls {t : Tcb} {seg : Hdr} (hst : t.state = .Established)
    (hack : seg.ctl.ack = true →
      (modLeq seg.ack t.snd.una || modBounded t.snd.una .Lt seg.ack .Leq t.snd.nxt) = true) :
    ∃ t2, ackBlock t seg = .ok (t2, none) ∧ t2.rcv = t.rcv ∧ t2.incoming = t.incoming ∧ t2.state = .Established := by
  cases ha : seg.ctl.ack with
  | false => exact ⟨t, ackBlock_noAck ha, rfl, rfl, hst⟩
  | true =>
    obtain ⟨t1, e1, fx⟩ := ackEst_fwd t seg (Bool.or_eq_true_iff.1 (hack ha))
    exact ⟨t1, (ackBlock_success t t1 seg ha e1).1 (.inl hst), fx.rcv, fx.inc, fx.st.trans hst⟩

/-- the number of bytes the text block accepts from `text = submitted[p, p+len)` at `RCV.NXT = q` -/
def acceptLen (t : Tcb) (p q len : Nat) : Nat := min (len - (q - p)) (65535 - t.incoming.text.length)

theorem acceptLen_eq (t : Tcb) {p q : Nat} (len : Nat) (hpq : p ≤ q) :
    acceptLen t p q len = min (p + len - q) (65535 - t.incoming.text.length) := by
  obtain ⟨d, rfl⟩ := Nat.exists_eq_add_of_le hpq
  unfold acceptLen
  rw [Nat.add_sub_cancel_left, Nat.add_sub_add_left]

theorem acceptLen_pos {t : Tcb} {p q len : Nat} (hpq : p ≤ q) (hcov : q < p + len)
    (hroom : t.incoming.text.length < 65535) : 0 < acceptLen t p q len := by
  rw [acceptLen_eq t len hpq]
  exact Nat.lt_min.2 ⟨by omega, by omega⟩

structure PlainData (t : Tcb) (g : Segment) : Prop where
  rst : g.hdr.ctl.rst = false
  syn : g.hdr.ctl.syn = false
  fin : g.hdr.ctl.fin = false
  ack : g.hdr.ctl.ack = true →
    (modLeq g.hdr.ack t.snd.una || modBounded t.snd.una .Lt g.hdr.ack .Leq t.snd.nxt) = true

/-- **receive progress**: at an ESTABLISHED receiver with an empty reorder heap, a plain data
    segment `submitted[p, p+len)` of the peer that covers the next expected offset `q`
    (`p ≤ q < p + len`) is accepted: `RCV.NXT` advances by `acceptLen` (> 0 when the buffer has
    room), and exactly those bytes of the segment are appended to the buffered text -/
theorem segmentArrives_accept {t : Tcb} {g : Segment} {base : Seq} {p q : Nat}
    (hst : t.state = .Established) (hw : t.rcv.wnd = 65535#16) (hin : t.incoming.text.length ≤ 65535)
    (hheap : t.incoming.segments = [])
    (hg : PlainData t g) (hseq : g.hdr.seq = base + BitVec.ofNat 32 p)
    (hnxt : t.rcv.nxt = base + BitVec.ofNat 32 q) (hpq : p ≤ q) (_ : q < 2147483648)
    (hcov : q < p + g.text.length) (hlen : g.text.length ≤ 65535) :
    ∃ t', t.segmentArrives g = .ok (t', .Ok) ∧
      t'.rcv.nxt = t.rcv.nxt + BitVec.ofNat 32 (acceptLen t p q g.text.length) ∧
      t'.incoming.text = t.incoming.text ++ (g.text.drop (q - p)).take (acceptLen t p q g.text.length) ∧
      t'.incoming.segments = [] ∧ t'.state = .Established := by
  -- the text starts `q - p` sequence numbers before `RCV.NXT`
  have hd : g.hdr.seq + BitVec.ofNat 32 (q - p) = t.rcv.nxt := by
    rw [hseq, hnxt, add_ofNat_assoc, Nat.add_sub_cancel' hpq]
  have hok : t.isSeqOk (BitVec.ofNat 32 g.text.length) g.hdr.seq g.hdr.ctl.syn g.hdr.ctl.fin = .ok true := by
    rw [hg.syn, hg.fin]
    exact isSeqOk_catch t _ _ (q - p) hw hd (by omega) (by omega) hlen
  obtain ⟨t2, e2, r2, i2, st2⟩ := ackBlock_falls hst hg.ack
  obtain ⟨e5, ha, hk⟩ := textBlock_fwd t2 g.hdr g.text (q - p) st2 (by rw [r2]; exact hw) hg.syn (by rw [r2]; exact hd)
    (by intro h0; rw [h0] at hcov; simp at hcov; omega) (by omega) hlen (by rw [i2]; exact hin)
  rw [i2] at hk
  refine ⟨_, arrive_one t g hheap (fun _ => ⟨hok, gate_pass _ _ (q - p) (by omega) hd⟩) _ _
    (processSegment_est hst hok hg.rst hg.syn hg.fin e2 st2 e5), ?_, ?_, ?_, ?_⟩
  all_goals rw [textTaken, textBuffered, ha, hk]
  · rw [(enqueueBuilt_frame _ _).rcv]
    show t2.rcv.nxt + _ = _
    rw [r2]; rfl
  · rw [(enqueueBuilt_frame _ _).incoming]
    show t2.incoming.text ++ _ = _
    rw [i2]; rfl
  · rw [(enqueueBuilt_frame _ _).incoming]
    exact (congrArg Incoming.segments i2).trans hheap
  · rw [(enqueueBuilt_frame _ _).state]; exact st2

end Elvis.Tcp.C01
