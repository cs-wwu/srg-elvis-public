import ElvisVerif.Lemmas.TcpFinBlocks
import ElvisVerif.Lemmas.TcbSnd
/-!
# The stream invariant with `close()`: block 6, `process_segment`, `segment_arrives`

`finBlock_invF`: a valid FIN that passed the heap gate.  While the state does not yet show FIN
received, `RCV.NXT ≤ SEG.SEQ` (the FIN sits behind every submitted byte, and what has been received
is a prefix of what was submitted) and `SEG.SEQ ≤ RCV.NXT` (the gate): the FIN sits exactly at
`RCV.NXT` and **everything submitted has been received**; the state then shows FIN received and
`RCV.NXT` steps over the FIN.  A retransmitted FIN (state already shows FIN received) changes nothing
the invariant reads.
-/
namespace Elvis.Tcp.Fin
open Elvis.ModCmp Elvis.Tcp.Tcb Elvis.Tcp.C01

theorem finBlock_fin_eq (t : Tcb) (seg : Hdr) (tl : Seq) (hfin : seg.ctl.fin = true) (hns : t.state ≠ .SynSent)
    (hc : t.rcv.nxt = seg.seq + tl ∨ t.rcv.nxt = seg.seq + tl + 1) :
    finBlock t seg tl =
      finState (({ t with rcv.nxt := seg.seq + tl + 1 } : Tcb).enqueueBuilt
        ({ t with rcv.nxt := seg.seq + tl + 1 } : Tcb).ackHdr.built) := by
  have hcond : (decide (t.rcv.nxt = seg.seq + tl) || decide (t.rcv.nxt = seg.seq + tl + 1)) = true := by
    rcases hc with h | h <;> simp [h]
  rw [finBlock_eq, hfin]
  unfold finAdvance
  rw [if_pos hns]
  dsimp only
  rw [if_pos hcond, enqueue_eq]
  rfl

theorem enqueueBuilt_ack (u : Tcb) :
    u.enqueueBuilt u.ackHdr.built = { u with outgoing.oneshot := u.outgoing.oneshot ++ [u.ackHdr.built] } :=
  enqueueBuilt_oneshot u _ (ackHdr_plain u).1 (ackHdr_plain u).2

/-- the FIN transition outside SYN-SENT moves the state to one that shows FIN received and touches the timers;
    `finSent` is as before (FIN-WAIT-1 turns TIME-WAIT only once our FIN is acknowledged) -/
theorem finState_fin {s u : Tcb} {r : Option ProcessSegmentResult} (h : finState s = .ok (u, r))
    (hns : s.state ≠ .SynSent) :
    ∃ st tmo, u = { s with state := st, timeouts := tmo } ∧ finRcvd st = true ∧ finSent u = finSent s := by
  obtain ⟨-, ⟨hst | hst, rfl⟩ | ⟨hst, hfa, rfl⟩ | ⟨hst, -, rfl⟩ | ⟨hst, rfl⟩ | ⟨hst, rfl⟩ | ⟨hst, rfl⟩⟩ :=
    finState_ok h
  · exact ⟨_, _, rfl, rfl, by unfold finSent; rw [hst]⟩
  · exact ⟨_, _, rfl, rfl, by unfold finSent; rw [hst]⟩
  · exact ⟨_, _, rfl, rfl, by rw [finSent_of_finAcked hfa (Or.inl hst)]; rfl⟩
  · exact ⟨_, _, rfl, rfl, by unfold finSent; rw [hst]⟩
  · exact ⟨_, _, rfl, rfl, by unfold finSent; rw [hst]⟩
  · exact ⟨_, _, rfl, by rw [hst]; rfl, by unfold finSent; rw [hst]⟩
  · refine ⟨_, _, rfl, ?_, rfl⟩
    rcases hst with hst | hst | hst | hst
    · exact absurd hst hns
    all_goals rw [hst]; rfl

section
variable {port : U16} {issX issY : Seq} {subX subY delX : List UInt8} {finY : Bool}

theorem TInvG.takeFin {fx : Bool} {t : Tcb} (h : TInvG port issX issY subX subY delX fx finY t)
    (hns : t.state ≠ .SynSent) (hall : delX ++ t.incoming.text = subY) (hfY : finY = true) {st : State}
    (hst : finRcvd st = true) (tmo : Timeouts) {n : Seq}
    (hn : n = issY + 1 + BitVec.ofNat 32 (delX.length + t.incoming.text.length + 1)) :
    TInvG port issX issY subX subY delX fx finY { t with rcv.nxt := n, state := st, timeouts := tmo } := by
  refine ⟨h.lp, h.iss, h.out, h.rtx, h.one, h.heap, fun hs => ?_, fun _ => ⟨?_, ?_⟩, fun _ => ⟨hall, hfY⟩,
    fun _ => h.irs hns⟩
  · have hs : st = .SynSent := hs
    rw [hs] at hst; cases hst
  · show n = issY + 1 + BitVec.ofNat 32 (delX.length + t.incoming.text.length + (finRcvd st).toNat)
    rw [hn, hst]; rfl
  · show delX ++ t.incoming.text <+: subY
    rw [hall]; exact List.prefix_refl _

theorem finBlock_invF {t t' : Tcb} {g : Segment} {r : Option ProcessSegmentResult}
    (h : TInvF port issX issY subX subY delX finY t) (hns : t.state ≠ .SynSent) (hv : ValidF issY subY finY g)
    (hg : g.hdr.ctl.fin = true → subY.length ≤ delX.length + t.incoming.text.length)
    (e : finBlock t g.hdr (tl g) = .ok (t', r)) :
    TInvF port issX issY subX subY delX finY t' ∧ finSent t' = finSent t := by
  cases hfin : g.hdr.ctl.fin with
  | false =>
    rw [finBlock_pass hfin] at e
    cases e
    exact ⟨h, rfl⟩
  | true =>
    obtain ⟨hfY, hsyn, htext, hseq⟩ := hv.fin hfin
    obtain ⟨hnxt, hpre⟩ := h.rcv1 hns
    -- everything has been received: the FIN sits behind every submitted byte, and what has been received is a
    -- prefix of what was submitted
    have hall : delX ++ t.incoming.text = subY :=
      hpre.eq_of_length (Nat.le_antisymm hpre.length_le (by rw [List.length_append]; exact hg hfin))
    have hlen : delX.length + t.incoming.text.length = subY.length := by rw [← hall, List.length_append]
    have one1 : (1 : Seq) = BitVec.ofNat 32 1 := rfl
    have htl : tl g = BitVec.ofNat 32 0 := by unfold tl; rw [htext]; rfl
    have hnew : g.hdr.seq + tl g + 1 = issY + 1 + BitVec.ofNat 32 (delX.length + t.incoming.text.length + 1) := by
      rw [hseq, hlen, htl, add_ofNat_zero, one1, add_ofNat_assoc]
    have hc : t.rcv.nxt = g.hdr.seq + tl g ∨ t.rcv.nxt = g.hdr.seq + tl g + 1 := by
      cases hfr : finRcvd t.state with
      | true => right; rw [hnew, hnxt, hfr]; rfl
      | false => left; rw [hnxt, hfr, hseq, hlen, htl, add_ofNat_zero]; rfl
    -- `RCV.NXT` steps over the FIN, the FIN is acknowledged, the state moves
    rw [finBlock_fin_eq t g.hdr _ hfin hns hc, enqueueBuilt_ack] at e
    obtain ⟨st, tmo, rfl, hr, hfs⟩ := finState_fin e hns
    have f := FrF.queued t ({ t with rcv.nxt := g.hdr.seq + tl g + 1 } : Tcb).ackHdr.built ⟨rfl, rfl, rfl⟩
    exact ⟨TInvF.of_g ((TInvG.of_fr h f).takeFin hns hall hfY hr tmo hnew) hfs, hfs⟩

/-- **one segment**: blocks 1 to 5 change by change (`Eff.tinvG`), block 6 whole -/
theorem processSegment_invF {t t' : Tcb} {g : Segment} {r : ProcessSegmentResult}
    (h : TInvF port issX issY subX subY delX finY t) (hv : ValidF issY subY finY g) (h31 : subY.length < 2147483648)
    (hgate : t.state ≠ .SynSent → modGt g.hdr.seq t.rcv.nxt = false)
    (e : t.processSegment g = .ok (t', r)) :
    TInvF port issX issY subX subY delX finY t' ∧ finSent t' = finSent t := by
  let P : Tcb → Prop := fun u =>
    TInvG port issX issY subX subY delX (finSent t) finY u ∧ finSent u = finSent t ∧ Gate issY subY delX g u
  have done : ∀ {u : Tcb}, P u → TInvF port issX issY subX subY delX finY u ∧ finSent u = finSent t :=
    fun p => ⟨TInvF.of_g p.1 p.2.1, p.2.1⟩
  have blk : ∀ {k : Nat} {u u' : Tcb}, k ≤ 5 → Effs g k u u' → P u → P u' := fun hk b =>
    b.lift (R := fun a b => P a → P b) (fun _ p => p) (fun h1 h2 p => h2 (h1 p))
      (fun x p => x.tinvG hk hv h31 p.1 p.2.1 p.2.2)
  have both : ∀ {u : Tcb} {q : Option ProcessSegmentResult}, P u →
      (q = none → P u) ∧ (q ≠ none → TInvF port issX issY subX subY delX finY u ∧ finSent u = finSent t) :=
    fun p => ⟨fun _ => p, fun _ => done p⟩
  refine processSegment_chain g (P1 := P) (P2 := P) (P3 := P) (P4 := fun u => P u ∧ g.hdr.ctl.rst = false)
    (P5 := fun u => P u ∧ u.state ≠ .SynSent) (P6 := fun u => P u ∧ u.state ≠ .SynSent)
    (Q := fun u => TInvF port issX issY subX subY delX finY u ∧ finSent u = finSent t) ?_ ?_ ?_ ?_ ?_ ?_
    ⟨h, rfl, gate_of_modGt h hv h31 hgate⟩ e
  · intro u u' q p e1
    exact both (blk (by decide) (seqCheck_effs e1).1 p)
  · intro u u' q p e2
    exact both (blk (by decide) (ackBlock_effs e2).1 p)
  · intro u u' q p e3
    have p' := blk (by decide) (rstBlock_effs e3).1.1 p
    exact ⟨fun hq => ⟨p', (rstBlock_effs e3).2 hq⟩, fun _ => done p'⟩
  · intro u u' q ⟨p, hrst⟩ e4
    have p' := blk (by decide) (synBlock_effs e4 hrst).1 p
    exact ⟨fun hq => ⟨p', synBlock_falls (hq ▸ e4)⟩, fun _ => done p'⟩
  · intro u u' q ⟨p, hns⟩ e5
    have p' := blk (by decide) (textBlock_effs hns e5).1 p
    have hns' : u'.state ≠ .SynSent := by
      obtain ⟨-, rfl | ht⟩ := textBlock_ok e5
      · exact hns
      · have hst : u'.state = u.state := by rw [ht.eq]; exact state_enqueueBuilt _ _
        rw [hst]; exact hns
    exact ⟨fun _ => ⟨p', hns'⟩, fun _ => done p'⟩
  · intro u u' q ⟨p, hns⟩ e6
    obtain ⟨a, b⟩ := finBlock_invF (TInvF.of_g p.1 p.2.1) hns hv (p.2.2 hns).2 e6
    exact ⟨a, b.trans p.2.1⟩

/-- `segment_arrives`: what is parked is valid, so every round of the loop is `processSegment_invF` -/
theorem segmentArrives_invF {t t' : Tcb} {g : Segment} {r : SegmentArrivesResult}
    (h : TInvF port issX issY subX subY delX finY t) (hv : ValidF issY subY finY g) (h31 : subY.length < 2147483648)
    (e : t.segmentArrives g = .ok (t', r)) :
    TInvF port issX issY subX subY delX finY t' ∧ finSent t' = finSent t :=
  segmentArrives_lift_mem (Q := ValidF issY subY finY)
    (R := fun a b => TInvF port issX issY subX subY delX finY a →
      TInvF port issX issY subX subY delX finY b ∧ finSent b = finSent a)
    (fun _ h => ⟨h, rfl⟩) (fun h1 h2 h => ⟨(h2 (h1 h).1).1, (h2 (h1 h).1).2.trans (h1 h).2⟩)
    (fun _ _ hl h => ⟨h.setHeap hl, rfl⟩) (fun hv hgate e h => processSegment_invF h hv h31 hgate e)
    (fun _ _ h => ⟨h.of_fr (FrF.enqAck _), (FrF.enqAck _).fs⟩) e hv h.heap h

end
end Elvis.Tcp.Fin
