import ElvisVerif.Lemmas.TcpFullGap
/-!
# Every fair round is defined, from every reachable state

From a state satisfying `Good`, a plain op other than `write` succeeds (`c01_step_total`), is one step of a `PlainRun`,
leaves `Good` and does not touch the `submitted` logs; a delivery does not extend the history (the LISTEN / CLOSED
handlers would answer with a RST, which `NoRst` excludes).  So a range of deliveries, an exchange phase and a fair round
are defined, and what is recorded of a phase (`PhaseT`) is the trace of its deliveries: every element emitted in the phase
is delivered at some intermediate state that satisfies `Good`.
-/
namespace Elvis.Tcp.Full
open Elvis.ModCmp Elvis.Tcp.Tcb

variable {iss : SideId → Seq}

theorem step_good {s s1 : Sys} {op : Op} {r : Res} (hg : Good iss s) (e : s.step op = .ok (s1, r)) (hp : Op.Plain s op)
    (hnw : ∀ x b, op ≠ .write x b) :
    PlainRun s s1 ∧ Good iss s1 ∧ ∀ y, (s1.side y).submitted = (s.side y).submitted := by
  have hsub := fun y => C01.step_sub_eq hnw e y
  have r01 : PlainRun s s1 := .step (.refl _) hp e
  exact ⟨r01, Good.of_run hg r01 (hg.room.congr hsub), hsub⟩

theorem step_any (s : Sys) (hg : Good iss s) (op : Op) (hp : Op.Plain s op) (hnw : ∀ x b, op ≠ .write x b) :
    ∃ s1 r, s.step op = .ok (s1, r) ∧ PlainRun s s1 ∧ Good iss s1 ∧
      (∀ y, (s1.side y).submitted = (s.side y).submitted) := by
  have hv : op.Valid := by
    cases op <;> first | trivial | exact hp.elim
  obtain ⟨s1, r, e, _⟩ := c01_step_total s hg.ext.wf op hv
  exact ⟨s1, r, e, step_good hg e hp hnw⟩

theorem deliver_hist (s : Sys) (hg : Good iss s) (x : SideId) (i : Nat) (hp : Op.Plain s (.deliver x i)) (s1 : Sys) (r : Res)
    (e : s.step (.deliver x i) = .ok (s1, r)) (hg1 : Good iss s1) :
    s1.history = s.history ∧ s1.historyLen = s.historyLen := by
  cases step_iff.1 e with
  | noSeg => exact ⟨rfl, rfl⟩
  | noTcb ho => exact ho.elim
  | deliver hn a =>
    rcases live_arrive a (nth_mem _ _ _ hn) (hp _ hn).1 hg.conv.nr hg1.conv.nr with rfl | ⟨_, _, _, _, rfl⟩
    · exact ⟨rfl, rfl⟩
    · exact ⟨history_setSide _ _ _, historyLen_setSide _ _ _⟩

inductive QuietRun (iss : SideId → Seq) : Sys → Sys → Prop
  | refl (s : Sys) : QuietRun iss s s
  | del {s s1 s2 : Sys} {x : SideId} {i : Nat} {r : Res} : QuietRun iss s s1 →
      s1.step (.deliver x i) = .ok (s2, r) → Good iss s2 → QuietRun iss s s2
  | rd {s s1 s2 : Sys} {x : SideId} {r : Res} : QuietRun iss s s1 → s1.step (.read x) = .ok (s2, r) → QuietRun iss s s2

theorem QuietRun.trans {a b c : Sys} (h1 : QuietRun iss a b) (h2 : QuietRun iss b c) : QuietRun iss a c := by
  induction h2 with
  | refl => exact h1
  | del _ e g ih => exact .del ih e g
  | rd _ e ih => exact .rd ih e

structure Delivered (iss : SideId → Seq) (x : SideId) (i : Nat) (s0 sEnd : Sys) : Prop where
  ex : ∃ sa sb r, PlainRun s0 sa ∧ Good iss sa ∧ sa.step (.deliver x i) = .ok (sb, r) ∧ Good iss sb ∧ PlainRun sb sEnd ∧
    sa.history = s0.history ∧ sa.historyLen = s0.historyLen ∧ sa.side x.peer = s0.side x.peer ∧ QuietRun iss sb sEnd

theorem nth_of_hist {s s1 : Sys} (h1 : s1.history = s.history) (h2 : s1.historyLen = s.historyLen) (i : Nat) :
    s1.nth i = s.nth i := by
  unfold Sys.nth; rw [h1, h2]

theorem deliverRange_any (n : Nat) : ∀ (s : Sys) (x : SideId) (lo : Nat), Good iss s →
    (∀ j, j < n → ∀ σ, s.nth (lo + j) = some σ → σ.hdr.srcPort = x.peer.port ∧ σ.hdr.dstPort = x.port) →
    ∃ s1, deliverRange s x lo n = .ok s1 ∧ PlainRun s s1 ∧ Good iss s1 ∧
      (∀ y, (s1.side y).submitted = (s.side y).submitted) ∧ s1.history = s.history ∧ s1.historyLen = s.historyLen ∧
      s1.side x.peer = s.side x.peer ∧ QuietRun iss s s1 ∧
      (∀ j, j < n → Delivered iss x (lo + j) s s1) := by
  induction n with
  | zero =>
    intro s x lo hg _
    exact ⟨s, rfl, .refl _, hg, fun _ => rfl, rfl, rfl, rfl, .refl _, fun j hj => absurd hj (Nat.not_lt_zero _)⟩
  | succ n ih =>
    intro s x lo hg hn
    have hp : Op.Plain s (.deliver x lo) := fun σ hσ => hn 0 (by omega) σ (by simpa using hσ)
    obtain ⟨s1, r1, e1, p1, g1, sub1⟩ := step_any s hg (.deliver x lo) hp (fun _ _ h => by cases h)
    obtain ⟨hh1, hl1⟩ := deliver_hist s hg x lo hp s1 r1 e1 g1
    have hpeer1 : s1.side x.peer = s.side x.peer := (step_iff.1 e1).peer
    obtain ⟨s2, e2, p2, g2, sub2, hh2, hl2, hpeer2, q2', tr2⟩ := ih s1 x (lo + 1) g1 (fun j hj σ hσ => by
      rw [nth_of_hist hh1 hl1] at hσ
      exact hn (j + 1) (by omega) σ (by rw [show lo + (j + 1) = lo + 1 + j by omega]; exact hσ))
    have q01 : QuietRun iss s s1 := .del (.refl _) e1 g1
    refine ⟨s2, ?_, p1.trans p2, g2, fun y => (sub2 y).trans (sub1 y), hh2.trans hh1, hl2.trans hl1,
      hpeer2.trans hpeer1, q01.trans q2', fun j hj => ?_⟩
    · simp only [deliverRange, e1]
      exact e2
    · cases j with
      | zero =>
        exact ⟨s, s1, r1, .refl _, hg, by simpa using e1, g1, p2, rfl, rfl, rfl, q2'⟩
      | succ j =>
        obtain ⟨sa, sb, r, q1, ga, ea, gb, q2, ha, hla, hpa, qq⟩ := (tr2 j (by omega)).ex
        exact ⟨sa, sb, r, p1.trans q1, ga, by rw [show lo + (j + 1) = lo + 1 + j by omega]; exact ea, gb, q2,
          ha.trans hh1, hla.trans hl1, hpa.trans hpeer1, qq⟩

structure EmitT (iss : SideId → Seq) (x : SideId) (s s1 : Sys) (out : List Segment) : Prop where
  run : PlainRun s s1
  good : Good iss s1
  sub : ∀ y, (s1.side y).submitted = (s.side y).submitted
  len : s1.historyLen = s.historyLen + out.length
  new : ∀ j (hj : j < out.length), s1.nth (s.historyLen + j) = some out[j]
  old : ∀ i, i < s.historyLen → s1.nth i = s.nth i
  ports : ∀ σ ∈ out, σ.hdr.srcPort = x.port ∧ σ.hdr.dstPort = x.peer.port
  peer : s1.side x.peer = s.side x.peer
  tcb : ∀ t, (s.side x).tcb = some t → ∃ t', t.segments = .ok (t', out) ∧ (s1.side x).tcb = some t'
  none : (s.side x).tcb = none → out = [] ∧ s1 = s

theorem emit_any (s : Sys) (hg : Good iss s) (x : SideId) :
    ∃ s1 r out, s.step (.emit x) = .ok (s1, r) ∧ EmitT iss x s s1 out := by
  cases ht : (s.side x).tcb with
  | none =>
    exact ⟨s, _, [], step_iff.2 (.noTcb trivial ht), .refl _, hg, fun _ => rfl, rfl, fun j hj => absurd hj (Nat.not_lt_zero _),
      fun _ _ => rfl, fun σ hσ => (by cases hσ), rfl, fun t h => (by rw [ht] at h; cases h), fun _ => ⟨rfl, rfl⟩⟩
  | some t =>
    -- `segments()` returns on a TCB of the closed system
    obtain ⟨_, k, -⟩ := ((hg.ext.wf.side x).1 t ht).call .segments trivial
    cases k with
    | @segments t' out hs =>
      obtain ⟨s1, r1, st1, h1a, h1p, -, -, h1len, h1new, h1old⟩ := emit_facts s x t t' out ht hs
      obtain ⟨p1, g1, sub1⟩ := step_good hg st1 trivial (fun _ _ h => by cases h)
      exact ⟨s1, r1, out, st1, p1, g1, sub1, h1len, h1new, h1old, fun σ hσ => (hg.emitted x t ht hs σ hσ).2.2, h1p,
        fun u hu => (by rw [ht] at hu; cases hu; exact ⟨t', hs, h1a⟩), fun h => (by rw [ht] at h; cases h)⟩

structure TickT (iss : SideId → Seq) (x : SideId) (s s1 : Sys) : Prop where
  run : PlainRun s s1
  good : Good iss s1
  sub : ∀ y, (s1.side y).submitted = (s.side y).submitted
  hist : s1.history = s.history ∧ s1.historyLen = s.historyLen
  peer : s1.side x.peer = s.side x.peer
  tcb : ∀ t, (s.side x).tcb = some t → ∃ t1, (s1.side x).tcb = some t1 ∧ Flagged t t1
  none : (s.side x).tcb = none → s1 = s

theorem tick_any {mt : SideId → U16} (s : Sys) (hg : Good iss s) (hf : FInv iss mt s) (x : SideId) :
    ∃ s1 r, s.step (.tick x (RTO + 1)) = .ok (s1, r) ∧ TickT iss x s s1 := by
  cases ht : (s.side x).tcb with
  | none =>
    exact ⟨s, _, step_iff.2 (.noTcb trivial ht), .refl _, hg, fun _ => rfl, ⟨rfl, rfl⟩, rfl,
      fun t h => (by rw [ht] at h; cases h), fun _ => rfl⟩
  | some t =>
    obtain ⟨t1, -, e, -, -, k1⟩ := tick_flag s hg x t ht (fun h => by
      have h3 := (hg.tinv x t ht).st
      rw [h] at h3
      exact h3.elim) (hf.tcb x t ht).tmo
    obtain ⟨p1, g1, sub1⟩ := step_good hg e trivial (fun _ _ h => by cases h)
    exact ⟨_, _, e, p1, g1, sub1, ⟨history_setSide _ _ _, historyLen_setSide _ _ _⟩, side_setSide_peer _ _ _,
      fun u hu => (by rw [ht] at hu; cases hu; exact ⟨t1, by rw [side_setSide_same], k1⟩),
      fun h => (by rw [ht] at h; cases h)⟩

structure ReadT (iss : SideId → Seq) (x : SideId) (s s1 : Sys) : Prop where
  run : PlainRun s s1
  good : Good iss s1
  sub : ∀ y, (s1.side y).submitted = (s.side y).submitted
  hist : s1.history = s.history ∧ s1.historyLen = s.historyLen
  peer : s1.side x.peer = s.side x.peer
  tcb : ∀ t, (s.side x).tcb = some t → (s1.side x).tcb = some t.receive.1
  none : (s.side x).tcb = none → s1 = s

theorem read_any (s : Sys) (hg : Good iss s) (x : SideId) :
    ∃ s1 r, s.step (.read x) = .ok (s1, r) ∧ ReadT iss x s s1 := by
  cases ht : (s.side x).tcb with
  | none =>
    exact ⟨s, _, step_iff.2 (.noTcb trivial ht), .refl _, hg, fun _ => rfl, ⟨rfl, rfl⟩, rfl,
      fun t h => (by rw [ht] at h; cases h), fun _ => rfl⟩
  | some t =>
    have e := step_iff.2 (Sys.Step.read ht)
    obtain ⟨p1, g1, sub1⟩ := step_good hg e trivial (fun _ _ h => by cases h)
    exact ⟨_, _, e, p1, g1, sub1, ⟨history_setSide _ _ _, historyLen_setSide _ _ _⟩, side_setSide_peer _ _ _,
      fun u hu => (by rw [ht] at hu; cases hu; rw [side_setSide_same]), fun h => (by rw [ht] at h; cases h)⟩

/-- the trace of one exchange phase -/
structure PhaseT (iss : SideId → Seq) (s s' : Sys) : Prop where
  ex : ∃ (s1 s2 s3 s4 s5 : Sys) (outA outB : List Segment),
    EmitT iss .A s s1 outA ∧ EmitT iss .B s1 s2 outB ∧
    PlainRun s2 s3 ∧ Good iss s3 ∧ s3.history = s2.history ∧ s3.historyLen = s2.historyLen ∧ s3.side .A = s2.side .A ∧
    (∀ j, j < outA.length → Delivered iss .B (s.historyLen + j) s2 s3) ∧
    PlainRun s3 s4 ∧ Good iss s4 ∧ s4.history = s3.history ∧ s4.historyLen = s3.historyLen ∧ s4.side .B = s3.side .B ∧
    (∀ j, j < outB.length → Delivered iss .A (s1.historyLen + j) s3 s4) ∧
    ReadT iss .A s4 s5 ∧ ReadT iss .B s5 s' ∧ QuietRun iss s3 s' ∧ QuietRun iss s4 s'

theorem phase_any (s : Sys) (hg : Good iss s) :
    ∃ s', phase s = .ok s' ∧ PlainRun s s' ∧ Good iss s' ∧ (∀ y, (s'.side y).submitted = (s.side y).submitted) ∧
      PhaseT iss s s' := by
  obtain ⟨s1, r1, outA, e1, tA⟩ := emit_any s hg .A
  obtain ⟨s2, r2, outB, e2, tB⟩ := emit_any s1 tA.good .B
  have hnA : ∀ j, j < outA.length → ∀ σ, s2.nth (s.historyLen + j) = some σ →
      σ.hdr.srcPort = SideId.B.peer.port ∧ σ.hdr.dstPort = SideId.B.port := by
    intro j hj σ hσ
    rw [tB.old _ (by rw [tA.len]; omega), tA.new j hj] at hσ
    cases hσ
    exact tA.ports _ (List.getElem_mem hj)
  obtain ⟨s3, e3, p3, g3, sub3, hh3, hl3, hp3, q23, tr3⟩ := deliverRange_any outA.length s2 .B s.historyLen tB.good hnA
  have hnB : ∀ j, j < outB.length → ∀ σ, s3.nth (s1.historyLen + j) = some σ →
      σ.hdr.srcPort = SideId.A.peer.port ∧ σ.hdr.dstPort = SideId.A.port := by
    intro j hj σ hσ
    rw [nth_of_hist hh3 hl3, tB.new j hj] at hσ
    cases hσ
    exact tB.ports _ (List.getElem_mem hj)
  obtain ⟨s4, e4, p4, g4, sub4, hh4, hl4, hp4, q34, tr4⟩ := deliverRange_any outB.length s3 .A s1.historyLen g3 hnB
  obtain ⟨s5, r5, e5, t5⟩ := read_any s4 g4 .A
  obtain ⟨s6, r6, e6, t6⟩ := read_any s5 t5.good .B
  refine ⟨s6, ?_, ((((tA.run.trans tB.run).trans p3).trans p4).trans t5.run).trans t6.run, t6.good,
    fun y => by rw [t6.sub, t5.sub, sub4, sub3, tB.sub, tA.sub],
    ⟨s1, s2, s3, s4, s5, outA, outB, tA, tB, p3, g3, hh3, hl3, hp3, tr3, p4, g4, hh4, hl4, hp4, tr4, t5, t6,
      q34.trans (.rd (.rd (.refl _) e5) e6), .rd (.rd (.refl _) e5) e6⟩⟩
  exact phase_of_steps e1 e2 tA.len tB.len e3 e4 e5 e6

theorem phases_any (k : Nat) : ∀ (s : Sys), Good iss s →
    ∃ s', phases k s = .ok s' ∧ PlainRun s s' ∧ Good iss s' ∧ (∀ y, (s'.side y).submitted = (s.side y).submitted) := by
  induction k with
  | zero => intro s hg; exact ⟨s, rfl, .refl _, hg, fun _ => rfl⟩
  | succ k ih =>
    intro s hg
    obtain ⟨s1, e1, p1, g1, sub1, _⟩ := phase_any s hg
    obtain ⟨s2, e2, p2, g2, sub2⟩ := ih s1 g1
    exact ⟨s2, by simp only [phases, e1]; exact e2, p1.trans p2, g2, fun y => (sub2 y).trans (sub1 y)⟩

theorem fairRound_any {mt : SideId → U16} (k : Nat) (s : Sys) (hg : Good iss s) (hf : FInv iss mt s) :
    ∃ s', fairRound k s = .ok s' ∧ PlainRun s s' ∧ Good iss s' ∧ (∀ y, (s'.side y).submitted = (s.side y).submitted) := by
  obtain ⟨s1, r1, e1, t1⟩ := tick_any s hg hf .A
  have hf1 : FInv iss mt s1 := finv_run hg.conv hg.ext hf t1.run t1.good.room
  obtain ⟨s2, r2, e2, t2⟩ := tick_any s1 t1.good hf1 .B
  obtain ⟨s3, e3, p3, g3, sub3⟩ := phases_any k s2 t2.good
  exact ⟨s3, fairRound_of e1 e2 e3, (t1.run.trans t2.run).trans p3, g3, fun y => by rw [sub3, t2.sub, t1.sub]⟩

end Elvis.Tcp.Full
