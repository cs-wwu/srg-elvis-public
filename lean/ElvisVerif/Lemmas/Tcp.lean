import ElvisVerif.Model.Codec.Tcp
import ElvisVerif.Lemmas.Ipv4
/-!
Helper lemmas for the TCP codec: closed form and inversion of `from_bytes`,
and the accumulators of decoder and builder tracked against the plain sum of words.
-/
namespace Elvis.Codec.Tcp
open Elvis.Ck Elvis.Codec Elvis.Rfc1071

/-- accumulator of `from_bytes` in code order; `orc` is the 16-bit word holding data offset,
    reserved bits and control bits -/
def accDec (ck : Bool) (sp dp seq ack orc wnd urg : Nat) (rest : List UInt8) (src dst plen : Nat) : Nat :=
  add16 ck (addU8 ck (addWord32 ck (addWord32 ck (accumulateRemainder ck (add16 ck (add16 ck
    (add16 ck (addWord32 ck (addWord32 ck (add16 ck (add16 ck 0 sp) dp) seq) ack) orc) wnd) urg)
    rest) src) dst) 0 6) plen

/-- accumulator of `TcpHeaderBuilder::build` in code order -/
def accBuild (ck : Bool) (sp dp seq ack ctl wnd urg : Nat) (text : List UInt8) (src dst len : Nat) : Nat :=
  add16 ck (add16 ck (addU8 ck (addWord32 ck (addWord32 ck (add16 ck (add16 ck (add16 ck
    (addU8 ck (addWord32 ck (addWord32 ck (accumulateRemainder ck 0 text) src) dst) 0 6) len)
    sp) dp) seq) ack) (5 * 16) ctl) wnd) urg

/-- plain sum of all 16-bit words covered by the TCP checksum except the checksum field -/
def coveredSum (sp dp seq ack orc wnd urg : Nat) (text : List UInt8) (src dst len : Nat) : Nat :=
  (src / 65536 % 65536 + src % 65536) + (dst / 65536 % 65536 + dst % 65536) + 6 + len
    + sp + dp + (seq / 65536 % 65536 + seq % 65536) + (ack / 65536 % 65536 + ack % 65536)
    + orc + wnd + urg + (wordsOf text).sum

theorem accDec_tracks {sp dp orc wnd urg plen : Nat} (seq ack src dst : Nat) (rest : List UInt8)
    (h1 : sp < 65536) (h2 : dp < 65536) (h3 : orc < 65536) (h4 : wnd < 65536) (h5 : urg < 65536)
    (h6 : plen < 65536) :
    Tracks (accDec true sp dp seq ack orc wnd urg rest src dst plen)
      (coveredSum sp dp seq ack orc wnd urg rest src dst plen) := by
  unfold accDec coveredSum
  have t := (((Tracks.zero.add16 h1).add16 h2).addWord32 (v := seq)).addWord32 (v := ack)
  have t := accumulateRemainder_tracks rest (((t.add16 h3).add16 h4).add16 h5)
  have t := (((t.addWord32 (v := src)).addWord32 (v := dst)).addU8 (a := 0) (b := 6)
    (by omega) (by omega)).add16 h6
  exact t.congr (by omega)

theorem accBuild_tracks {sp dp ctl wnd urg len : Nat} (seq ack src dst : Nat) (text : List UInt8)
    (h1 : sp < 65536) (h2 : dp < 65536) (h3 : ctl < 256) (h4 : wnd < 65536) (h5 : urg < 65536)
    (h6 : len < 65536) :
    Tracks (accBuild true sp dp seq ack ctl wnd urg text src dst len)
      (coveredSum sp dp seq ack (80 * 256 + ctl) wnd urg text src dst len) := by
  unfold accBuild coveredSum
  have t := accumulateRemainder_tracks text Tracks.zero
  have t := (((t.addWord32 (v := src)).addWord32 (v := dst)).addU8 (a := 0) (b := 6)
    (by omega) (by omega)).add16 h6
  have t := ((((t.add16 h1).add16 h2).addWord32 (v := seq)).addWord32 (v := ack)).addU8
    (a := 5 * 16) (b := ctl) (by omega) h3
  have t := (t.add16 h4).add16 h5
  exact t.congr (by omega)

theorem acc_off (sp dp seq ack orc wnd urg src dst len : Nat) (bs : List UInt8) :
    accDec false sp dp seq ack orc wnd urg bs src dst len = 0 ∧
    accBuild false sp dp seq ack orc wnd urg bs src dst len = 0 := by
  simp [accDec, accBuild, Ck.add16, Ck.addU8, Ck.addWord32, Ck.addU32, accumulateRemainder_off]

/-- decoder and builder add the same words in different orders: same accumulator -/
theorem accDec_eq_accBuild (ck : Bool) {sp dp ctl wnd urg len : Nat} (seq ack src dst : Nat)
    (text : List UInt8) (h1 : sp < 65536) (h2 : dp < 65536) (h3 : ctl < 256) (h4 : wnd < 65536)
    (h5 : urg < 65536) (h6 : len < 65536) :
    accDec ck sp dp seq ack (80 * 256 + ctl) wnd urg text src dst len =
      accBuild ck sp dp seq ack ctl wnd urg text src dst len := by
  cases ck
  · rw [(acc_off ..).1, (acc_off ..).2]
  · rw [(accDec_tracks seq ack src dst text h1 h2 (by omega) h4 h5 h6).eq,
      (accBuild_tracks seq ack src dst text h1 h2 h3 h4 h5 h6).eq]

theorem fromBytes_cons20 (ck : Bool)
    (b0 b1 b2 b3 b4 b5 b6 b7 b8 b9 b10 b11 b12 b13 b14 b15 b16 b17 b18 b19 : UInt8)
    (rest : List UInt8) (plen src dst : Nat) :
    fromBytes ck (b0 :: b1 :: b2 :: b3 :: b4 :: b5 :: b6 :: b7 :: b8 :: b9 :: b10 :: b11 :: b12 ::
        b13 :: b14 :: b15 :: b16 :: b17 :: b18 :: b19 :: rest) plen src dst =
      if b12.toNat / 16 ≠ 5 then .error (.err .unexpectedOptions)
      else if plen > 65535 then .error (.err .packetTooLong)
      else if matchesField ck (accDec ck (W b0 b1) (W b2 b3) (W4 b4 b5 b6 b7) (W4 b8 b9 b10 b11)
          (W b12 b13) (W b14 b15) (W b18 b19) rest src dst plen) (W b16 b17) then
        .ok { srcPort := W b0 b1, dstPort := W b2 b3, seq := W4 b4 b5 b6 b7, ack := W4 b8 b9 b10 b11,
              dataOffset := b12.toNat / 16, ctl := b13.toNat % 64, wnd := W b14 b15,
              urg := W b18 b19, checksum := W b16 b17 }
      else .error (.err (.checksum (asU16 ck (accDec ck (W b0 b1) (W b2 b3) (W4 b4 b5 b6 b7)
          (W4 b8 b9 b10 b11) (W b12 b13) (W b14 b15) (W b18 b19) rest src dst plen)) (W b16 b17))) := by
  simp only [fromBytes, nextU8, nextU16, nextU32]
  rfl

theorem fromBytes_ok_inv {ck : Bool} {bs : List UInt8} {plen src dst : Nat} {hd : Header}
    (h : fromBytes ck bs plen src dst = .ok hd) :
    ∃ b0 b1 b2 b3 b4 b5 b6 b7 b8 b9 b10 b11 b12 b13 b14 b15 b16 b17 b18 b19 rest,
      bs = b0 :: b1 :: b2 :: b3 :: b4 :: b5 :: b6 :: b7 :: b8 :: b9 :: b10 :: b11 :: b12 :: b13 ::
        b14 :: b15 :: b16 :: b17 :: b18 :: b19 :: rest ∧
      b12.toNat / 16 = 5 ∧ plen ≤ 65535 ∧
      matchesField ck (accDec ck (W b0 b1) (W b2 b3) (W4 b4 b5 b6 b7) (W4 b8 b9 b10 b11)
          (W b12 b13) (W b14 b15) (W b18 b19) rest src dst plen) (W b16 b17) = true ∧
      hd = { srcPort := W b0 b1, dstPort := W b2 b3, seq := W4 b4 b5 b6 b7, ack := W4 b8 b9 b10 b11,
             dataOffset := 5, ctl := b13.toNat % 64, wnd := W b14 b15, urg := W b18 b19,
             checksum := W b16 b17 } := by
  unfold fromBytes at h
  obtain ⟨b0, b1, _, rfl, h⟩ := ok_of_nextU16 h
  obtain ⟨b2, b3, _, rfl, h⟩ := ok_of_nextU16 h
  obtain ⟨b4, b5, b6, b7, _, rfl, h⟩ := ok_of_nextU32 h
  obtain ⟨b8, b9, b10, b11, _, rfl, h⟩ := ok_of_nextU32 h
  obtain ⟨b12, _, rfl, h⟩ := ok_of_nextU8 h
  obtain ⟨b13, _, rfl, h⟩ := ok_of_nextU8 h
  obtain ⟨ho, h⟩ := ok_of_ite_error h
  obtain ⟨b14, b15, _, rfl, h⟩ := ok_of_nextU16 h
  obtain ⟨b16, b17, _, rfl, h⟩ := ok_of_nextU16 h
  obtain ⟨b18, b19, rest, rfl, h⟩ := ok_of_nextU16 h
  obtain ⟨hp, h⟩ := ok_of_ite_error h
  obtain ⟨hm, h⟩ := ok_of_ite_ok h
  refine ⟨b0, b1, b2, b3, b4, b5, b6, b7, b8, b9, b10, b11, b12, b13, b14, b15, b16, b17, b18, b19,
    rest, rfl, Decidable.not_not.mp ho, by omega, hm, ?_⟩
  rw [← h, Decidable.not_not.mp ho]

theorem ctlBit_eq_testBit (c b : Nat) : ctlBit c b = c.testBit b := by
  rw [Nat.testBit_eq_decide_div_mod_eq]; rfl

theorem ctlBit_xor_two_pow (c b b' : Nat) :
    ctlBit (c ^^^ 2 ^ b) b' = (ctlBit c b' ^^ decide (b = b')) :=
  bit_xor_two_pow c b b'

theorem ctlSetBit_eq (c b : Nat) (st : Bool) :
    ctlSetBit c b st = if ctlBit c b = st then c else c ^^^ 2 ^ b := by
  have hle : c / 2 ^ b % 2 = 1 → 2 ^ b ≤ c := le_of_bit_set
  rw [xor_two_pow]
  unfold ctlSetBit ctlBit
  cases st <;> by_cases h : c / 2 ^ b % 2 = 1 <;> simp [h] <;> omega

end Elvis.Codec.Tcp
