import ElvisVerif.Lemmas.Subnet
/-!
Helper lemmas for C09 (CIDR text): rendering then parsing is the identity.
-/
namespace Elvis.Subnet

theorem isDigit_iff (c : Nat) : isDigit c = true ↔ 48 ≤ c ∧ c ≤ 57 := by
  unfold isDigit; rw [Bool.and_eq_true, decide_eq_true_iff, decide_eq_true_iff]

theorem digitsVal_append (xs ys : Str) (acc : Nat) :
    digitsVal acc (xs ++ ys) =
      match digitsVal acc xs with
      | some v => digitsVal v ys
      | none => none := by
  induction xs generalizing acc with
  | nil => simp [digitsVal]
  | cons c cs ih =>
    simp only [List.cons_append, digitsVal]
    split
    · exact ih _
    · rfl

theorem renderDecFuel_spec (f n : Nat) (h : n ≤ f) :
    digitsVal 0 (renderDecFuel f n) = some n ∧ (∀ c ∈ renderDecFuel f n, isDigit c = true) ∧
      renderDecFuel f n ≠ [] := by
  induction f generalizing n with
  | zero =>
    have : n = 0 := by omega
    subst this
    refine ⟨by decide, by decide, by decide⟩
  | succ f ih =>
    unfold renderDecFuel
    by_cases h10 : n < 10
    · rw [if_pos h10]
      have hd : isDigit (48 + n) = true := by rw [isDigit_iff]; omega
      refine ⟨?_, ?_, by simp⟩
      · simp only [digitsVal, hd, if_true, digitVal]; congr 1; omega
      · intro c hc; simp only [List.mem_singleton] at hc; rw [hc]; exact hd
    · rw [if_neg h10]
      obtain ⟨h1, h2, _⟩ := ih (n / 10) (by omega)
      have hd : isDigit (48 + n % 10) = true := by rw [isDigit_iff]; omega
      refine ⟨?_, ?_, by simp⟩
      · rw [digitsVal_append, h1]
        simp only [digitsVal, hd, if_true, digitVal]; congr 1; omega
      · intro c hc
        rw [List.mem_append] at hc
        cases hc with
        | inl hc => exact h2 c hc
        | inr hc => simp only [List.mem_singleton] at hc; rw [hc]; exact hd

theorem renderDec_val (n : Nat) : digitsVal 0 (renderDec n) = some n :=
  (renderDecFuel_spec n n (Nat.le_refl n)).1

theorem renderDec_digits (n : Nat) : ∀ c ∈ renderDec n, isDigit c = true :=
  (renderDecFuel_spec n n (Nat.le_refl n)).2.1

theorem renderDec_ne_nil (n : Nat) : renderDec n ≠ [] :=
  (renderDecFuel_spec n n (Nat.le_refl n)).2.2

theorem table_octet : ∀ x : Fin 256,
    (renderDec x.val).length ≤ 3 ∧
      ((renderDec x.val).head? = some 48 → (renderDec x.val).length ≤ 1) := by decide +kernel

theorem readDigits3_digits (ds : Str) (acc cnt : Nat) (rest : Str) (v : Nat)
    (hv : digitsVal acc ds = some v) (hc : cnt + ds.length ≤ 3)
    (hr : rest = [] ∨ ∃ c cs, rest = c :: cs ∧ isDigit c = false) :
    readDigits3 acc cnt (ds ++ rest) = some (v, cnt + ds.length, rest) := by
  induction ds generalizing acc cnt with
  | nil =>
    simp only [digitsVal] at hv
    injection hv with hv
    subst hv
    cases hr with
    | inl h => subst h; simp [readDigits3]
    | inr h =>
      obtain ⟨c, cs, rfl, hcd⟩ := h
      simp [readDigits3, hcd]
  | cons d ds ih =>
    simp only [digitsVal] at hv
    split at hv
    · rename_i hd
      simp only [List.cons_append, readDigits3, hd, if_true]
      simp only [List.length_cons] at hc
      rw [if_neg (by omega)]
      rw [ih _ (cnt + 1) hv (by omega)]
      simp only [List.length_cons]
      congr 3; omega
    · cases hv

theorem readOctet_render (x : Nat) (hx : x < 256) (rest : Str)
    (hr : rest = [] ∨ ∃ c cs, rest = c :: cs ∧ isDigit c = false) :
    readOctet (renderDec x ++ rest) = some (x, rest) := by
  obtain ⟨hlen, hlead⟩ := table_octet ⟨x, hx⟩
  simp only at hlen hlead
  have hne := renderDec_ne_nil x
  have hrd := readDigits3_digits (renderDec x) 0 0 rest x (renderDec_val x) (by omega) hr
  unfold readOctet
  simp only [hrd, Nat.zero_add]
  have hpos : 0 < (renderDec x).length := List.length_pos_iff.mpr hne
  rw [if_neg (by omega), if_neg (by omega)]
  have hhead : (renderDec x ++ rest).head? = (renderDec x).head? := by
    cases h : renderDec x with
    | nil => exact absurd h hne
    | cons a as => rfl
  rw [hhead]
  by_cases h48 : (renderDec x).head? = some 48
  · have := hlead h48
    have hc : ¬ ((renderDec x).length > 1) := by omega
    simp [hc]
  · have : ((renderDec x).head? == some 48) = false := by
      rw [beq_eq_false_iff_ne]; exact h48
    simp [this]

theorem dot_not_digit (cs : Str) : (46 :: cs : Str) = [] ∨ ∃ c cs', (46 :: cs : Str) = c :: cs' ∧ isDigit c = false :=
  Or.inr ⟨46, cs, rfl, by decide⟩

theorem readIpv4_render (a b c d : Nat) (ha : a < 256) (hb : b < 256) (hc : c < 256) (hd : d < 256) :
    readIpv4 (renderDec a ++ 46 :: (renderDec b ++ 46 :: (renderDec c ++ 46 :: renderDec d))) =
      some (BitVec.ofNat 32 (((a * 256 + b) * 256 + c) * 256 + d), []) := by
  unfold readIpv4
  have h4 := readOctet_render d hd [] (Or.inl rfl)
  rw [List.append_nil] at h4
  simp only [readOctet_render a ha _ (dot_not_digit _), readOctet_render b hb _ (dot_not_digit _),
    readOctet_render c hc _ (dot_not_digit _), h4, readDot, bind, Option.bind, pure]

theorem renderIp_eq (ip : Addr) :
    renderIp ip = renderDec (ip.toNat / 16777216) ++ 46 :: (renderDec (ip.toNat / 65536 % 256) ++
      46 :: (renderDec (ip.toNat / 256 % 256) ++ 46 :: renderDec (ip.toNat % 256))) := by
  unfold renderIp
  simp only [List.append_assoc, List.cons_append, List.nil_append]

theorem octets_recompose (x : Nat) (h : x < 2 ^ 32) :
    (((x / 16777216 * 256 + x / 65536 % 256) * 256 + x / 256 % 256) * 256 + x % 256) % 2 ^ 32 = x := by
  have e1 : x / 65536 = x / 256 / 256 := by rw [Nat.div_div_eq_div_mul]
  have e2 : x / 16777216 = x / 256 / 256 / 256 := by rw [Nat.div_div_eq_div_mul, Nat.div_div_eq_div_mul]
  rw [e1, e2, Nat.div_add_mod' (x / 256 / 256) 256, Nat.div_add_mod' (x / 256) 256, Nat.div_add_mod' x 256,
    Nat.mod_eq_of_lt h]

theorem ipv4FromStr_render (ip : Addr) : ipv4FromStr (renderIp ip) = some ip := by
  have hlt := ip.isLt
  have ha : ip.toNat / 16777216 < 256 := by omega
  have hb : ip.toNat / 65536 % 256 < 256 := by omega
  have hc : ip.toNat / 256 % 256 < 256 := by omega
  have hd : ip.toNat % 256 < 256 := by omega
  unfold ipv4FromStr
  have hlen : ¬ (renderIp ip).length > 15 := by
    rw [renderIp_eq]
    have l1 := (table_octet ⟨_, ha⟩).1
    have l2 := (table_octet ⟨_, hb⟩).1
    have l3 := (table_octet ⟨_, hc⟩).1
    have l4 := (table_octet ⟨_, hd⟩).1
    simp only at l1 l2 l3 l4
    simp only [List.length_append, List.length_cons]
    omega
  rw [if_neg hlen, renderIp_eq, readIpv4_render _ _ _ _ ha hb hc hd]
  simp only
  congr 1
  apply BitVec.eq_of_toNat_eq
  rw [BitVec.toNat_ofNat]
  exact octets_recompose _ hlt

theorem u32FromStr_render (k : Nat) (hk : k < 2 ^ 32) : u32FromStr (renderDec k) = some k := by
  have hne := renderDec_ne_nil k
  have hdig := renderDec_digits k
  have hval := renderDec_val k
  cases h : renderDec k with
  | nil => exact absurd h hne
  | cons c cs =>
    rw [h] at hdig hval
    have hc : isDigit c = true := hdig c (List.mem_cons_self)
    rw [isDigit_iff] at hc
    have h43 : c ≠ 43 := by omega
    have h45 : c ≠ 45 := by omega
    unfold u32FromStr
    split
    · rename_i heq; cases heq
    · rename_i heq; injection heq with h1 _; exact absurd h1 h43
    · rename_i heq; injection heq with h1 _; exact absurd h1 h45
    · rename_i c' cs' _ _ heq
      injection heq with h1 h2
      subst h1; subst h2
      simp only [if_neg h43, hval, if_pos hk]

theorem splitOn_no_sep (sep : Nat) (xs : Str) (h : sep ∉ xs) : splitOn sep xs = [xs] := by
  induction xs with
  | nil => rfl
  | cons c cs ih =>
    have hc : c ≠ sep := fun e => h (e ▸ List.mem_cons_self)
    have hcs : sep ∉ cs := fun e => h (List.mem_cons_of_mem _ e)
    simp only [splitOn, if_neg hc, ih hcs]

theorem splitOn_append (sep : Nat) (xs ys : Str) (h : sep ∉ xs) :
    splitOn sep (xs ++ sep :: ys) = xs :: splitOn sep ys := by
  induction xs with
  | nil => simp [splitOn]
  | cons c cs ih =>
    have hc : c ≠ sep := fun e => h (e ▸ List.mem_cons_self)
    have hcs : sep ∉ cs := fun e => h (List.mem_cons_of_mem _ e)
    simp only [List.cons_append, splitOn, if_neg hc, ih hcs]

theorem slash_not_in_dec (n : Nat) : 47 ∉ renderDec n := by
  intro h
  have := renderDec_digits n 47 h
  revert this; decide

theorem slash_not_in_ip (ip : Addr) : 47 ∉ renderIp ip := by
  rw [renderIp_eq]
  intro h
  simp only [List.mem_append, List.mem_cons] at h
  have := slash_not_in_dec
  rcases h with h | h | h | h | h | h | h
  · exact this _ h
  · cases h
  · exact this _ h
  · cases h
  · exact this _ h
  · cases h
  · exact this _ h

end Elvis.Subnet
