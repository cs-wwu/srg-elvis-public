import ElvisVerif.Lemmas.TcpRelSeq
import ElvisVerif.Lemmas.TcpRelEmit
import ElvisVerif.Lemmas.TcpView
/-!
# Release after a simultaneous close from a quiet state

`release_simultaneous`: both ESTABLISHED, nothing queued, unsent, buffered or parked, everything
acknowledged and received (`QuietX`).  Both applications call `close()`; two exchange phases later both
endpoints are in TIME-WAIT (FIN-WAIT-1 → CLOSING → TIME-WAIT, four segments: two FINs, two ACKs); when
`2·MSL` (+ 1 ms) have passed on each side both TCBs are deleted.
-/
namespace Elvis.Tcp
open Tcb Elvis.ModCmp Elvis.Tcp.Fin

theorem Tcb.QuietX.emit_fin {x : SideId} {t u : Tcb} (q : QuietX x t u) :
    (closedT t).segments = .ok (emitT (closedT t), [finSeg t]) := by
  have := (segments_closedT t q.text q.mtu).2.1
  rw [emitOut_quiet t q.one q.rtx] at this
  exact this

theorem crossing_close {s2 : Sys} {ta tb : Tcb} {st su dt du : List UInt8} {n : Nat}
    (v : View .A s2 ⟨some (closedT ta), some (closedT tb), st, su, dt, du, n⟩)
    (qa : QuietX .A ta tb) (qb : QuietX .B tb ta) :
    ∃ s3 s4 ta4 tb4, phase s2 = .ok s3 ∧ phase s3 = .ok s4 ∧ PlainRun s2 s4 ∧
      View .A s4 ⟨some ta4, some tb4, st, su, dt, du, n + 4⟩ ∧
      ta4.timeouts.timeWait = some TIME_WAIT ∧ tb4.timeouts.timeWait = some TIME_WAIT := by
  have eA1 := qa.emit_fin
  have eB1 := qb.emit_fin
  -- the FINs cross
  have hFa : IsFin (finSeg tb) ta.rcv.nxt ta.snd.nxt := by rw [qb.sync, ← qa.sync]; exact isFin_finSeg tb
  have hFb : IsFin (finSeg ta) tb.rcv.nxt tb.snd.nxt := by rw [qa.sync, ← qb.sync]; exact isFin_finSeg ta
  obtain ⟨aA2, rA2, eA3, kAck, kAp1, kAp2⟩ := sim_fin .A ta tb qa (finSeg tb) hFa
  obtain ⟨aB2, rB2, eB3, kBck, kBp1, kBp2⟩ := sim_fin .B tb ta qb (finSeg ta) hFb
  obtain ⟨s3, ph1, r23, v3⟩ := v.phase eA1 eB1 aB2 aA2 rA2 rB2
    (List.forall_mem_singleton.2 ⟨qa.lp, qa.rp⟩)
    (List.forall_mem_singleton.2 ⟨qb.lp, qb.rp⟩)
  -- the ACKs cross
  have hAa : IsAck ⟨(actA1 tb).finAckHdr, []⟩ (ta.rcv.nxt + 1) (ta.snd.nxt + 1) := by
    rw [qb.sync, ← qa.sync]; exact kBck
  have hAb : IsAck ⟨(actA1 ta).finAckHdr, []⟩ (tb.rcv.nxt + 1) (tb.snd.nxt + 1) := by
    rw [qa.sync, ← qb.sync]; exact kAck
  obtain ⟨ta4, aA4, rA4, wA4⟩ := sim_ack .A ta tb qa _ hAa
  obtain ⟨tb4, aB4, rB4, wB4⟩ := sim_ack .B tb ta qb _ hAb
  obtain ⟨s4, ph2, r34, v4⟩ := v3.phase eA3 eB3 aB4 aA4 rA4 rB4
    (List.forall_mem_singleton.2 ⟨kAp1.trans qa.lp, kAp2.trans qa.rp⟩)
    (List.forall_mem_singleton.2 ⟨kBp1.trans qb.lp, kBp2.trans qb.rp⟩)
  simp only [List.append_nil] at v4
  exact ⟨s3, s4, ta4, tb4, ph1, ph2, r23.trans r34, v4, wA4, wB4⟩

def releaseRound (s : Sys) : Except String Sys :=
  match s.step (.close .A) with
  | .error e => .error e
  | .ok (s1, _) =>
  match s1.step (.close .B) with
  | .error e => .error e
  | .ok (s2, _) =>
  match phase s2 with
  | .error e => .error e
  | .ok s3 =>
  match phase s3 with
  | .error e => .error e
  | .ok s4 =>
  match s4.step (.tick .A (TIME_WAIT + 1)) with
  | .error e => .error e
  | .ok (s5, _) =>
  match s5.step (.tick .B (TIME_WAIT + 1)) with
  | .error e => .error e
  | .ok (s6, _) => .ok s6

theorem release_simultaneous (s : Sys) (ta tb : Tcb) (ha : (s.side .A).tcb = some ta) (hb : (s.side .B).tcb = some tb)
    (qa : QuietX .A ta tb) (qb : QuietX .B tb ta) :
    ∃ s', releaseRound s = .ok s' ∧ FinRun s s' ∧ (s'.side .A).tcb = none ∧ (s'.side .B).tcb = none ∧
      (s'.side .A).submitted = (s.side .A).submitted ∧ (s'.side .B).submitted = (s.side .B).submitted ∧
      (s'.side .A).delivered = (s.side .A).delivered ∧ (s'.side .B).delivered = (s.side .B).delivered ∧
      s'.historyLen = s.historyLen + 4 := by
  obtain ⟨s1, st1, r1, v1⟩ := (View.start s .A ta tb ha hb).close (close_fwd ta qa.st qa.text)
  obtain ⟨s2, st2, r2, v2⟩ := v1.swap.close (close_fwd tb qb.st qb.text)
  obtain ⟨s3, s4, ta4, tb4, ph1, ph2, r24, v4, wA4, wB4⟩ := crossing_close v2.unswap qa qb
  obtain ⟨s5, st5, r5, v5⟩ := v4.expire ((advanceTime_timeWait ta4 (TIME_WAIT + 1) TIME_WAIT wA4).1 (by omega))
  obtain ⟨s6, st6, r6, v6⟩ := v5.swap.expire ((advanceTime_timeWait tb4 (TIME_WAIT + 1) TIME_WAIT wB4).1 (by omega))
  refine ⟨s6, ?_, (((r1.trans r2).trans (FinRun.of_plain r24)).trans (FinRun.of_plain r5)).trans (FinRun.of_plain r6),
    v6.u, v6.t, v6.su, v6.st, v6.du, v6.dt, v6.n⟩
  unfold releaseRound
  rw [st1]
  dsimp only
  rw [show s1.step (.close .B) = _ from st2]
  dsimp only
  rw [ph1]
  dsimp only
  rw [ph2]
  dsimp only
  rw [st5]
  dsimp only
  rw [show s5.step (.tick .B (TIME_WAIT + 1)) = _ from st6]

end Elvis.Tcp
