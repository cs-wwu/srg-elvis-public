import ElvisVerif.Lemmas.RouterRefine
/-! Silence of the concrete system: ARP traffic included, every enabled step that is not an
    application send / crafted frame consumes weight, so every run goes quiet. -/
namespace Elvis.Router

/-- number of taps of the topology (bounds the replies one ARP frame can trigger) -/
def Topo.taps (topo : Topo) : Nat := (topo.nodes.map (fun nd => nd.slots.length)).sum

/-- weight of an ARP request: more than all the replies it can trigger -/
def Topo.reqW (topo : Topo) : Nat := topo.taps + 1
/-- weight of one unit of datagram life: a whole retry budget of requests, and two steps -/
def Topo.lifeW (topo : Topo) : Nat := Elvis.Gen.arpResendTries * (topo.reqW + 1) + 2

def cwF (topo : Topo) (f : Frame) : Nat := lifeOf f.pkt.hdr.ttl * topo.lifeW
def cwT (topo : Topo) (t : Task) : Nat := lifeOf t.p.pkt.hdr.ttl * topo.lifeW + 1 + t.tries * (topo.reqW + 1)
def cwA (topo : Topo) (a : ArpFrame) : Nat := if a.isReq then topo.reqW else 1

def cweight (topo : Topo) (s : CState) : Nat :=
  (s.flight.map (cwF topo)).sum + (s.tasks.map (cwT topo)).sum + (s.arpFlight.map (cwA topo)).sum

def cInputWeight (topo : Topo) : CChoice → Nat
  | .send _ pkt => cwT topo (newTask { node := 0, slot := 0, loc := 0, nextHop := 0, viaRouter := false, pkt := pkt })
  | .inject f => cwF topo f
  | _ => 0

def CChoice.enabled (s : CState) : CChoice → Bool
  | .deliver i => i < s.flight.length
  | .task j => j < s.tasks.length
  | .arp a => a < s.arpFlight.length
  | _ => true

def CChoice.isInput : CChoice → Bool
  | .send _ _ => true
  | .inject _ => true
  | _ => false

theorem sum_map_set {α : Type} (f : α → Nat) (l : List α) (i : Nat) (x y : α) (h : l[i]? = some x) :
    ((l.set i y).map f).sum + f x = (l.map f).sum + f y := by
  -- both lists are the same once position `i` is taken out
  have h1 := sum_map_eraseIdx f l i x h
  have h2 := sum_map_eraseIdx f (l.set i y) i y (List.getElem?_set_self_of_some h)
  rw [List.eraseIdx_set_eq] at h2
  omega

theorem tapsOnFrom_length (net : NetId) : ∀ (nodes : List Node) (i : Nat),
    (tapsOnFrom i nodes net).length ≤ (nodes.map (fun nd => nd.slots.length)).sum
  | [], _ => by simp [tapsOnFrom]
  | nd :: rest, i => by
    have ih := tapsOnFrom_length net rest (i + 1)
    have hf := List.length_filter_le (fun (s : NetId × Mac) => s.1 == net) nd.slots
    simp only [tapsOnFrom, List.length_append, List.length_map, List.map_cons, List.sum_cons]
    omega

theorem tapsOn_length (topo : Topo) (net : NetId) : (tapsOn topo net).length ≤ topo.taps :=
  tapsOnFrom_length net topo.nodes 0

theorem arpReceive_step (fr : ArpFrame) (acc : List Cache × List ArpFrame) (t : Nat × Node × Mac) :
    (arpReceive fr acc t).2 = acc.2 ∨
      (fr.isReq = true ∧ ∃ r : ArpFrame, r.isReq = false ∧ (arpReceive fr acc t).2 = acc.2 ++ [r]) := by
  obtain ⟨n, nd, mac⟩ := t
  unfold arpReceive
  simp only []
  split
  · rename_i hc
    right
    simp only [Bool.and_eq_true] at hc
    exact ⟨hc.1, _, rfl, rfl⟩
  · left; rfl

theorem foldl_arpReceive_weight (topo : Topo) (fr : ArpFrame) :
    ∀ (taps : List (Nat × Node × Mac)) (acc : List Cache × List ArpFrame),
      ((taps.foldl (arpReceive fr) acc).2.map (cwA topo)).sum ≤
        (acc.2.map (cwA topo)).sum + fr.isReq.toNat * taps.length
  | [], acc => by simp
  | t :: taps, acc => by
    have ih := foldl_arpReceive_weight topo fr taps (arpReceive fr acc t)
    simp only [List.foldl_cons, List.length_cons, Nat.mul_succ]
    rcases arpReceive_step fr acc t with e | ⟨hq, r0, hr0, e⟩
    · rw [e] at ih
      omega
    · rw [e] at ih
      simp only [List.map_append, List.sum_append, List.map_cons, List.map_nil, List.sum_cons, List.sum_nil,
        cwA, hr0, hq, Bool.toNat_true, Nat.one_mul, Bool.false_eq_true, if_false] at ih ⊢
      omega

theorem arp_replies_weight (topo : Topo) (fr : ArpFrame) (caches : List Cache) (taps : List (Nat × Node × Mac))
    (hlen : taps.length ≤ topo.taps) :
    ((taps.foldl (arpReceive fr) (caches, [])).2.map (cwA topo)).sum + 1 ≤ cwA topo fr := by
  have := foldl_arpReceive_weight topo fr taps (caches, [])
  cases h : fr.isReq <;> simp [cwA, Topo.reqW, h] at this ⊢ <;> omega

theorem cwF_pos (topo : Topo) (f : Frame) : 0 < cwF topo f :=
  Nat.lt_of_lt_of_le (by simp [Topo.lifeW]) (Nat.le_mul_of_pos_left topo.lifeW (lifeOf_pos f.pkt.hdr.ttl))

theorem cstep_weight (topo : Topo) (s s' : CState) (c : CChoice) (h : cstep topo s c = .ok s') :
    cweight topo s' + (c.enabled s && !c.isInput).toNat ≤ cweight topo s + cInputWeight topo c := by
  have hF : ∀ f : Frame, 1 ≤ cwF topo f := cwF_pos topo
  cases c with
  | deliver i =>
    simp only [cstep] at h
    split at h
    · cases h
    · rename_i fl ps evs hc
      simp only [Except.ok.injEq] at h
      subst h
      obtain ⟨rfl, cf, r⟩ := deliverCore_rule (s := s.abs) hc
      have hsum := (rule_sum_without r (cwF topo) (fun _ => 0)).1
      have hact : (decide (i < s.flight.length) && !false).toNat = cf.length := rule_active r
      -- a frame weighs more than the forward it may leave behind
      have key : ((ps.map newTask).map (cwT topo)).sum + cf.length ≤ (cf.map (cwF topo)).sum := by
        cases r with
        | idle _ _ => simp
        | noTap _ f _ _ => simpa using hF f
        | tap _ f n nd σ d _ _ hd =>
          rcases d with _ | _ | ⟨_ | p⟩
          · simpa [Demuxed.pend] using hF f
          · simpa [Demuxed.pend] using hF f
          · simpa [Demuxed.pend] using hF f
          · obtain ⟨_, hl⟩ := lifeOf_hop (ipv4Demux_routed hd)
            have e3 : topo.lifeW = Elvis.Gen.arpResendTries * (topo.reqW + 1) + 2 := rfl
            simp [Demuxed.pend, cwF, cwT, newTask, ← hl, Nat.add_mul]
            omega
      simp only [cweight, cInputWeight, CChoice.enabled, CChoice.isInput, CState.abs, State.without,
        List.map_append, List.sum_append] at hsum ⊢
      omega
  | send hh pkt =>
    simp only [cstep, Except.ok.injEq] at h
    subst h
    simp only [cweight, cInputWeight, CChoice.enabled, CChoice.isInput, List.map_append, List.sum_append]
    rcases sendCore_spec topo hh pkt with e | ⟨p, nd, e, _, _, hp, _⟩
    · rw [e]; simp
    · rw [e]
      have : cwT topo (newTask p) = cwT topo (newTask { node := 0, slot := 0, loc := 0, nextHop := 0, viaRouter := false, pkt := pkt }) := by
        simp [cwT, newTask, hp]
      simp [this]; omega
  | inject f =>
    simp only [cstep, Except.ok.injEq] at h
    subst h
    simp [cweight, cInputWeight, CChoice.enabled, CChoice.isInput, List.map_append, List.sum_append]
    omega
  | task j =>
    simp only [cstep] at h
    have hb := Bool.toNat_le (decide (j < s.tasks.length) && !false)
    simp only [cInputWeight, CChoice.enabled, CChoice.isInput]
    split at h
    · rename_i hn
      simp only [Except.ok.injEq] at h; subst h
      simp [Nat.not_lt.2 (List.getElem?_eq_none_iff.1 hn)]
    · rename_i t ht
      have hsum := sum_map_eraseIdx (cwT topo) s.tasks j t ht
      have h1 : 1 ≤ cwT topo t := by simp only [cwT]; omega
      split at h
      · -- table hit
        split at h
        · cases h
        · rename_i fs evs hc
          simp only [Except.ok.injEq] at h
          subst h
          simp only [cweight, List.map_append, List.sum_append]
          cases resolveCore_rule (s := s.abs) (j := j) (by simp [CState.abs, ht]) hc with
          | unsent _ _ _ _ _ => simp only [List.map_nil, List.sum_nil]; omega
          | emit _ _ _ f _ he =>
            have : cwF topo f + 1 ≤ cwT topo t := by simp only [cwF, cwT, (emit_some he).1]; omega
            simp only [List.map_cons, List.map_nil, List.sum_cons, List.sum_nil]; omega
      · -- failed entry
        simp only [Except.ok.injEq] at h
        subst h
        simp only [cweight]; omega
      · split at h
        · -- give up
          simp only [Except.ok.injEq] at h
          subst h
          simp only [cweight]; omega
        · rename_i htries
          split at h
          · cases h
          · rename_i net smac _
            simp only [Except.ok.injEq] at h
            subst h
            have hset := sum_map_set (cwT topo) s.tasks j t { t with tries := t.tries - 1, started := true } ht
            have e1 : cwT topo { t with tries := t.tries - 1, started := true } + (topo.reqW + 1) = cwT topo t := by
              simp only [cwT]
              have : t.tries = (t.tries - 1) + 1 := by omega
              conv => rhs; rw [this, Nat.add_mul, Nat.one_mul]
              omega
            simp only [cweight, List.map_append, List.sum_append, List.map_cons, List.map_nil, List.sum_cons,
              List.sum_nil, cwA, if_true]
            omega
  | arp a =>
    simp only [cstep] at h
    have hb := Bool.toNat_le (decide (a < s.arpFlight.length) && !false)
    simp only [cInputWeight, CChoice.enabled, CChoice.isInput]
    split at h
    · rename_i hn
      simp only [Except.ok.injEq] at h; subst h
      simp [Nat.not_lt.2 (List.getElem?_eq_none_iff.1 hn)]
    · rename_i fr hfr
      simp only [Except.ok.injEq] at h
      subst h
      have hsum := sum_map_eraseIdx (cwA topo) s.arpFlight a fr hfr
      simp only [cweight, List.map_append, List.sum_append]
      -- the taps the frame reaches are some of the taps of the topology
      have h2 := tapsOn_length topo fr.net
      split
      · have := arp_replies_weight topo fr s.caches _ h2
        omega
      · rename_i m _
        have h1 := List.length_filter_le (fun (t : Nat × Node × Mac) => t.2.2 == m) (tapsOn topo fr.net)
        have := arp_replies_weight topo fr s.caches
          (((tapsOn topo fr.net).filter (fun (t : Nat × Node × Mac) => t.2.2 == m)).take 1)
          (by simp only [List.length_take]; omega)
        omega

def cActiveSteps (topo : Topo) : CState → List CChoice → Nat
  | _, [] => 0
  | s, c :: cs =>
    (c.enabled s && !c.isInput).toNat +
      match cstep topo s c with
      | .ok s' => cActiveSteps topo s' cs
      | .error _ => 0

def cInputBudget (topo : Topo) (cs : List CChoice) : Nat := (cs.map (cInputWeight topo)).sum

end Elvis.Router
