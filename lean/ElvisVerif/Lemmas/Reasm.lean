import ElvisVerif.Model.Reasm
import ElvisVerif.Lemmas.Heap
import ElvisVerif.Lemmas.Frag
import ElvisVerif.Lemmas.Codec
/-!
Helper lemmas for C11 (IPv4 reassembly, `Model/Reasm.lean`): putting the pieces together under
`Cfg.fixed` (`assemble_correct`), the invariant of one reassembly buffer (`SegInv`) and what one
`Segment::receive_packet` does to it (`Segment.receive_spec`), the reassembler followed for one
identifier while other traffic goes on (`step_lookup_ne`, `track`, `RInv`), when an expiry token
still frees its buffer (`Live`, `Dead`, `live_run`), and that the fragments C10 describes are the
pieces assumed here (`Pieces.pieceOf`).
-/
namespace Elvis.Reasm
open Elvis.Frag Elvis.Heap

theorem bitGet_zero (b : Nat) : bitGet 0 b = false := by simp [bitGet]

theorem bitGet_setRange (m s e b : Nat) :
    bitGet (setRange m s e) b = (bitGet m b || (decide (s ≤ b) && decide (b < e))) := by
  unfold setRange bitGet
  split
  · rename_i h
    simp only [Nat.testBit_or, Nat.testBit_shiftLeft, Nat.testBit_two_pow_sub_one]
    congr 1
    by_cases h1 : s ≤ b <;> by_cases h2 : b < e <;> simp [h1, h2] <;> omega
  · rename_i h
    have : (decide (s ≤ b) && decide (b < e)) = false := by
      by_cases h1 : s ≤ b <;> by_cases h2 : b < e <;> simp [h1, h2]; omega
    simp [this]

theorem complete_iff (m len : Nat) : complete m len = true ↔ ∀ b, b < len → bitGet m b = true := by
  unfold complete bitGet
  simp only [beq_iff_eq]
  constructor
  · intro h b hb
    have := congrArg (fun x => x.testBit b) h
    simp only [Nat.testBit_and, Nat.testBit_two_pow_sub_one, hb, decide_true, Bool.and_true] at this
    exact this
  · intro h
    apply Nat.eq_of_testBit_eq
    intro i
    simp only [Nat.testBit_and, Nat.testBit_two_pow_sub_one]
    by_cases hi : i < len
    · simp [hi, h i hi]
    · simp [hi]

structure Consistent (B : List UInt8) (p : Piece) : Prop where
  inside : 8 * p.offset + p.body.length ≤ B.length
  content : p.body = (B.drop (8 * p.offset)).take p.body.length
  aligned : p.body.length % 8 = 0 ∨ 8 * p.offset + p.body.length = B.length

/-- one round of the loop of `assemble` under `Cfg.fixed` -/
def appendPiece (msg : List UInt8) (p : Piece) : List UInt8 :=
  msg ++ p.body.drop (min (msg.length - p.offset * 8) p.body.length)

theorem assemble_fixed (ps : List Piece) : assemble Cfg.fixed ps = ps.foldl appendPiece [] := by
  simp only [assemble, Cfg.fixed, if_true]
  rfl

theorem appendPiece_take {B : List UInt8} {p : Piece} (c : Consistent B p) {n : Nat}
    (hn : n ≤ B.length) (hstart : 8 * p.offset ≤ n) :
    appendPiece (B.take n) p = B.take (max n (8 * p.offset + p.body.length)) := by
  have hin := c.inside
  unfold appendPiece
  rw [List.length_take, Nat.min_eq_left hn]
  by_cases hcase : 8 * p.offset + p.body.length ≤ n
  · rw [Nat.min_eq_right (by omega), List.drop_length, List.append_nil, Nat.max_eq_left hcase]
  · rw [Nat.min_eq_left (by omega), Nat.max_eq_right (by omega)]
    have e1 : p.body.drop (n - p.offset * 8) =
        (B.drop n).take (8 * p.offset + p.body.length - n) := by
      conv => lhs; rw [c.content]
      rw [List.drop_take, List.drop_drop]
      congr 1
      · omega
      · congr 1; omega
    have e2 : 8 * p.offset + p.body.length = n + (8 * p.offset + p.body.length - n) := by omega
    rw [e1]
    conv => rhs; rw [e2, List.take_add]

theorem assemble_aux (B : List UInt8) : ∀ (ps : List Piece) (n : Nat), n ≤ B.length →
    (n % 8 = 0 ∨ n = B.length) →
    ps.Pairwise (fun a b => a.offset ≤ b.offset) → (∀ p ∈ ps, Consistent B p) →
    (∀ b, n ≤ 8 * b → 8 * b < B.length →
      ∃ p ∈ ps, p.offset ≤ b ∧ 8 * b < 8 * p.offset + p.body.length) →
    ps.foldl appendPiece (B.take n) = B := by
  intro ps
  induction ps with
  | nil =>
    intro n hn hal _ _ hcov
    by_cases hlt : n < B.length
    · obtain ⟨p, hp, _⟩ := hcov (n / 8) (by omega) (by omega)
      simp at hp
    · have : n = B.length := by omega
      subst this; simp
  | cons p ps ih =>
    intro n hn hal hsort hcons hcov
    have hp := hcons p (by simp)
    have hsort' := List.pairwise_cons.1 hsort
    have hin := hp.inside
    -- the block at `n` is covered by some piece, and `p` starts no later than that one
    have hstart : 8 * p.offset ≤ n := by
      by_cases hlt : n < B.length
      · obtain ⟨q, hq, hqb, _⟩ := hcov (n / 8) (by omega) (by omega)
        rcases List.mem_cons.1 hq with rfl | hq
        · omega
        · have := hsort'.1 q hq; omega
      · omega
    have hal' := hp.aligned
    rw [List.foldl_cons, appendPiece_take hp hn hstart]
    apply ih _ (by omega) (by omega) hsort'.2 (fun q hq => hcons q (List.mem_cons_of_mem _ hq))
    intro b hb1 hb2
    obtain ⟨q, hq, hq1, hq2⟩ := hcov b (by omega) hb2
    rcases List.mem_cons.1 hq with rfl | hq
    · omega
    · exact ⟨q, hq, hq1, hq2⟩

theorem assemble_correct (B : List UInt8) (ps : List Piece)
    (hsort : ps.Pairwise (fun a b => a.offset ≤ b.offset)) (hcons : ∀ p ∈ ps, Consistent B p)
    (hcov : ∀ b, 8 * b < B.length →
      ∃ p ∈ ps, p.offset ≤ b ∧ 8 * b < 8 * p.offset + p.body.length) :
    assemble Cfg.fixed ps = B := by
  rw [assemble_fixed]
  have := assemble_aux B ps 0 (by omega) (by omega) hsort hcons (fun b _ h => hcov b h)
  simpa using this

theorem erase_cons (id : BufId) (p : BufId × Segment) (l : List (BufId × Segment)) :
    erase id (p :: l) = if p.1 = id then erase id l else p :: erase id l := by
  simp only [erase, List.filter_cons]
  by_cases h : p.1 = id <;> simp [h]

theorem lookup_erase_self (id : BufId) (l : List (BufId × Segment)) : lookup id (erase id l) = none := by
  induction l with
  | nil => rfl
  | cons p l ih =>
    rw [erase_cons]
    by_cases h : p.1 = id
    · rw [if_pos h]; exact ih
    · rw [if_neg h]; obtain ⟨k, v⟩ := p; simp only [lookup]; rw [if_neg h]; exact ih

theorem lookup_erase_ne (id k : BufId) (l : List (BufId × Segment)) (hne : k ≠ id) :
    lookup id (erase k l) = lookup id l := by
  induction l with
  | nil => rfl
  | cons p l ih =>
    rw [erase_cons]
    obtain ⟨k', v⟩ := p
    by_cases h : k' = k
    · rw [if_pos h]; simp only [lookup]; rw [if_neg (by rw [h]; exact hne)]; exact ih
    · rw [if_neg h]; simp only [lookup]; rw [ih]

theorem lookup_insert_self (id : BufId) (s : Segment) (l : List (BufId × Segment)) :
    lookup id (insert id s l) = some s := by simp [insert, lookup]

theorem lookup_insert_ne (id k : BufId) (s : Segment) (l : List (BufId × Segment)) (hne : k ≠ id) :
    lookup id (insert k s l) = lookup id l := by
  simp [insert, lookup, hne, lookup_erase_ne id k l hne]

theorem free_lookup_self (cfg : Cfg) (r : Reassembly) (id : BufId) :
    lookup id (r.free cfg id).segments = none := by
  unfold Reassembly.free
  cases h : lookup id r.segments with
  | none => simp [h]
  | some s => simp [lookup_erase_self]

theorem free_lookup_ne (cfg : Cfg) (r : Reassembly) (id k : BufId) (hne : k ≠ id) :
    lookup id (r.free cfg k).segments = lookup id r.segments := by
  unfold Reassembly.free
  cases h : lookup k r.segments with
  | none => simp
  | some s => simp [lookup_erase_ne id k _ hne]

theorem free_floor_le (cfg : Cfg) (r : Reassembly) (id : BufId) : r.floor ≤ (r.free cfg id).floor := by
  unfold Reassembly.free
  cases h : lookup id r.segments with
  | none => simp
  | some s => simp only []; split <;> omega

theorem free_floor_ge (r : Reassembly) (id : BufId) (s : Segment) (h : lookup id r.segments = some s) :
    s.epoch ≤ (r.free Cfg.fixed id).floor := by
  unfold Reassembly.free
  simp only [h, Cfg.fixed, if_true]
  omega

theorem pieceLe_tp : TotalPreorder Piece.le := by
  constructor
  · intro a b; simp only [Piece.le, decide_eq_true_eq]; omega
  · intro a b c; simp only [Piece.le, decide_eq_true_eq]; omega

/-- what the heap stores of a fragment -/
def toPiece (f : Frag) : Piece := ⟨f.2, f.1.fragOffset⟩

/-- fragment `f` contains (all or part of) block `b` -/
def Covers (f : Frag) (b : Nat) : Prop :=
  f.1.fragOffset ≤ b ∧ 8 * b < 8 * f.1.fragOffset + f.2.length

def Covered (n : Nat) (l : List Frag) : Prop :=
  (∃ f ∈ l, isLast f.1.flags = true) ∧ ∀ b, 8 * b < n → ∃ f ∈ l, Covers f b

/-- an original (unfragmented) datagram with a basic header and a non-empty payload -/
structure Datagram (H : Hdr) (B : List UInt8) : Prop where
  ihl : H.ihl = 5
  tl : H.totalLength = 20 + B.length
  pos : 0 < B.length
  max : B.length ≤ 65515
  fo : H.fragOffset = 0
  flags : H.flags = 0 ∨ H.flags = 2

structure PieceOf (H : Hdr) (B : List UInt8) (f : Frag) : Prop where
  fields : SameFields H f.1
  tl : f.1.totalLength = 20 + f.2.length
  pos : 0 < f.2.length
  inside : 8 * f.1.fragOffset + f.2.length ≤ B.length
  content : f.2 = (B.drop (8 * f.1.fragOffset)).take f.2.length
  last : isLast f.1.flags = true ↔ 8 * f.1.fragOffset + f.2.length = B.length
  blocks : isLast f.1.flags = false → f.2.length % 8 = 0
  flagsRange : f.1.flags < 4

theorem PieceOf.consistent {H B f} (p : PieceOf H B f) : Consistent B (toPiece f) := by
  refine ⟨p.inside, p.content, ?_⟩
  simp only [toPiece]
  cases h : isLast f.1.flags with
  | true => exact Or.inr (p.last.1 h)
  | false => exact Or.inl (p.blocks h)

/-! ### `Segment::receive_packet` in three parts: the checked arithmetic on the header, the fragment
filed (`file`), the completion test and what it leads to (`settle`) -/

/-- steps (8)–(11) and (17): the buffer with the fragment filed, whatever comes of it -/
def Segment.file (s : Segment) (h : Hdr) (body : List UInt8) : Segment :=
  { header := if h.fragOffset = 0 then some h else s.header,
    blocks := setRange s.blocks h.fragOffset (h.fragOffset + (h.totalLength - h.ihl * 4 + 7) / 8),
    frags := push Piece.le s.frags ⟨body, h.fragOffset⟩,
    tdl := if isLast h.flags then h.totalLength - h.ihl * 4 + h.fragOffset * 8 else s.tdl,
    timeout := max s.timeout h.ttl, epoch := s.epoch + 1 }

/-- the test (12)(13): the total data length is known and all its blocks are there -/
def Segment.full (f : Segment) : Bool := f.tdl ≠ 0 && complete f.blocks ((f.tdl + 7) / 8)

/-- (14)–(16): what a completing arrival returns, `hd` being the header buffer -/
def Segment.finish (cfg : Cfg) (s f : Segment) (hd : Hdr) : Segment × Option (Hdr × List UInt8) :=
  ({ s with header := f.header, blocks := f.blocks, frags := #[], tdl := f.tdl },
   some ({ hd with totalLength := f.tdl + hd.ihl * 4, flags := setIsLast hd.flags true },
     assemble cfg (drain Piece.le f.frags)))

/-- (12)–(17) on the filed buffer `f` of `s` -/
def Segment.settle (cfg : Cfg) (s f : Segment) : Except String (Segment × Option (Hdr × List UInt8)) :=
  if f.tdl ≠ 0 && 65535 < f.tdl + 7 then .error "panic:add-overflow:tdl_round" else
  if f.full then
    match f.header with
    | none => .error "panic:unwrap:header"
    | some hd =>
      if 65535 < f.tdl + hd.ihl * 4 then .error "panic:add-overflow:total_length" else .ok (Segment.finish cfg s f hd)
  else
    if 65535 ≤ s.epoch && !cfg.floor then .error "panic:add-overflow:epoch" else .ok (f, none)

theorem Segment.receive_eq (cfg : Cfg) (s : Segment) (h : Hdr) (body : List UInt8) :
    s.receive cfg h body =
      if h.totalLength < h.ihl * 4 then .error "panic:sub-overflow:data_length" else
      if 65535 < h.totalLength - h.ihl * 4 + 7 then .error "panic:add-overflow:block_end" else
      if 65535 < h.fragOffset + (h.totalLength - h.ihl * 4 + 7) / 8 then .error "panic:add-overflow:block_end" else
      if isLast h.flags && 65535 < h.fragOffset * 8 then .error "panic:mul-overflow:tdl" else
      if isLast h.flags && 65535 < h.totalLength - h.ihl * 4 + h.fragOffset * 8 then .error "panic:add-overflow:tdl" else
      Segment.settle cfg s (s.file h body) := rfl

theorem Segment.receive_ok {cfg : Cfg} {s : Segment} {h : Hdr} {b : List UInt8}
    {v : Segment × Option (Hdr × List UInt8)} (e : s.receive cfg h b = .ok v) :
    Segment.settle cfg s (s.file h b) = .ok v := by
  rw [Segment.receive_eq] at e
  iterate 5 replace e := (Codec.ok_of_ite_error e).2
  exact e

theorem Segment.receive_guarded (cfg : Cfg) (s : Segment) {h : Hdr} (b : List UInt8)
    (h1 : h.ihl * 4 ≤ h.totalLength) (h2 : h.fragOffset * 8 + (h.totalLength - h.ihl * 4) ≤ 65528) :
    s.receive cfg h b = Segment.settle cfg s (s.file h b) := by
  rw [Segment.receive_eq, if_neg (by omega), if_neg (by omega), if_neg (by omega),
    if_neg (by rw [Bool.and_eq_true, decide_eq_true_eq]; omega),
    if_neg (by rw [Bool.and_eq_true, decide_eq_true_eq]; omega)]

theorem Segment.settle_ok {cfg : Cfg} {s f : Segment} {v : Segment × Option (Hdr × List UInt8)}
    (e : Segment.settle cfg s f = .ok v) :
    (f.full = false ∧ v = (f, none)) ∨
    (f.full = true ∧ ∃ hd, f.header = some hd ∧ v = Segment.finish cfg s f hd) := by
  unfold Segment.settle at e
  replace e := (Codec.ok_of_ite_error e).2
  split at e
  · rename_i hf
    split at e
    · cases e
    · rename_i hd hh
      replace e := (Codec.ok_of_ite_error e).2
      cases e
      exact .inr ⟨hf, hd, hh, rfl⟩
  · rename_i hf
    replace e := (Codec.ok_of_ite_error e).2
    cases e
    exact .inl ⟨by simpa using hf, rfl⟩

theorem Segment.settle_fixed (s : Segment) {f : Segment} (ht : f.tdl ≤ 65515) :
    (f.full = false → Segment.settle Cfg.fixed s f = .ok (f, none)) ∧
    (∀ hd, f.full = true → f.header = some hd → hd.ihl = 5 →
      Segment.settle Cfg.fixed s f = .ok (Segment.finish Cfg.fixed s f hd)) := by
  unfold Segment.settle
  rw [if_neg (by rw [Bool.and_eq_true, decide_eq_true_eq, decide_eq_true_eq]; omega)]
  constructor
  · intro hf
    rw [if_neg (by rw [hf]; exact Bool.false_ne_true), if_neg (by simp [Cfg.fixed])]
  · intro hd hf hh hi
    rw [if_pos hf, hh]
    dsimp only
    rw [if_neg (by omega)]

/-- the state of one reassembly buffer after the fragments `hist` arrived (none completing) -/
structure SegInv (B : List UInt8) (s : Segment) (hist : List Frag) : Prop where
  heap : IsHeap Piece.le s.frags
  perm : s.frags.toList.Perm (hist.map toPiece)
  bits : ∀ b, bitGet s.blocks b = true ↔ ∃ f ∈ hist, Covers f b
  tdlLast : (∃ f ∈ hist, isLast f.1.flags = true) → s.tdl = B.length
  tdlNone : (¬ ∃ f ∈ hist, isLast f.1.flags = true) → s.tdl = 0
  hdr : ∀ g, s.header = some g → g.fragOffset = 0 ∧ ∃ b, (g, b) ∈ hist
  hdrSome : (∃ f ∈ hist, f.1.fragOffset = 0) → s.header.isSome = true

theorem segInv_new (B : List UInt8) (e : Nat) : SegInv B (Segment.newAt e) [] := by
  refine ⟨?_, ?_, ?_, ?_, ?_, ?_, ?_⟩
  · exact isHeap_empty _
  · simp [Segment.newAt]
  · intro b; simp [Segment.newAt, bitGet_zero]
  · simp
  · simp [Segment.newAt]
  · simp [Segment.newAt]
  · simp

theorem header_restore {H B g b} (dg : Datagram H B) (p : PieceOf H B (g, b)) (h0 : g.fragOffset = 0) :
    { g with totalLength := B.length + g.ihl * 4, flags := setIsLast g.flags true } = H := by
  obtain ⟨f1, f2, f3, f4, f5, f6, f7, f8, f9⟩ := p.fields
  have hfl := p.flagsRange
  obtain ⟨d1, d2, _, _, d5, d6⟩ := dg
  cases H
  cases g
  simp only [Hdr.mk.injEq] at *
  simp only [mayFragment] at f9
  subst f1 f2 f3 f4 f5 f6 f7 f8 h0 d5 d1
  refine ⟨rfl, rfl, by omega, rfl, rfl, ?_, rfl, rfl, rfl, rfl, rfl⟩
  simp only [setIsLast]
  rcases d6 with rfl | rfl <;> simp at f9 ⊢ <;> omega

theorem SegInv.file {B : List UInt8} {s : Segment} {hist : List Frag} (inv : SegInv B s hist)
    (h : Hdr) (body : List UInt8) (hdl : h.totalLength - h.ihl * 4 = body.length)
    (hlast : isLast h.flags = true → body.length + h.fragOffset * 8 = B.length) :
    SegInv B (s.file h body) (hist ++ [(h, body)]) := by
  unfold Segment.file
  rw [hdl]
  refine ⟨push_heap pieceLe_tp _ _ inv.heap, ?_, ?_, ?_, ?_, ?_, ?_⟩
  · have := Array.perm_iff_toList_perm.1 (push_perm Piece.le s.frags ⟨body, h.fragOffset⟩)
    simp only [Array.toList_push] at this
    refine this.trans ?_
    simp only [List.map_append, List.map_cons, List.map_nil, toPiece]
    exact List.Perm.append_right _ inv.perm
  · intro b
    simp only [bitGet_setRange, Bool.or_eq_true, Bool.and_eq_true, decide_eq_true_eq, inv.bits b,
      List.mem_append, List.mem_singleton]
    constructor
    · rintro (⟨g, hg, hc⟩ | ⟨h1, h2⟩)
      · exact ⟨g, Or.inl hg, hc⟩
      · exact ⟨(h, body), Or.inr rfl, ⟨h1, by simp only; omega⟩⟩
    · rintro ⟨g, hg | rfl, hc⟩
      · exact Or.inl ⟨g, hg, hc⟩
      · right; obtain ⟨c1, c2⟩ := hc; simp only at c1 c2; constructor <;> omega
  · rintro ⟨g, hg, hl⟩
    simp only
    split
    · rename_i hl'; exact hlast hl'
    · rename_i hl'
      rcases List.mem_append.1 hg with hg | hg
      · exact inv.tdlLast ⟨g, hg, hl⟩
      · obtain rfl := List.mem_singleton.1 hg
        exact absurd hl hl'
  · intro hn
    simp only
    split
    · rename_i hl'; exact absurd ⟨(h, body), by simp, hl'⟩ hn
    · apply inv.tdlNone
      rintro ⟨g, hg, hl⟩
      exact hn ⟨g, by simp [hg], hl⟩
  · intro g hg
    simp only at hg
    split at hg
    · rename_i h0; cases hg; exact ⟨h0, body, by simp⟩
    · obtain ⟨a, b, hb⟩ := inv.hdr g hg; exact ⟨a, b, by simp [hb]⟩
  · rintro ⟨g, hg, h0⟩
    simp only
    split
    · rfl
    · rename_i hne
      rcases List.mem_append.1 hg with hg | hg
      · exact inv.hdrSome ⟨g, hg, h0⟩
      · obtain rfl := List.mem_singleton.1 hg
        exact absurd h0 hne

theorem SegInv.full_iff {B : List UInt8} {s : Segment} {hist : List Frag} (inv : SegInv B s hist)
    (hB : 0 < B.length) : s.full = true ↔ Covered B.length hist := by
  unfold Segment.full
  simp only [Bool.and_eq_true, decide_eq_true_eq, complete_iff]
  constructor
  · rintro ⟨hne, hc⟩
    have hex : ∃ g ∈ hist, isLast g.1.flags = true :=
      Classical.byContradiction fun hn => hne (inv.tdlNone hn)
    have ht := inv.tdlLast hex
    exact ⟨hex, fun b hb => (inv.bits b).1 (hc b (by omega))⟩
  · rintro ⟨hex, hcov⟩
    have ht := inv.tdlLast hex
    exact ⟨by omega, fun b hb => (inv.bits b).2 (hcov b (by omega))⟩

theorem SegInv.header_covered {H : Hdr} {B : List UInt8} {s : Segment} {hist : List Frag}
    (dg : Datagram H B) (inv : SegInv B s hist) (hh : ∀ g ∈ hist, PieceOf H B g)
    (cov : Covered B.length hist) :
    ∃ hd, s.header = some hd ∧ hd.ihl = 5 ∧
      { hd with totalLength := B.length + hd.ihl * 4, flags := setIsLast hd.flags true } = H := by
  obtain ⟨g0, hg0, c0⟩ := cov.2 0 (by have := dg.pos; omega)
  obtain ⟨hd, hhd⟩ := Option.isSome_iff_exists.1 (inv.hdrSome ⟨g0, hg0, by have := c0.1; omega⟩)
  obtain ⟨hd0, b0, hmem⟩ := inv.hdr hd hhd
  have pd := hh (hd, b0) hmem
  exact ⟨hd, hhd, by rw [pd.fields.1, dg.ihl], header_restore dg pd hd0⟩

theorem SegInv.assembled {H : Hdr} {B : List UInt8} {s : Segment} {hist : List Frag}
    (inv : SegInv B s hist) (hh : ∀ g ∈ hist, PieceOf H B g) (cov : Covered B.length hist) :
    assemble Cfg.fixed (drain Piece.le s.frags) = B := by
  obtain ⟨dperm, dsort⟩ := drain_spec pieceLe_tp s.frags inv.heap
  apply assemble_correct B
  · exact dsort.imp (fun {a b} hab => by simpa [Piece.le] using hab)
  · intro p hp
    obtain ⟨g, hg, rfl⟩ := List.mem_map.1 (inv.perm.mem_iff.1 (dperm.mem_iff.1 hp))
    exact (hh g hg).consistent
  · intro b hb
    obtain ⟨g, hg, cg⟩ := cov.2 b hb
    exact ⟨toPiece g, dperm.mem_iff.2 (inv.perm.mem_iff.2 (List.mem_map.2 ⟨g, hg, rfl⟩)), cg.1, cg.2⟩

theorem Segment.receive_spec {H : Hdr} {B : List UInt8} {s : Segment} {hist : List Frag} {f : Frag}
    (dg : Datagram H B) (inv : SegInv B s hist) (hh : ∀ g ∈ hist, PieceOf H B g)
    (pf : PieceOf H B f) :
    (¬ Covered B.length (hist ++ [f]) ∧
      ∃ s', Segment.receive Cfg.fixed s f.1 f.2 = .ok (s', none) ∧ SegInv B s' (hist ++ [f])) ∨
    (Covered B.length (hist ++ [f]) ∧
      ∃ s', Segment.receive Cfg.fixed s f.1 f.2 = .ok (s', some (H, B))) := by
  obtain ⟨h, body⟩ := f
  have hihl : h.ihl = 5 := by rw [pf.fields.1, dg.ihl]
  have htl : h.totalLength = 20 + body.length := pf.tl
  have hin : 8 * h.fragOffset + body.length ≤ B.length := pf.inside
  have hmax := dg.max
  have hall : ∀ g ∈ hist ++ [(h, body)], PieceOf H B g :=
    List.forall_mem_append.2 ⟨hh, List.forall_mem_singleton.2 pf⟩
  have inv' := inv.file h body (by omega) (fun hl => by have := pf.last.1 hl; simp only at this; omega)
  dsimp only
  rw [Segment.receive_guarded Cfg.fixed s body (by omega) (by omega)]
  generalize s.file h body = f at inv'
  have htdl : f.tdl ≤ 65515 := by
    by_cases hex : ∃ g ∈ hist ++ [(h, body)], isLast g.1.flags = true
    · rw [inv'.tdlLast hex]; exact hmax
    · rw [inv'.tdlNone hex]; exact Nat.zero_le _
  obtain ⟨hopen, hfull⟩ := Segment.settle_fixed s htdl
  cases hc : f.full with
  | false =>
    exact .inl ⟨fun cov => Bool.false_ne_true (hc.symm.trans ((inv'.full_iff dg.pos).2 cov)), f, hopen hc, inv'⟩
  | true =>
    have cov := (inv'.full_iff dg.pos).1 hc
    obtain ⟨hd, hhd, hi, hres⟩ := inv'.header_covered dg hall cov
    refine .inr ⟨cov, (Segment.finish Cfg.fixed s f hd).1, ?_⟩
    rw [hfull hd hc hhd hi]
    simp only [Segment.finish, inv'.tdlLast cov.1, hres, inv'.assembled hall cov]

def Op.concerns (id : BufId) : Op → Prop
  | .pkt h _ => BufId.ofHdr h = id
  | .cull k _ => k = id

theorem receive_cases {cfg : Cfg} {r r' : Reassembly} {h : Hdr} {b : List UInt8} {o : Result}
    (e : r.receive cfg h b = .ok (r', o)) :
    (r' = r.free cfg (BufId.ofHdr h) ∧ o = .complete h b) ∨
    ∃ seg' res, (r.bufferFor cfg (BufId.ofHdr h)).receive cfg h b = .ok (seg', res) ∧
      match res with
      | some (hd, msg) =>
        r' = ({ r with segments := insert (BufId.ofHdr h) seg' r.segments } : Reassembly).free cfg (BufId.ofHdr h) ∧
          o = .complete hd msg
      | none =>
        r' = { r with segments := insert (BufId.ofHdr h) seg' r.segments } ∧
          o = .incomplete seg'.timeout (BufId.ofHdr h) seg'.epoch := by
  unfold Reassembly.receive at e
  dsimp only at e
  split at e
  · cases e; exact .inl ⟨rfl, rfl⟩
  · unfold Reassembly.receiveInto at e
    split at e
    · cases e
    · rename_i seg' hd msg hrec
      cases e; exact .inr ⟨seg', some (hd, msg), hrec, rfl, rfl⟩
    · rename_i seg' hrec
      cases e; exact .inr ⟨seg', none, hrec, rfl, rfl⟩

theorem receive_frame {cfg : Cfg} {r r' : Reassembly} {h : Hdr} {b : List UInt8} {o : Result}
    (e : r.receive cfg h b = .ok (r', o)) :
    r.floor ≤ r'.floor ∧
      ∀ id, BufId.ofHdr h ≠ id → lookup id r'.segments = lookup id r.segments := by
  rcases receive_cases e with ⟨rfl, _⟩ | ⟨seg', res, _, hr⟩
  · exact ⟨free_floor_le _ _ _, fun id hne => free_lookup_ne cfg r id _ hne⟩
  · cases res with
    | none => rw [hr.1]; exact ⟨Nat.le_refl _, fun id hne => lookup_insert_ne id _ _ _ hne⟩
    | some q =>
      rw [hr.1]
      exact ⟨free_floor_le cfg ({ r with segments := insert (BufId.ofHdr h) seg' r.segments } : Reassembly) _,
        fun id hne => by rw [free_lookup_ne cfg _ id _ hne]; exact lookup_insert_ne id _ _ _ hne⟩

/-- the expiry token `(id, e)` would free the buffer now -/
def Live (r : Reassembly) (id : BufId) (e : Nat) : Prop :=
  ∃ s, lookup id r.segments = some s ∧ s.epoch = e

theorem maybeCull_live {cfg : Cfg} {r : Reassembly} {id : BufId} {e : Nat} (l : Live r id e) :
    r.maybeCull cfg id e = r.free cfg id := by
  obtain ⟨s, hs, he⟩ := l
  simp only [Reassembly.maybeCull, hs, he, if_true]

theorem maybeCull_not_live {cfg : Cfg} {r : Reassembly} {id : BufId} {e : Nat} (n : ¬ Live r id e) :
    r.maybeCull cfg id e = r := by
  unfold Reassembly.maybeCull
  cases hl : lookup id r.segments with
  | none => rfl
  | some s => exact if_neg (fun he => n ⟨s, hl, he⟩)

theorem maybeCull_lookup_ne (cfg : Cfg) (r : Reassembly) (k id : BufId) (e : Nat) (hne : k ≠ id) :
    lookup id (r.maybeCull cfg k e).segments = lookup id r.segments := by
  by_cases l : Live r k e
  · rw [maybeCull_live l]; exact free_lookup_ne cfg r id k hne
  · rw [maybeCull_not_live l]

theorem step_lookup_ne (cfg : Cfg) (r : Reassembly) (op : Op) (id : BufId) (hne : ¬ op.concerns id) :
    lookup id (step cfg r op).1.segments = lookup id r.segments := by
  cases op with
  | pkt h b =>
    simp only [Op.concerns] at hne
    simp only [step]
    cases e : r.receive cfg h b with
    | error _ => rfl
    | ok p => exact (receive_frame e).2 id hne
  | cull k ep =>
    simp only [Op.concerns] at hne
    exact maybeCull_lookup_ne cfg r k id ep hne

theorem PieceOf.whole {H : Hdr} {B : List UInt8} {h : Hdr} {b : List UInt8} (dg : Datagram H B)
    (p : PieceOf H B (h, b)) (hl : isLast h.flags = true) (h0 : h.fragOffset = 0) :
    h = H ∧ b = B := by
  have hlen : b.length = B.length := by have := p.last.1 hl; simp only [h0] at this; omega
  have hb : b = B := by
    have := p.content
    simp only [h0, Nat.mul_zero, List.drop_zero, hlen, List.take_length] at this
    exact this
  refine ⟨?_, hb⟩
  have hr := header_restore dg p h0
  have hihl : h.ihl = 5 := by rw [p.fields.1, dg.ihl]
  have htl := p.tl
  have hfl := p.flagsRange
  simp only at htl hfl
  rw [← hr]
  cases h
  simp only [Hdr.mk.injEq, true_and, and_true] at *
  subst hihl
  simp only [isLast, beq_iff_eq] at hl
  refine ⟨by omega, ?_⟩
  simp only [setIsLast]; simp; omega

/-- the fragments of `(H, B)` received for `id` since its buffer was last freed, as the run itself
    shows it (results and buffer presence): grows with every `Incomplete`, emptied by `Complete`
    and by an expiry that frees the buffer -/
def trackStep (id : BufId) (rg : Reassembly × List Frag) (op : Op) : Reassembly × List Frag :=
  let ro := step Cfg.fixed rg.1 op
  (ro.1,
   match op, ro.2 with
   | .pkt h b, .res (.incomplete _ _ _) => if BufId.ofHdr h = id then rg.2 ++ [(h, b)] else rg.2
   | .pkt h _, .res (.complete _ _) => if BufId.ofHdr h = id then [] else rg.2
   | .cull k _, _ => if k = id ∧ ro.1.contains id = false then [] else rg.2
   | _, _ => rg.2)

def track (id : BufId) (rg : Reassembly × List Frag) (ops : List Op) : Reassembly × List Frag :=
  ops.foldl (trackStep id) rg

/-- every packet addressed to `id` is a fragment of `(H, B)`; anything else is arbitrary -/
def GoodOp (H : Hdr) (B : List UInt8) (id : BufId) : Op → Prop
  | .pkt h b => BufId.ofHdr h = id → PieceOf H B (h, b)
  | .cull _ _ => True

structure RInv (H : Hdr) (B : List UInt8) (id : BufId) (r : Reassembly) (g : List Frag) : Prop where
  pieces : ∀ f ∈ g, PieceOf H B f
  seg : ∀ s, lookup id r.segments = some s → SegInv B s g
  none : lookup id r.segments = none → g = []

theorem rinv_new (H : Hdr) (B : List UInt8) (id : BufId) : RInv H B id Reassembly.new [] :=
  ⟨by simp, by simp [Reassembly.new, lookup], fun _ => rfl⟩

theorem receive_id {H : Hdr} {B : List UInt8} {id : BufId} {r : Reassembly} {g : List Frag}
    (dg : Datagram H B) (inv : RInv H B id r g) (h : Hdr) (b : List UInt8)
    (hid : BufId.ofHdr h = id) (pf : PieceOf H B (h, b)) :
    (∃ r', r.receive Cfg.fixed h b = .ok (r', .complete H B) ∧ Covered B.length (g ++ [(h, b)]) ∧
        lookup id r'.segments = none) ∨
    (∃ r' t e, r.receive Cfg.fixed h b = .ok (r', .incomplete t id e) ∧
        ¬ Covered B.length (g ++ [(h, b)]) ∧ RInv H B id r' (g ++ [(h, b)])) := by
  unfold Reassembly.receive
  simp only [hid]
  by_cases hs : (isLast h.flags && decide (h.fragOffset = 0)) = true
  · -- the whole datagram
    left
    simp only [Bool.and_eq_true, decide_eq_true_eq] at hs
    obtain ⟨e1, e2⟩ := pf.whole dg hs.1 hs.2
    subst e1 e2
    simp only [hs.1, hs.2, decide_true, Bool.and_self, if_true]
    refine ⟨_, rfl, ⟨⟨(h, b), by simp, hs.1⟩, ?_⟩, free_lookup_self _ _ _⟩
    intro blk hblk
    exact ⟨(h, b), by simp, by simp only [Covers, hs.2]; omega⟩
  · rw [if_neg hs]
    have hseg : SegInv B (r.bufferFor Cfg.fixed id) g := by
      unfold Reassembly.bufferFor
      cases hl : lookup id r.segments with
      | some s => exact inv.seg s hl
      | none => simp only []; rw [inv.none hl]; exact segInv_new B _
    unfold Reassembly.receiveInto
    rcases Segment.receive_spec dg hseg inv.pieces pf with ⟨hnc, s', e, si⟩ | ⟨hc, s', e⟩
    · right
      dsimp only at e
      simp only [e]
      refine ⟨_, _, _, rfl, hnc, List.forall_mem_append.2 ⟨inv.pieces, List.forall_mem_singleton.2 pf⟩, ?_, ?_⟩
      · intro s hs'
        rw [lookup_insert_self] at hs'
        cases hs'; exact si
      · intro hn; rw [lookup_insert_self] at hn; cases hn
    · left
      dsimp only at e
      simp only [e]
      exact ⟨_, rfl, hc, free_lookup_self _ _ _⟩

theorem RInv.transfer {H : Hdr} {B : List UInt8} {id : BufId} {r r' : Reassembly} {g : List Frag}
    (inv : RInv H B id r g) (e : lookup id r'.segments = lookup id r.segments) : RInv H B id r' g :=
  ⟨inv.pieces, fun s hs => inv.seg s (e ▸ hs), fun hn => inv.none (e ▸ hn)⟩

theorem rinv_empty (H : Hdr) (B : List UInt8) (id : BufId) (r : Reassembly)
    (hl : lookup id r.segments = none) : RInv H B id r [] :=
  ⟨by simp, fun s hs => (by rw [hl] at hs; cases hs), fun _ => rfl⟩

theorem trackStep_inv {H : Hdr} {B : List UInt8} {id : BufId} {r : Reassembly} {g : List Frag}
    (dg : Datagram H B) (inv : RInv H B id r g) (op : Op) (good : GoodOp H B id op) :
    RInv H B id (trackStep id (r, g) op).1 (trackStep id (r, g) op).2 := by
  cases op with
  | pkt h b =>
    by_cases hid : BufId.ofHdr h = id
    · have pf := good hid
      rcases receive_id dg inv h b hid pf with ⟨r', e, _, hl⟩ | ⟨r', t, ep, e, _, inv'⟩
      · simp only [trackStep, step, e, hid, if_true]
        exact rinv_empty H B id r' hl
      · simp only [trackStep, step, e, hid, if_true]
        exact inv'
    · have hl := step_lookup_ne Cfg.fixed r (.pkt h b) id (by simpa [Op.concerns] using hid)
      have hg : (trackStep id (r, g) (.pkt h b)).2 = g := by
        simp only [trackStep]
        split <;> simp_all
      rw [hg]
      exact inv.transfer hl
  | cull k ep =>
    by_cases hk : k = id
    · subst hk
      simp only [trackStep, step, Reassembly.contains]
      by_cases l : Live r k ep
      · rw [maybeCull_live l]
        simp only [free_lookup_self, Option.isSome_none, and_self, if_true]
        exact rinv_empty H B k _ (free_lookup_self _ _ _)
      · rw [maybeCull_not_live l]
        cases hl : lookup k r.segments with
        | none =>
          simp only [Option.isSome_none, and_self, if_true]
          exact rinv_empty H B k r hl
        | some s =>
          simp only [Option.isSome_some, Bool.true_eq_false, and_false, if_false]
          exact inv
    · have hl := step_lookup_ne Cfg.fixed r (.cull k ep) id (by simpa [Op.concerns] using hk)
      have hg : (trackStep id (r, g) (.cull k ep)).2 = g := by
        simp only [trackStep, hk, false_and, if_false]
      rw [hg]
      exact inv.transfer hl

theorem track_inv {H : Hdr} {B : List UInt8} {id : BufId} (dg : Datagram H B)
    (ops : List Op) (rg : Reassembly × List Frag) (inv : RInv H B id rg.1 rg.2)
    (good : ∀ op ∈ ops, GoodOp H B id op) : RInv H B id (track id rg ops).1 (track id rg ops).2 :=
  List.foldlRecOn (motive := fun rg => RInv H B id rg.1 rg.2) ops (trackStep id) inv
    fun _ inv' op hop => trackStep_inv dg inv' op (good op hop)

theorem track_fst (id : BufId) : ∀ (ops : List Op) (rg : Reassembly × List Frag),
    (track id rg ops).1 = (run Cfg.fixed rg.1 ops).1 := by
  intro ops
  induction ops with
  | nil => intro rg; rfl
  | cons op ops ih =>
    intro rg
    simp only [track, List.foldl_cons, run]
    exact ih _


theorem Segment.receive_epoch (cfg : Cfg) (s : Segment) (h : Hdr) (b : List UInt8) (s' : Segment)
    (res : Option (Hdr × List UInt8)) (e : Segment.receive cfg s h b = .ok (s', res)) :
    (res = none → s'.epoch = s.epoch + 1) ∧ (res ≠ none → s'.epoch = s.epoch) := by
  rcases Segment.settle_ok (Segment.receive_ok e) with ⟨_, hv⟩ | ⟨_, hd, _, hv⟩
  · cases hv; exact ⟨fun _ => rfl, fun h => absurd rfl h⟩
  · cases hv; exact ⟨nofun, fun _ => rfl⟩

/-- the expiry token `(id, e)` can never free a buffer again -/
def Dead (r : Reassembly) (id : BufId) (e : Nat) : Prop :=
  (lookup id r.segments = none ∧ e ≤ r.floor) ∨ (∃ s, lookup id r.segments = some s ∧ e < s.epoch)

/-- operations after which the token `(id, e)` must not free anything any more: an arrival for
    `id` (one that did not panic), or the expiry of this very token -/
def Disturbs (id : BufId) (e : Nat) (op : Op) (o : Out) : Prop :=
  match op, o with
  | .pkt h _, .res _ => BufId.ofHdr h = id
  | .cull k e', _ => k = id ∧ e' = e
  | _, _ => False

/-- The version number of the buffer of `id`: twice its epoch while it exists, twice the
    epoch floor plus one while it does not.  An expiry token `(id, e)` frees the buffer exactly while
    the stamp is `2 * e` (`live_iff_stamp`), it is harmless for ever once the stamp is greater
    (`dead_iff_stamp`), and the stamp never goes back (`step_stamp`): that is the whole of F-C11-2. -/
def stamp (r : Reassembly) (id : BufId) : Nat :=
  match lookup id r.segments with
  | some s => 2 * s.epoch
  | none => 2 * r.floor + 1

theorem stamp_some {r : Reassembly} {id : BufId} {s : Segment} (h : lookup id r.segments = some s) :
    stamp r id = 2 * s.epoch := by
  unfold stamp; rw [h]

theorem stamp_none {r : Reassembly} {id : BufId} (h : lookup id r.segments = none) :
    stamp r id = 2 * r.floor + 1 := by
  unfold stamp; rw [h]

theorem live_iff_stamp {r : Reassembly} {id : BufId} {e : Nat} : Live r id e ↔ stamp r id = 2 * e := by
  unfold Live stamp
  cases lookup id r.segments with
  | none => exact ⟨fun ⟨_, hs, _⟩ => (nomatch hs), fun (hs : 2 * r.floor + 1 = 2 * e) => by omega⟩
  | some s =>
    exact ⟨fun ⟨_, hs, he⟩ => by cases hs; exact congrArg (2 * ·) he, fun (hs : 2 * s.epoch = 2 * e) => ⟨s, rfl, by omega⟩⟩

theorem dead_iff_stamp {r : Reassembly} {id : BufId} {e : Nat} : Dead r id e ↔ 2 * e < stamp r id := by
  unfold Dead stamp
  cases lookup id r.segments with
  | none =>
    exact ⟨fun d => d.elim (fun d => Nat.lt_succ_of_le (Nat.mul_le_mul_left 2 d.2)) (fun ⟨_, hs, _⟩ => (nomatch hs)),
      fun (hs : 2 * e < 2 * r.floor + 1) => .inl ⟨rfl, by omega⟩⟩
  | some s =>
    exact ⟨fun d => d.elim (fun d => (nomatch d.1)) (fun ⟨_, hs, he⟩ => by cases hs; exact Nat.mul_lt_mul_of_pos_left he (by decide)),
      fun (hs : 2 * e < 2 * s.epoch) => .inr ⟨s, rfl, by omega⟩⟩

theorem stamp_keep {r r' : Reassembly} {id : BufId} (hl : lookup id r'.segments = lookup id r.segments)
    (hf : r.floor ≤ r'.floor) :
    stamp r id ≤ stamp r' id ∧ ∀ e, stamp r id = 2 * e → stamp r' id = 2 * e := by
  unfold stamp
  rw [hl]
  cases lookup id r.segments with
  | none => exact ⟨Nat.add_le_add_right (Nat.mul_le_mul_left 2 hf) 1, fun e (he : 2 * r.floor + 1 = 2 * e) => by omega⟩
  | some s => exact ⟨Nat.le_refl _, fun e he => he⟩

theorem Dead.transfer {r r' : Reassembly} {id : BufId} {e : Nat} (d : Dead r id e)
    (hl : lookup id r'.segments = lookup id r.segments) (hf : r.floor ≤ r'.floor) : Dead r' id e :=
  dead_iff_stamp.2 (Nat.lt_of_lt_of_le (dead_iff_stamp.1 d) (stamp_keep hl hf).1)

theorem stamp_free (r : Reassembly) (id : BufId) :
    stamp r id ≤ stamp (r.free Cfg.fixed id) id ∧
      ∀ e, stamp r id = 2 * e → 2 * e < stamp (r.free Cfg.fixed id) id := by
  rw [stamp_none (free_lookup_self Cfg.fixed r id)]
  cases h : lookup id r.segments with
  | none => rw [stamp_none h]; have := free_floor_le Cfg.fixed r id; exact ⟨by omega, fun e he => by omega⟩
  | some s => rw [stamp_some h]; have := free_floor_ge r id s h; exact ⟨by omega, fun e he => by omega⟩

theorem stamp_bufferFor (r : Reassembly) (id : BufId) :
    stamp r id ≤ 2 * (r.bufferFor Cfg.fixed id).epoch + 1 ∧
      ∀ e, stamp r id = 2 * e → (r.bufferFor Cfg.fixed id).epoch = e := by
  unfold Reassembly.bufferFor stamp
  cases lookup id r.segments with
  | none => exact ⟨Nat.le_refl _, fun e (he : 2 * r.floor + 1 = 2 * e) => absurd he (by omega)⟩
  | some s => exact ⟨Nat.le_succ _, fun e (he : 2 * s.epoch = 2 * e) => show s.epoch = e by omega⟩

theorem stamp_receive {r r' : Reassembly} {h : Hdr} {b : List UInt8} {o : Result}
    (e : r.receive Cfg.fixed h b = .ok (r', o)) :
    stamp r (BufId.ofHdr h) ≤ stamp r' (BufId.ofHdr h) ∧
      ∀ e, stamp r (BufId.ofHdr h) = 2 * e → 2 * e < stamp r' (BufId.ofHdr h) := by
  rcases receive_cases e with ⟨rfl, _⟩ | ⟨seg', res, hrec, hr⟩
  · exact stamp_free r _
  · obtain ⟨hb1, hb2⟩ := stamp_bufferFor r (BufId.ofHdr h)
    have hep := Segment.receive_epoch _ _ _ _ _ _ hrec
    have key : 2 * (r.bufferFor Cfg.fixed (BufId.ofHdr h)).epoch + 1 ≤ stamp r' (BufId.ofHdr h) := by
      cases res with
      | none =>
        rw [hr.1, stamp_some (lookup_insert_self _ seg' _), hep.1 rfl]; omega
      | some q =>
        rw [hr.1, stamp_none (free_lookup_self _ _ _), ← hep.2 nofun]
        have := free_floor_ge ({ r with segments := insert (BufId.ofHdr h) seg' r.segments } : Reassembly)
          (BufId.ofHdr h) seg' (lookup_insert_self _ _ _)
        omega
    exact ⟨by omega, fun e he => by have := hb2 e he; omega⟩

theorem step_stamp (r : Reassembly) (op : Op) (id : BufId) :
    stamp r id ≤ stamp (step Cfg.fixed r op).1 id ∧
    ∀ e, stamp r id = 2 * e →
      (Disturbs id e op (step Cfg.fixed r op).2 → 2 * e < stamp (step Cfg.fixed r op).1 id) ∧
      (¬ Disturbs id e op (step Cfg.fixed r op).2 → stamp (step Cfg.fixed r op).1 id = 2 * e) := by
  cases op with
  | pkt h b =>
    simp only [step]
    cases hr : r.receive Cfg.fixed h b with
    | error _ => exact ⟨Nat.le_refl _, fun e he => ⟨fun hd => hd.elim, fun _ => he⟩⟩
    | ok p =>
      obtain ⟨r', o⟩ := p
      simp only [Disturbs]
      by_cases hid : BufId.ofHdr h = id
      · subst hid
        obtain ⟨h1, h2⟩ := stamp_receive hr
        exact ⟨h1, fun e he => ⟨fun _ => h2 e he, fun hq => absurd rfl hq⟩⟩
      · obtain ⟨h1, h2⟩ := stamp_keep ((receive_frame hr).2 id hid) (receive_frame hr).1
        exact ⟨h1, fun e he => ⟨fun hd => absurd hd hid, fun _ => h2 e he⟩⟩
  | cull k e' =>
    simp only [step, Disturbs]
    by_cases l : Live r k e'
    · rw [maybeCull_live l]
      by_cases hk : k = id
      · subst hk
        obtain ⟨h1, h2⟩ := stamp_free r k
        refine ⟨h1, fun e he => ⟨fun _ => h2 e he, fun hq => ?_⟩⟩
        have := live_iff_stamp.1 l
        exact absurd ⟨rfl, by omega⟩ hq
      · obtain ⟨h1, h2⟩ := stamp_keep (free_lookup_ne Cfg.fixed r id k hk) (free_floor_le Cfg.fixed r k)
        exact ⟨h1, fun e he => ⟨fun hd => absurd hd.1 hk, fun _ => h2 e he⟩⟩
    · rw [maybeCull_not_live l]
      refine ⟨Nat.le_refl _, fun e he => ⟨fun hd => ?_, fun _ => he⟩⟩
      obtain ⟨rfl, rfl⟩ := hd
      exact absurd (live_iff_stamp.2 he) l

theorem run_stamp (id : BufId) : ∀ (ops : List Op) (r : Reassembly),
    stamp r id ≤ stamp (run Cfg.fixed r ops).1 id := by
  intro ops
  induction ops with
  | nil => intro r; exact Nat.le_refl _
  | cons op ops ih => intro r; simp only [run]; exact Nat.le_trans (step_stamp r op id).1 (ih _)

theorem live_run {id : BufId} {e : Nat} : ∀ (ops : List Op) (r : Reassembly), Live r id e →
    (Live (run Cfg.fixed r ops).1 id e ↔
      ∀ p ∈ ops.zip (run Cfg.fixed r ops).2, ¬ Disturbs id e p.1 p.2) := by
  intro ops
  induction ops with
  | nil => intro r l; simp [run, l]
  | cons op ops ih =>
    intro r l
    simp only [run, List.zip_cons_cons, List.mem_cons, forall_eq_or_imp]
    obtain ⟨hd, hq⟩ := (step_stamp r op id).2 e (live_iff_stamp.1 l)
    by_cases d : Disturbs id e op (step Cfg.fixed r op).2
    · have := run_stamp id ops (step Cfg.fixed r op).1
      have := hd d
      exact ⟨fun hl => by have := live_iff_stamp.1 hl; omega, fun h => absurd d h.1⟩
    · rw [ih _ (live_iff_stamp.2 (hq d))]
      exact ⟨fun h => ⟨d, h⟩, fun h => h.2⟩

theorem receive_incomplete {r r' : Reassembly} {h : Hdr} {b : List UInt8} {t e : Nat} {id : BufId}
    (hr : r.receive Cfg.fixed h b = .ok (r', .incomplete t id e)) : id = BufId.ofHdr h ∧ Live r' id e := by
  rcases receive_cases hr with ⟨_, ho⟩ | ⟨seg', res, _, hres⟩
  · cases ho
  · cases res with
    | some q => cases hres.2
    | none =>
      obtain ⟨rfl, ho⟩ := hres
      cases ho
      exact ⟨rfl, seg', lookup_insert_self _ _ _, rfl⟩


/-- **C10 ⟶ C11**: every piece of a faithful partition of an original datagram is a `PieceOf` it -/
theorem Pieces.pieceOf {H : Hdr} {B : List UInt8} {l : List Frag} (dg : Datagram H B)
    (p : Pieces H B l) : ∀ f ∈ l, PieceOf H B f := by
  intro f hf
  obtain ⟨a1, a2, a3, _, a6, a7⟩ := p.rel f hf
  have a5 := p.end_le f hf
  have hfo := dg.fo
  have hfl : H.flags < 4 ∧ isLast H.flags = true := by
    rcases dg.flags with h | h <;> simp [h, isLast]
  rw [hfo] at a5 a6 a7
  simp only [Nat.mul_zero, Nat.zero_add, Nat.sub_zero] at a5 a6 a7
  refine ⟨a1, a2, a3 dg.pos, a5, a6, ?_, ?_, ?_⟩
  · rcases a7 with ⟨b1, b2⟩ | ⟨b1, b2, b3⟩
    · rw [b1]; simp [hfl.2, b2]
    · rw [b1, isLast_setMF]; simp; omega
  · intro hnl
    rcases a7 with ⟨b1, b2⟩ | ⟨b1, b2, b3⟩
    · rw [b1, hfl.2] at hnl; cases hnl
    · exact b2
  · rcases a7 with ⟨b1, _⟩ | ⟨b1, _, _⟩
    · rw [b1]; exact hfl.1
    · rw [b1]; simp only [setMF, setIsLast]; simp; omega

end Elvis.Reasm
