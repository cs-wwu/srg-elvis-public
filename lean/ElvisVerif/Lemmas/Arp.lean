import ElvisVerif.Model.Arp
import ElvisVerif.Lemmas.ListSet
/-! Helper lemmas for C06: association lists, monotonicity of claims along transitions, the
soundness invariant and its preservation by every transition. -/
namespace Elvis.Arp
open Elvis.Gen.Arp

theorem alookup_ainsert {α : Type} (k k' : Nat) (v : α) (l : List (Nat × α)) :
    alookup k' (ainsert k v l) = if k' = k then some v else alookup k' l := by
  induction l with
  | nil => simp [ainsert, alookup, eq_comm]
  | cons p r ih =>
    obtain ⟨k'', v''⟩ := p
    by_cases h1 : k'' = k
    · subst h1
      by_cases h : k'' = k'
      · simp [ainsert, alookup, h]
      · simp [ainsert, alookup, h, Ne.symm h]
    · by_cases h2 : k'' = k'
      · subst h2; simp [ainsert, alookup, h1]
      · simp [ainsert, alookup, h1, h2, ih]

theorem alookup_ainsert_same {α : Type} (k : Nat) (v : α) (l : List (Nat × α)) :
    alookup k (ainsert k v l) = some v := by
  rw [alookup_ainsert, if_pos rfl]

theorem alookup_ainsert_ne {α : Type} {k k' : Nat} (h : k' ≠ k) (v : α) (l : List (Nat × α)) :
    alookup k' (ainsert k v l) = alookup k' l := by
  rw [alookup_ainsert, if_neg h]

def Machine.le (m m' : Machine) : Prop :=
  m'.macs = m.macs ∧ ∀ x, m.owns x = true → m'.owns x = true

theorem Machine.le_refl (m : Machine) : m.le m := ⟨rfl, fun _ h => h⟩

theorem Machine.le_trans {a b c : Machine} (h1 : a.le b) (h2 : b.le c) : a.le c :=
  ⟨h2.1.trans h1.1, fun x h => h2.2 x (h1.2 x h)⟩

theorem Machine.le_of_localIps {m m' : Machine} (h1 : m'.macs = m.macs) (h2 : m'.localIps = m.localIps) :
    m.le m' := ⟨h1, fun x h => by simpa [Machine.owns, h2] using h⟩

theorem Machine.owns_listen (m : Machine) (ip x : Ip) :
    (m.listen ip).owns x = (m.owns x || decide (x = ip)) := by
  unfold Machine.listen
  cases h : alookup ip m.localIps with
  | some v =>
    by_cases hx : x = ip
    · subst hx; simp [Machine.owns, h]
    · simp [hx]
  | none =>
    by_cases hx : x = ip
    · subst hx; simp [Machine.owns, alookup_ainsert_same]
    · simp [Machine.owns, alookup_ainsert_ne hx, hx]

theorem Machine.listen_le (m : Machine) (ip : Ip) : m.le (m.listen ip) := by
  refine ⟨?_, fun x h => by simp [Machine.owns_listen, h]⟩
  unfold Machine.listen; split <;> rfl

theorem Machine.listen_owns (m : Machine) (ip : Ip) : (m.listen ip).owns ip = true := by
  simp [Machine.owns_listen]

theorem Machine.listen_table (m : Machine) (ip : Ip) : (m.listen ip).table = m.table := by
  unfold Machine.listen; split <;> rfl

theorem Machine.listen_macs (m : Machine) (ip : Ip) : (m.listen ip).macs = m.macs := by
  unfold Machine.listen; split <;> rfl

theorem Machine.setSubnet_le (m : Machine) (ip : Ip) (sn : Subnet) : m.le (m.setSubnet ip sn) := by
  refine ⟨rfl, fun x h => ?_⟩
  simp only [Machine.owns, Machine.setSubnet, alookup_ainsert] at *
  split <;> simp_all

def MsLe (ms ms' : List Machine) : Prop :=
  ∀ (k : Nat) (m : Machine), ms[k]? = some m → ∃ m', ms'[k]? = some m' ∧ m.le m'

theorem MsLe.refl (ms : List Machine) : MsLe ms ms := List.Grows.refl Machine.le_refl ms

theorem MsLe.trans {a b c : List Machine} (h1 : MsLe a b) (h2 : MsLe b c) : MsLe a c :=
  List.Grows.trans (R := Machine.le) Machine.le_trans h1 h2

theorem MsLe.set {ms : List Machine} {k : Nat} {m m' : Machine} (h : ms[k]? = some m) (hle : m.le m') :
    MsLe ms (ms.set k m') := List.Grows.set Machine.le_refl h hle

def Owned (ms : List Machine) (x : Ip) (mac : Mac) : Prop :=
  ∃ (j : Nat) (o : Machine), ms[j]? = some o ∧ o.owns x = true ∧ mac ∈ o.macs

theorem Owned.mono {ms ms' : List Machine} (h : MsLe ms ms') {x : Ip} {mac : Mac} (ho : Owned ms x mac) :
    Owned ms' x mac := by
  obtain ⟨j, o, hj, hx, hm⟩ := ho
  obtain ⟨o', hj', hle⟩ := h j o hj
  exact ⟨j, o', hj', hle.2 x hx, by rw [hle.1]; exact hm⟩

def PendingOk (ms : List Machine) (r : Resolver) : Prop :=
  ∃ m : Machine, ms[r.mach]? = some m ∧ m.owns r.loc = true ∧ r.smac ∈ m.macs

theorem PendingOk.mono {ms ms' : List Machine} (h : MsLe ms ms') {r : Resolver} (hp : PendingOk ms r) :
    PendingOk ms' r := by
  obtain ⟨m, hm, ho, hmac⟩ := hp
  obtain ⟨m', hm', hle⟩ := h _ m hm
  exact ⟨m', hm', hle.2 _ ho, by rw [hle.1]; exact hmac⟩

def FrameOk (ms : List Machine) (f : Frame) : Prop :=
  Owned ms f.pkt.sip f.pkt.smac ∧ f.smac = f.pkt.smac

def ResolverOk (ms : List Machine) (r : Resolver) : Prop :=
  (∀ mac t, r.result = some (.ok mac, t) → Owned ms r.dest mac) ∧ (r.result = none → PendingOk ms r)

/-- every ARP frame ever sent carries an (IP, MAC) of its sender; every `Ok` table entry and
    every `Ok` answer names a tap of a machine that answers for the address -/
structure InvC (ms : List Machine) (wire : List Frame) (rs : List Resolver) : Prop where
  frames : ∀ f ∈ wire, FrameOk ms f
  table : ∀ (k : Nat) (m : Machine) (x : Ip) (mac : Mac), ms[k]? = some m →
    alookup x m.table = some (Status.ok mac) → Owned ms x mac
  resolvers : ∀ r ∈ rs, ResolverOk ms r

def Inv (s : Net) : Prop := InvC s.machines s.wire s.resolvers

theorem ResolverOk.mono {ms ms' : List Machine} (h : MsLe ms ms') {r : Resolver} (hr : ResolverOk ms r) :
    ResolverOk ms' r :=
  ⟨fun mac t e => (hr.1 mac t e).mono h, fun e => (hr.2 e).mono h⟩

theorem InvC.setMachine {ms : List Machine} {wire : List Frame} {rs : List Resolver} (h : InvC ms wire rs)
    {k : Nat} {m m' : Machine} (hk : ms[k]? = some m) (hle : m.le m')
    (htab : ∀ x mac, alookup x m'.table = some (.ok mac) →
      alookup x m.table = some (.ok mac) ∨ Owned (ms.set k m') x mac) :
    InvC (ms.set k m') wire rs := by
  have hms : MsLe ms (ms.set k m') := MsLe.set hk hle
  refine ⟨fun f hf => ⟨(h.frames f hf).1.mono hms, (h.frames f hf).2⟩, ?_, fun r hr => (h.resolvers r hr).mono hms⟩
  intro j o x mac hj hx
  rcases List.getElem?_set_cases hj with ⟨rfl, rfl⟩ | ⟨_, hj'⟩
  · rcases htab x mac hx with h1 | h1
    · exact (h.table j m x mac hk h1).mono hms
    · exact h1
  · exact (h.table j o x mac hj' hx).mono hms

theorem InvC.addFrames {ms : List Machine} {wire : List Frame} {rs : List Resolver} (h : InvC ms wire rs)
    {fs : List Frame} (hf : ∀ f ∈ fs, FrameOk ms f) : InvC ms (wire ++ fs) rs :=
  ⟨fun f hmem => by
    rcases List.mem_append.mp hmem with h1 | h1
    · exact h.frames f h1
    · exact hf f h1, h.table, h.resolvers⟩

theorem InvC.addResolver {ms : List Machine} {wire : List Frame} {rs : List Resolver} (h : InvC ms wire rs)
    {r : Resolver} (hr : ResolverOk ms r) : InvC ms wire (rs ++ [r]) :=
  ⟨h.frames, h.table, fun r' hmem => by
    rcases List.mem_append.mp hmem with h1 | h1
    · exact h.resolvers r' h1
    · rw [List.mem_singleton.mp h1]; exact hr⟩

theorem InvC.setResolver {ms : List Machine} {wire : List Frame} {rs : List Resolver} (h : InvC ms wire rs)
    (i : Nat) {r : Resolver} (hr : ResolverOk ms r) : InvC ms wire (rs.set i r) :=
  ⟨h.frames, h.table, fun r' hmem => by
    rcases List.mem_or_eq_of_mem_set hmem with h1 | h1
    · exact h.resolvers r' h1
    · rw [h1]; exact hr⟩

theorem InvC.setFrame {ms : List Machine} {wire : List Frame} {rs : List Resolver} (h : InvC ms wire rs)
    (i : Nat) {f : Frame} (hf : FrameOk ms f) : InvC ms (wire.set i f) rs :=
  ⟨fun f' hmem => by
    rcases List.mem_or_eq_of_mem_set hmem with h1 | h1
    · exact h.frames f' h1
    · rw [h1]; exact hf, h.table, h.resolvers⟩

theorem tableHit_ok {neg : Bool} {e : Option Status} {mac : Mac} (h : tableHit neg e = some (.ok mac)) :
    e = some (.ok mac) := by
  unfold tableHit at h
  split at h
  · simpa using h
  · split at h <;> simp at h
  · simp at h

theorem Machine.demux_fst (m : Machine) (tapMac : Mac) (mtu : Nat) (p : Packet) :
    (m.demux tapMac mtu p).1 = { m with table := ainsert p.sip (.ok p.smac) m.table } := by
  unfold Machine.demux
  split
  · split <;> rfl
  · rfl

theorem Machine.demux_snd (m : Machine) (tapMac : Mac) (mtu : Nat) (p : Packet) :
    (m.demux tapMac mtu p).2 =
      if p.oper = .request ∧ m.owns p.tip = true ∧ packetSize ≤ mtu then some (replyFrame tapMac p) else none := by
  unfold Machine.demux
  by_cases h1 : p.oper = .request ∧ m.owns p.tip = true
  · by_cases h2 : packetSize ≤ mtu
    · simp [h1, h2]
    · simp [h1, h2]
  · have : ¬ (p.oper = .request ∧ m.owns p.tip = true ∧ packetSize ≤ mtu) := fun h => h1 ⟨h.1, h.2.1⟩
    simp [h1, this]

theorem Inv.listen {s : Net} (h : Inv s) (k : Nat) (ip : Ip) : Inv (s.listen k ip) := by
  unfold Net.listen
  split
  · rename_i m hm
    exact InvC.setMachine h hm (m.listen_le ip) (fun x mac hx => Or.inl (by rw [Machine.listen_table] at hx; exact hx))
  · exact h

theorem Inv.setSubnet {s : Net} (h : Inv s) (k : Nat) (ip : Ip) (bits : Nat) (gw : Ip) :
    Inv (s.setSubnet k ip bits gw) := by
  unfold Net.setSubnet
  split
  · rename_i m hm
    exact InvC.setMachine h hm (m.setSubnet_le ip _) (fun x mac hx => Or.inl hx)
  · exact h

theorem Inv.lose {s : Net} (h : Inv s) (fi : Nat) : Inv (s.lose fi) := by
  unfold Net.lose
  split
  · rename_i f hf
    exact InvC.setFrame h fi (h.frames f (List.mem_of_getElem? hf))
  · exact h

theorem Inv.tick {s : Net} (h : Inv s) (dt : Nat) : Inv (s.tick dt) := by
  unfold Net.tick
  split
  · exact h
  · exact h

theorem Inv.wake {s : Net} (h : Inv s) (i : Nat) : Inv (s.wake i) := by
  unfold Net.wake
  split
  · rename_i r hr
    split
    · split
      · rename_i st hst
        refine InvC.setResolver h i ⟨fun mac t e => ?_, fun e => by simp at e⟩
        simp only [Option.some.injEq, Prod.mk.injEq] at e
        obtain ⟨e1, _⟩ := e
        subst e1
        unfold Net.hit at hst
        split at hst
        · rename_i m hm
          exact h.table _ m _ mac hm (tableHit_ok hst)
        · cases hst
      · exact h
    · exact h
  · exact h

theorem Inv.deliver {s : Net} (h : Inv s) (fi k slot : Nat) : Inv (s.deliver fi k slot) := by
  unfold Net.deliver
  split
  · rename_i f m hf hm
    split
    · rename_i tapMac htap
      split
      · rename_i hcond
        have hfok := h.frames f (List.mem_of_getElem? hf)
        have hle : m.le (m.demux tapMac s.mtu f.pkt).1 := by
          rw [Machine.demux_fst]; exact Machine.le_of_localIps rfl rfl
        have hms := MsLe.set hm hle
        have h1 : InvC (s.machines.set k (m.demux tapMac s.mtu f.pkt).1) s.wire s.resolvers := by
          refine InvC.setMachine h hm hle ?_
          intro x mac hx
          rw [Machine.demux_fst] at hx
          simp only [alookup_ainsert] at hx
          split at hx
          · rename_i hxe
            simp only [Option.some.injEq, Status.ok.injEq] at hx
            subst hx; subst hxe
            exact Or.inr (hfok.1.mono hms)
          · exact Or.inl hx
        refine InvC.addFrames h1 ?_
        intro f' hf'
        rw [Machine.demux_snd] at hf'
        split at hf'
        · rename_i hc
          simp only [Option.toList_some, List.mem_singleton] at hf'
          subst hf'
          refine ⟨⟨k, (m.demux tapMac s.mtu f.pkt).1, ?_, hle.2 _ hc.2.1, ?_⟩, rfl⟩
          · exact List.getElem?_set_self_of_some hm
          · rw [hle.1]; exact List.mem_of_getElem? htap
        · simp at hf'
      · exact h
    · exact h
  · exact h

theorem Inv.roundOrFail {s : Net} (h : Inv s) {r : Resolver} (hp : PendingOk s.machines r)
    (hr : r.result = none) :
    InvC (s.roundOrFail r).1.machines (s.roundOrFail r).1.wire s.resolvers ∧
    ResolverOk (s.roundOrFail r).1.machines (s.roundOrFail r).2 ∧
    (s.roundOrFail r).1.resolvers = s.resolvers := by
  unfold Net.roundOrFail
  split
  · split
    · refine ⟨InvC.addFrames h ?_, ⟨fun mac t e => by simp [hr] at e, fun _ => hp⟩, rfl⟩
      intro f hf
      simp only [List.mem_singleton] at hf
      subst hf
      obtain ⟨m, hm, ho, hmac⟩ := hp
      exact ⟨⟨r.mach, m, hm, ho, hmac⟩, rfl⟩
    · exact ⟨h, ⟨fun mac t e => by simp at e, fun e => by simp at e⟩, rfl⟩
  · unfold Net.failMac
    split
    · rename_i m hm
      have hle : m.le { m with table := ainsert r.dest Status.err m.table } := Machine.le_of_localIps rfl rfl
      refine ⟨InvC.setMachine h hm hle ?_, ⟨fun mac t e => by simp at e, fun e => by simp at e⟩, rfl⟩
      intro x mac hx
      simp only [alookup_ainsert] at hx
      split at hx
      · cases hx
      · exact Or.inl hx
    · exact ⟨h, ⟨fun mac t e => by simp at e, fun e => by simp at e⟩, rfl⟩

theorem Inv.timeout {s : Net} (h : Inv s) (i : Nat) : Inv (s.timeout i) := by
  unfold Net.timeout
  split
  · rename_i r hr
    split
    · rename_i hc
      have hrok := h.resolvers r (List.mem_of_getElem? hr)
      obtain ⟨h1, h2, h3⟩ := Inv.roundOrFail h (hrok.2 hc.1) hc.1
      show InvC _ _ ((s.roundOrFail r).1.resolvers.set i (s.roundOrFail r).2)
      rw [h3]
      exact InvC.setResolver h1 i h2
    · exact h
  · exact h

theorem Inv.resolve {s : Net} (h : Inv s) (k : Nat) (loc remote : Ip) (slot : Nat) :
    Inv (s.resolve k loc remote slot) := by
  unfold Net.resolve
  split
  · exact h
  · rename_i m0 hm0
    have h1 : InvC (s.machines.set k (m0.listen loc)) s.wire s.resolvers :=
      InvC.setMachine h hm0 (m0.listen_le loc) (fun x mac hx => Or.inl (by rw [Machine.listen_table] at hx; exact hx))
    have hk : (s.machines.set k (m0.listen loc))[k]? = some (m0.listen loc) :=
      List.getElem?_set_self_of_some hm0
    dsimp only
    split
    · rename_i st hst
      refine InvC.addResolver h1 ⟨fun mac t e => ?_, fun e => by simp at e⟩
      simp only [Option.some.injEq, Prod.mk.injEq] at e
      obtain ⟨e1, _⟩ := e
      subst e1
      exact h1.table k _ _ mac hk (tableHit_ok hst)
    · split
      · exact h1
      · rename_i mac hmac
        have hp : PendingOk (s.machines.set k (m0.listen loc))
            ⟨k, mac, loc, destOf (m0.listen loc) loc remote, s.now, 0, s.now, none⟩ :=
          ⟨m0.listen loc, hk, m0.listen_owns loc, List.mem_of_getElem? hmac⟩
        obtain ⟨h2, h3, h4⟩ := Inv.roundOrFail (s := { s with machines := s.machines.set k (m0.listen loc) }) h1 hp rfl
        show InvC _ _ (_ ++ [_])
        rw [h4]
        exact InvC.addResolver h2 h3

/-- `h` is for the state after a panic, which `step` leaves as it is -/
theorem step_keeps {P : Net → Prop} {s : Net} (h : P s) (l : Label) (listen : ∀ k ip, P (s.listen k ip))
    (setSubnet : ∀ k ip bits gw, P (s.setSubnet k ip bits gw)) (resolve : ∀ k loc remote slot, P (s.resolve k loc remote slot))
    (deliver : ∀ fi k slot, P (s.deliver fi k slot)) (lose : ∀ fi, P (s.lose fi)) (wake : ∀ i, P (s.wake i))
    (timeout : ∀ i, P (s.timeout i)) (tick : ∀ dt, P (s.tick dt)) : P (step s l) := by
  unfold Elvis.Arp.step
  split
  · exact h
  · cases l with
    | listen k ip => exact listen k ip
    | setSubnet k ip bits gw => exact setSubnet k ip bits gw
    | resolve k loc remote slot => exact resolve k loc remote slot
    | deliver fi k slot => exact deliver fi k slot
    | lose fi => exact lose fi
    | wake i => exact wake i
    | timeout i => exact timeout i
    | tick dt => exact tick dt

theorem run_keeps {P : Net → Prop} (hstep : ∀ s l, P s → P (step s l)) {s : Net} (h : P s) (ls : List Label) :
    P (run s ls) :=
  List.foldlRecOn ls step h fun s h l _ => hstep s l h

theorem Inv.step {s : Net} (h : Inv s) (l : Label) : Inv (step s l) :=
  step_keeps h l h.listen h.setSubnet h.resolve h.deliver h.lose h.wake h.timeout h.tick

theorem Inv.init (neg : Bool) (slots : List Nat) (mtu : Nat) : Inv (initWith neg slots mtu) :=
  ⟨fun f hf => by simp [initWith] at hf,
   fun k m x mac hk hx => by
     simp only [initWith, List.getElem?_map, Option.map_eq_some_iff] at hk
     obtain ⟨ms, _, rfl⟩ := hk
     simp [alookup] at hx,
   fun r hr => by simp [initWith] at hr⟩

end Elvis.Arp
