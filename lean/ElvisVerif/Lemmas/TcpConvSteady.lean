import ElvisVerif.Lemmas.TcpConvPhase
/-!
# Steady states

`Steady s ta tb`: both endpoints ESTABLISHED, reorder heaps and receive buffers empty, everything sent
has been received (`RCV.NXT_peer = SND.NXT`), nothing on a retransmission queue is flagged for
transmission, and for each side: everything is acknowledged, or the peer's last queued header is a
pure ACK for its `RCV.NXT` (`lastack`).

`phase_steady` (`Lemmas/TcpConvExchange.lean`): from a steady state satisfying the invariants (`Good`),
`phase` succeeds, is a run of plain ops, ends in a steady state, and per side: the unsent text shrinks
by `Δ = min |unsent| (65535 − queued bytes)`, `SND.UNA` reaches the old `SND.NXT`, and at most `Δ`
bytes stay queued.
-/
namespace Elvis.Tcp
open Tcb Elvis.ModCmp

theorem inRun_acks {iss r : Seq} {N : Nat} (hs : List Hdr) (rest : List Segment)
    (h : AcksFor iss r N (hs.map fun x => (⟨x, []⟩ : Segment))) (hr : InRun r rest) :
    InRun r ((hs.map fun x => (⟨x, []⟩ : Segment)) ++ rest) := by
  induction hs with
  | nil => exact hr
  | cons x xs ih =>
    obtain ⟨p, a, -⟩ := h ⟨x, []⟩ List.mem_cons_self
    simp only [List.map_cons, List.cons_append, InRun]
    refine ⟨a, p.rst, p.syn, p.fin, p.ackb, ?_⟩
    simp only [List.length_nil, BitVec.add_zero]
    exact ih (fun g hg => h g (List.mem_cons_of_mem _ hg))

theorem inRun_of_dataRun (lp rp : U16) (ack : Seq) (wnd : U16) (l : List Segment) :
    ∀ seq, DataRun lp rp ack wnd seq l → InRun seq l := by
  induction l with
  | nil => intro _ _; trivial
  | cons g rest ih =>
    intro seq h
    obtain ⟨h1, _, h3⟩ := h
    refine ⟨by rw [h1]; rfl, by rw [h1]; rfl, by rw [h1]; rfl, by rw [h1]; rfl, by rw [h1]; rfl, ih _ h3⟩

theorem segBytes_acks (hs : List Hdr) : segBytes (hs.map fun x => (⟨x, []⟩ : Segment)) = 0 := by
  induction hs with
  | nil => rfl
  | cons x xs ih => simp [ih]

theorem filter_flag_new (old new : List Transmit) (ho : ∀ tr ∈ old, tr.needsTransmit = false)
    (hn : ∀ tr ∈ new, tr.needsTransmit = true) : (old ++ new).filter (·.needsTransmit) = new := by
  rw [List.filter_append]
  have h1 : old.filter (·.needsTransmit) = [] := List.filter_eq_nil_iff.2 (fun tr htr => by rw [ho tr htr]; simp)
  have h2 : new.filter (·.needsTransmit) = new := List.filter_eq_self.2 hn
  rw [h1, h2]; rfl

theorem ackLe_dataRun (iss : Seq) (R : Nat) (lp rp : U16) (ack : Seq) (wnd : U16) (h1 : 1 ≤ off iss ack)
    (h2 : off iss ack ≤ R) (l : List Segment) :
    ∀ seq, DataRun lp rp ack wnd seq l → ∀ g ∈ l, 1 ≤ off iss g.hdr.ack ∧ off iss g.hdr.ack ≤ R := by
  induction l with
  | nil => intro _ _ g hg; cases hg
  | cons x rest ih =>
    intro seq h g hg
    rcases List.mem_cons.1 hg with rfl | hg
    · rw [h.1]; exact ⟨h1, h2⟩
    · exact ih _ h.2.2 g hg

theorem ports_dataRun (lp rp : U16) (ack : Seq) (wnd : U16) (l : List Segment) :
    ∀ seq, DataRun lp rp ack wnd seq l → ∀ g ∈ l, g.hdr.srcPort = lp ∧ g.hdr.dstPort = rp := by
  induction l with
  | nil => intro _ _ g hg; cases hg
  | cons x rest ih =>
    intro seq h g hg
    rcases List.mem_cons.1 hg with rfl | hg
    · rw [h.1]; exact ⟨rfl, rfl⟩
    · exact ih _ h.2.2 g hg

theorem keep_dataRun (iss una : Seq) (N : Nat) (hN : N < 2147483648) (lp rp : U16) (ack : Seq) (wnd : U16)
    (l : List Transmit) :
    ∀ seq, DataRun lp rp ack wnd seq (l.map (·.segment)) → off iss una ≤ off iss seq →
      off iss seq + segBytes (l.map (·.segment)) ≤ N → ∀ tr ∈ l, keepFor una tr = true := by
  induction l with
  | nil => intro _ _ _ _ tr htr; cases htr
  | cons x rest ih =>
    intro seq h hu hb tr htr
    simp only [List.map_cons, DataRun, segBytes_cons] at h hb
    obtain ⟨h1, h2, h3⟩ := h
    have hpos : 0 < x.segment.text.length := List.length_pos_iff.2 h2
    have hsl : x.segment.segLen = x.segment.text.length :=
      Segment.segLen_plain (by rw [h1]; rfl) (by rw [h1]; rfl)
    have hseq : x.segment.hdr.seq = seq := by rw [h1]; rfl
    have ho : off iss (seq + BitVec.ofNat 32 x.segment.text.length) = off iss seq + x.segment.text.length :=
      off_add _ _ _ (by omega)
    rcases List.mem_cons.1 htr with rfl | htr
    · unfold keepFor
      rw [hsl, hseq]
      exact (modLt_iff_off iss una _ (by omega) (by rw [ho]; omega)).2 (by rw [ho]; omega)
    · exact ih _ h3 (by rw [ho]; omega) (by rw [ho]; omega) tr htr

structure Good (iss : SideId → Seq) (s : Sys) : Prop where
  conv : Conv iss s
  ext : Ext s
  room : RoomH s

theorem RoomH.congr {s s' : Sys} (h : RoomH s) (hs : ∀ y, (s'.side y).submitted = (s.side y).submitted) : RoomH s' :=
  ⟨by show (s'.side .A).submitted.length + 2 < _; rw [hs .A]; exact h.1,
   by show (s'.side .B).submitted.length + 2 < _; rw [hs .B]; exact h.2⟩

theorem Good.of_run {iss : SideId → Seq} {s s' : Sys} (hg : Good iss s) (r : PlainRun s s') (hroom : RoomH s') :
    Good iss s' :=
  ⟨(ext_run hg.conv hg.ext r hroom).1, (ext_run hg.conv hg.ext r hroom).2, hroom⟩

/-- one side is steady: `t` is its TCB, `u` the peer's -/
structure SteadyX (t u : Tcb) : Prop where
  st : t.state = .Established
  heap : t.incoming.segments = []
  buf : t.incoming.text = []
  sync : u.rcv.nxt = t.snd.nxt
  unflag : ∀ tr ∈ t.outgoing.retransmit, tr.needsTransmit = false
  lastack : t.snd.una = t.snd.nxt ∨ ∃ h, u.outgoing.oneshot.getLast? = some h ∧ h.ack = u.rcv.nxt
  mtu : SPACE_FOR_HEADERS < t.mtu.toNat

theorem SteadyX.acked {t u : Tcb} (S : SteadyX t u) (hu : u.outgoing.oneshot = []) : t.snd.una = t.snd.nxt := by
  rcases S.lastack with h | ⟨h, hl, _⟩
  · exact h
  · rw [hu] at hl; cases hl

structure Steady (s : Sys) (ta tb : Tcb) : Prop where
  ha : s.a.tcb = some ta
  hb : s.b.tcb = some tb
  a : SteadyX ta tb
  b : SteadyX tb ta

theorem receive_established (t : Tcb) (h : t.state = .Established) :
    t.receive = ({ t with incoming.text := [] }, t.incoming.text) := by
  rw [receive_eq, h, if_neg (by simp)]

/-- the state after `emit x`, without the state itself -/
theorem emit_facts (s : Sys) (x : SideId) (t t' : Tcb) (out : List Segment) (ht : (s.side x).tcb = some t)
    (e : t.segments = .ok (t', out)) :
    ∃ s1 r, s.step (.emit x) = .ok (s1, r) ∧ (s1.side x).tcb = some t' ∧ s1.side x.peer = s.side x.peer ∧
      (s1.side x).submitted = (s.side x).submitted ∧ (s1.side x).delivered = (s.side x).delivered ∧
      s1.historyLen = s.historyLen + out.length ∧
      (∀ j (hj : j < out.length), s1.nth (s.historyLen + j) = some out[j]) ∧
      (∀ i, i < s.historyLen → s1.nth i = s.nth i) := by
  refine ⟨_, _, step_iff.2 (.emit ht e), ?_, ?_, ?_, ?_, ?_, ?_, ?_⟩
  · rw [side_touched]
  · rw [side_untouched]
  · rw [side_touched]
  · rw [side_touched]
  · rw [historyLen_record, historyLen_setSide]
  · intro j hj
    have := nth_record_new (s.setSide x { s.side x with tcb := some t' }) out j hj
    rw [historyLen_setSide] at this
    exact this
  · intro i hi
    rw [nth_record_old (s.setSide x { s.side x with tcb := some t' }) out i (by rw [historyLen_setSide]; exact hi),
      nth_setSide]

end Elvis.Tcp
