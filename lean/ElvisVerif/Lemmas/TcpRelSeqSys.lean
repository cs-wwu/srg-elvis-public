import ElvisVerif.Lemmas.TcpRelTail
import ElvisVerif.Lemmas.TcpRelAcks
/-!
# Release after a sequential close from a quiet state

`releaseRoundSeq`: `close A`; two exchange phases (A: FIN-WAIT-1 → FIN-WAIT-2, B: CLOSE-WAIT); `close B`; two exchange
phases (A: TIME-WAIT; B: LAST-ACK, deleted by A's ACK — `FinalizeClose`); `tick A (2·MSL + 1)`: A is deleted.
`release_sequential_x` proves it with the sides named `y` (closes second) and `y.peer`: the FIN is emitted
(`Tcb.segments_closedT`), taken and answered (`Tcb.fin_answered`), the answer taken (`Tcb.closer_acked`) as when data is
queued (`final_core`, `Lemmas/TcpRelData2.lean`); after these two phases the pair is at rest and `release_tail_x`
(`Lemmas/TcpRelTail.lean`) does the second half.
-/
namespace Elvis.Tcp
open Tcb Elvis.ModCmp Elvis.Tcp.Fin

def releaseRoundSeqX (y : SideId) (s : Sys) : Except String Sys :=
  match s.step (.close y.peer) with
  | .error e => .error e
  | .ok (s1, _) =>
  match phase s1 with
  | .error e => .error e
  | .ok s2 =>
  match phase s2 with
  | .error e => .error e
  | .ok s3 => releaseTailX y s3

theorem release_sequential_x {y : SideId} {s : Sys} {tx ty : Tcb} {st su dt du : List UInt8} {n : Nat}
    (v : View y s ⟨some ty, some tx, st, su, dt, du, n⟩) (qx : QuietX y.peer tx ty) (qy : QuietX y ty tx) :
    ∃ s', releaseRoundSeqX y s = .ok s' ∧ FinRun s s' ∧ View y s' ⟨none, none, st, su, dt, du, n + 4⟩ := by
  have qxrp : tx.remotePort = y.port := by rw [qx.rp, SideId.peer_peer]
  obtain ⟨s1, st1, r1, v1⟩ := v.swap.close (close_fwd tx qx.st qx.text)
  -- phase 1: the FIN; `y` takes it (CLOSE-WAIT)
  have eX1 := qx.emit_fin
  have cf := (segments_closedT tx qx.text qx.mtu).2.2
  have eY1 := segments_notext_eq ty qy.text qy.mtu
  rw [emitOut_quiet ty qy.one qy.rtx] at eY1
  have hrY : (emitT ty).outgoing.retransmit = [] := by
    show ty.outgoing.retransmit.map _ = []
    rw [qy.rtx]; rfl
  obtain ⟨aY, rY, eY2⟩ := fin_answered (t1 := emitT ty) (gs := []) (g := finSeg tx) rfl qy.st qy.wnd qy.heap qy.text hrY qy.mtu
    (by
      have := cf.isfin
      rw [show (emitT tx).snd.nxt = ty.rcv.nxt from qx.sync.symm] at this
      exact this)
    (by
      show modLeq tx.rcv.nxt ty.snd.una = true
      rw [qy.sync, qy.una]; exact modLeq_self _)
  obtain ⟨s2, ph1, r2, v2⟩ := v1.unswap.phase eY1 eX1 rfl aY rY (receive_empty _ qx.buf) (fun g hg => by cases hg)
    (List.forall_mem_singleton.2 ⟨qx.lp, qxrp⟩)
  -- phase 2: its ACK takes the closer to FIN-WAIT-2
  have hrX : ∀ tr ∈ (emitT tx).outgoing.retransmit, False := fun tr htr => by
    have : tr ∈ tx.outgoing.retransmit.map _ := htr
    rw [qx.rtx] at this; cases this
  obtain ⟨t3, t5, a3, _, e3, a5, r5, st5, rcv5, restX⟩ :=
    closer_acked cf y.peer (emitT { finTakenT (emitT ty) with incoming.text := [] }) (emitT ty) tx.snd.nxt 0 (by decide) []
      qx.wnd qx.heap qx.buf qx.mtu qx.lp qx.rp (by show ty.rcv.nxt + 1 = tx.snd.nxt + 1; rw [qx.sync]) (off_self _)
      (by show off tx.snd.nxt tx.snd.una ≤ 0; rw [qx.una, off_self]; exact Nat.le_refl _)
      (fun tr htr => (hrX tr htr).elim) (fun tr htr => (hrX tr htr).elim) (fun g hg => by cases hg) qx.sync qy.sync.symm
      (fun g hg => by cases hg)
  cases a3
  obtain ⟨s3, ph2, r3, v3⟩ := v2.phase eY2 e3 a5 rfl (receive_empty _ rfl) r5
    (List.forall_mem_singleton.2 ⟨qy.lp, qy.rp⟩)
    (fun g hg => by cases hg)
  have hb : (finTakenT (emitT ty)).receive.2 = [] := qy.buf
  rw [hb] at v3
  simp only [List.append_nil] at v3
  obtain ⟨s', e, r, v'⟩ := release_tail_x v3 st5 rfl restX
    ⟨qy.heap, rfl, qy.text, by show (ty.outgoing.retransmit.map _).map _ = []; rw [qy.rtx]; rfl, rfl, qy.una,
      by show t5.rcv.nxt = ty.snd.nxt; rw [rcv5]; exact qy.sync, qy.wnd, qy.mtu, qy.lp, qy.rp⟩
  refine ⟨s', ?_, (r1.trans (FinRun.of_plain (r2.trans r3))).trans r, v'⟩
  unfold releaseRoundSeqX
  rw [st1]
  dsimp only
  rw [ph1]
  dsimp only
  rw [ph2]
  exact e

def releaseRoundSeq (s : Sys) : Except String Sys :=
  match s.step (.close .A) with
  | .error e => .error e
  | .ok (s1, _) =>
  match phase s1 with
  | .error e => .error e
  | .ok s2 =>
  match phase s2 with
  | .error e => .error e
  | .ok s3 =>
  match s3.step (.close .B) with
  | .error e => .error e
  | .ok (s4, _) =>
  match phase s4 with
  | .error e => .error e
  | .ok s5 =>
  match phase s5 with
  | .error e => .error e
  | .ok s6 =>
  match s6.step (.tick .A (TIME_WAIT + 1)) with
  | .error e => .error e
  | .ok (s7, _) => .ok s7

theorem release_sequential (s : Sys) (ta tb : Tcb) (ha : (s.side .A).tcb = some ta) (hb : (s.side .B).tcb = some tb)
    (qa : QuietX .A ta tb) (qb : QuietX .B tb ta) :
    ∃ s', releaseRoundSeq s = .ok s' ∧ FinRun s s' ∧ (s'.side .A).tcb = none ∧ (s'.side .B).tcb = none ∧
      (s'.side .A).submitted = (s.side .A).submitted ∧ (s'.side .B).submitted = (s.side .B).submitted ∧
      (s'.side .A).delivered = (s.side .A).delivered ∧ (s'.side .B).delivered = (s.side .B).delivered ∧
      s'.historyLen = s.historyLen + 4 := by
  obtain ⟨s', e, r, v⟩ := release_sequential_x (View.start s .B tb ta hb ha) qa qb
  exact ⟨s', e, r, v.u, v.t, v.su, v.st, v.du, v.dt, v.n⟩

end Elvis.Tcp
