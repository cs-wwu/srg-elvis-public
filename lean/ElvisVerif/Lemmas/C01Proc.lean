import ElvisVerif.Lemmas.TcpFinLocal
/-!
# C01 — the stream invariant of a connection nobody closes, as the case "no FIN" of the general one

`TInv` is `TInvF` with neither side's FIN numbered, in one of the three open states (`TInvF.of_tinv`, `TInvF.tinv`).
What each call does to the stream facts is proved for `TInvF` (`Lemmas/TcpFinBlocks.lean` … `TcpFinLocal.lean`); that
a call other than `close` keeps the three open states is read off the state diagram (`Lemmas/TcbPath.lean`).
-/
namespace Elvis.Tcp.C01
open Elvis.ModCmp Elvis.Tcp.Tcb Elvis.Tcp.Fin Elvis.Rfc9293

@[simp] theorem andThen_error (x : String) (f : Tcb → B) : B.andThen (.error x) f = .error x := rfl

theorem Ok3.step {c : Ctl} (hf : c.fin = false) {a b : State} (h3 : Ok3 a) (h : Step (evOf c) a b) : Ok3 b := by
  unfold Step rfcStepBy evOf at h
  rw [hf] at h
  rcases h3.cases with rfl | rfl | rfl <;> cases b <;> first | trivial | simp [rfcCause] at h

section
variable {port : U16} {issX issY : Seq} {subX subY delX : List UInt8}

theorem processSegment_inv {t t' : Tcb} {g : Segment} {r : ProcessSegmentResult}
    (h : TInv port issX issY subX subY delX t) (hv : Valid issY subY g) (h31 : subY.length < 2147483648)
    (hgate : t.state ≠ .SynSent → modGt g.hdr.seq t.rcv.nxt = false)
    (e : t.processSegment g = .ok (t', r)) : TInv port issX issY subX subY delX t' := by
  obtain ⟨mid, s1, s2, -, -⟩ := processSegment_edges _ _ _ _ e
  exact (processSegment_invF (TInvF.of_tinv h) (ValidF.of_valid hv) h31 hgate e).1.tinv
    ((h.st.step hv.fin s1).step hv.fin s2)

theorem TInv.push {t : Tcb} {g : Segment} (h : TInv port issX issY subX subY delX t) (hv : Valid issY subY g) :
    TInv port issX issY subX subY delX { t with incoming.segments := LHeap.push segLe t.incoming.segments g } :=
  { h with heap := LHeap.forall_mem_push hv h.heap }

theorem TInv.pop {t : Tcb} {g : Segment} {rest : List Segment} (h : TInv port issX issY subX subY delX t)
    (hpop : LHeap.pop segLe t.incoming.segments = (some g, rest)) :
    TInv port issX issY subX subY delX { t with incoming.segments := rest } ∧ Valid issY subY g :=
  have hmem := LHeap.mem_of_mem_pop hpop
  ⟨{ h with heap := fun x hx => h.heap x (hmem.2 x hx) }, h.heap g hmem.1⟩

theorem segmentArrives_inv {t t' : Tcb} {g : Segment} {r : SegmentArrivesResult}
    (h : TInv port issX issY subX subY delX t) (hv : Valid issY subY g) (h31 : subY.length < 2147483648)
    (e : t.segmentArrives g = .ok (t', r)) : TInv port issX issY subX subY delX t' :=
  segmentArrives_lift_mem (Q := Valid issY subY)
    (R := fun a b => TInv port issX issY subX subY delX a → TInv port issX issY subX subY delX b)
    (fun _ h => h) (fun h1 h2 h => h2 (h1 h)) (fun _ _ hl h => { h with heap := hl })
    (fun hv hgate e h => processSegment_inv h hv h31 hgate e)
    (fun _ _ h => ((TInvF.of_tinv h).of_fr (FrF.enqAck _)).tinv (by rw [state_enqueueBuilt]; exact h.st)) e hv h.heap h

theorem open_inv {lp rp : U16} {iss : Seq} {mtu : U16} {t : Tcb} (e : Tcb.open lp rp iss mtu = .ok t) :
    TInv lp iss issY [] subY [] t := by
  cases (open_eq lp rp iss mtu).symm.trans e
  -- all that is queued is the SYN, at ISS and without text
  have g : TInvG lp iss issY [] subY [] false false (openT lp rp iss mtu) :=
    ⟨rfl, rfl, ⟨[], rfl, (BitVec.add_zero _).symm⟩,
      (fun g hg => by
        rw [List.mem_singleton.1 hg]
        exact ⟨⟨(fun hf => nomatch hf), fun _ => ⟨rfl, rfl⟩, fun hne => absurd rfl hne⟩, rfl⟩),
      (fun x hx => nomatch hx), (fun g hg => nomatch hg), fun _ => ⟨rfl, rfl⟩, (fun h0 => absurd rfl h0),
      (fun h0 => nomatch h0), fun h0 => absurd rfl h0⟩
  exact TInvF.tinv (TInvF.of_g g rfl) trivial

end
end Elvis.Tcp.C01
