import ElvisVerif.Model.Subnet
/-!
Helper lemmas for C09 (subnet arithmetic).  Route: the 33-row mask table is checked by
`decide +kernel` and lifted to `k ≤ 32`; the one bit-level fact (`a &&& mask k = a / 2^s * 2^s`,
`s = 32 - k`) is proved by `testBit` extensionality; everything else is `Nat` arithmetic with the
block size `P = 2^s` kept abstract (`0 < P`, `P * Q = 2^32`).
-/
namespace Elvis.Subnet

-- needed for `decide` on results; declared inside the namespace so its name cannot clash
deriving instance DecidableEq for Except

def Mask.WF (m : Mask) : Prop := ∃ k, k ≤ 32 ∧ m = Mask.fromBitcount k

/-- "This MUST be a network ID": the id has no host bits -/
def Net.WF (n : Net) : Prop := n.mask.WF ∧ n.id &&& n.mask.bits = n.id

def Net.size (n : Net) : Nat := 2 ^ (32 - n.mask.countOnes)

theorem clamp_eq_min (n : Nat) : clamp n 0 32 = min n 32 := by
  unfold clamp
  rw [if_neg (Nat.not_lt_zero n)]
  split <;> omega

theorem fromBitcount_clamp (n : Nat) : Mask.fromBitcount n = Mask.fromBitcount (min n 32) := by
  unfold Mask.fromBitcount
  rw [clamp_eq_min, clamp_eq_min, Nat.min_eq_left (Nat.min_le_right n 32)]

theorem table_toNat : ∀ k : Fin 33,
    (Mask.fromBitcount k.val).bits.toNat = (2 ^ k.val - 1) * 2 ^ (32 - k.val) := by decide +kernel

theorem table_ones : ∀ k : Fin 33, (Mask.fromBitcount k.val).countOnes = k.val := by decide +kernel

theorem table_mono : ∀ i j : Fin 33,
    ((Mask.fromBitcount i.val).bits ≤ (Mask.fromBitcount j.val).bits) = (i.val ≤ j.val) := by
  decide +kernel

theorem fromBitcount_toNat' {k : Nat} (h : k ≤ 32) :
    (Mask.fromBitcount k).bits.toNat = (2 ^ k - 1) * 2 ^ (32 - k) :=
  table_toNat ⟨k, by omega⟩

theorem countOnes_fromBitcount {k : Nat} (h : k ≤ 32) : (Mask.fromBitcount k).countOnes = k :=
  table_ones ⟨k, by omega⟩

theorem fromBitcount_le_iff {i j : Nat} (hi : i ≤ 32) (hj : j ≤ 32) :
    (Mask.fromBitcount i).bits ≤ (Mask.fromBitcount j).bits ↔ i ≤ j := by
  have := table_mono ⟨i, by omega⟩ ⟨j, by omega⟩
  simp only at this
  rw [this]

theorem pow_split {k : Nat} (h : k ≤ 32) : 2 ^ (32 - k) * 2 ^ k = 2 ^ 32 := by
  rw [← Nat.pow_add]; congr 1; omega

theorem fromBitcount_toNat {k : Nat} (h : k ≤ 32) :
    (Mask.fromBitcount k).bits.toNat = 2 ^ 32 - 2 ^ (32 - k) := by
  rw [fromBitcount_toNat' h, Nat.sub_mul, Nat.one_mul, Nat.mul_comm, pow_split h]

theorem fromBitcount_inj {i j : Nat} (hi : i ≤ 32) (hj : j ≤ 32)
    (h : Mask.fromBitcount i = Mask.fromBitcount j) : i = j := by
  have := countOnes_fromBitcount hi
  rw [h, countOnes_fromBitcount hj] at this
  exact this.symm

theorem Mask.WF.eq {m : Mask} (h : m.WF) : m = Mask.fromBitcount m.countOnes ∧ m.countOnes ≤ 32 := by
  obtain ⟨k, hk, rfl⟩ := h
  rw [countOnes_fromBitcount hk]; exact ⟨rfl, hk⟩

theorem Mask.wf_fromBitcount (n : Nat) : (Mask.fromBitcount n).WF :=
  ⟨min n 32, by omega, fromBitcount_clamp n⟩

theorem and_prefix_nat (a k : Nat) (ha : a < 2 ^ 32) (hk : k ≤ 32) :
    a &&& ((2 ^ k - 1) * 2 ^ (32 - k)) = a / 2 ^ (32 - k) * 2 ^ (32 - k) := by
  apply Nat.eq_of_testBit_eq
  intro i
  rw [Nat.testBit_and, Nat.testBit_mul_two_pow, Nat.testBit_mul_two_pow, Nat.testBit_two_pow_sub_one,
    Nat.testBit_div_two_pow]
  by_cases h1 : 32 - k ≤ i
  · have e : i - (32 - k) + (32 - k) = i := by omega
    simp only [h1, decide_true, Bool.true_and, e]
    by_cases h2 : i - (32 - k) < k
    · simp [h2]
    · have : a.testBit i = false := by
        apply Nat.testBit_lt_two_pow
        exact Nat.lt_of_lt_of_le ha (Nat.pow_le_pow_right (by omega) (by omega))
      simp [h2, this]
  · simp [h1]

theorem and_mask_toNat (a : BitVec 32) {k : Nat} (hk : k ≤ 32) :
    (a &&& (Mask.fromBitcount k).bits).toNat = a.toNat / 2 ^ (32 - k) * 2 ^ (32 - k) := by
  rw [BitVec.toNat_and, fromBitcount_toNat' hk]
  exact and_prefix_nat a.toNat k a.isLt hk

theorem nat_block (P a i : Nat) (hP : 0 < P) (hi : i % P = 0) :
    i = a / P * P ↔ (i ≤ a ∧ a < i + P) := by
  constructor
  · intro h
    subst h
    exact ⟨Nat.div_mul_le_self a P, Nat.lt_div_mul_add hP⟩
  · intro ⟨h1, h2⟩
    have hq : i / P * P = i := Nat.div_mul_cancel (Nat.dvd_of_mod_eq_zero hi)
    have : a / P = i / P := by
      apply Nat.div_eq_of_lt_le
      · rw [hq]; exact h1
      · rw [Nat.add_mul, Nat.one_mul, hq]; exact h2
    rw [this, hq]

theorem aligned_gap {p a b : Nat} (ha : a % p = 0) (hb : b % p = 0) (hab : a < b) : a + p ≤ b := by
  have h1 := Nat.div_add_mod a p
  have h2 := Nat.div_add_mod b p
  rw [ha] at h1; rw [hb] at h2
  have hlt : a / p < b / p := by
    apply Nat.lt_of_not_le; intro hle
    have := Nat.mul_le_mul_left p hle; omega
  have := Nat.mul_le_mul_left p hlt
  rw [Nat.mul_succ] at this; omega

structure BlockFacts (n : Net) (P : Nat) : Prop where
  pos : 0 < P
  le : P ≤ 2 ^ 32
  split : ∃ Q, P * Q = 2 ^ 32
  size : n.size = P
  maskNat : n.mask.bits.toNat = 2 ^ 32 - P
  notMask : (~~~ n.mask.bits).toNat = P - 1
  idMod : n.id.toNat % P = 0
  fits : n.id.toNat + P ≤ 2 ^ 32
  andNat : ∀ a : BitVec 32, (a &&& n.mask.bits).toNat = a.toNat / P * P

theorem Net.WF.facts {n : Net} (h : n.WF) : BlockFacts n n.size := by
  obtain ⟨⟨k, hk, hm⟩, hid⟩ := h
  have hc : n.mask.countOnes = k := by rw [hm]; exact countOnes_fromBitcount hk
  have hsz : n.size = 2 ^ (32 - k) := by unfold Net.size; rw [hc]
  rw [hsz]
  have hpos : 0 < 2 ^ (32 - k) := Nat.two_pow_pos _
  have hsplit := pow_split hk
  have hle : 2 ^ (32 - k) ≤ 2 ^ 32 := Nat.pow_le_pow_right (by omega) (by omega)
  have hmn : n.mask.bits.toNat = 2 ^ 32 - 2 ^ (32 - k) := by rw [hm]; exact fromBitcount_toNat hk
  have hand : ∀ a : BitVec 32, (a &&& n.mask.bits).toNat = a.toNat / 2 ^ (32 - k) * 2 ^ (32 - k) := by
    intro a; rw [hm]; exact and_mask_toNat a hk
  have hidm : n.id.toNat % 2 ^ (32 - k) = 0 := by
    have := hand n.id
    rw [hid] at this
    rw [this]; exact Nat.mul_mod_left _ _
  refine ⟨hpos, hle, ⟨2 ^ k, hsplit⟩, hsz, hmn, ?_, hidm, ?_, hand⟩
  · rw [BitVec.toNat_not, hmn]; omega
  · exact aligned_gap hidm (Nat.mod_eq_zero_of_dvd (Nat.pow_dvd_pow 2 (Nat.sub_le 32 k))) n.id.isLt

theorem Net.wf_new (ip : Addr) (m : Mask) (hm : m.WF) : (Net.new ip m).WF := by
  refine ⟨hm, ?_⟩
  show (ip &&& m.bits) &&& m.bits = ip &&& m.bits
  rw [BitVec.and_assoc, BitVec.and_self]

theorem Net.wf_newShort (ip : Addr) (len : Nat) : (Net.newShort ip len).WF :=
  Net.wf_new ip _ (Mask.wf_fromBitcount len)

theorem Net.wf_new1 (ip : Addr) : (Net.new1 ip).WF := by
  refine ⟨Mask.wf_fromBitcount 32, ?_⟩
  show ip &&& (Mask.fromBitcount 32).bits = ip
  have : (Mask.fromBitcount 32).bits = BitVec.allOnes 32 := by decide
  rw [this, BitVec.and_allOnes]

theorem Net.wf_loopback : Net.loopback.WF := by
  refine ⟨Mask.wf_fromBitcount 8, by decide⟩

theorem Mask.tryFrom_ok {m : BitVec 32} {r : Mask} (h : Mask.tryFrom m = .ok r) :
    r.WF ∧ r.bits = m := by
  unfold Mask.tryFrom at h
  simp only at h
  split at h
  · injection h with h; subst h
    exact ⟨Mask.wf_fromBitcount _, by assumption⟩
  · cases h

theorem Mask.tryFrom_fromBitcount {k : Nat} (hk : k ≤ 32) :
    Mask.tryFrom (Mask.fromBitcount k).bits = .ok (Mask.fromBitcount k) := by
  unfold Mask.tryFrom
  have : popcount (Mask.fromBitcount k).bits = k := countOnes_fromBitcount hk
  simp [this]

theorem Mask.tryFrom_error {m x : BitVec 32} (h : Mask.tryFrom m = .error x) :
    x = m ∧ ∀ k, (Mask.fromBitcount k).bits ≠ m := by
  have h0 := h
  unfold Mask.tryFrom at h
  simp only at h
  split at h
  · cases h
  · injection h with h
    refine ⟨h.symm, ?_⟩
    intro k hk
    have hk' : (Mask.fromBitcount (min k 32)).bits = m := by rw [← fromBitcount_clamp]; exact hk
    have := Mask.tryFrom_fromBitcount (k := min k 32) (by omega)
    rw [hk', h0] at this
    cases this

theorem Net.wf_fromCidr {s : Str} {n : Net} (h : Net.fromCidr s = .ok n) : n.WF := by
  unfold Net.fromCidr at h
  split at h
  · rename_i ip m hc
    injection h with h; subst h
    apply Net.wf_new
    unfold cidrToIp at hc
    split at hc
    · split at hc
      · cases hc
      · split at hc
        · cases hc
        · injection hc with hc
          injection hc with _ hm
          subst hm
          exact Mask.wf_fromBitcount _
    · cases hc
  · cases h

theorem Net.broadcast_ok {n : Net} (h : n.WF) :
    ∃ b, n.broadcast = .ok b ∧ b.toNat = n.id.toNat + n.size - 1 := by
  have f := h.facts
  unfold Net.broadcast
  simp only
  have hlt : n.id.toNat + (~~~ n.mask.bits).toNat < 2 ^ 32 := by
    rw [f.notMask]; have := f.fits; have := f.pos; omega
  rw [if_pos hlt]
  refine ⟨_, rfl, ?_⟩
  rw [BitVec.toNat_add, Nat.mod_eq_of_lt hlt, f.notMask]
  have := f.pos; omega

theorem Net.contains_iff {n : Net} (h : n.WF) (a : Addr) :
    n.contains a = true ↔ n.id.toNat ≤ a.toNat ∧ a.toNat ≤ n.id.toNat + n.size - 1 := by
  have f := h.facts
  unfold Net.contains
  rw [beq_iff_eq]
  have h1 : n.id = a &&& n.mask.bits ↔ n.id.toNat = a.toNat / n.size * n.size := by
    rw [← f.andNat a, BitVec.toNat_inj]
  rw [h1, nat_block n.size a.toNat n.id.toNat f.pos f.idMod]
  have := f.pos
  omega

theorem Net.contains_id {n : Net} (h : n.WF) : n.contains n.id = true := by
  rw [Net.contains_iff h]; have := h.facts.pos; omega

theorem Net.contains_new (a : Addr) (m : Mask) : (Net.new a m).contains a = true := by
  simp [Net.contains, Net.new]

theorem Net.eq_new_of_contains {n : Net} {a : Addr} (h : n.contains a = true) :
    n = Net.new a n.mask := by
  unfold Net.contains at h
  rw [beq_iff_eq] at h
  cases n with
  | mk id mask => simp only [Net.new] at *; rw [h]

theorem Net.overlaps_ok {a b : Net} (ha : a.WF) (hb : b.WF) :
    a.overlaps b = .ok (decide (a.id.toNat ≤ b.id.toNat + b.size - 1 ∧
                                b.id.toNat ≤ a.id.toNat + a.size - 1)) := by
  obtain ⟨ba, hba, eba⟩ := Net.broadcast_ok ha
  obtain ⟨bb, hbb, ebb⟩ := Net.broadcast_ok hb
  unfold Net.overlaps
  rw [hba, hbb]
  simp only [bind, Except.bind, pure, Except.pure, ge_iff_le, BitVec.le_def, eba, ebb]
  by_cases h1 : a.id.toNat ≤ b.id.toNat + b.size - 1
  · simp only [h1, true_and, if_true]
  · simp only [h1, false_and, decide_false, if_false]

theorem Net.range_ok {n : Net} (h : n.WF) :
    ∃ b, n.range = .ok (n.id, b) ∧ b.toNat = n.id.toNat + n.size - 1 := by
  obtain ⟨b, hb, eb⟩ := Net.broadcast_ok h
  refine ⟨b, ?_, eb⟩
  unfold Net.range
  rw [hb]; rfl

theorem not_sub_mask {s e : Addr} {k : Nat} (hle : s.toNat ≤ e.toNat) (hk : k ≤ 32)
    (hsz : e.toNat - s.toNat + 1 = 2 ^ k) : ~~~ (e - s) = (Mask.fromBitcount (32 - k)).bits := by
  apply BitVec.eq_of_toNat_eq
  rw [BitVec.toNat_not, BitVec.toNat_sub_of_le (BitVec.le_def.2 hle), fromBitcount_toNat (Nat.sub_le 32 k),
    Nat.sub_sub_self hk]
  have := e.isLt
  omega

theorem mask_not_sub {s e : Addr} {j : Nat} (hle : s.toNat ≤ e.toNat) (hj : j ≤ 32)
    (h : (Mask.fromBitcount j).bits = ~~~ (e - s)) : e.toNat - s.toNat + 1 = 2 ^ (32 - j) := by
  have h1 := congrArg BitVec.toNat h
  rw [BitVec.toNat_not, BitVec.toNat_sub_of_le (BitVec.le_def.2 hle), fromBitcount_toNat hj] at h1
  have hPle : 2 ^ (32 - j) ≤ 2 ^ 32 := Nat.pow_le_pow_right (by omega) (by omega)
  have := Nat.two_pow_pos (32 - j)
  have := e.isLt
  omega

theorem Net.wf_block {s : Addr} {k : Nat} (hk : k ≤ 32) (hmod : s.toNat % 2 ^ k = 0) :
    ({ id := s, mask := Mask.fromBitcount (32 - k) } : Net).WF := by
  refine ⟨Mask.wf_fromBitcount _, BitVec.eq_of_toNat_eq ?_⟩
  rw [and_mask_toNat s (Nat.sub_le 32 k), Nat.sub_sub_self hk]
  exact Nat.div_mul_cancel (Nat.dvd_of_mod_eq_zero hmod)

theorem Net.size_block (id : Addr) {k : Nat} (hk : k ≤ 32) :
    ({ id := id, mask := Mask.fromBitcount (32 - k) } : Net).size = 2 ^ k := by
  unfold Net.size
  rw [show (Mask.fromBitcount (32 - k)).countOnes = 32 - k from
    countOnes_fromBitcount (Nat.sub_le 32 k), Nat.sub_sub_self hk]

/-- a range of `2^k` addresses: the candidate network is `s/(32-k)`, and the comparison of its range
    with `s..=e` is the alignment test -/
theorem Net.tryFromRange_block {s e : Addr} {k : Nat} (hle : s.toNat ≤ e.toNat) (hk : k ≤ 32)
    (hsz : e.toNat - s.toNat + 1 = 2 ^ k) :
    Net.tryFromRange s e =
      .ok (if s.toNat % 2 ^ k = 0 then .ok { id := s, mask := Mask.fromBitcount (32 - k) }
           else .error .start) := by
  have hwf := Net.wf_new s (Mask.fromBitcount (32 - k)) (Mask.wf_fromBitcount _)
  obtain ⟨b, hr, eb⟩ := Net.range_ok hwf
  have f := hwf.facts
  rw [show (Net.new s (Mask.fromBitcount (32 - k))).size = 2 ^ k from Net.size_block _ hk] at f eb
  unfold Net.tryFromRange
  rw [if_neg (by rw [gt_iff_lt, BitVec.lt_def]; omega), if_neg (by omega)]
  dsimp only
  rw [not_sub_mask hle hk hsz, Mask.tryFrom_fromBitcount (by omega)]
  dsimp only
  rw [hr]
  dsimp only
  by_cases hmod : s.toNat % 2 ^ k = 0
  · have hid : s &&& (Mask.fromBitcount (32 - k)).bits = s := (Net.wf_block hk hmod).2
    have hb : b = e := by
      apply BitVec.eq_of_toNat_eq
      rw [eb]
      show (s &&& (Mask.fromBitcount (32 - k)).bits).toNat + 2 ^ k - 1 = e.toNat
      rw [hid]; omega
    rw [if_pos hmod, hb, Net.new, hid, if_pos rfl]
  · rw [if_neg hmod, if_neg]
    intro heq
    injection heq with hid _
    have := f.idMod
    rw [hid] at this
    exact hmod this

end Elvis.Subnet
