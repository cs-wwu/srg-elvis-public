import ElvisVerif.Lemmas.TcbSnd
/-!
# `segment_arrives` and LISTEN as the two-endpoint invariant `Inv` (`Lemmas/TcpSysInv.lean`) needs them

SYN-SENT stays without a SYN; what is parked afterwards was parked or arrived; what LISTEN creates lies below its
`SND.NXT` (`listen_create`) and past the peer's SYN (`listen_create_rcv`).
-/
namespace Elvis.Tcp
namespace Tcb

theorem segmentArrives_heap_sub (s : Tcb) (segment : Segment) (s' : Tcb) (r : SegmentArrivesResult)
    (e : s.segmentArrives segment = .ok (s', r)) :
    ∀ x ∈ s'.incoming.segments, x ∈ segment :: s.incoming.segments :=
  segmentArrives_parked e List.mem_cons_self fun _ hx => List.mem_cons_of_mem _ hx

theorem segmentArrives_synsent_stays (s : Tcb) (segment : Segment) (s' : Tcb)
    (e : s.segmentArrives segment = .ok (s', .Ok)) (hst : s.state = .SynSent)
    (hσ : segment.hdr.ctl.syn = false) (hh : ∀ x ∈ s.incoming.segments, x.hdr.ctl.syn = false) :
    s'.state = .SynSent :=
  segmentArrives_lift_mem (Q := fun x => x.hdr.ctl.syn = false) (R := fun a b => a.state = .SynSent → b.state = .SynSent)
    (fun _ h => h) (fun h1 h2 h => h2 (h1 h)) (fun _ _ _ h => h)
    (fun hg _ => processSegment_lift (R := fun a b => a.state = .SynSent → b.state = .SynSent) (fun _ h => h)
      (fun h1 h2 h => h2 (h1 h)) fun x => (x.synSent_iff (.inr hg)).2)
    (fun _ hns h => absurd h hns) e hσ hh hst

theorem listen_create (segment : Segment) (iss : Seq) (mtu : U16) (tcb : Tcb)
    (e : segmentArrivesListen segment iss mtu = .ok (some (.Tcb tcb))) :
    SndBelow tcb ∧ tcb.snd.iss = iss ∧ tcb.sent = 1 ∧ tcb.localPort = segment.hdr.dstPort ∧
      tcb.remotePort = segment.hdr.srcPort ∧ tcb.state = .SynReceived ∧
      tcb.rcv.nxt = segment.hdr.seq + 1 ∧ segment.hdr.ctl.syn = true ∧
      ∃ σ', tcb.incoming.segments = [σ'] ∧ σ'.hdr.seq = segment.hdr.seq ∧ σ'.hdr.ctl.syn = false ∧
        σ'.segLen + 1 = segment.segLen := by
  obtain ⟨-, -, hsyn, rfl⟩ := segmentArrivesListen_tcb e
  obtain ⟨b, hs⟩ := sndBelow_fresh (listenT segment iss mtu) _ rfl rfl rfl rfl rfl rfl rfl rfl
  refine ⟨b, rfl, hs, rfl, rfl, rfl, rfl, hsyn, parkedSyn segment, rfl, rfl, rfl, ?_⟩
  simp only [parkedSyn, Segment.segLen, hsyn]
  simp
  omega

theorem listen_create_rcv (σ : Segment) (iss : Seq) (mtu : U16) (tcb : Tcb)
    (e : segmentArrivesListen σ iss mtu = .ok (some (.Tcb tcb))) (base : Seq) (N : Nat) (hv : SegBelow base N σ) :
    off base tcb.rcv.nxt = 1 ∧ 1 ≤ N ∧ ∀ x ∈ tcb.incoming.segments, SegBelow base N x := by
  obtain ⟨-, -, -, -, -, -, cnxt, csyn, σ', cheap, cseq, csyn', clen⟩ := listen_create σ iss mtu tcb e
  obtain ⟨o0, o1, hl, hN⟩ := hv.syn_off csyn
  refine ⟨by rw [cnxt, o1], by omega, fun x hx => ?_⟩
  rw [cheap] at hx
  rw [List.mem_singleton.1 hx]
  refine ⟨fun h => (by rw [csyn'] at h; cases h), fun _ => ?_⟩
  rw [cseq, o0]
  omega

end Tcb
end Elvis.Tcp
