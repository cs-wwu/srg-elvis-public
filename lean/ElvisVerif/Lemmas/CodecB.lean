import ElvisVerif.Model.Codec.Arp
import ElvisVerif.Model.Codec.Dns
import ElvisVerif.Model.Codec.Dhcp
import ElvisVerif.Lemmas.Codec
/-!
Helper lemmas for the ARP / DNS / DHCP codec models (`Props/C08b.lean`, `Props/C14b.lean`):
reader/writer inversions, the `NoPanic` calculus over `Except DecErr`, `readUntil`, `rdataLoop`.
-/
namespace Elvis.CodecB

/-- "google.com" query as the client builds it -/
def Dns.example1 : Dns.DnsMessage :=
  { header := Dns.newHeader 1337 false,
    question := Dns.newQuestion [0x67, 0x6f, 0x6f, 0x67, 0x6c, 0x65, 0x2e, 0x63, 0x6f, 0x6d],
    answer := Dns.newRecord [0x67, 0x6f, 0x6f, 0x67, 0x6c, 0x65, 0x2e, 0x63, 0x6f, 0x6d] 1600 168496141 }

/-! The readers and writers of 8, 16 and 32 bits are those of the header codecs
(`Model/Codec/Bytes.lean`) under other names, and their lemmas are the ones proved there.  Only
`nextU32` is spelled differently: it computes by Horner's rule what `Codec.nextU32` writes out. -/

theorem nextU32_eq : nextU32 = Codec.nextU32 := by
  funext b
  match b with
  | [] | [_] | [_, _] | [_, _, _] => rfl
  | a :: b :: c :: d :: r => exact congrArg (fun n => some (n, r)) (by omega)

theorem nextU8_put (v : Nat) (r : Bytes) (h : v < 256) : nextU8 (putU8 v ++ r) = some (v, r) :=
  Codec.nextU8_n2b r h

theorem nextU16_put (v : Nat) (r : Bytes) (h : v < 65536) :
    nextU16 (putU16 v ++ r) = some (v, r) :=
  Codec.nextU16_be16 r h

theorem nextU32_put (v : Nat) (r : Bytes) (h : v < 4294967296) :
    nextU32 (putU32 v ++ r) = some (v, r) :=
  nextU32_eq ▸ Codec.nextU32_be32 r h

theorem nextIpv4_put (v : Nat) (r : Bytes) (h : v < 4294967296) :
    nextIpv4 (putU32 v ++ r) = some (v, r) := nextU32_put v r h

theorem nextU8_inv {bs r : Bytes} {v : Nat} (h : nextU8 bs = some (v, r)) :
    bs = putU8 v ++ r ∧ v < 256 := by
  obtain ⟨a, rfl, rfl⟩ := Codec.nextU8_some h
  exact ⟨congrArg (· :: r) (Codec.n2b_of_toNat a).symm, a.toNat_lt⟩

theorem nextU16_inv {bs r : Bytes} {v : Nat} (h : nextU16 bs = some (v, r)) :
    bs = putU16 v ++ r ∧ v < 65536 := by
  obtain ⟨a, b, rfl, rfl⟩ := Codec.nextU16_some h
  have := a.toNat_lt; have := b.toNat_lt
  exact ⟨congrArg (· ++ r) (Codec.be16_of_bytes a b).symm, by omega⟩

theorem nextU32_inv {bs r : Bytes} {v : Nat} (h : nextU32 bs = some (v, r)) :
    bs = putU32 v ++ r ∧ v < 4294967296 := by
  obtain ⟨a, b, c, d, rfl, rfl⟩ := Codec.nextU32_some (nextU32_eq ▸ h)
  have := a.toNat_lt; have := b.toNat_lt; have := c.toNat_lt; have := d.toNat_lt
  exact ⟨congrArg (· ++ r) (Codec.be32_of_bytes a b c d).symm, by omega⟩

theorem nextIpv4_inv {bs r : Bytes} {v : Nat} (h : nextIpv4 bs = some (v, r)) :
    bs = putU32 v ++ r ∧ v < 4294967296 := nextU32_inv h

/-! The 48-bit pair exists only here.  The reader computes the big-endian number by Horner's
rule, the writer read as in `putU48_eq` takes the bytes off by repeated division by 256; one step
of either undoes one step of the other. -/

theorem ofNat_horner (x : Nat) (b : UInt8) : UInt8.ofNat (x * 256 + b.toNat) = b := by
  apply UInt8.toNat_inj.1
  rw [UInt8.toNat_ofNat', Nat.mul_add_mod_self_right, Nat.mod_eq_of_lt b.toNat_lt]

theorem horner_div (x : Nat) (b : UInt8) : (x * 256 + b.toNat) / 256 = x := by
  have := b.toNat_lt; omega

theorem putU48_eq (v : Nat) : putU48 v = [UInt8.ofNat (v / 256 / 256 / 256 / 256 / 256),
    UInt8.ofNat (v / 256 / 256 / 256 / 256), UInt8.ofNat (v / 256 / 256 / 256),
    UInt8.ofNat (v / 256 / 256), UInt8.ofNat (v / 256), UInt8.ofNat v] := by
  simp only [putU48, Nat.div_div_eq_div_mul, Nat.reduceMul]

theorem nextU48_put (v : Nat) (r : Bytes) (h : v < 281474976710656) :
    nextU48 (putU48 v ++ r) = some (v, r) := by
  have h5 : v / 256 / 256 / 256 / 256 / 256 < 256 := by omega
  simp only [putU48_eq, List.cons_append, List.nil_append, nextU48, UInt8.toNat_ofNat',
    Nat.mod_eq_of_lt h5, Nat.div_add_mod']

theorem nextU48_inv {bs r : Bytes} {v : Nat} (h : nextU48 bs = some (v, r)) :
    bs = putU48 v ++ r ∧ v < 281474976710656 := by
  match bs, h with
  | a :: b :: c :: d :: e :: f :: t, h =>
    cases h
    have := a.toNat_lt; have := b.toNat_lt; have := c.toNat_lt; have := d.toNat_lt
    have := e.toNat_lt; have := f.toNat_lt
    refine ⟨?_, by omega⟩
    simp only [putU48_eq, horner_div, ofNat_horner, UInt8.ofNat_toNat, List.cons_append,
      List.nil_append]

theorem readUntil_append (d : UInt8) (n r : Bytes) (h : d ∉ n) :
    readUntil d (n ++ d :: r) = some (n, r) := by
  induction n with
  | nil => simp [readUntil]
  | cons b t ih =>
    have hb : b ≠ d := fun e => h (by simp [e])
    have ht : d ∉ t := fun e => h (by simp [e])
    simp [readUntil, hb, ih ht]

theorem readUntil_inv (d : UInt8) {bs n r : Bytes} (h : readUntil d bs = some (n, r)) :
    bs = n ++ [d] ++ r ∧ d ∉ n := by
  induction bs generalizing n with
  | nil => simp [readUntil] at h
  | cons b t ih =>
    unfold readUntil at h
    by_cases hb : b = d
    · simp only [hb, if_true, Option.some.injEq, Prod.mk.injEq] at h
      obtain ⟨rfl, rfl⟩ := h
      simp [hb]
    · simp only [hb, if_false] at h
      cases hr : readUntil d t with
      | none => simp [hr] at h
      | some p =>
        obtain ⟨n', r'⟩ := p
        simp only [hr, Option.some.injEq, Prod.mk.injEq] at h
        obtain ⟨rfl, rfl⟩ := h
        obtain ⟨e, hn⟩ := ih hr
        refine ⟨by simp [e], ?_⟩
        intro hm
        rcases List.mem_cons.1 hm with h1 | h1
        · exact hb h1.symm
        · exact hn h1

theorem orShort_ok {α : Type} {o : Option α} {a : α} : orShort o = .ok a ↔ o = some a := by
  cases o <;> simp [orShort]

theorem bind_ok_inv {α β : Type} {x : Except DecErr α} {f : α → Except DecErr β} {b : β}
    (h : (x >>= f) = .ok b) : ∃ a, x = .ok a ∧ f a = .ok b := by
  cases x with
  | error e => simp [bind, Except.bind] at h
  | ok a => exact ⟨a, rfl, h⟩


/-- Used as a `↓` simp lemma, so that each read of a decoder is resolved at the head of the term
    before `simp` descends into the continuation (bottom-up, every step would traverse all later
    reads again). -/
theorem read_bind {α β : Type} {rd : Bytes → Option (α × Bytes)} {bs r : Bytes} {v : α}
    (h : rd bs = some (v, r)) (f : α × Bytes → Except DecErr β) :
    (orShort (rd bs) >>= f) = f (v, r) := by rw [h]; rfl

theorem read_ok_inv {α β : Type} {rd : Bytes → Option (α × Bytes)} {enc : α → Bytes} {P : α → Prop}
    (hinv : ∀ {bs r v}, rd bs = some (v, r) → bs = enc v ++ r ∧ P v)
    {bs : Bytes} {f : α × Bytes → Except DecErr β} {b : β} (h : (orShort (rd bs) >>= f) = .ok b) :
    ∃ v r, bs = enc v ++ r ∧ P v ∧ f (v, r) = .ok b := by
  obtain ⟨⟨v, r⟩, e, h⟩ := bind_ok_inv h
  obtain ⟨e1, e2⟩ := hinv (orShort_ok.1 e)
  exact ⟨v, r, e1, e2, h⟩

def NoPanic {α : Type} (r : Except DecErr α) : Prop := ∀ s, r ≠ .error (.panic s)

theorem noPanic_ok {α : Type} (a : α) : NoPanic (.ok a : Except DecErr α) := by
  intro s h; cases h

theorem noPanic_pure {α : Type} (a : α) : NoPanic (pure a : Except DecErr α) := noPanic_ok a

theorem noPanic_orShort {α : Type} (o : Option α) : NoPanic (orShort o) := by
  intro s h; cases o <;> simp [orShort] at h

theorem noPanic_bind {α β : Type} {x : Except DecErr α} {f : α → Except DecErr β}
    (hx : NoPanic x) (hf : ∀ a, x = .ok a → NoPanic (f a)) : NoPanic (x >>= f) := by
  cases x with
  | error e => intro s h; exact hx s (by simpa [bind, Except.bind] using h)
  | ok a => exact hf a rfl

/-- `hl`: the checked `u16` counter of the record-data loop does not overflow -/
theorem rdataLoop_eq {rdlength : Nat} (hl : rdlength ≤ 65535) :
    ∀ fuel i (bs : Bytes), rdlength - i ≤ fuel →
      Dns.rdataLoop rdlength fuel i bs =
        if rdlength - i ≤ bs.length then .ok (bs.take (rdlength - i), bs.drop (rdlength - i))
        else .error .tooShort := by
  intro fuel
  induction fuel with
  | zero => intro i bs h; rw [Nat.le_zero.1 h]; rfl
  | succ k ih =>
    intro i bs h
    unfold Dns.rdataLoop
    by_cases hi : i < rdlength
    · obtain ⟨m, hm⟩ : ∃ m, rdlength - i = m + 1 := ⟨rdlength - i - 1, by omega⟩
      rw [if_pos hi, hm]
      cases bs with
      | nil => rfl
      | cons b r =>
        have hm' : rdlength - (i + 1) = m := by omega
        simp only [if_neg (show ¬ i + 1 > 65535 by omega), ih (i + 1) r (by omega), hm',
          List.length_cons, Nat.add_le_add_iff_right, List.take_succ_cons, List.drop_succ_cons]
        by_cases hr : m ≤ r.length
        · rw [if_pos hr, if_pos hr]
        · rw [if_neg hr, if_neg hr]
    · rw [if_neg hi, show rdlength - i = 0 by omega]; rfl

/-- the call in `from_bytes` -/
theorem rdataLoop_call {rdlength : Nat} (hl : rdlength ≤ 65535) (bs : Bytes) :
    Dns.rdataLoop rdlength rdlength 0 bs =
      if rdlength ≤ bs.length then .ok (bs.take rdlength, bs.drop rdlength) else .error .tooShort :=
  rdataLoop_eq hl rdlength 0 bs (Nat.le_refl _)

theorem rdataLoop_noPanic {rdlength : Nat} (hl : rdlength ≤ 65535) (bs : Bytes) :
    NoPanic (Dns.rdataLoop rdlength rdlength 0 bs) := by
  rw [rdataLoop_call hl]
  intro s h; split at h <;> cases h

theorem rdataLoop_append {d : Bytes} (hl : d.length ≤ 65535) (r : Bytes) :
    Dns.rdataLoop d.length d.length 0 (d ++ r) = .ok (d, r) := by
  rw [rdataLoop_call hl, if_pos (by simp), List.take_left' rfl, List.drop_left' rfl]

theorem rdataLoop_inv {rdlength : Nat} (hl : rdlength ≤ 65535) {bs d r : Bytes}
    (h : Dns.rdataLoop rdlength rdlength 0 bs = .ok (d, r)) : bs = d ++ r ∧ d.length = rdlength := by
  rw [rdataLoop_call hl] at h
  split at h
  · cases h; exact ⟨(List.take_append_drop ..).symm, List.length_take_of_le ‹_›⟩
  · cases h

theorem msgTypeTryFrom_cases (t : Nat) :
    (∃ m, t = m.toNat ∧ Dhcp.msgTypeTryFrom t = .ok m) ∨
      Dhcp.msgTypeTryFrom t = .error .invalidDhcpType := by
  by_cases h1 : t = 1; · exact .inl ⟨.discover, h1, by rw [h1]; rfl⟩
  by_cases h2 : t = 2; · exact .inl ⟨.offer, h2, by rw [h2]; rfl⟩
  by_cases h3 : t = 3; · exact .inl ⟨.request, h3, by rw [h3]; rfl⟩
  by_cases h4 : t = 4; · exact .inl ⟨.decline, h4, by rw [h4]; rfl⟩
  by_cases h5 : t = 5; · exact .inl ⟨.ack, h5, by rw [h5]; rfl⟩
  by_cases h6 : t = 6; · exact .inl ⟨.nack, h6, by rw [h6]; rfl⟩
  by_cases h7 : t = 7; · exact .inl ⟨.release, h7, by rw [h7]; rfl⟩
  exact .inr (by simp only [Dhcp.msgTypeTryFrom, h1, h2, h3, h4, h5, h6, h7, if_false])

theorem noPanic_msgTypeTryFrom (t : Nat) : NoPanic (Dhcp.msgTypeTryFrom t) := by
  intro s h
  rcases msgTypeTryFrom_cases t with ⟨m, _, e⟩ | e <;> rw [e] at h <;> cases h

theorem noPanic_stringFromUtf8 (v : Bytes) : NoPanic (Dhcp.stringFromUtf8 v) := by
  intro s h
  unfold Dhcp.stringFromUtf8 at h
  split at h <;> cases h

theorem stringFromUtf8_inv {v s : Bytes} (h : Dhcp.stringFromUtf8 v = .ok s) :
    utf8Valid v = true ∧ s = v := by
  unfold Dhcp.stringFromUtf8 at h
  split at h
  · cases h; exact ⟨by assumption, rfl⟩
  · cases h

theorem msgTypeTryFrom_toNat (t : Dhcp.MessageType) : Dhcp.msgTypeTryFrom t.toNat = .ok t := by
  cases t <;> rfl

theorem msgTypeTryFrom_inv {n : Nat} {t : Dhcp.MessageType} (h : Dhcp.msgTypeTryFrom n = .ok t) :
    n = t.toNat := by
  rcases msgTypeTryFrom_cases n with ⟨m, hn, e⟩ | e <;> rw [e] at h <;> cases h
  exact hn

end Elvis.CodecB
