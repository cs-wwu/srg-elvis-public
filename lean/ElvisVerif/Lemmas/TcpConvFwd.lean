import ElvisVerif.Lemmas.TcpConvExt
import ElvisVerif.Lemmas.C01Progress
/-!
# Forward evaluation: an ESTABLISHED endpoint with an empty reorder heap takes plain data

Exact effect of `segment_arrives` on an ESTABLISHED TCB (advertising 65535) whose reorder heap is empty, for the data
segments a closed exchange delivers: plain ones (ACK bit only) that start `d < 2^31` sequence numbers before
`RCV.NXT` (`SEG.SEQ + d = RCV.NXT`; in order is `d = 0`) and whose new bytes fit the buffer.  The evaluation up to
block 5 and the pure ACK (`arrive_plain`, `arrive_ack_fwd`, `textBlock_fwd`) are in `Lemmas/C01Progress.lean`.

* `arrive_catch_fwd` — data with `d ≤ SEG.LEN` (in order, partly old, or ending exactly at `RCV.NXT`): acceptable;
  the same for its ACK field, the `SEG.LEN − d` new bytes (which fit the buffer) are appended, `RCV.NXT` advances
  to the end of the segment, and one header acknowledging the new `RCV.NXT` is queued.

Data with `d > SEG.LEN` is not acceptable (`Full.isSeqOk_old`, `Lemmas/TcpFullEst.lean`).
-/
namespace Elvis.Tcp
open Elvis.ModCmp
namespace Tcb

structure CatchFx (t1 : Tcb) (text : List UInt8) (d : Nat) (t' : Tcb) : Prop where
  nxt : t'.rcv.nxt = t1.rcv.nxt + BitVec.ofNat 32 (text.length - d)
  rwnd : t'.rcv.wnd = t1.rcv.wnd
  text : t'.incoming.text = t1.incoming.text ++ text.drop d
  heap : t'.incoming.segments = t1.incoming.segments
  st : t'.state = t1.state
  snd : t'.snd = t1.snd
  otext : t'.outgoing.text = t1.outgoing.text
  rtx : t'.outgoing.retransmit = t1.outgoing.retransmit
  one : ∃ h, t'.outgoing.oneshot = t1.outgoing.oneshot ++ [h] ∧ h.ack = t'.rcv.nxt
  mtu : t'.mtu = t1.mtu

theorem textBlock_catch (t : Tcb) (seg : Hdr) (text : List UInt8) (d : Nat) (hst : t.state = .Established)
    (hw : t.rcv.wnd = 65535#16) (hsyn : seg.ctl.syn = false) (hseq : seg.seq + BitVec.ofNat 32 d = t.rcv.nxt)
    (hne : text ≠ []) (hd : d ≤ text.length) (hlen : text.length ≤ 65535)
    (hfit : t.incoming.text.length + (text.length - d) ≤ 65535) :
    ∃ t', textBlock t seg text (BitVec.ofNat 32 text.length) = .ok (t', none) ∧ CatchFx t text d t' := by
  obtain ⟨e, ha, hacc⟩ := textBlock_fwd t seg text d hst hw hsyn hseq hne hd hlen (by omega)
  -- everything new fits
  rw [Nat.min_eq_left (by omega)] at hacc
  refine ⟨_, e, ?_⟩
  rw [textTaken, textBuffered, acceptText, ha, hacc, enqueueBuilt_oneshot _ _ rfl rfl]
  refine ⟨rfl, rfl, ?_, rfl, rfl, rfl, rfl, rfl, ⟨_, rfl, rfl⟩, rfl⟩
  show t.incoming.text ++ List.take (text.length - d) (List.drop d text) = t.incoming.text ++ List.drop d text
  rw [List.take_of_length_le (by rw [List.length_drop]; exact Nat.le_refl _)]

theorem arrive_catch_fwd (t : Tcb) (g : Segment) (d : Nat) (hst : t.state = .Established) (hw : t.rcv.wnd = 65535#16)
    (hheap : t.incoming.segments = []) (hp : Plain t g.hdr) (hne : g.text ≠ [])
    (hseq : g.hdr.seq + BitVec.ofNat 32 d = t.rcv.nxt) (hd : d ≤ g.text.length) (hlen : g.text.length ≤ 65535)
    (hfit : t.incoming.text.length + (g.text.length - d) ≤ 65535) :
    ∃ t1 t', t.segmentArrives g = .ok (t', .Ok) ∧ AckFx t g.hdr t1 ∧ CatchFx t1 g.text d t' := by
  have hok : t.isSeqOk (BitVec.ofNat 32 g.text.length) g.hdr.seq g.hdr.ctl.syn g.hdr.ctl.fin = .ok true := by
    rw [hp.syn, hp.fin]
    exact isSeqOk_catch t g.hdr.seq g.text.length d hw hseq (List.length_pos_iff.2 hne) hd hlen
  obtain ⟨t1, fx, hk⟩ := arrive_plain t g hst hheap hp hok (C01.gate_pass _ _ d (by omega) hseq)
  obtain ⟨t', e5, tx⟩ := textBlock_catch t1 g.hdr g.text d (by rw [fx.st, hst]) (by rw [fx.rcv, hw]) hp.syn
    (by rw [fx.rcv, hseq]) hne hd hlen (by rw [fx.inc]; exact hfit)
  exact ⟨t1, t', hk t' e5, fx, tx⟩

end Tcb
end Elvis.Tcp
