import ElvisVerif.Lemmas.NdlLex
/-!
# NDL normalisation (`\r` dropped, every run of four spaces → tab) on rendered descriptions

The lines of a description (`Sim.lineList`: `render` writes them one by one, each in its plain
form, `render_lines`), the descriptions whose keys and values contain no `\r` and no run of four
spaces (`CalmSim`), and what the two rewritings do to the pieces of a line.

Then exactly, with no hypothesis on the contents of keys and values: what `core_parser`'s two
`replace` calls do to a written description is to normalise every key and every value, nothing
else — provided no key begins with a space once its `\r`s are gone (the space would merge with the
separator written before the key).  Lines are taken in their general written form (`RLine`): any
spelling of the type tag without blanks, any number of blank lines after the line, three layouts.
-/
namespace Elvis.Ndl

/-- no run of four spaces, given `k` spaces immediately before the text -/
def quadFree : Nat → Text → Bool
  | _, [] => true
  | k, c :: r => if c = ' ' then (decide (k < 3) && quadFree (k + 1) r) else quadFree 0 r

/-- arguments the normalisation leaves alone: no `\r`, no run of four spaces (a key is written
    right after one space) -/
def CalmParams (ps : Params) : Prop :=
  ∀ kv ∈ ps, quadFree 1 kv.1 = true ∧ quadFree 0 kv.2 = true ∧ '\r' ∉ kv.1 ∧ '\r' ∉ kv.2

abbrev LineSpec := Nat × DecType × Params

def leafLines (d : Nat) (ls : List Leaf) : List LineSpec := ls.map fun l => (d, l.dectype, l.options)

def Network.lineList (n : Network) : List LineSpec := (1, .network, n.options) :: leafLines 2 n.ip

def Machine.lineList (m : Machine) : List LineSpec :=
  (1, .machine, m.options) :: ((2, .networks, []) :: (leafLines 3 m.networks ++
  ((2, .protocols, []) :: (leafLines 3 m.protocols ++
  ((2, .applications, []) :: leafLines 3 m.applications)))))

def Sim.lineList (s : Sim) : List LineSpec :=
  (0, .networks, []) :: ((s.networks.flatMap fun e => e.2.lineList) ++
  ((0, .machines, []) :: s.machines.flatMap (·.lineList)))

def CalmSim (s : Sim) : Prop := ∀ x ∈ s.lineList, CalmParams x.2.2

theorem dropCR_append (a b : Text) : dropCR (a ++ b) = dropCR a ++ dropCR b := by simp [dropCR]

theorem dropCR_self (t : Text) (h : '\r' ∉ t) : dropCR t = t := by
  unfold dropCR
  rw [List.filter_eq_self]
  intro c hc
  simp only [ne_eq, decide_eq_true_eq]
  intro he; exact h (he ▸ hc)

theorem replicate_succ_space (k : Nat) (t : Text) :
    List.replicate (k + 1) ' ' ++ t = List.replicate k ' ' ++ ' ' :: t := by
  rw [List.replicate_succ']; simp

theorem quadFree_append : ∀ (a : Text) (k : Nat) (c : Char) (b : Text), c ≠ ' ' →
    quadFree k (a ++ c :: b) = (quadFree k a && quadFree 0 b)
  | [], k, c, b, hc => by simp [quadFree, hc]
  | x :: a, k, c, b, hc => by
    simp only [List.cons_append, quadFree]
    split
    · rw [quadFree_append a (k + 1) c b hc, Bool.and_assoc]
    · exact quadFree_append a 0 c b hc

theorem quadFree_no_space : ∀ (t : Text) (k : Nat), ' ' ∉ t → quadFree k t = true
  | [], _, _ => rfl
  | c :: r, k, h => by
    simp only [List.mem_cons, not_or] at h
    have hc : c ≠ ' ' := fun e => h.1 e.symm
    simp only [quadFree, hc, if_false]
    exact quadFree_no_space r 0 h.2

theorem quadFree_nonspace (c : Char) (t : Text) (k : Nat) (hc : c ≠ ' ') :
    quadFree k (c :: t) = quadFree 0 t := by simp [quadFree, hc]

theorem fourSp_spaces (d : Nat) (t : Text) :
    fourSpFrom 0 (List.replicate (4 * d) ' ' ++ t) = List.replicate d '\t' ++ fourSpFrom 0 t := by
  induction d with
  | zero => simp
  | succ n ih =>
    have : 4 * (n + 1) = 4 * n + 4 := by omega
    rw [this]
    simp only [List.replicate_succ, List.cons_append, fourSpFrom, if_true]
    simp [ih]

/-- how a line is written: the spelling of its type tag, the number of blank lines after it -/
structure Deco where
  tag : Text
  blank : Nat
deriving DecidableEq, Repr

structure RLine where
  depth : Nat
  dt : DecType
  deco : Deco
  ps : Params
deriving DecidableEq, Repr

def eols : Layout → Nat → Text
  | _, 0 => []
  | lay, n + 1 => eol lay ++ eols lay n

def RLine.text (lay : Layout) (x : RLine) : Text :=
  indent lay x.depth ++ (('[' :: (x.deco.tag ++ (renderArgs x.ps ++ [']']))) ++ eols lay (x.deco.blank + 1))

def rlText (lay : Layout) (ls : List RLine) : Text := ls.flatMap (RLine.text lay)

theorem rlText_cons (lay : Layout) (x : RLine) (ls : List RLine) :
    rlText lay (x :: ls) = x.text lay ++ rlText lay ls := by simp [rlText]

theorem rlText_append (lay : Layout) (a b : List RLine) :
    rlText lay (a ++ b) = rlText lay a ++ rlText lay b := by simp [rlText]

def RLine.plain (x : LineSpec) : RLine := ⟨x.1, x.2.1, ⟨x.2.1.name, 0⟩, x.2.2⟩

theorem plain_text (lay : Layout) (d : Nat) (dt : DecType) (ps : Params) :
    (RLine.plain (d, dt, ps)).text lay = line lay d dt ps := by
  simp [line, RLine.text, RLine.plain, renderLine, eols]

theorem renderLeaves_lines (lay : Layout) (d : Nat) (ls : List Leaf) :
    renderLeaves lay d ls = rlText lay ((leafLines d ls).map RLine.plain) := by
  simp [renderLeaves, rlText, leafLines, List.flatMap_map, plain_text]

theorem renderNetwork_lines (lay : Layout) (n : Network) :
    renderNetwork lay n = rlText lay (n.lineList.map RLine.plain) := by
  simp [renderNetwork, Network.lineList, rlText_cons, renderLeaves_lines, plain_text]

theorem renderMachine_lines (lay : Layout) (m : Machine) :
    renderMachine lay m = rlText lay (m.lineList.map RLine.plain) := by
  simp [renderMachine, Machine.lineList, rlText_cons, rlText_append, renderLeaves_lines, plain_text]

theorem render_lines (lay : Layout) (s : Sim) : render lay s = rlText lay (s.lineList.map RLine.plain) := by
  have hm : renderMachine lay = fun m => rlText lay (m.lineList.map RLine.plain) := funext (renderMachine_lines lay)
  simp [render, Sim.lineList, plain_text, renderNetwork_lines, hm, rlText, List.map_flatMap, List.flatMap_assoc]

def normParams (ps : Params) : Params := ps.map fun kv => (normalise kv.1, normalise kv.2)

def RLine.norm (x : RLine) : RLine := { x with ps := normParams x.ps }

def KeysStart (ps : Params) : Prop := ∀ kv ∈ ps, ∀ r, dropCR kv.1 ≠ ' ' :: r

theorem dropCR_cons_ne (c : Char) (t : Text) (h : c ≠ '\r') : dropCR (c :: t) = c :: dropCR t := by
  simp [dropCR, h]

theorem dropCR_renderArgs : ∀ ps : Params,
    dropCR (renderArgs ps) = renderArgs (ps.map fun kv => (dropCR kv.1, dropCR kv.2))
  | [] => by simp [renderArgs, dropCR]
  | (k, v) :: ps => by
    simp only [List.map_cons, renderArgs_cons]
    rw [dropCR_cons_ne _ _ (by decide), dropCR_append, dropCR_cons_ne _ _ (by decide),
      dropCR_cons_ne _ _ (by decide), dropCR_append, dropCR_cons_ne _ _ (by decide), dropCR_renderArgs ps]

theorem fourSpFrom_nonspace (c : Char) (t : Text) (h : c ≠ ' ') :
    fourSpFrom 0 (c :: t) = c :: fourSpFrom 0 t := by simp [fourSpFrom, h]

theorem fourSpFrom_append : ∀ (a : Text) (j : Nat) (c : Char) (t : Text), c ≠ ' ' →
    fourSpFrom j (a ++ c :: t) = fourSpFrom j a ++ c :: fourSpFrom 0 t
  | [], j, c, t, hc => by simp [fourSpFrom, hc]
  | x :: a, j, c, t, hc => by
    simp only [List.cons_append, fourSpFrom]
    split
    · split
      · rw [fourSpFrom_append a 0 c t hc]; simp
      · rw [fourSpFrom_append a (j + 1) c t hc]
    · rw [fourSpFrom_append a 0 c t hc]; simp

theorem fourSpFrom_one (k : Text) (h : ∀ r, k ≠ ' ' :: r) : fourSpFrom 1 k = ' ' :: fourSpFrom 0 k := by
  cases k with
  | nil => rfl
  | cons c r =>
    have hc : c ≠ ' ' := fun e => h r (by rw [e])
    simp [fourSpFrom, hc]

theorem fourSp_nospace : ∀ (a t : Text), ' ' ∉ a → fourSpFrom 0 (a ++ t) = a ++ fourSpFrom 0 t
  | [], t, _ => rfl
  | c :: a, t, h => by
    simp only [List.mem_cons, not_or] at h
    have hc : c ≠ ' ' := fun e => h.1 e.symm
    rw [List.cons_append, fourSpFrom_nonspace c _ hc, fourSp_nospace a t h.2]
    rfl

theorem fourSp_renderArgs : ∀ (ps : Params), (∀ kv ∈ ps, ∀ r, kv.1 ≠ ' ' :: r) →
    ∀ (c : Char) (t : Text), c ≠ ' ' →
    fourSpFrom 0 (renderArgs ps ++ c :: t) =
      renderArgs (ps.map fun kv => (fourSp kv.1, fourSp kv.2)) ++ c :: fourSpFrom 0 t
  | [], _, c, t, hc => by simp [renderArgs, fourSpFrom, hc]
  | (k, v) :: ps, h, c, t, hc => by
    have hk := h (k, v) List.mem_cons_self
    have ih := fourSp_renderArgs ps (fun kv hkv => h kv (List.mem_cons_of_mem _ hkv)) c t hc
    simp only [List.map_cons, renderArgs_cons, List.cons_append, List.append_assoc]
    have e1 : fourSpFrom 0 (' ' :: (k ++ '=' :: '\'' :: (v ++ '\'' :: (renderArgs ps ++ c :: t)))) =
        fourSpFrom 1 (k ++ '=' :: '\'' :: (v ++ '\'' :: (renderArgs ps ++ c :: t))) := by
      simp [fourSpFrom]
    rw [e1, fourSpFrom_append k 1 '=' _ (by decide), fourSpFrom_one k hk,
      fourSpFrom_nonspace '\'' _ (by decide), fourSpFrom_append v 0 '\'' _ (by decide), ih]
    simp [fourSp]

theorem eols_noCR (lay : Layout) (n : Nat) : dropCR (eols lay n) = List.replicate n '\n' := by
  induction n with
  | zero => simp [eols, dropCR]
  | succ n ih =>
    rw [eols, dropCR_append, ih]
    cases lay <;> simp [eol, dropCR, List.replicate_succ]

theorem eols_tabs (n : Nat) : eols .tabs n = List.replicate n '\n' := by
  induction n with
  | zero => rfl
  | succ n ih => simp [eols, eol, ih, List.replicate_succ]

theorem fourSp_newlines (n : Nat) (t : Text) :
    fourSpFrom 0 (List.replicate n '\n' ++ t) = List.replicate n '\n' ++ fourSpFrom 0 t :=
  fourSp_nospace _ t (by intro h; have := List.eq_of_mem_replicate h; exact absurd this (by decide))

theorem dropCR_indent (lay : Layout) (d : Nat) : dropCR (indent lay d) = indent lay d := by
  apply dropCR_self
  intro h
  cases lay <;> simp only [indent] at h <;> have := List.eq_of_mem_replicate h <;> exact absurd this (by decide)

theorem fourSp_indent (lay : Layout) (d : Nat) (t : Text) :
    fourSpFrom 0 (indent lay d ++ t) = List.replicate d '\t' ++ fourSpFrom 0 t := by
  have ht : fourSpFrom 0 (List.replicate d '\t' ++ t) = List.replicate d '\t' ++ fourSpFrom 0 t :=
    fourSp_nospace _ t (by intro h; have := List.eq_of_mem_replicate h; exact absurd this (by decide))
  cases lay
  · exact ht
  · exact fourSp_spaces d t
  · exact ht

theorem normalise_rline (lay : Layout) (x : RLine) (ht : ' ' ∉ x.deco.tag ∧ '\r' ∉ x.deco.tag)
    (hk : KeysStart x.ps) (more : Text) :
    fourSpFrom 0 (dropCR (x.text lay) ++ more) = x.norm.text .tabs ++ fourSpFrom 0 more := by
  have hk' : ∀ kv ∈ x.ps.map (fun kv => (dropCR kv.1, dropCR kv.2)), ∀ r, kv.1 ≠ ' ' :: r := by
    intro kv hkv
    obtain ⟨kv0, h0, rfl⟩ := List.mem_map.1 hkv
    exact hk kv0 h0
  unfold RLine.text
  rw [dropCR_append, dropCR_indent, dropCR_append, dropCR_cons_ne _ _ (by decide), dropCR_append,
    dropCR_self _ ht.2, dropCR_append, dropCR_renderArgs, eols_noCR]
  have e0 : dropCR [']'] = [']'] := by decide
  rw [e0]
  simp only [List.append_assoc, List.cons_append, List.nil_append]
  rw [fourSp_indent, fourSpFrom_nonspace '[' _ (by decide), fourSp_nospace _ _ ht.1,
    fourSp_renderArgs _ hk' ']' _ (by decide), fourSp_newlines]
  simp [RLine.norm, normParams, normalise, eols_tabs, indent, List.map_map, Function.comp_def]

theorem dropCR_rlText (lay : Layout) : ∀ ls : List RLine,
    dropCR (rlText lay ls) = ls.flatMap fun x => dropCR (x.text lay)
  | [] => by simp [rlText, dropCR]
  | x :: ls => by rw [rlText_cons, dropCR_append, dropCR_rlText lay ls]; simp

/-- a written description: every line is rewritten on its own; the rewriting restarts at every
    line end, so what follows the description is rewritten separately -/
theorem normalise_rlText_append (lay : Layout) : ∀ (ls : List RLine),
    (∀ x ∈ ls, (' ' ∉ x.deco.tag ∧ '\r' ∉ x.deco.tag) ∧ KeysStart x.ps) → ∀ more : Text,
    fourSpFrom 0 (dropCR (rlText lay ls) ++ more) = rlText .tabs (ls.map RLine.norm) ++ fourSpFrom 0 more
  | [], _, more => by simp [rlText, dropCR]
  | x :: ls, h, more => by
    have ih := normalise_rlText_append lay ls (fun y hy => h y (List.mem_cons_of_mem _ hy)) more
    have hx := h x List.mem_cons_self
    rw [rlText_cons, dropCR_append, List.append_assoc, normalise_rline lay x hx.1 hx.2, ih]
    simp [rlText]

theorem normalise_rlText (lay : Layout) (ls : List RLine)
    (h : ∀ x ∈ ls, (' ' ∉ x.deco.tag ∧ '\r' ∉ x.deco.tag) ∧ KeysStart x.ps) :
    normalise (rlText lay ls) = rlText .tabs (ls.map RLine.norm) := by
  simpa [normalise, fourSp, fourSpFrom] using normalise_rlText_append lay ls h []

def Calm (t : Text) : Prop := '\r' ∉ t ∧ quadFree 0 t = true

instance (t : Text) : Decidable (Calm t) := by unfold Calm; exact inferInstance

theorem fourSpFrom_quadFree : ∀ (a : Text) (j : Nat), quadFree j a = true →
    fourSpFrom j a = List.replicate j ' ' ++ a
  | [], j, _ => by simp [fourSpFrom]
  | c :: a, j, h => by
    simp only [quadFree] at h
    simp only [fourSpFrom]
    split
    · rename_i hc
      simp only [hc, if_true, Bool.and_eq_true, decide_eq_true_eq] at h
      have hj : j ≠ 3 := by omega
      simp only [hj, if_false]
      rw [fourSpFrom_quadFree a (j + 1) h.2, replicate_succ_space, hc]
    · rename_i hc
      simp only [hc, if_false] at h
      rw [fourSpFrom_quadFree a 0 h]
      simp

theorem fourSpFrom_length_le : ∀ (s : Text) (k : Nat), (fourSpFrom k s).length ≤ k + s.length
  | [], k => by simp [fourSpFrom]
  | c :: r, k => by
    unfold fourSpFrom
    split
    · split
      · have := fourSpFrom_length_le r 0; simp; omega
      · have := fourSpFrom_length_le r (k + 1); simp; omega
    · have := fourSpFrom_length_le r 0; simp; omega

theorem fourSpFrom_shrinks : ∀ (a : Text) (j : Nat), j ≤ 3 → quadFree j a = false →
    (fourSpFrom j a).length < j + a.length
  | [], j, _, h => by simp [quadFree] at h
  | c :: a, j, hj3, h => by
    simp only [quadFree] at h
    simp only [fourSpFrom]
    split
    · rename_i hc
      simp only [hc, if_true] at h
      split
      · have := fourSpFrom_length_le a 0
        simp only [List.length_cons]; omega
      · rename_i hj
        have hlt : decide (j < 3) = true := by simp; omega
        rw [hlt, Bool.true_and] at h
        have := fourSpFrom_shrinks a (j + 1) (by omega) h
        simp only [List.length_cons]; omega
    · rename_i hc
      simp only [hc, if_false] at h
      have := fourSpFrom_shrinks a 0 (by omega) h
      simp only [List.length_append, List.length_replicate, List.length_cons]; omega

theorem normalise_eq_self_iff (t : Text) : normalise t = t ↔ Calm t := by
  constructor
  · intro h
    have hcr : '\r' ∉ t := by
      intro hm
      have h1 : (dropCR t).length < t.length := by
        unfold dropCR
        exact List.length_filter_lt_length_iff_exists.2 ⟨'\r', hm, by simp⟩
      have h2 := fourSpFrom_length_le (dropCR t) 0
      have h3 : (normalise t).length = t.length := by rw [h]
      unfold normalise fourSp at h3
      omega
    refine ⟨hcr, ?_⟩
    cases hq : quadFree 0 t with
    | true => rfl
    | false =>
      exfalso
      have h1 := fourSpFrom_shrinks t 0 (by omega) hq
      have h3 : (normalise t).length = t.length := by rw [h]
      unfold normalise fourSp at h3
      rw [dropCR_self t hcr] at h3
      omega
  · intro h
    unfold normalise fourSp
    rw [dropCR_self t h.1, fourSpFrom_quadFree t 0 h.2]
    simp

def normLeaf (l : Leaf) : Leaf := ⟨l.dectype, normParams l.options⟩

def normNetwork (n : Network) : Network := ⟨n.dectype, normParams n.options, n.ip.map normLeaf⟩

def normMachine (m : Machine) : Machine :=
  ⟨m.dectype, normParams m.options, m.networks.map normLeaf, m.protocols.map normLeaf,
    m.applications.map normLeaf⟩

/-- what the file-level rewriting turns a description into: every key, every value and hence
    every network id normalised -/
def normSim (s : Sim) : Sim :=
  ⟨s.networks.map fun e => (normalise e.1, normNetwork e.2), s.machines.map normMachine⟩

def CalmP (ps : Params) : Prop := ∀ kv ∈ ps, Calm kv.1 ∧ Calm kv.2
def CalmLeaf (l : Leaf) : Prop := CalmP l.options
def CalmNet (n : Network) : Prop := CalmP n.options ∧ ∀ l ∈ n.ip, CalmLeaf l
def CalmMach (m : Machine) : Prop :=
  CalmP m.options ∧ (∀ l ∈ m.networks, CalmLeaf l) ∧ (∀ l ∈ m.protocols, CalmLeaf l) ∧
    ∀ l ∈ m.applications, CalmLeaf l
def CalmTree (s : Sim) : Prop :=
  (∀ e ∈ s.networks, Calm e.1 ∧ CalmNet e.2) ∧ ∀ m ∈ s.machines, CalmMach m

theorem map_eq_self_iff {α : Type} (f : α → α) : ∀ l : List α, l.map f = l ↔ ∀ x ∈ l, f x = x
  | [] => by simp
  | a :: l => by simp [map_eq_self_iff f l]

theorem normParams_eq_self_iff (ps : Params) : normParams ps = ps ↔ CalmP ps := by
  rw [normParams, map_eq_self_iff]
  exact forall₂_congr fun kv _ =>
    Prod.ext_iff.trans (and_congr (normalise_eq_self_iff kv.1) (normalise_eq_self_iff kv.2))

theorem normLeaf_eq_self_iff (l : Leaf) : normLeaf l = l ↔ CalmLeaf l := by
  cases l with
  | mk dt o => simp [normLeaf, CalmLeaf, normParams_eq_self_iff]

theorem normLeaves_eq_self_iff (ls : List Leaf) : ls.map normLeaf = ls ↔ ∀ l ∈ ls, CalmLeaf l :=
  (map_eq_self_iff _ ls).trans (forall₂_congr fun l _ => normLeaf_eq_self_iff l)

theorem normNetwork_eq_self_iff (n : Network) : normNetwork n = n ↔ CalmNet n := by
  cases n with
  | mk dt o ip => simp [normNetwork, CalmNet, normParams_eq_self_iff, normLeaves_eq_self_iff]

theorem normMachine_eq_self_iff (m : Machine) : normMachine m = m ↔ CalmMach m := by
  cases m with
  | mk dt o a b c => simp [normMachine, CalmMach, normParams_eq_self_iff, normLeaves_eq_self_iff]

theorem normSim_eq_self_iff (s : Sim) : normSim s = s ↔ CalmTree s := by
  cases s with
  | mk nets ms =>
    simp only [normSim, CalmTree, Sim.mk.injEq, map_eq_self_iff]
    exact and_congr
      (forall₂_congr fun e _ =>
        Prod.ext_iff.trans (and_congr (normalise_eq_self_iff e.1) (normNetwork_eq_self_iff e.2)))
      (forall₂_congr fun m _ => normMachine_eq_self_iff m)

def normSpec (x : LineSpec) : LineSpec := (x.1, x.2.1, normParams x.2.2)

theorem leafLines_norm (d : Nat) (ls : List Leaf) :
    leafLines d (ls.map normLeaf) = (leafLines d ls).map normSpec := by
  simp [leafLines, normLeaf, normSpec, Function.comp_def]

theorem normParams_nil : normParams [] = [] := rfl

theorem lineList_norm (s : Sim) : (normSim s).lineList = s.lineList.map normSpec := by
  cases s with
  | mk nets ms =>
    simp only [Sim.lineList, normSim, List.map_cons, List.map_append, List.flatMap_map, List.map_flatMap]
    simp only [normSpec, normParams_nil, Network.lineList, Machine.lineList, normNetwork, normMachine,
      leafLines_norm, List.map_cons, List.map_append]

theorem normalise_render_exact (lay : Layout) (s : Sim) (hk : ∀ x ∈ s.lineList, KeysStart x.2.2) :
    normalise (render lay s) = render .tabs (normSim s) := by
  rw [render_lines, render_lines, lineList_norm,
    normalise_rlText lay _ (by
      intro x hx
      obtain ⟨y, hy, rfl⟩ := List.mem_map.1 hx
      exact ⟨tag_no_space_cr y.2.1 _ rfl, hk y hy⟩)]
  simp [List.map_map, Function.comp_def, RLine.plain, RLine.norm, normSpec]

end Elvis.Ndl
