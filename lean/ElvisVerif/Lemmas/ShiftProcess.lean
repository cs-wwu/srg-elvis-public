import ElvisVerif.Lemmas.ShiftBlocks
import ElvisVerif.Lemmas.TcbInv
/-!
# `process_segment` commutes with the shift map (C12)

Composition of the six block lemmas, for every TCB and every segment: the one block that reads the
still unset `RCV.NXT` of SYN-SENT, block 5, is not reached there (block 4 lets nothing through).

Results are compared up to `psNorm` (`ConnectionReset` ≃ `BlindReset`).
-/
namespace Elvis.Tcp
open Elvis.ModCmp
variable (ka kb : Seq)

def normM (x : M ProcessSegmentResult) : M ProcessSegmentResult :=
  match x with
  | .error e => .error e
  | .ok (s, r) => .ok (s, psNorm r)

theorem andThen_inv (x : Tcb.B) (f : Tcb → Tcb.B) (u : Tcb) (h : x.andThen f = .ok (u, none)) :
    ∃ v, x = .ok (v, none) ∧ f v = .ok (u, none) := by
  rcases Tcb.andThen_ok h with ⟨_, _, hr⟩ | h
  · cases hr
  · exact h

theorem normB_andThen (x : Tcb.B) (f : Tcb → Tcb.B) :
    normB (x.andThen f) = (normB x).andThen fun u => normB (f u) := by
  cases x with
  | error e => rfl
  | ok q => obtain ⟨u, r⟩ := q; cases r <;> rfl

theorem andThen_shift_norm (x x' : Tcb.B) (f f' : Tcb → Tcb.B)
    (hx : normB x' = normB (M.shift ka kb x))
    (hf : ∀ u, x = .ok (u, none) → normB (f' (u.shift ka kb)) = normB (M.shift ka kb (f u))) :
    normB (x'.andThen f') = normB (M.shift ka kb (x.andThen f)) := by
  rw [normB_andThen, hx]
  cases x with
  | error e => rfl
  | ok q =>
    obtain ⟨u, r⟩ := q
    cases r with
    | none => exact hf u rfl
    | some r0 => rfl

theorem normM_finish (x : Tcb.B) : normM (finish x) = normM (finish (normB x)) := by
  cases x with
  | error e => rfl
  | ok q =>
    obtain ⟨u, r⟩ := q
    cases r with
    | none => rfl
    | some r0 => cases r0 <;> rfl

theorem finish_norm (x x' : Tcb.B) (hx : normB x' = normB (M.shift ka kb x)) :
    normM (finish x') = normM (M.shift ka kb (finish x)) := by
  rw [normM_finish, hx, ← normM_finish]
  cases x with
  | error e => rfl
  | ok q => obtain ⟨u, r⟩ := q; cases r <;> rfl

theorem normM_shift_inv {x x' : M ProcessSegmentResult} (h : normM x' = normM (M.shift ka kb x)) :
    (∃ e, x = .error e ∧ x' = .error e) ∨
      ∃ u r r', x = .ok (u, r) ∧ x' = .ok (u.shift ka kb, r') ∧ psNorm r' = psNorm r := by
  cases x with
  | error e =>
    cases x' with
    | error e' => cases h; exact Or.inl ⟨_, rfl, rfl⟩
    | ok q => cases h
  | ok q =>
    obtain ⟨u, r⟩ := q
    cases x' with
    | error e' => cases h
    | ok q' =>
      obtain ⟨t, r'⟩ := q'
      obtain ⟨h1, h2⟩ := Prod.mk.inj (Except.ok.inj h)
      subst h1
      exact Or.inr ⟨_, _, _, rfl, rfl, h2⟩

theorem shift_processSegment (s : Tcb) (seg : Segment) :
    normM (Tcb.processSegment (s.shift ka kb) (seg.shift kb ka)) =
      normM (M.shift ka kb (Tcb.processSegment s seg)) := by
  rw [processSegment_eq, processSegment_eq]
  refine finish_norm ka kb _ _ ?_
  rw [Segment.shift_hdr, Segment.shift_text]
  refine andThen_shift_norm ka kb _ _ _ _ ?_ ?_
  · refine andThen_shift_norm ka kb _ _ _ _ ?_ ?_
    · refine andThen_shift_norm ka kb _ _ _ _ ?_ ?_
      · refine andThen_shift_norm ka kb _ _ _ _ ?_ ?_
        · refine andThen_shift_norm ka kb _ _ _ _ ?_ ?_
          · exact congrArg normB (shift_seqCheck ka kb s seg.hdr _)
          · intro u _; exact congrArg normB (shift_ackBlock ka kb u seg.hdr)
        · intro u _; exact shift_rstBlock_norm ka kb u seg.hdr
      · intro u _; exact congrArg normB (shift_synBlock ka kb u seg.hdr)
    · -- block 5 reads `RCV.NXT`: block 4 lets nothing through in SYN-SENT
      intro u hu
      obtain ⟨v, _, hsy⟩ := andThen_inv _ _ _ hu
      exact congrArg normB (shift_textBlock ka kb u seg.hdr seg.text _ (Tcb.synBlock_falls hsy))
  · intro u _
    exact congrArg normB (shift_finBlock ka kb u seg.hdr _)

end Elvis.Tcp
