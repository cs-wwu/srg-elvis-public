import ElvisVerif.Lemmas.ShiftProcess
import ElvisVerif.Lemmas.ListHeap
import ElvisVerif.Lemmas.TcbInv
/-!
# `segment_arrives` commutes with the shift map (C12)

The processing loop by induction on its fuel, then `segment_arrives`, for every TCB.
-/
namespace Elvis.Tcp
open Elvis.ModCmp
variable (ka kb : Seq)

theorem shouldDelete_psNorm (r : ProcessSegmentResult) : (psNorm r).shouldDeleteTcb = r.shouldDeleteTcb := by
  cases r <;> rfl

theorem shift_setHeap (s : Tcb) (h : List Segment) :
    setHeap (s.shift ka kb) (h.map (Segment.shift kb ka)) = (setHeap s h).shift ka kb := rfl

/-- the gate of the loop compares with `RCV.NXT` outside SYN-SENT only -/
theorem shift_gate (s : Tcb) (top : Segment) :
    ((s.shift ka kb).state ≠ .SynSent && modGt (top.shift kb ka).hdr.seq (s.shift ka kb).rcv.nxt) =
      (s.state ≠ .SynSent && modGt top.hdr.seq s.rcv.nxt) := by
  by_cases hs : s.state = .SynSent
  · rw [Tcb.shift_state, hs]
    rfl
  · rw [Tcb.shift_state, Tcb.shift_rcvnxt ka kb s hs, Segment.shift_hdr, Hdr.shift_seq, modGt_shift]

theorem shift_drain (fuel : Nat) (s : Tcb) :
    Tcb.drain fuel (s.shift ka kb) = M.shift ka kb (Tcb.drain fuel s) := by
  induction fuel generalizing s with
  | zero => rfl
  | succ n ih =>
    rw [drain_succ, drain_succ, Tcb.shift_heap, peek_shift, pop_shift]
    cases hpk : LHeap.peek s.incoming.segments with
    | none => rfl
    | some top =>
      simp only [Option.map_some, shift_gate]
      by_cases hg : (s.state ≠ .SynSent && modGt top.hdr.seq s.rcv.nxt) = true
      · rw [if_pos hg, if_pos hg]; rfl
      · rw [if_neg hg, if_neg hg]
        cases hpop : LHeap.pop segLe s.incoming.segments with
        | mk o rest =>
          cases o with
          | none => rfl
          | some seg =>
            simp only [Option.map_some]
            rw [shift_setHeap]
            -- the answers of `process_segment` agree up to `psNorm`, which the test for deletion does not see
            rcases normM_shift_inv ka kb (shift_processSegment ka kb (setHeap s rest) seg) with
              ⟨e, hp, hp'⟩ | ⟨u, r, r', hp, hp', hr⟩
            · rw [hp, hp']; rfl
            · rw [hp, hp']
              dsimp only
              rw [← shouldDelete_psNorm r', hr, shouldDelete_psNorm r]
              cases r.shouldDeleteTcb with
              | true => rfl
              | false => exact ih u

theorem shift_segmentArrives (s : Tcb) (seg : Segment) :
    (s.shift ka kb).segmentArrives (seg.shift kb ka) = M.shift ka kb (s.segmentArrives seg) := by
  rw [segmentArrives_eq, segmentArrives_eq, Tcb.shift_state, Tcb.shift_heap, push_shift, List.length_map,
    shift_setHeap]
  by_cases hs : s.state = .SynSent
  · rw [if_pos hs, if_pos hs]
    exact shift_drain ka kb _ _
  · rw [if_neg hs, if_neg hs, Segment.shift_hdr, Segment.shift_text, Hdr.shift_seq, Hdr.shift_ctl,
      Tcb.shift_isSeqOk ka kb s hs]
    cases hok : s.isSeqOk (BitVec.ofNat 32 seg.text.length) seg.hdr.seq seg.hdr.ctl.syn seg.hdr.ctl.fin with
    | error e => rfl
    | ok b =>
      cases b with
      | false =>
        dsimp only
        rw [Tcb.shift_enqueue ka kb s _ _ (Tcb.shift_ackHdr ka kb s hs)]
        cases s.enqueue s.ackHdr <;> rfl
      | true =>
        dsimp only
        exact shift_drain ka kb _ _

end Elvis.Tcp
