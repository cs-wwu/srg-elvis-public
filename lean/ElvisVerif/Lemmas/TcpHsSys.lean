import ElvisVerif.Lemmas.TcpHsChain
import ElvisVerif.Lemmas.TcpView
import ElvisVerif.Lemmas.TcpConvExchange
/-!
# The three-way handshake under the fair schedule: three exchange phases to a steady state

`hsStart ia ib ma mb da` is the system after `open A ia ma`, `listen B ib mb`, `write A da` (A in SYN-SENT holding
`da`, B listening).  Three exchange phases later both endpoints are ESTABLISHED, the system is steady
(`Steady`, `Lemmas/TcpConvSteady.lean`) and A has sent the first window of `da`.
-/
namespace Elvis.Tcp
open Tcb Elvis.ModCmp

def hsStart (ia ib : Seq) (ma mb : U16) (da : List UInt8) : Sys :=
  { a := { tcb := some (hsA0 SideId.A.port SideId.B.port ia ma da), submitted := da },
    b := { listen := some (ib, mb) } }

theorem hsStart_run (ia ib : Seq) (ma mb : U16) (da : List UInt8) :
    Sys.run {} [.open .A ia ma, .listen .B ib mb, .write .A da] = .ok (hsStart ia ib ma mb da, [.ok, .ok, .ok]) := by
  simp only [Sys.run, Sys.step, Op.side, SideId.peer, open_eq]
  rfl

section
variable (ia ib : Seq) (ma mb : U16) (da : List UInt8)

/-- the first exchange phase: A's SYN creates B's TCB -/
theorem hs_phase1 (hmA : ¬ ma.toNat < SPACE_FOR_HEADERS) (hmB : ¬ mb.toNat < SPACE_FOR_HEADERS) :
    ∃ s1, phase (hsStart ia ib ma mb da) = .ok s1 ∧ PlainRun (hsStart ia ib ma mb da) s1 ∧
      View .A s1 ⟨some (hsA1 SideId.A.port SideId.B.port ia ma da), some (hsB1 SideId.A.port SideId.B.port ia ib mb),
        da, [], [], [], 1⟩ := by
  obtain ⟨a1, a2, _, _⟩ := hsA_emit1 SideId.A.port SideId.B.port ia ma da hmA
  obtain ⟨b1, b2, _⟩ := hsB_create SideId.A.port SideId.B.port ia ib mb hmB
  have st1 := step_iff.2 (Sys.Step.emit (s := hsStart ia ib ma mb da) (x := .A) rfl a1)
  generalize hs1 : ((hsStart ia ib ma mb da).withTcb .A (hsA1 SideId.A.port SideId.B.port ia ma da)).record
    [synSeg SideId.A.port SideId.B.port ia] = s1 at st1
  have h1b : (s1.side .B).tcb = none := by rw [← hs1]; rfl
  have st2 : s1.step (.emit .B) = .ok (s1, .noTcb) := step_iff.2 (.noTcb (op := .emit .B) trivial h1b)
  have hn : s1.nth 0 = some (synSeg SideId.A.port SideId.B.port ia) := by rw [← hs1]; rfl
  have h1l : (s1.side .B).listen = some (ib, mb) := by rw [← hs1]; rfl
  -- B has no TCB yet: the LISTEN binding takes the SYN
  have st3 : s1.step (.deliver .B 0) = .ok (s1.withTcb .B (hsB1 SideId.A.port SideId.B.port ia ib mb), .listenTcb) :=
    step_iff.2 (.deliver hn (.create h1b h1l b1))
  have hlen1 : s1.historyLen = (hsStart ia ib ma mb da).historyLen + 1 := by rw [← hs1]; rfl
  have v3 : View .A (s1.withTcb .B (hsB1 SideId.A.port SideId.B.port ia ib mb))
      ⟨some (hsA1 SideId.A.port SideId.B.port ia ma da), some (hsB1 SideId.A.port SideId.B.port ia ib mb),
        da, [], [], [], 1⟩ := by
    rw [← hs1]
    exact ⟨rfl, rfl, rfl, rfl, rfl, rfl, rfl⟩
  generalize s1.withTcb .B (hsB1 SideId.A.port SideId.B.port ia ib mb) = s3 at st3 v3
  have d3 : deliverRange s1 .B 0 1 = .ok s3 := by simp only [deliverRange, st3]
  have d4 : deliverRange s3 .A s1.historyLen 0 = .ok s3 := rfl
  obtain ⟨s5, r5, st5, p5, v5⟩ := v3.read a2
  obtain ⟨s6, r6, st6, p6, v6⟩ := v5.swap.read b2
  have hop : Op.Plain s1 (.deliver .B 0) := by
    intro g' hg'
    rw [hn] at hg'
    cases hg'
    exact ⟨rfl, rfl⟩
  exact ⟨s6, phase_of_steps st1 st2 hlen1 rfl d3 d4 st5 st6,
    ((((PlainRun.step (op := .emit .A) (.refl _) trivial st1).trans
      (.step (op := .emit .B) (.refl _) trivial st2)).trans (.step (.refl _) hop st3)).trans p5).trans p6, v6.unswap⟩

theorem handshake_steady (hmA : SPACE_FOR_HEADERS < ma.toNat) (hmB : SPACE_FOR_HEADERS < mb.toNat) :
    ∃ s3 ta tb, phases 3 (hsStart ia ib ma mb da) = .ok s3 ∧ PlainRun (hsStart ia ib ma mb da) s3 ∧
      Steady s3 ta tb ∧ ta.outgoing.text = da.drop (min da.length 65535) ∧ tb.outgoing.text = [] ∧
      (s3.side .A).submitted = da ∧ (s3.side .B).submitted = [] ∧
      (s3.side .A).delivered = [] := by
  have hmA' : ¬ ma.toNat < SPACE_FOR_HEADERS := by omega
  have hmB' : ¬ mb.toNat < SPACE_FOR_HEADERS := by omega
  obtain ⟨s1, ph1, r1, v1⟩ := hs_phase1 ia ib ma mb da hmA' hmB'
  obtain ⟨_, _, a3, a4⟩ := hsA_emit1 SideId.A.port SideId.B.port ia ma da hmA'
  obtain ⟨_, _, b3, b4, b5, b6⟩ := hsB_create SideId.A.port SideId.B.port ia ib mb hmB'
  obtain ⟨a5, a6⟩ := hsA_synack SideId.A.port SideId.B.port ia ib ma da
  -- phase 2: B's SYN-ACK
  obtain ⟨s2, ph2, r2, v2⟩ := v1.phase a3 b3 rfl a5 a6 b4 (fun g hg => by cases hg)
    (List.forall_mem_singleton.2 ⟨rfl, rfl⟩)
  -- phase 3: A's ACK and the first window of data
  obtain ⟨new, tA4, outA, tB5, eA, fx, hout, aB, bf⟩ := hs_phase3 SideId.A.port SideId.B.port ia ib ma mb da hmA
  have pA : ∀ g ∈ outA, g.hdr.srcPort = SideId.A.port ∧ g.hdr.dstPort = SideId.B.port := by
    intro g hg
    rw [hout] at hg
    rcases List.mem_cons.1 hg with rfl | hg
    · exact ⟨rfl, rfl⟩
    · exact ports_dataRun _ _ _ _ _ _ fx.run g hg
  have hstA : tA4.state = .Established := fx.st
  obtain ⟨s3, ph3, r3, v3⟩ := v2.phase eA b5 aB rfl (receive_established tA4 hstA) (receive_established tB5 bf.st) pA
    (fun g hg => by cases hg)
  have h3a : (s3.side .A).tcb = some ({ tA4 with incoming.text := [] } : Tcb) := v3.t
  have h3b : (s3.side .B).tcb = some ({ tB5 with incoming.text := [] } : Tcb) := v3.u
  have hamt : emitAmount (hsA3 SideId.A.port SideId.B.port ia ib ma da) = min da.length 65535 := by
    unfold emitAmount
    rw [hsA3_rtx]
    rfl
  have o1 : off ib (ib + 1) = 1 := off_succ ib
  have hunaB : tB5.snd.una = tB5.snd.nxt := by
    apply off_inj (base := ib)
    rw [bf.una, bf.snxt]
    have hm : maxAck ib (new.map (·.segment)) ≤ 1 := maxAck_le _ _ _ (fun g hg =>
      (ackLe_dataRun ib 1 _ _ _ _ (by show 1 ≤ off ib (ib + 1); omega) (by show off ib (ib + 1) ≤ 1; omega) _ _ fx.run g hg).2)
    have h1 : off ib (hsB4 SideId.A.port SideId.B.port ia ib ma mb da).snd.una = 1 := o1
    have h2 : off ib (hsB4 SideId.A.port SideId.B.port ia ib ma mb da).snd.nxt = 1 := o1
    rw [h1, h2]
    omega
  refine ⟨s3, _, _, ?_, (r1.trans r2).trans r3, ⟨h3a, h3b, ?_, ?_⟩, ?_, ?_, ?_, ?_, ?_⟩
  · simp only [phases, ph1, ph2, ph3]
  · -- A is steady
    refine ⟨hstA, by show tA4.incoming.segments = []; rw [fx.inc]; rfl, rfl, ?_, ?_, ?_,
      by show SPACE_FOR_HEADERS < tA4.mtu.toNat; rw [fx.mtu]; exact hmA⟩
    · show tB5.rcv.nxt = tA4.snd.nxt
      rw [bf.nxt, fx.nxt, fx.bytes]
      rfl
    · exact fx.unflagged
    · show tA4.snd.una = tA4.snd.nxt ∨ ∃ h, tB5.outgoing.oneshot.getLast? = some h ∧ h.ack = tB5.rcv.nxt
      by_cases h0 : emitAmount (hsA3 SideId.A.port SideId.B.port ia ib ma da) = 0
      · left
        rw [fx.una, fx.nxt, h0]
        show ia + 1 = ia + 1 + BitVec.ofNat 32 0
        simp
      · exact Or.inr (bf.oneLast (by rw [fx.bytes]; omega))
  · -- B is steady
    refine ⟨bf.st, bf.heap, rfl, ?_, ?_, Or.inl hunaB,
      by show SPACE_FOR_HEADERS < tB5.mtu.toNat; rw [bf.mtu]; exact hmB⟩
    · show tA4.rcv.nxt = tB5.snd.nxt
      rw [fx.rcv, bf.snxt]
      rfl
    · intro tr htr
      have htr' : tr ∈ tB5.outgoing.retransmit := htr
      rw [bf.rtx, hsB4_rtx] at htr'
      cases htr'
  · show tA4.outgoing.text = _
    rw [fx.text, hamt]
    rfl
  · show tB5.outgoing.text = _
    rw [bf.otext]
    rfl
  · exact v3.st
  · exact v3.su
  · rw [v3.dt, fx.inc]
    rfl

end
end Elvis.Tcp
