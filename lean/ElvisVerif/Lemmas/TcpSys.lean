import ElvisVerif.Model.TcpSys
/-!
# The two-endpoint system `Sys`: its sides, and what one step can do

Reading a side back after `setSide` / `record`, the history after `record`.

`Sys.Arrive s x seg s' r` and `Sys.Step s op s' r` list the outcomes of `Sys.arrive` / `Sys.step` that do not panic, one
constructor per outcome, each carrying the TCB-level call that produced it (`Tcb.open`, `send`, `receive`,
`advanceTime`, `segments`, `close`, `abort`, `segmentArrives`, `segmentArrivesListen`, `segmentArrivesClosed`: their
own inversion lemmas are in `Lemmas/TcbBlocks.lean`).  An invariant proof never unfolds the
two functions (only the C12 commutation proofs of `Lemmas/ShiftRun.lean` and one evaluation in `Lemmas/TcpHsSys.lean` do):
it opens with `cases step_iff.1 e with`, a forward computation is a
constructor (`step_iff.2 (.emit ht e)`).

Frame: every outcome is `(s.setSide op.side sd).record segs` (`Sys.Step.shape`; `s.record [] = s` holds by `rfl`), so
a step leaves the peer's side alone (`Sys.Step.peer`), extends the history (`Sys.Step.history`) and only `write` extends
a `submitted` log.
-/
namespace Elvis.Tcp

theorem SideId.peer_peer (x : SideId) : x.peer.peer = x := by cases x <;> rfl
theorem SideId.peer_ne (x : SideId) : x.peer ≠ x := by cases x <;> simp [SideId.peer]
theorem side_cases (x y : SideId) : y = x ∨ y = x.peer := by cases x <;> cases y <;> simp [SideId.peer]

theorem side_setSide_same (s : Sys) (x : SideId) (v : Side) : (s.setSide x v).side x = v := by
  cases x <;> rfl
theorem side_setSide_peer (s : Sys) (x : SideId) (v : Side) : (s.setSide x v).side x.peer = s.side x.peer := by
  cases x <;> rfl
theorem side_setSide (s : Sys) (x : SideId) (v : Side) (y : SideId) :
    (s.setSide x v).side y = if y = x then v else s.side y := by
  rcases side_cases x y with rfl | rfl
  · rw [side_setSide_same, if_pos rfl]
  · rw [side_setSide_peer, if_neg (SideId.peer_ne _)]
theorem history_setSide (s : Sys) (x : SideId) (v : Side) : (s.setSide x v).history = s.history := by
  cases x <;> rfl
theorem side_record (s : Sys) (segs : List Segment) (y : SideId) : (s.record segs).side y = s.side y := by
  cases y <;> rfl

theorem mem_history_record (s : Sys) (segs : List Segment) (σ : Segment) :
    σ ∈ (s.record segs).history ↔ σ ∈ segs ∨ σ ∈ s.history := by
  unfold Sys.record; simp

theorem record_nil (s : Sys) : s.record [] = s := rfl

theorem nth_setSide (s : Sys) (x : SideId) (v : Side) (i : Nat) : (s.setSide x v).nth i = s.nth i := by
  cases x <;> rfl

theorem historyLen_setSide (s : Sys) (x : SideId) (v : Side) : (s.setSide x v).historyLen = s.historyLen := by
  cases x <;> rfl

theorem nth_mem (sys : Sys) (i : Nat) (seg : Segment) (e : sys.nth i = some seg) : seg ∈ sys.history := by
  unfold Sys.nth at e
  split at e
  · exact List.mem_of_getElem? e
  · cases e


/-- side `x` without connection: what `drop`, a 2·MSL expiry and a `Close` from `segment_arrives` leave -/
abbrev Sys.gone (s : Sys) (x : SideId) : Sys := s.setSide x { s.side x with tcb := none, listen := none }

abbrev Sys.withTcb (s : Sys) (x : SideId) (t : Tcb) : Sys := s.setSide x { s.side x with tcb := some t }

/-- a segment arrives at side `x` (`Tcp::demux`): the session takes it, or the LISTEN binding, or CLOSED -/
inductive Sys.Arrive (s : Sys) (x : SideId) (seg : Segment) : Sys → Res → Prop
  | tcb {t t' : Tcb} : (s.side x).tcb = some t → t.segmentArrives seg = .ok (t', .Ok) →
      Sys.Arrive s x seg (s.withTcb x t') (.arrived .Ok)
  | close {t t' : Tcb} : (s.side x).tcb = some t → t.segmentArrives seg = .ok (t', .Close) →
      Sys.Arrive s x seg (s.gone x) (.arrived .Close)
  | ignore {iss : Seq} {mtu : U16} : (s.side x).tcb = none → (s.side x).listen = some (iss, mtu) →
      segmentArrivesListen seg iss mtu = .ok none → Sys.Arrive s x seg s .nothing
  | create {iss : Seq} {mtu : U16} {t : Tcb} : (s.side x).tcb = none → (s.side x).listen = some (iss, mtu) →
      segmentArrivesListen seg iss mtu = .ok (some (.Tcb t)) → Sys.Arrive s x seg (s.withTcb x t) .listenTcb
  | refuse {iss : Seq} {mtu : U16} {h : Hdr} : (s.side x).tcb = none → (s.side x).listen = some (iss, mtu) →
      segmentArrivesListen seg iss mtu = .ok (some (.Response h)) →
      Sys.Arrive s x seg (s.record [⟨h, []⟩]) (.response s.historyLen h)
  | closed : (s.side x).tcb = none → (s.side x).listen = none →
      segmentArrivesClosed seg.hdr (BitVec.ofNat 32 seg.text.length) = none → Sys.Arrive s x seg s .nothing
  | reset {h : Hdr} : (s.side x).tcb = none → (s.side x).listen = none →
      segmentArrivesClosed seg.hdr (BitVec.ofNat 32 seg.text.length) = some h →
      Sys.Arrive s x seg (s.record [⟨h, []⟩]) (.response s.historyLen h)

theorem arrive_iff {s s' : Sys} {x : SideId} {seg : Segment} {r : Res} :
    s.arrive x seg = .ok (s', r) ↔ Sys.Arrive s x seg s' r := by
  constructor
  · intro e
    unfold Sys.arrive at e
    dsimp only at e
    split at e
    · split at e
      · cases e
      · cases e; exact .tcb ‹_› ‹_›
      · cases e; exact .close ‹_› ‹_›
    · split at e
      · split at e
        · cases e
        · cases e; exact .ignore ‹_› ‹_› ‹_›
        · cases e; exact .create ‹_› ‹_› ‹_›
        · cases e; exact .refuse ‹_› ‹_› ‹_›
      · split at e
        · cases e; exact .closed ‹_› ‹_› ‹_›
        · cases e; exact .reset ‹_› ‹_› ‹_›
  · intro h
    cases h with
    | tcb ht h | close ht h => simp only [Sys.arrive, ht, h]
    | ignore ht hl h | create ht hl h | refuse ht hl h | closed ht hl h | reset ht hl h =>
      simp only [Sys.arrive, Sys.withTcb, ht, hl, h]

/-- the segment that `op` hands to its side in state `s` -/
def Op.segment (s : Sys) : Op → Option Segment
  | .deliver _ i => s.nth i
  | .inject _ seg => some seg
  | _ => none

/-- the ops that call into the TCB of their side and answer `noTcb` when there is none -/
def Op.onTcb : Op → Prop
  | .write .. | .read _ | .tick .. | .emit _ | .close _ | .abort _ => True
  | _ => False

/-- one step of the system that does not panic -/
inductive Sys.Step (s : Sys) : Op → Sys → Res → Prop
  | «open» {x : SideId} {iss : Seq} {mtu : U16} {t : Tcb} : Tcb.open x.port x.peer.port iss mtu = .ok t →
      Sys.Step s (.open x iss mtu) (s.withTcb x t) .ok
  | listen {x : SideId} {iss : Seq} {mtu : U16} :
      Sys.Step s (.listen x iss mtu) (s.setSide x { s.side x with listen := some (iss, mtu) }) .ok
  | noSeg {x : SideId} {i : Nat} : s.nth i = none → Sys.Step s (.deliver x i) s .noSeg
  | deliver {x : SideId} {i : Nat} {seg : Segment} {s' : Sys} {r : Res} : s.nth i = some seg → Sys.Arrive s x seg s' r →
      Sys.Step s (.deliver x i) s' r
  | inject {x : SideId} {seg : Segment} {s' : Sys} {r : Res} : Sys.Arrive s x seg s' r → Sys.Step s (.inject x seg) s' r
  | drop {x : SideId} : Sys.Step s (.drop x) (s.gone x) .ok
  | noTcb {op : Op} : op.onTcb → (s.side op.side).tcb = none → Sys.Step s op s .noTcb
  | write {x : SideId} {b : List UInt8} {t : Tcb} : (s.side x).tcb = some t →
      Sys.Step s (.write x b) (s.setSide x { s.side x with
        tcb := some (t.send b), submitted := (s.side x).submitted ++ (if sendAccepts t.state then b else []) }) .ok
  | read {x : SideId} {t : Tcb} : (s.side x).tcb = some t →
      Sys.Step s (.read x) (s.setSide x { s.side x with
        tcb := some t.receive.1, delivered := (s.side x).delivered ++ t.receive.2 }) (.read t.receive.2)
  | tick {x : SideId} {ms : Nat} {t t' : Tcb} : (s.side x).tcb = some t → t.advanceTime ms = .ok (t', .Ignore) →
      Sys.Step s (.tick x ms) (s.withTcb x t') (.tick .Ignore)
  | expire {x : SideId} {ms : Nat} {t t' : Tcb} : (s.side x).tcb = some t →
      t.advanceTime ms = .ok (t', .CloseConnection) → Sys.Step s (.tick x ms) (s.gone x) (.tick .CloseConnection)
  | emit {x : SideId} {t t' : Tcb} {segs : List Segment} : (s.side x).tcb = some t → t.segments = .ok (t', segs) →
      Sys.Step s (.emit x) ((s.withTcb x t').record segs) (.emitted s.historyLen segs)
  | close {x : SideId} {t t' : Tcb} {r : CloseResult} : (s.side x).tcb = some t → t.close = .ok (t', r) →
      Sys.Step s (.close x) (s.withTcb x t') (.closed r)
  | abort {x : SideId} {t t' : Tcb} : (s.side x).tcb = some t → t.abort = .ok t' →
      Sys.Step s (.abort x) (s.withTcb x t') .ok

theorem step_iff {s s' : Sys} {op : Op} {r : Res} : s.step op = .ok (s', r) ↔ Sys.Step s op s' r := by
  constructor
  · intro e
    cases op with
    | «open» x iss mtu =>
      simp only [Sys.step, Op.side] at e
      split at e
      · cases e
      · cases e; exact .open ‹_›
    | listen x iss mtu => cases e; exact .listen
    | deliver x i =>
      simp only [Sys.step, Op.side] at e
      split at e
      · cases e; exact .noSeg ‹_›
      · exact .deliver ‹_› (arrive_iff.1 e)
    | inject x seg => exact .inject (arrive_iff.1 e)
    | drop x => cases e; exact .drop
    | write x b =>
      simp only [Sys.step, Op.side] at e
      split at e
      · cases e; exact .noTcb trivial ‹_›
      · cases e; exact .write ‹_›
    | read x =>
      simp only [Sys.step, Op.side] at e
      split at e
      · cases e; exact .noTcb trivial ‹_›
      · cases e; exact .read ‹_›
    | tick x ms =>
      simp only [Sys.step, Op.side] at e
      split at e
      · cases e; exact .noTcb trivial ‹_›
      · split at e
        · cases e
        · cases e; exact .tick ‹_› ‹_›
        · cases e; exact .expire ‹_› ‹_›
    | emit x =>
      simp only [Sys.step, Op.side] at e
      split at e
      · cases e; exact .noTcb trivial ‹_›
      · split at e
        · cases e
        · cases e; exact .emit ‹_› ‹_›
    | close x =>
      simp only [Sys.step, Op.side] at e
      split at e
      · cases e; exact .noTcb trivial ‹_›
      · split at e
        · cases e
        · cases e; exact .close ‹_› ‹_›
    | abort x =>
      simp only [Sys.step, Op.side] at e
      split at e
      · cases e; exact .noTcb trivial ‹_›
      · split at e
        · cases e
        · cases e; exact .abort ‹_› ‹_›
  · intro h
    cases h with
    | «open» h => simp only [Sys.step, Op.side, h]
    | listen | drop => rfl
    | noSeg h => simp only [Sys.step, h]
    | deliver hn h => simp only [Sys.step, Op.side, hn]; exact arrive_iff.2 h
    | inject h => exact arrive_iff.2 h
    | noTcb ho ht => cases op <;> first | exact ho.elim | simp only [Sys.step, ht]
    | write ht | read ht => simp only [Sys.step, Op.side, ht]
    | tick ht h | expire ht h | emit ht h | close ht h | abort ht h => simp only [Sys.step, Op.side, ht, h]

/-! ## frame: a step replaces the side of its op and appends to the history -/

theorem Sys.setSide_side (s : Sys) (x : SideId) : s.setSide x (s.side x) = s := by cases x <;> rfl

theorem Sys.Arrive.shape {s s' : Sys} {x : SideId} {seg : Segment} {r : Res} (h : Sys.Arrive s x seg s' r) :
    ∃ sd segs, s' = (s.setSide x sd).record segs ∧ sd.submitted = (s.side x).submitted ∧
      sd.delivered = (s.side x).delivered := by
  cases h with
  | tcb | close | create => exact ⟨_, [], rfl, rfl, rfl⟩
  | ignore | closed => exact ⟨_, [], (s.setSide_side x).symm, rfl, rfl⟩
  | refuse | reset => exact ⟨_, _, by rw [s.setSide_side x], rfl, rfl⟩

theorem Sys.Step.shape {s s' : Sys} {op : Op} {r : Res} (h : Sys.Step s op s' r) :
    ∃ sd segs, s' = (s.setSide op.side sd).record segs ∧
      (sd.submitted = (s.side op.side).submitted ∨ ∃ x b t, op = .write x b ∧ (s.side x).tcb = some t ∧
        sd.submitted = (s.side x).submitted ++ if sendAccepts t.state then b else []) := by
  cases h with
  | «open» | listen | drop | read | tick | expire | close | abort => exact ⟨_, [], rfl, Or.inl rfl⟩
  | noSeg | noTcb => exact ⟨_, [], (s.setSide_side _).symm, Or.inl rfl⟩
  | deliver _ a | inject a =>
    obtain ⟨sd, segs, e, h1, -⟩ := a.shape
    exact ⟨sd, segs, e, Or.inl h1⟩
  | emit => exact ⟨_, _, rfl, Or.inl rfl⟩
  | write ht => exact ⟨_, [], rfl, Or.inr ⟨_, _, _, rfl, ht, rfl⟩⟩

theorem Sys.Step.peer {s s' : Sys} {op : Op} {r : Res} (h : Sys.Step s op s' r) : s'.side op.side.peer = s.side op.side.peer := by
  obtain ⟨sd, segs, rfl, -⟩ := h.shape
  rw [side_record, side_setSide_peer]

theorem Sys.Step.history {s s' : Sys} {op : Op} {r : Res} (h : Sys.Step s op s' r) :
    ∃ segs : List Segment, s'.history = segs.reverse ++ s.history ∧ s'.historyLen = s.historyLen + segs.length := by
  obtain ⟨sd, segs, rfl, -⟩ := h.shape
  exact ⟨segs, by rw [← history_setSide s op.side sd]; rfl, by cases op.side <;> rfl⟩

theorem C01.run_cons {s s' : Sys} {op : Op} {ops : List Op} {rs : List Res} (e : s.run (op :: ops) = .ok (s', rs)) :
    ∃ s1 r1 rs1, s.step op = .ok (s1, r1) ∧ s1.run ops = .ok (s', rs1) ∧ rs = r1 :: rs1 := by
  unfold Sys.run at e
  split at e
  · cases e
  · split at e
    · cases e
    · cases e; exact ⟨_, _, _, ‹_›, ‹_›, rfl⟩

theorem C01.run_cons_ok {s s1 s' : Sys} {op : Op} {ops : List Op} {r1 : Res} {rs : List Res}
    (h1 : s.step op = .ok (s1, r1)) (h2 : s1.run ops = .ok (s', rs)) : s.run (op :: ops) = .ok (s', r1 :: rs) := by
  unfold Sys.run
  rw [h1]
  simp only [h2]

theorem Sys.run_nil (s : Sys) : s.run [] = .ok (s, []) := rfl

theorem run_two {s s' : Sys} {op1 op2 : Op} {rs : List Res} (e : s.run [op1, op2] = .ok (s', rs)) :
    ∃ s1 r1 r2, s.step op1 = .ok (s1, r1) ∧ s1.step op2 = .ok (s', r2) := by
  obtain ⟨s1, r1, rs1, h1, h2, -⟩ := C01.run_cons e
  obtain ⟨s2, r2, rs2, h3, h4, -⟩ := C01.run_cons h2
  rw [Sys.run_nil] at h4
  cases h4
  exact ⟨s1, r1, r2, h1, h3⟩

/-! ## `Sys.nth` after `record`: the new elements follow the old ones, in emission order -/

theorem historyLen_record (s : Sys) (segs : List Segment) : (s.record segs).historyLen = s.historyLen + segs.length :=
  rfl

theorem nth_record_new (s : Sys) (segs : List Segment) (j : Nat) (hj : j < segs.length) :
    (s.record segs).nth (s.historyLen + j) = some segs[j] := by
  unfold Sys.nth
  rw [historyLen_record, if_pos (by omega)]
  show (segs.reverse ++ s.history)[s.historyLen + segs.length - 1 - (s.historyLen + j)]? = _
  have e : s.historyLen + segs.length - 1 - (s.historyLen + j) = segs.length - 1 - j := by omega
  rw [e, List.getElem?_append_left (by rw [List.length_reverse]; omega), List.getElem?_reverse (by omega)]
  have e2 : segs.length - 1 - (segs.length - 1 - j) = j := by omega
  rw [e2]
  exact List.getElem?_eq_getElem hj

theorem nth_record_old (s : Sys) (segs : List Segment) (i : Nat) (hi : i < s.historyLen) :
    (s.record segs).nth i = s.nth i := by
  unfold Sys.nth
  rw [historyLen_record, if_pos (by omega), if_pos hi]
  show (segs.reverse ++ s.history)[s.historyLen + segs.length - 1 - i]? = _
  rw [List.getElem?_append_right (by rw [List.length_reverse]; omega), List.length_reverse]
  congr 1
  omega

/-! ## reading back the outcome of a step

Every outcome of a step is `(s.setSide x sd').record new` (`Sys.Step.shape`): what an invariant reads of such a
state is the replaced side, the other side and the history; a statement about both sides is one about `x` and one
about its peer. -/

theorem SideId.both (x : SideId) {P : SideId → Prop} (h1 : P x) (h2 : P x.peer) : ∀ y, P y := fun y => by
  rcases side_cases x y with rfl | rfl
  · exact h1
  · exact h2

theorem SideId.port_inj {x y : SideId} (h : x.port = y.port) : x = y := by
  cases x <;> cases y <;> first | rfl | exact absurd h (by decide)

theorem SideId.port_ne (x : SideId) : x.peer.port ≠ x.port := fun h => x.peer_ne (port_inj h)

theorem side_touched (s : Sys) (x : SideId) (sd' : Side) (new : List Segment) :
    ((s.setSide x sd').record new).side x = sd' := by rw [side_record, side_setSide_same]

theorem side_untouched (s : Sys) (x : SideId) (sd' : Side) (new : List Segment) :
    ((s.setSide x sd').record new).side x.peer = s.side x.peer := by rw [side_record, side_setSide_peer]

theorem mem_history_touched (s : Sys) (x : SideId) (sd' : Side) (new : List Segment) (σ : Segment) :
    σ ∈ ((s.setSide x sd').record new).history ↔ σ ∈ new ∨ σ ∈ s.history := by
  rw [mem_history_record, history_setSide]

theorem tcbs_touched {P : SideId → Tcb → Prop} {s : Sys} (h : ∀ y t, (s.side y).tcb = some t → P y t) (x : SideId)
    (sd' : Side) (new : List Segment) (hx : ∀ t, sd'.tcb = some t → P x t) :
    ∀ y t, (((s.setSide x sd').record new).side y).tcb = some t → P y t :=
  x.both (fun t ht => hx t (by rwa [side_touched] at ht)) fun t ht => h _ t (by rwa [side_untouched] at ht)

end Elvis.Tcp
