import ElvisVerif.Lemmas.NdlDoc
/-!
# NDL: glue between the written descriptions, the rejection paths and the normal form

* the meaning of the normalised written description is the normalised meaning
  (`normDoc_sim`), so every written form of a description `t` parses to `normSim t` up to the
  order of the map entries;
* the keys of a description that is well-formed after the rewriting did not begin with a space
  (`sim_keysStart`);
* the file-level rewriting restarts at every line end, so it acts on a written description and on
  what follows it separately (`normalise_renderDoc_append`): this is what lets the whole-file
  rejection theorems speak about files written with spaces or CRLF.
-/
namespace Elvis.Ndl
open Elvis.Gen.Ndl

theorem get?_some_mem (ps : Params) (k v : Text) (h : ps.get? k = some v) : k ∈ ps.map (·.1) := by
  unfold Params.get? at h
  cases hf : ps.find? (fun e => e.1 == k) with
  | none => rw [hf] at h; cases h
  | some e =>
    have h1 := List.find?_some hf
    have h2 := List.mem_of_find?_eq_some hf
    simp only [beq_iff_eq] at h1
    exact List.mem_map.2 ⟨e, h2, h1⟩

theorem get?_norm (K : Text) (hK : normalise K = K) : ∀ (ps : Params) (v : Text),
    ((normParams ps).map (·.1)).Nodup → ps.get? K = some v → (normParams ps).get? K = some (normalise v)
  | [], v, _, h => by simp [Params.get?] at h
  | (k, w) :: ps, v, hnd, h => by
    simp only [normParams, List.map_cons, List.nodup_cons] at hnd
    by_cases hk : k = K
    · subst hk
      simp only [Params.get?, List.find?_cons, beq_self_eq_true, Option.map_some, Option.some.injEq] at h
      subst h
      simp [Params.get?, normParams, hK]
    · have h' : Params.get? ps K = some v := by
        simpa [Params.get?, List.find?_cons, hk] using h
      have ih := get?_norm K hK ps v hnd.2 h'
      have hmem := get?_some_mem _ _ _ ih
      have hne : normalise k ≠ K := by
        intro he
        apply hnd.1
        rw [he]
        exact hmem
      have : Params.get? (normParams ((k, w) :: ps)) K = Params.get? (normParams ps) K := by
        simp [Params.get?, normParams, hne]
      rw [this, ih]

theorem normalise_id : normalise ['i', 'd'] = ['i', 'd'] := by decide

theorem leaf_norm (exp : DecType) (x : DLine) : x.norm.leaf exp = normLeaf (x.leaf exp) := rfl

theorem DNet.norm_net (n : DNet) (hs : n.Shape) (hnd : ((normParams n.hd.ps).map (·.1)).Nodup) :
    n.norm.net = (normalise n.net.1, normNetwork n.net.2) := by
  obtain ⟨⟨id, hid⟩, _⟩ := hs
  have h2 := get?_norm _ normalise_id n.hd.ps id hnd hid
  simp only [DNet.net, DNet.norm, DLine.norm, h2, hid, Option.getD_some, normNetwork, List.map_map]
  rfl

theorem secLeaves_norm (k : DecType) (secs : List DSec) :
    secLeaves k ((secs.map DSec.norm).map DSec.sec) = (secLeaves k (secs.map DSec.sec)).map normLeaf := by
  induction secs with
  | nil => rfl
  | cons s secs ih =>
    simp only [secLeaves, List.map_cons, List.filter_cons] at ih ⊢
    have hk : (s.norm.sec).1 = (s.sec).1 := rfl
    rw [hk]
    split
    · simp only [List.flatMap_cons, List.map_append, ih]
      congr 1
      simp [DSec.sec, DSec.norm, List.map_map, Function.comp_def, leaf_norm]
    · exact ih

theorem DMach.norm_machine (m : DMach) : m.norm.machine = normMachine m.machine := by
  simp only [DMach.machine, normMachine]
  rw [show m.norm.secs = m.secs.map DSec.norm from rfl, secLeaves_norm, secLeaves_norm, secLeaves_norm]
  rfl

theorem DBlock.norm_machs (b : DBlock) : b.norm.machs' = b.machs'.map normMachine := by
  cases b with
  | template hd => rfl
  | nets hd ns => rfl
  | machs hd ms => simp [DBlock.norm, DBlock.machs', List.map_map, Function.comp_def, DMach.norm_machine]

theorem DBlock.norm_nets (b : DBlock) (hs : b.Shape) (hok : ∀ x ∈ b.norm.lines, x.Ok) :
    b.norm.nets' = b.nets'.map fun e => (normalise e.1, normNetwork e.2) := by
  cases b with
  | template hd => rfl
  | machs hd ms => rfl
  | nets hd ns =>
    simp only [DBlock.norm, DBlock.nets', List.map_map]
    apply List.map_congr_left
    intro n hn
    apply DNet.norm_net n (hs n hn)
    have : n.norm.hd.rl 1 .network ∈ (DBlock.nets hd ns).norm.lines := by
      simp only [DBlock.norm, DBlock.lines, List.mem_cons, List.mem_flatMap]
      exact .inr ⟨n.norm, List.mem_map_of_mem hn, by simp [DNet.lines]⟩
    exact (hok _ this).2.2

theorem flatMap_congr' {α β : Type} {f g : α → List β} : ∀ (l : List α), (∀ a ∈ l, f a = g a) →
    l.flatMap f = l.flatMap g
  | [], _ => rfl
  | a :: l, h => by
    simp only [List.flatMap_cons, h a List.mem_cons_self,
      flatMap_congr' l (fun x hx => h x (List.mem_cons_of_mem _ hx))]

theorem normDoc_sim (doc : Doc) (hs : ∀ b ∈ doc, b.Shape) (hok : ∀ x ∈ (normDoc doc).lines, x.Ok) :
    (normDoc doc).sim = normSim doc.sim := by
  simp only [Doc.sim, normSim, normDoc, Sim.mk.injEq, List.flatMap_map, List.map_flatMap]
  constructor
  · apply flatMap_congr'
    intro b hb
    apply DBlock.norm_nets b (hs b hb)
    intro x hx
    apply hok
    simp only [normDoc, Doc.lines, List.flatMap_map, List.mem_flatMap]
    exact ⟨b, hb, hx⟩
  · apply flatMap_congr'
    intro b _
    exact DBlock.norm_machs b

theorem sim_keysStart (s : Sim) (hs : SimOk (normSim s)) : ∀ x ∈ s.lineList, KeysStart x.2.2 := by
  intro x hx
  apply keysStart_of_lineOk
  have : normSpec x ∈ (normSim s).lineList := by
    rw [lineList_norm]; exact List.mem_map_of_mem hx
  exact simOk_lines _ hs _ this

theorem quadFree_mono : ∀ (t : Text) (k : Nat), quadFree (k + 1) t = true → quadFree k t = true
  | [], _, _ => rfl
  | c :: r, k, h => by
    simp only [quadFree] at h ⊢
    split
    · rename_i hc
      simp only [hc, if_true, Bool.and_eq_true, decide_eq_true_eq] at h ⊢
      exact ⟨by omega, quadFree_mono r (k + 1) h.2⟩
    · rename_i hc
      simpa only [hc, if_false] using h

theorem normalise_render (lay : Layout) (s : Sim) (hs : SimOk s) (h : CalmSim s) :
    normalise (render lay s) = render .tabs s := by
  have hk : ∀ x ∈ s.lineList, KeysStart x.2.2 := by
    intro x hx kv hkv r hr
    have hc := h x hx kv hkv
    rw [dropCR_self _ hc.2.2.1] at hr
    have := ((simOk_lines s hs x hx).1 kv hkv).1.2 ' ' r hr
    simp [isSep] at this
  have hn : s.lineList.map normSpec = s.lineList := by
    rw [map_eq_self_iff]
    intro x hx
    have : normParams x.2.2 = x.2.2 := (normParams_eq_self_iff _).2 fun kv hkv =>
      have hc := h x hx kv hkv
      ⟨⟨hc.2.2.1, quadFree_mono _ 0 hc.1⟩, hc.2.2.2, hc.2.1⟩
    rw [normSpec, this]
  rw [normalise_render_exact lay s hk, render_lines, render_lines, lineList_norm, hn]

theorem normalise_renderDoc_append (lay : Layout) (doc : Doc) (h : (normDoc doc).Ok) (rest : Text) :
    normalise (renderDoc lay doc ++ rest) = renderDoc .tabs (normDoc doc) ++ normalise rest := by
  unfold normalise fourSp renderDoc
  rw [dropCR_append, normalise_rlText_append lay doc.lines (doc_lines_cond doc h), normDoc_lines]

theorem lc_norm (ls : List RLine) : lc (ls.map RLine.norm) = lc ls := by
  simp [lc, List.map_map, Function.comp_def, RLine.norm]

/-! ### decidable checkers (for the non-vacuity examples) -/

def keyOkB (k : Text) : Bool :=
  k.all (fun c => c != '=' && c != ']') && (match k with | [] => true | c :: _ => !isSep c)

theorem keyOk_of_B (k : Text) (h : keyOkB k = true) : KeyOk k := by
  simp only [keyOkB, Bool.and_eq_true, List.all_eq_true, bne_iff_ne, ne_eq] at h
  refine ⟨fun c hc => h.1 c hc, ?_⟩
  intro c r hk
  subst hk
  simpa using h.2

def lineOkB (ps : Params) : Bool :=
  ps.all (fun kv => keyOkB kv.1 && valOk kv.2) && decide ((ps.map (·.1)).Nodup)

theorem lineOk_of_B (ps : Params) (h : lineOkB ps = true) : LineOk ps := by
  simp only [lineOkB, Bool.and_eq_true, List.all_eq_true, decide_eq_true_eq] at h
  exact ⟨fun kv hkv => ⟨keyOk_of_B _ (h.1 kv hkv).1, (h.1 kv hkv).2⟩, h.2⟩

def RLine.okB (x : RLine) : Bool :=
  decide (x.deco.tag.map Char.toLower = x.dt.name.map Char.toLower) && lineOkB x.ps

theorem RLine.ok_of_B (x : RLine) (h : x.okB = true) : x.Ok := by
  simp only [RLine.okB, Bool.and_eq_true, decide_eq_true_eq] at h
  exact ⟨h.1, lineOk_of_B _ h.2⟩

def DNet.shapeB (n : DNet) : Bool := (n.hd.ps.get? ['i', 'd']).isSome && !n.ips.isEmpty
def DSec.shapeB (s : DSec) : Bool := decide (IsSec s.kind) && !s.leaves.isEmpty
def DMach.shapeB (m : DMach) : Bool := m.secs.all DSec.shapeB && decide ((m.secs.map (·.kind)).Perm secKinds)
def DBlock.shapeB : DBlock → Bool
  | .template _ => true
  | .nets _ ns => ns.all DNet.shapeB
  | .machs _ ms => ms.all DMach.shapeB

theorem DNet.shape_of_B (n : DNet) (h : n.shapeB = true) : n.Shape := by
  simp only [DNet.shapeB, Bool.and_eq_true, Option.isSome_iff_exists, Bool.not_eq_true',
    List.isEmpty_eq_false_iff] at h
  exact h

theorem DSec.shape_of_B (s : DSec) (h : s.shapeB = true) : s.Shape := by
  simp only [DSec.shapeB, Bool.and_eq_true, decide_eq_true_eq, Bool.not_eq_true',
    List.isEmpty_eq_false_iff] at h
  exact h

theorem DMach.shape_of_B (m : DMach) (h : m.shapeB = true) : m.Shape := by
  simp only [DMach.shapeB, Bool.and_eq_true, List.all_eq_true, decide_eq_true_eq] at h
  exact ⟨fun s hs => DSec.shape_of_B s (h.1 s hs), h.2⟩

theorem DBlock.shape_of_B (b : DBlock) (h : b.shapeB = true) : b.Shape := by
  cases b with
  | template hd => trivial
  | nets hd ns =>
    simp only [DBlock.shapeB, List.all_eq_true] at h
    exact fun n hn => DNet.shape_of_B n (h n hn)
  | machs hd ms =>
    simp only [DBlock.shapeB, List.all_eq_true] at h
    exact fun m hm => DMach.shape_of_B m (h m hm)

def Doc.okB (doc : Doc) : Bool :=
  doc.lines.all RLine.okB && doc.all DBlock.shapeB && decide ((doc.sim.networks.map (·.1)).Nodup) &&
    decide (1 + lc doc.lines ≤ i32Max)

theorem Doc.ok_of_B (doc : Doc) (h : doc.okB = true) : doc.Ok := by
  simp only [Doc.okB, Bool.and_eq_true, List.all_eq_true, decide_eq_true_eq] at h
  exact ⟨fun x hx => RLine.ok_of_B x (h.1.1.1 x hx), fun b hb => DBlock.shape_of_B b (h.1.1.2 b hb), h.1.2, h.2⟩

end Elvis.Ndl
