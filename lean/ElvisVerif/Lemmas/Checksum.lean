import ElvisVerif.Model.Checksum
import ElvisVerif.Spec.Rfc1071
/-!
Helper lemmas for C18: algebra of the end-around-carry addition and the invariant `Tracks`
linking a `Checksum` accumulator to the plain sum of the words added so far.
-/
namespace Elvis.Ck
open Elvis.Rfc1071

theorem addU16_lt (a b : Nat) (ha : a < 65536) (hb : b < 65536) : addU16 a b < 65536 := by
  unfold addU16; simp only; split <;> omega

theorem addU16_comm (a b : Nat) : addU16 a b = addU16 b a := by
  unfold addU16; simp only [Nat.add_comm]

theorem addU16_mod (a b : Nat) (_ha : a < 65536) (_hb : b < 65536) :
    addU16 a b % 65535 = (a + b) % 65535 := by
  unfold addU16; simp only; split <;> omega

theorem addU16_eq_zero (a b : Nat) (h : addU16 a b = 0) : a = 0 ∧ b = 0 := by
  unfold addU16 at h; simp only at h; split at h <;> omega

theorem addU16_zero (a : Nat) (ha : a < 65536) : addU16 a 0 = a := by
  unfold addU16; simp only; split <;> omega

/-- `acc` is the 16-bit accumulator after adding words whose plain sum is `s` -/
def Tracks (acc s : Nat) : Prop := acc < 65536 ∧ acc % 65535 = s % 65535 ∧ (acc = 0 ↔ s = 0)

theorem Tracks.zero : Tracks 0 0 := ⟨by omega, rfl, Iff.rfl⟩

theorem Tracks.of_lt {a : Nat} (ha : a < 65536) : Tracks a a := ⟨ha, rfl, Iff.rfl⟩

theorem Tracks.add {acc s v : Nat} (h : Tracks acc s) (hv : v < 65536) :
    Tracks (addU16 acc v) (s + v) := by
  obtain ⟨h1, h2, h3⟩ := h
  refine ⟨addU16_lt acc v h1 hv, ?_, fun e => ?_, fun e => ?_⟩
  · rw [addU16_mod acc v h1 hv, Nat.add_mod, h2, ← Nat.add_mod]
  · obtain ⟨ea, ev⟩ := addU16_eq_zero acc v e
    rw [h3.1 ea, ev]
  · obtain ⟨es, ev⟩ := Nat.add_eq_zero_iff.1 e
    rw [h3.2 es, ev]; rfl

theorem Tracks.lt {acc s : Nat} (h : Tracks acc s) : acc < 65536 := h.1

theorem Tracks.eq {acc s : Nat} (h : Tracks acc s) : acc = onesSumOfTotal s := by
  obtain ⟨h1, h2, h3⟩ := h
  unfold onesSumOfTotal
  split
  · omega
  · split <;> omega

/-- the plain sum matters only modulo 65535 and as zero or not -/
theorem Tracks.congr_mod {acc s t : Nat} (h : Tracks acc s) (e : s % 65535 = t % 65535)
    (z : s = 0 ↔ t = 0) : Tracks acc t := ⟨h.1, h.2.1.trans e, h.2.2.trans z⟩

theorem Tracks.add_tracks {a s b t : Nat} (ha : Tracks a s) (hb : Tracks b t) :
    Tracks (addU16 a b) (s + t) := by
  obtain ⟨hb1, hb2, hb3⟩ := hb
  exact (ha.add hb1).congr_mod (by rw [Nat.add_mod, hb2, ← Nat.add_mod])
    (by rw [Nat.add_eq_zero_iff, Nat.add_eq_zero_iff, hb3])

/-- both groupings track `a + b + c`, and the accumulator is a function of the plain sum -/
theorem addU16_assoc (a b c : Nat) (ha : a < 65536) (hb : b < 65536) (hc : c < 65536) :
    addU16 (addU16 a b) c = addU16 a (addU16 b c) := by
  rw [addU16_comm a (addU16 b c), (((Tracks.of_lt ha).add hb).add hc).eq,
    (((Tracks.of_lt hb).add hc).add ha).eq, Nat.add_comm (b + c) a, Nat.add_assoc]

theorem Tracks.congr {acc s t : Nat} (h : Tracks acc s) (e : s = t) : Tracks acc t := e ▸ h

theorem Tracks.add16 {acc s v : Nat} (h : Tracks acc s) (hv : v < 65536) :
    Tracks (add16 true acc v) (s + v) := by
  simpa [Ck.add16] using h.add hv

theorem Tracks.addU8 {acc s a b : Nat} (h : Tracks acc s) (ha : a < 256) (hb : b < 256) :
    Tracks (addU8 true acc a b) (s + (a * 256 + b)) := by
  unfold Ck.addU8; exact h.add16 (by omega)

theorem half_bytes (x : Nat) : x / 256 % 256 * 256 + x % 256 = x % 65536 := by omega

theorem Tracks.addWord32 {acc s v : Nat} (h : Tracks acc s) :
    Tracks (addWord32 true acc v) (s + (v / 65536 % 65536 + v % 65536)) := by
  unfold Ck.addWord32 Ck.addU32
  have h1 := h.addU8 (a := v / 16777216 % 256) (b := v / 65536 % 256) (by omega) (by omega)
  have h2 := h1.addU8 (a := v / 256 % 256) (b := v % 256) (by omega) (by omega)
  refine h2.congr ?_
  rw [Nat.add_assoc, half_bytes v, ← half_bytes (v / 65536), Nat.div_div_eq_div_mul]

theorem fold_tracks {a s : Nat} (ws : List Nat) (h : Tracks a s) (hw : ∀ w ∈ ws, w < 65536) :
    Tracks (ws.foldl addU16 a) (s + ws.sum) := by
  induction ws generalizing a s with
  | nil => simpa using h
  | cons w ws ih =>
    have hw0 : w < 65536 := hw w (by simp)
    have := ih (h.add hw0) (fun x hx => hw x (by simp [hx]))
    simp only [List.foldl_cons, List.sum_cons]
    exact this.congr (by omega)

theorem wordsOf_lt (bs : List UInt8) : ∀ w ∈ wordsOf bs, w < 65536 := by
  induction bs using wordsOf.induct with
  | case1 a b rest ih =>
    intro w hw
    simp only [wordsOf, List.mem_cons] at hw
    rcases hw with rfl | hw
    · have := a.toNat_lt; have := b.toNat_lt; omega
    · exact ih w hw
  | case2 a =>
    intro w hw
    simp only [wordsOf, List.mem_cons, List.not_mem_nil, or_false] at hw
    subst hw; have := a.toNat_lt; omega
  | case3 => intro w hw; simp [wordsOf] at hw

theorem accumulateRemainder_tracks {acc s : Nat} (bs : List UInt8) (h : Tracks acc s) :
    Tracks (accumulateRemainder true acc bs) (s + (wordsOf bs).sum) := by
  induction bs using wordsOf.induct generalizing acc s with
  | case1 a b rest ih =>
    have := ih (h.addU8 a.toNat_lt b.toNat_lt)
    simp only [accumulateRemainder, wordsOf, List.sum_cons]
    exact this.congr (by omega)
  | case2 a =>
    have := h.addU8 (b := 0) a.toNat_lt (by omega)
    simp only [accumulateRemainder, wordsOf, List.sum_cons, List.sum_nil]
    exact this.congr (by omega)
  | case3 => simpa [accumulateRemainder, wordsOf] using h

theorem accumulateRemainder_off (acc : Nat) (bs : List UInt8) :
    accumulateRemainder false acc bs = acc := by
  induction bs using wordsOf.induct generalizing acc with
  | case1 a b rest ih => simp [accumulateRemainder, Ck.addU8, Ck.add16, ih]
  | case2 a => simp [accumulateRemainder, Ck.addU8, Ck.add16]
  | case3 => simp [accumulateRemainder]

theorem wordsOf_append_even (xs ys : List UInt8) (h : xs.length % 2 = 0) :
    wordsOf (xs ++ ys) = wordsOf xs ++ wordsOf ys := by
  induction xs using wordsOf.induct with
  | case1 a b rest ih =>
    simp only [List.length_cons] at h
    simp [wordsOf, ih (by omega)]
  | case2 a => simp at h
  | case3 => simp [wordsOf]

theorem addU16_asU16 (s : Nat) (hs : s < 65536) : addU16 s (asU16 true s) = 65535 := by
  unfold addU16 asU16; simp only [if_true]; split <;> split <;> omega

theorem asU16_lt (ck : Bool) (s : Nat) : asU16 ck s < 65536 := by
  unfold asU16; split
  · split <;> omega
  · omega

theorem asU16_detects (s t : Nat) (hs : s < 65536) (ht : t < 65536)
    (h : s % 65535 ≠ t % 65535) : asU16 true s ≠ asU16 true t := by
  unfold asU16; simp only [if_true]; split <;> split <;> omega

/-- the test of `Checksum::matches` in terms of the accumulator alone: adding the field gives
    all ones -/
theorem matchesField_iff_add {acc e : Nat} (ha : acc < 65536) (he : e < 65536) :
    matchesField true acc e = true ↔ addU16 acc e = 65535 := by
  unfold matchesField asU16 addU16
  simp only [if_true, Bool.or_eq_true, beq_iff_eq, Bool.and_eq_true, Bool.true_and]
  split <;> split <;> omega

theorem matches_iff_verifies_of_tracks {acc s e : Nat} {ws : List Nat} (t : Tracks acc s)
    (he : e < 65536) (hws : ws.sum = s + e) : matchesField true acc e = true ↔ verifies ws := by
  rw [matchesField_iff_add t.lt he, (t.add he).eq, ← hws]; rfl

end Elvis.Ck
