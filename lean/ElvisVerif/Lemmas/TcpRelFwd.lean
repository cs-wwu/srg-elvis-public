import ElvisVerif.Lemmas.TcpConvEmit
import ElvisVerif.Lemmas.TcpFinLocal
/-!
# Forward evaluation of the closing handshake, one TCB at a time

Exact effect of the calls of a close on a TCB whose network is quiet.  `segments()` with nothing to segmentize returns
`emitOut` and leaves `emitT` (`Lemmas/TcpConvEmit.lean`); `segment_arrives` with an empty reorder heap is one round of
its loop (`arrive_one`, `Lemmas/C01Progress.lean`); for a segment without RST, SYN and text `process_segment` is block 2
(`ackBlock`) followed by block 6 (`finBlock`) alone (`process_pure`, `arrive_pure`).  `IsFin` / `IsAck` are the two
kinds of segment a closing handshake exchanges.  `QuietX` / `RestX`: an endpoint at rest, ESTABLISHED / in any state.
FIN-WAIT-1 → FIN-WAIT-2 is not here: `arrive_ack_fwx` (`Lemmas/TcpRelAcks.lean`).

## Simultaneous close: FIN-WAIT-1 → CLOSING → TIME-WAIT
-/
namespace Elvis.Tcp
open Elvis.ModCmp
namespace Tcb
open Elvis.Tcp.Fin

theorem close_fwd (t : Tcb) (hst : t.state = .Established) (ht : t.outgoing.text = []) :
    t.close = .ok (({ t with state := .FinWait1, snd.nxt := t.snd.nxt + 1, outgoing.retransmit := t.outgoing.retransmit ++ [Transmit.new ⟨({ t with state := .FinWait1 } : Tcb).finHdr.built, []⟩] } : Tcb), .Ok) := by
  rw [close_eq, if_pos (Or.inr hst), if_pos (by rw [ht]; rfl), finQueued_eq]

structure IsFin (g : Segment) (seq ack : Seq) : Prop where
  rst : g.hdr.ctl.rst = false
  syn : g.hdr.ctl.syn = false
  fin : g.hdr.ctl.fin = true
  ackb : g.hdr.ctl.ack = true
  text : g.text = []
  seq : g.hdr.seq = seq
  ack : g.hdr.ack = ack

structure IsAck (g : Segment) (seq ack : Seq) : Prop where
  rst : g.hdr.ctl.rst = false
  syn : g.hdr.ctl.syn = false
  fin : g.hdr.ctl.fin = false
  ackb : g.hdr.ctl.ack = true
  text : g.text = []
  seq : g.hdr.seq = seq
  ack : g.hdr.ack = ack

/-- the pure ACK an endpoint queues after `RCV.NXT` stepped over a FIN -/
def finAckHdr (t : Tcb) : Hdr := (({ t with rcv.nxt := t.rcv.nxt + 1 } : Tcb).ackHdr).built

theorem isSeqOk_fin_nxt (t : Tcb) {g : Segment} {a : Seq} (hw : t.rcv.wnd = 65535#16) (hF : IsFin g t.rcv.nxt a) :
    t.isSeqOk (BitVec.ofNat 32 g.text.length) g.hdr.seq g.hdr.ctl.syn g.hdr.ctl.fin = .ok true := by
  rw [hF.seq]
  exact isSeqOk_nxt (by rw [hw]; decide) (by rw [hF.text, hF.syn, hF.fin]; decide)

theorem ackBlock_old (t : Tcb) (seg : Hdr) (hack : seg.ctl.ack = true) (hold : modLeq seg.ack t.snd.una = true)
    (hst : t.state = .Established ∨ t.state = .FinWait2 ∨ (t.state = .FinWait1 ∧ t.isFinAcked = false)) :
    ackBlock t seg = .ok (t, none) := by
  obtain ⟨k1, k2, _⟩ := ackBlock_success t t seg hack (by rw [ackEstablishedProcessing_eq, aep_old hold])
  rcases hst with h | h | ⟨h, hn⟩
  · exact k1 (Or.inl h)
  · exact k1 (Or.inr h)
  · rw [k2 h, hn]
    rfl

theorem finBlock_at_nxt (t : Tcb) {g : Segment} {a : Seq} (hns : t.state ≠ .SynSent) (hF : IsFin g t.rcv.nxt a) :
    finBlock t g.hdr (BitVec.ofNat 32 g.text.length) =
      Elvis.Tcp.finState
        ({ t with rcv.nxt := t.rcv.nxt + 1, outgoing.oneshot := t.outgoing.oneshot ++ [t.finAckHdr] } : Tcb) := by
  have hz : g.hdr.seq + BitVec.ofNat 32 g.text.length = t.rcv.nxt := by
    rw [hF.text, hF.seq]; simp
  rw [Elvis.Tcp.finBlock_eq, hF.fin, Bool.not_true, if_neg Bool.false_ne_true]
  unfold finAdvance
  rw [if_pos hns]
  dsimp only
  rw [hz, if_pos (by simp), enqueue_eq, enqueueBuilt_ack]
  rfl

theorem arrive_pure {t t1 t2 : Tcb} {g : Segment} (hns : t.state ≠ .SynSent) (hns1 : t1.state ≠ .SynSent)
    (hheap : t.incoming.segments = [])
    (hok : t.isSeqOk (BitVec.ofNat 32 g.text.length) g.hdr.seq g.hdr.ctl.syn g.hdr.ctl.fin = .ok true)
    (hrst : g.hdr.ctl.rst = false) (hsyn : g.hdr.ctl.syn = false) (htext : g.text = []) (hseq : g.hdr.seq = t.rcv.nxt)
    (hab : ackBlock t g.hdr = .ok (t1, none))
    (hfb : finBlock t1 g.hdr (BitVec.ofNat 32 g.text.length) = .ok (t2, none)) :
    t.segmentArrives g = .ok (t2, .Ok) :=
  arrive_one t g hheap (fun _ => ⟨hok, by rw [hseq]; exact modGt_self _⟩) _ _ (process_pure hns hns1 hok hrst hsyn htext hab hfb)

theorem arrive_fin (t t' : Tcb) {g : Segment} {a : Seq}
    (hst : t.state = .Established ∨ t.state = .FinWait2 ∨ (t.state = .FinWait1 ∧ t.isFinAcked = false))
    (hw : t.rcv.wnd = 65535#16) (hheap : t.incoming.segments = []) (hF : IsFin g t.rcv.nxt a)
    (hold : modLeq a t.snd.una = true)
    (h6 : Elvis.Tcp.finState
      ({ t with rcv.nxt := t.rcv.nxt + 1, outgoing.oneshot := t.outgoing.oneshot ++ [t.finAckHdr] } : Tcb) =
        .ok (t', none)) :
    t.segmentArrives g = .ok (t', .Ok) := by
  have hns : t.state ≠ .SynSent := by
    rcases hst with h | h | ⟨h, _⟩ <;> rw [h] <;> simp
  exact arrive_pure hns hns hheap (isSeqOk_fin_nxt t hw hF) hF.rst hF.syn hF.text hF.seq
    (ackBlock_old t g.hdr hF.ackb (by rw [hF.ack]; exact hold) hst) (by rw [finBlock_at_nxt t hns hF, h6])

theorem arrive_fin_fw1 (t : Tcb) {g : Segment} {a : Seq} (hst : t.state = .FinWait1) (hw : t.rcv.wnd = 65535#16)
    (hheap : t.incoming.segments = []) (hna : (t.snd.nxt == t.snd.una) = false) (hF : IsFin g t.rcv.nxt a)
    (hold : modLeq a t.snd.una = true) :
    t.segmentArrives g = .ok (({ t with state := .Closing, rcv.nxt := t.rcv.nxt + 1, outgoing.oneshot := t.outgoing.oneshot ++ [t.finAckHdr] } : Tcb), .Ok) := by
  have hnfa : t.isFinAcked = false := by
    rw [isFinAcked_eq]
    rw [hna]; simp
  refine arrive_fin t _ (Or.inr (Or.inr ⟨hst, hnfa⟩)) hw hheap hF hold ?_
  unfold Elvis.Tcp.finState
  dsimp only
  rw [hst]
  dsimp only
  rw [if_neg (by rw [isFinAcked_eq]; simp [hna])]

theorem arrive_ack_closing (t : Tcb) {g : Segment} (hst : t.state = .Closing) (hw : t.rcv.wnd = 65535#16)
    (hheap : t.incoming.segments = []) (ht : t.outgoing.text = []) (hA : IsAck g t.rcv.nxt t.snd.nxt)
    (hd : (t.snd.nxt - t.snd.una).toNat = 1) :
    ∃ t', t.segmentArrives g = .ok (t', .Ok) ∧ t'.state = .TimeWait ∧ t'.timeouts.timeWait = some TIME_WAIT := by
  obtain ⟨hnew, hb⟩ : modLeq g.hdr.ack t.snd.una = false ∧ modBounded t.snd.una .Lt g.hdr.ack .Leq t.snd.nxt = true := by
    rw [hA.ack]; exact ack_of_nxt _ _ (by omega) (by omega)
  have hns : t.state ≠ .SynSent := by rw [hst]; simp
  have hok := C01.isSeqOk_ack hw hA.text hA.syn hA.fin hA.seq
  obtain ⟨t1, e1, fx⟩ := ackEst_fwd t g.hdr (Or.inr hb)
  have hfa : t1.isFinAcked = true := by
    rw [isFinAcked_eq]
    rw [finPending_eq, fx.otext, ht, fx.nxt, fx.una, hnew]
    simp [hA.ack]
  have c2 : ackBlock t g.hdr =
      .ok (({ t1 with state := .TimeWait, timeouts.timeWait := some TIME_WAIT } : Tcb), none) := by
    rw [(ackBlock_success t t1 g.hdr hA.ackb e1).2.2 hst, if_pos hfa]
  exact ⟨_, arrive_pure hns (by simp) hheap hok hA.rst hA.syn hA.text hA.seq c2 (finBlock_pass hA.fin), rfl, rfl⟩

end Tcb
end Elvis.Tcp

/-!
## The endpoint a close starts from

`QuietX x t u`: endpoint `x` (TCB `t`, peer's TCB `u`) is ESTABLISHED with nothing queued, unsent, buffered or
parked, everything acknowledged, and the peer has received everything; `RestX` is the same with the state left open.
-/
namespace Elvis.Tcp
open Elvis.ModCmp
namespace Tcb

structure QuietX (x : SideId) (t u : Tcb) : Prop where
  st : t.state = .Established
  heap : t.incoming.segments = []
  buf : t.incoming.text = []
  text : t.outgoing.text = []
  rtx : t.outgoing.retransmit = []
  one : t.outgoing.oneshot = []
  una : t.snd.una = t.snd.nxt
  sync : u.rcv.nxt = t.snd.nxt
  wnd : t.rcv.wnd = 65535#16
  mtu : ¬ t.mtu.toNat < SPACE_FOR_HEADERS
  lp : t.localPort = x.port
  rp : t.remotePort = x.peer.port

structure RestX (x : SideId) (t u : Tcb) : Prop where
  heap : t.incoming.segments = []
  buf : t.incoming.text = []
  text : t.outgoing.text = []
  rtx : t.outgoing.retransmit = []
  one : t.outgoing.oneshot = []
  una : t.snd.una = t.snd.nxt
  sync : u.rcv.nxt = t.snd.nxt
  wnd : t.rcv.wnd = 65535#16
  mtu : ¬ t.mtu.toNat < SPACE_FOR_HEADERS
  lp : t.localPort = x.port
  rp : t.remotePort = x.peer.port

/-- the TCB after `close()` in ESTABLISHED with nothing left to segmentize (`close_fwd`) -/
def closedT (t : Tcb) : Tcb :=
  ({ t with state := .FinWait1, snd.nxt := t.snd.nxt + 1, outgoing.retransmit := t.outgoing.retransmit ++ [Transmit.new ⟨({ t with state := .FinWait1 } : Tcb).finHdr.built, []⟩] } : Tcb)

def finSeg (t : Tcb) : Segment := ⟨({ t with state := .FinWait1 } : Tcb).finHdr.built, []⟩

theorem isFin_finSeg (t : Tcb) : IsFin (finSeg t) t.snd.nxt t.rcv.nxt := ⟨rfl, rfl, rfl, rfl, rfl, rfl, rfl⟩

theorem succ_ne (a : Seq) : (a + 1 == a) = false := by
  cases h : (a + 1 == a) with
  | false => rfl
  | true => simp at h

/-- the TCB after the peer's FIN in FIN-WAIT-1 (`arrive_fin_fw1`) -/
def closingT (t1 : Tcb) : Tcb :=
  ({ t1 with state := .Closing, rcv.nxt := t1.rcv.nxt + 1, outgoing.oneshot := t1.outgoing.oneshot ++ [t1.finAckHdr] } : Tcb)

end Tcb
end Elvis.Tcp

/-!
## One side closes first: CLOSE-WAIT, LAST-ACK, FIN-WAIT-2 → TIME-WAIT
-/
namespace Elvis.Tcp
open Elvis.ModCmp
namespace Tcb
open Elvis.Tcp.Fin

theorem arrive_fin_est (t : Tcb) {g : Segment} {a : Seq} (hst : t.state = .Established) (hw : t.rcv.wnd = 65535#16)
    (hheap : t.incoming.segments = []) (hF : IsFin g t.rcv.nxt a) (hold : modLeq a t.snd.una = true) :
    t.segmentArrives g = .ok (({ t with state := .CloseWait, rcv.nxt := t.rcv.nxt + 1, outgoing.oneshot := t.outgoing.oneshot ++ [t.finAckHdr] } : Tcb), .Ok) := by
  refine arrive_fin t _ (Or.inl hst) hw hheap hF hold ?_
  unfold Elvis.Tcp.finState
  dsimp only
  rw [hst]

theorem close_fwd_cw (t : Tcb) (hst : t.state = .CloseWait) (ht : t.outgoing.text = []) :
    t.close = .ok (({ t with state := .LastAck, snd.nxt := t.snd.nxt + 1, outgoing.retransmit := t.outgoing.retransmit ++ [Transmit.new ⟨({ t with state := .LastAck } : Tcb).finHdr.built, []⟩] } : Tcb), .Ok) := by
  rw [close_eq, if_neg (by rw [hst]; simp), if_pos hst, if_pos (by rw [ht]; rfl), finQueued_eq]

theorem arrive_fin_fw2 (t : Tcb) {g : Segment} {a : Seq} (hst : t.state = .FinWait2) (hw : t.rcv.wnd = 65535#16)
    (hheap : t.incoming.segments = []) (hF : IsFin g t.rcv.nxt a) (hold : modLeq a t.snd.una = true) :
    t.segmentArrives g = .ok (({ t with state := .TimeWait, rcv.nxt := t.rcv.nxt + 1, outgoing.oneshot := t.outgoing.oneshot ++ [t.finAckHdr], timeouts := { timeWait := some TIME_WAIT, retransmission := RTO } } : Tcb), .Ok) := by
  refine arrive_fin t _ (Or.inr (Or.inl hst)) hw hheap hF hold ?_
  unfold Elvis.Tcp.finState
  dsimp only
  rw [hst]

/-- `.Close` tells the caller to delete the TCB -/
theorem arrive_ack_lastack (t : Tcb) {g : Segment} (hst : t.state = .LastAck) (hw : t.rcv.wnd = 65535#16)
    (hheap : t.incoming.segments = []) (ht : t.outgoing.text = []) (hA : IsAck g t.rcv.nxt t.snd.nxt)
    (hd : (t.snd.nxt - t.snd.una).toNat = 1) :
    ∃ t', t.segmentArrives g = .ok (t', .Close) := by
  have hok := C01.isSeqOk_ack hw hA.text hA.syn hA.fin hA.seq
  obtain ⟨t', hp⟩ := processSegment_lastAck_release t g hst ht (by omega) (by omega) hok hA.ackb hA.ack
  exact ⟨t', arrive_one t g hheap (fun _ => ⟨hok, by rw [hA.seq]; exact modGt_self _⟩) t' _ hp⟩

end Tcb
end Elvis.Tcp
