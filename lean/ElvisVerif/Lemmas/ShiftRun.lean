import ElvisVerif.Lemmas.ShiftArrive
import ElvisVerif.Lemmas.ShiftInv
/-!
# Whole runs of the two-endpoint system commute with the shift map (C12)

`Sys.shift ka kb` moves side A's space by `ka` and side B's by `kb` (TCBs, LISTEN bindings, and
every segment of the history according to who emitted it).  In a state that meets the invariant `SysInv` of
`Lemmas/ShiftInv.lean` one step of the system commutes with it for every op outside the exclusions (`Excl`); the
invariant is kept, hence every run from such a state does (`Sys.shift_run`), by induction on the op list.
-/
namespace Elvis.Tcp
open Elvis.ModCmp
variable (ka kb : Seq)

def shiftSR (x : SideId) (ka kb : Seq) (r : Except String (Sys × Res)) : Except String (Sys × Res) :=
  match r with
  | .error e => .error e
  | .ok (s, res) => .ok (s.shift ka kb, res.shift x ka kb)

theorem Sys.shift_side (s : Sys) (x : SideId) : (s.shift ka kb).side x = (s.side x).shift x ka kb := by
  cases x <;> rfl

theorem Sys.shift_setSide (s : Sys) (x : SideId) (sd : Side) :
    (s.shift ka kb).setSide x (sd.shift x ka kb) = (s.setSide x sd).shift ka kb := by
  cases x <;> rfl

theorem Sys.shift_historyLen (s : Sys) : (s.shift ka kb).historyLen = s.historyLen := rfl

theorem Sys.shift_nth (s : Sys) (i : Nat) : (s.shift ka kb).nth i = (s.nth i).map (Segment.shiftHist ka kb) := by
  unfold Sys.nth
  rw [Sys.shift_historyLen]
  split
  · show (s.history.map _)[_]? = _
    rw [List.getElem?_map]
  · rfl

theorem shiftHist_of_src (x : SideId) (seg : Segment) (h : seg.hdr.srcPort = x.port) :
    seg.shiftHist ka kb = seg.shift (x.own ka kb) (x.peer.own ka kb) := by
  unfold Segment.shiftHist
  cases x
  · rw [if_pos h]; rfl
  · rw [if_neg (by rw [h]; exact fun e => nomatch SideId.port_inj e)]; rfl

theorem Sys.shift_record (s : Sys) (x : SideId) (segs : List Segment)
    (h : ∀ seg ∈ segs, seg.hdr.srcPort = x.port) :
    (s.shift ka kb).record (segs.map (Segment.shift (x.own ka kb) (x.peer.own ka kb))) =
      (s.record segs).shift ka kb := by
  unfold Sys.record
  have e : (segs.map (Segment.shift (x.own ka kb) (x.peer.own ka kb))) = segs.map (Segment.shiftHist ka kb) := by
    apply List.map_congr_left
    intro seg hs
    exact (shiftHist_of_src ka kb x seg (h seg hs)).symm
  rw [e]
  simp only [Sys.shift, List.map_append, List.map_reverse, List.length_map]

theorem Sys.shift_response (s : Sys) (x : SideId) (hd : Hdr) (hp : hd.srcPort = x.port) :
    (s.shift ka kb).record [⟨hd.shift (x.own ka kb) (x.peer.own ka kb), []⟩] = (s.record [⟨hd, []⟩]).shift ka kb :=
  Sys.shift_record ka kb s x [⟨hd, []⟩] (by intro sg hsg; rw [List.mem_singleton.1 hsg]; exact hp)

theorem side_shift_tcb (sd : Side) (x : SideId) :
    (sd.shift x ka kb).tcb = sd.tcb.map (Tcb.shift (x.own ka kb) (x.peer.own ka kb)) := rfl

theorem side_shift_listen (sd : Side) (x : SideId) :
    (sd.shift x ka kb).listen = sd.listen.map fun p => (p.1 + x.own ka kb, p.2) := rfl

theorem Sys.shift_arrive (s : Sys) (x : SideId) (seg : Segment) (h : ArrExcl s x seg) :
    (s.shift ka kb).arrive x (seg.shift (x.peer.own ka kb) (x.own ka kb)) =
      shiftSR x ka kb (s.arrive x seg) := by
  unfold Sys.arrive
  dsimp only
  rw [Sys.shift_side, side_shift_tcb, side_shift_listen]
  obtain ⟨hsrc, hdst, hpre⟩ := h
  cases ht : (s.side x).tcb with
  | some t =>
    dsimp only [Option.map_some]
    rw [shift_segmentArrives (x.own ka kb) (x.peer.own ka kb) t seg]
    cases t.segmentArrives seg with
    | error e => rfl
    | ok q =>
      obtain ⟨u, r⟩ := q
      cases r <;> (simp only [M.shift_ok, shiftSR, ← Sys.shift_setSide]; rfl)
  | none =>
    rw [ht] at hpre
    dsimp only [Option.map_none]
    cases hl : (s.side x).listen with
    | some p =>
      obtain ⟨iss, mtu⟩ := p
      dsimp only [Option.map_some]
      rw [shift_listen (x.own ka kb) (x.peer.own ka kb) seg iss mtu]
      cases hres : segmentArrivesListen seg iss mtu with
      | error e => rfl
      | ok o =>
        cases o with
        | none => rfl
        | some lr =>
          cases lr with
          | Tcb t =>
            simp only [shiftL, Option.map_some, ListenResult.shift, shiftSR, ← Sys.shift_setSide]
            rfl
          | Response hd =>
            -- LISTEN answers with the ports of the segment swapped
            have hp : hd.srcPort = x.port := by
              rw [(segmentArrivesListen_response hres).2.2]
              exact hdst
            simp only [shiftL, Option.map_some, ListenResult.shift, shiftSR, ← Sys.shift_response ka kb s x hd hp]
            rfl
    | none =>
      rw [hl] at hpre
      dsimp only [Option.map_none]
      rw [Segment.shift_hdr, Segment.shift_text, shift_closed (x.own ka kb) (x.peer.own ka kb) seg.hdr _ hpre]
      cases hres : segmentArrivesClosed seg.hdr (BitVec.ofNat 32 seg.text.length) with
      | none => rfl
      | some hd =>
        simp only [Option.map_some, shiftSR,
          ← Sys.shift_response ka kb s x hd ((closed_plain hres).2.2.trans hdst)]
        rfl

/-- of the invariant `segments()` needs the zero send window in SYN-SENT (else the pure-ACK header of a data segment
    would carry the unset `RCV.NXT`) and the ports of what it returns (the history does not record the emitter) -/
theorem Sys.shift_step (s : Sys) (op : Op) (hi : SysInv s) (h : Excl s op) :
    (s.shift ka kb).step (op.shift ka kb) = shiftSR op.side ka kb (s.step op) := by
  cases op with
  | «open» x iss mtu =>
    simp only [Sys.step, Op.shift, Op.side]
    rw [shift_open (x.own ka kb) (x.peer.own ka kb)]
    cases Tcb.open x.port x.peer.port iss mtu with
    | error e => rfl
    | ok t =>
      simp only [shiftE_ok, Sys.shift_side, shiftSR, ← Sys.shift_setSide]
      rfl
  | listen x iss mtu =>
    simp only [Sys.step, Op.shift, Op.side, Sys.shift_side, shiftSR, ← Sys.shift_setSide]
    rfl
  | deliver x i =>
    simp only [Sys.step, Op.shift, Op.side]
    rw [Sys.shift_nth]
    cases hn : s.nth i with
    | none => rfl
    | some seg =>
      have ok := h seg hn
      simp only [Option.map_some]
      have e := shiftHist_of_src ka kb x.peer seg ok.1
      rw [SideId.peer_peer] at e
      rw [e]
      exact Sys.shift_arrive ka kb s x seg ok
  | inject x seg =>
    simp only [Sys.step, Op.shift, Op.side]
    exact Sys.shift_arrive ka kb s x seg h
  | drop x =>
    simp only [Sys.step, Op.shift, Op.side, Sys.shift_side, shiftSR, ← Sys.shift_setSide]
    rfl
  | write x bytes =>
    simp only [Sys.step, Op.shift, Op.side, Sys.shift_side, side_shift_tcb]
    cases ht : (s.side x).tcb with
    | none => rfl
    | some t =>
      simp only [Option.map_some, shift_send, Tcb.shift_state, shiftSR, ← Sys.shift_setSide]
      rfl
  | read x =>
    simp only [Sys.step, Op.shift, Op.side, Sys.shift_side, side_shift_tcb]
    cases ht : (s.side x).tcb with
    | none => rfl
    | some t =>
      simp only [Option.map_some, shift_receive, shiftSR, ← Sys.shift_setSide]
      rfl
  | tick x ms =>
    simp only [Sys.step, Op.shift, Op.side, Sys.shift_side, side_shift_tcb]
    cases ht : (s.side x).tcb with
    | none => rfl
    | some t =>
      simp only [Option.map_some, shift_advanceTime]
      cases t.advanceTime ms with
      | error e => rfl
      | ok q =>
        obtain ⟨u, r⟩ := q
        cases r <;> (simp only [M.shift_ok, shiftSR, ← Sys.shift_setSide]; rfl)
  | emit x =>
    simp only [Sys.step, Op.shift, Op.side, Sys.shift_side, side_shift_tcb]
    cases ht : (s.side x).tcb with
    | none => rfl
    | some t =>
      have ok := hi x t ht
      simp only [Option.map_some, shift_segments _ _ t fun hs => (ok.fresh hs).2.2]
      cases hsg : t.segments with
      | error e => rfl
      | ok q =>
        obtain ⟨u, segs⟩ := q
        simp only [M.shiftOut, shiftSR, ← Sys.shift_record ka kb _ x segs ((ports_segments t u segs hsg).2 _ ok.ports),
          ← Sys.shift_setSide]
        rfl
  | close x =>
    simp only [Sys.step, Op.shift, Op.side, Sys.shift_side, side_shift_tcb]
    cases ht : (s.side x).tcb with
    | none => rfl
    | some t =>
      simp only [Option.map_some, shift_close _ _ t]
      cases t.close with
      | error e => rfl
      | ok q =>
        obtain ⟨u, r⟩ := q
        simp only [M.shift_ok, shiftSR, ← Sys.shift_setSide]
        rfl
  | abort x =>
    simp only [Sys.step, Op.shift, Op.side, Sys.shift_side, side_shift_tcb]
    cases ht : (s.side x).tcb with
    | none => rfl
    | some t =>
      simp only [Option.map_some, shift_abort]
      cases t.abort with
      | error e => rfl
      | ok u =>
        simp only [shiftE_ok, shiftSR, ← Sys.shift_setSide]
        rfl

def shiftResults (ka kb : Seq) : List Op → List Res → List Res
  | op :: ops, r :: rs => r.shift op.side ka kb :: shiftResults ka kb ops rs
  | _, _ => []

def shiftRun (ka kb : Seq) (ops : List Op) (x : Except String (Sys × List Res)) : Except String (Sys × List Res) :=
  match x with
  | .error e => .error e
  | .ok (s, rs) => .ok (s.shift ka kb, shiftResults ka kb ops rs)

theorem Sys.shift_run (s : Sys) (ops : List Op) (hi : SysInv s) (h : RunExcl s ops) :
    (s.shift ka kb).run (ops.map (Op.shift ka kb)) = shiftRun ka kb ops (s.run ops) := by
  induction ops generalizing s with
  | nil => rfl
  | cons op ops ih =>
    obtain ⟨h1, h2⟩ := h
    simp only [List.map_cons, Sys.run]
    rw [Sys.shift_step ka kb s op hi h1]
    cases hs : s.step op with
    | error e => rfl
    | ok q =>
      obtain ⟨s', r⟩ := q
      simp only [shiftSR]
      rw [ih s' (sysInv_step s s' op r hi h1 hs) (h2 s' r hs)]
      cases s'.run ops with
      | error e => rfl
      | ok q2 => obtain ⟨s2, rs⟩ := q2; rfl

theorem Sys.shift_init : (({} : Sys).shift ka kb) = {} := rfl

end Elvis.Tcp
