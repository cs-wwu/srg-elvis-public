import ElvisVerif.Lemmas.ShiftPorts
import ElvisVerif.Lemmas.ShiftApi
import ElvisVerif.Lemmas.TcbNoop
import ElvisVerif.Lemmas.TcpSys
/-!
# The invariant of runs under which the system commutes with the shift (C12)

`TcbFresh t x`: a TCB of side `x` is fresh while in SYN-SENT (`SND.UNA = ISS`, `SND.NXT = ISS+1`,
`SND.WND = 0`), has an empty reorder heap in SYN-SENT, and emits only headers with `x`'s port.
Established by `open` / LISTEN, kept by every operation (`sysInv_step`); `Excl` / `RunExcl` are the genuine exclusions
of the step and run theorems of `Lemmas/ShiftRun.lean`, which use of the invariant the zero window in SYN-SENT and the
ports.  Nothing here mentions the shift.
-/
namespace Elvis.Tcp
open Elvis.ModCmp

/-- a TCB in SYN-SENT is as `open` made it: nothing acknowledged, only the SYN sent, the peer's
    window not yet known -/
def SynSentFresh (s : Tcb) : Prop :=
  s.state = .SynSent → s.snd.una = s.snd.iss ∧ s.snd.nxt = s.snd.iss + 1 ∧ s.snd.wnd = 0

theorem removeAcked_heap (s : Tcb) (a : Seq) :
    (s.removeAckedFromRetransmission a).incoming = s.incoming := rfl

theorem andThen_some' (s : Tcb) (r : ProcessSegmentResult) (f : Tcb → Tcb.B) :
    Tcb.B.andThen (.ok (s, some r)) f = .ok (s, some r) := rfl

theorem processSegment_synSent (t u : Tcb) (seg : Segment) (r : ProcessSegmentResult) (hs : t.state = .SynSent)
    (h : Tcb.processSegment t seg = .ok (u, r)) (hd : r.shouldDeleteTcb = false) (hu : u.state = .SynSent) :
    u.snd = t.snd := by
  rcases Tcb.processSegment_synSent_rows t seg hs with ⟨-, ⟨-, e⟩ | e⟩ |
    ⟨v, hv, ⟨-, e, hdel⟩ | ⟨-, hsyn, e⟩ | ⟨-, -, -, e⟩ | ⟨-, -, -, e⟩⟩ <;> rw [e] at h
  · cases h; rfl
  · cases h; exact (Tcb.enqueueBuilt_frame _ _).snd
  · cases h
    rcases hv with rfl | ⟨ha, -⟩
    · rfl
    · -- a RST with ACK deletes the TCB
      rw [hdel, ha] at hd; cases hd
  · cases h
    rcases hv with rfl | ⟨-, hs', -⟩
    · rfl
    · rw [hsyn] at hs'; cases hs'
  · cases h
    rw [Tcb.state_enqueueBuilt] at hu
    cases hu
  · -- the state left SYN-SENT, and blocks 5 and 6 do not bring it back
    obtain ⟨s5, e5, e6⟩ := Tcb.finish56_ok h
    have hx : (Tcb.synEst v seg.hdr).state ≠ .SynSent := by rw [Tcb.state_enqueueBuilt]; nofun
    exact absurd (((Tcb.textBlock_effs hx e5).1.lift Tcb.Rx.refl Tcb.Rx.trans Tcb.Eff.rx).synsent
      (((Tcb.finBlock_effs e6).1.lift Tcb.Rx.refl Tcb.Rx.trans Tcb.Eff.rx).synsent hu)) hx

def FreshKeep (t u : Tcb) : Prop :=
  u.state = .SynSent → t.state = .SynSent ∧ u.snd = t.snd ∧ u.incoming.segments = t.incoming.segments

structure TcbFresh (t : Tcb) (x : SideId) : Prop where
  fresh : SynSentFresh t
  idle : t.state = .SynSent → t.incoming.segments = []
  ports : PortsOk t x.port

/-- while in SYN-SENT the TCB is fresh and has nothing parked: the part of `TcbFresh` under which `Props/C12` states
    the step theorem for `segment_arrives` (`shift_segmentArrives` holds without it) -/
structure ArrPre (s : Tcb) : Prop where
  fresh : SynSentFresh s
  idle : s.state = .SynSent → s.incoming.segments = []

theorem TcbFresh.step {t u : Tcb} {x : SideId} (h : TcbFresh t x) (k : FreshKeep t u ∧ PortsKeep t u) :
    TcbFresh u x := by
  refine ⟨fun hu => ?_, fun hu => ?_, h.ports.of_keep k.2⟩
  · obtain ⟨hs, e, _⟩ := k.1 hu
    rw [e]; exact h.fresh hs
  · obtain ⟨hs, _, e⟩ := k.1 hu
    rw [e]; exact h.idle hs

theorem freshKeep_segmentArrives (t u : Tcb) (seg : Segment) (hi : t.state = .SynSent → t.incoming.segments = [])
    (h : t.segmentArrives seg = .ok (u, .Ok)) : FreshKeep t u := by
  intro hu
  by_cases hs : t.state = .SynSent
  · -- with nothing parked `segment_arrives` is `process_segment`
    obtain ⟨r, hps, hr⟩ := (Tcb.segmentArrives_idle (hi hs) fun h => absurd hs h).1 h
    have hdel : r.shouldDeleteTcb = false := by
      cases hd : r.shouldDeleteTcb with
      | false => rfl
      | true => rw [hd] at hr; cases hr
    exact ⟨hs, processSegment_synSent t u seg r hs hps hdel hu, Tcb.processSegment_heap _ _ _ _ hps⟩
  · exact absurd (Tcb.segmentArrives_synsent h hu) hs

theorem FreshKeep.of_eq {t u : Tcb} (hs : u.state = t.state) (h1 : u.snd = t.snd)
    (h2 : u.incoming.segments = t.incoming.segments) : FreshKeep t u :=
  fun hu => ⟨hs ▸ hu, h1, h2⟩

theorem kept_send (t : Tcb) (m : List UInt8) : FreshKeep t (t.send m) ∧ PortsKeep t (t.send m) := by
  rw [Tcb.send_eq]
  split <;> exact ⟨.of_eq rfl rfl rfl, .of_eq rfl rfl rfl⟩

theorem kept_receive (t : Tcb) : FreshKeep t t.receive.1 ∧ PortsKeep t t.receive.1 := by
  rw [Tcb.receive_eq]
  split <;> exact ⟨.of_eq rfl rfl rfl, .of_eq rfl rfl rfl⟩

theorem kept_advanceTime (t u : Tcb) (dt : Nat) (r : AdvanceTimeResult) (h : t.advanceTime dt = .ok (u, r)) :
    FreshKeep t u ∧ PortsKeep t u := by
  obtain ⟨tmo, rfl | rfl⟩ := Tcb.advanceTime_flags h
  · exact ⟨.of_eq rfl rfl rfl, .of_eq rfl rfl rfl⟩
  · exact ⟨.of_eq rfl rfl rfl, keep_right (keep_markAll t true) rfl rfl rfl⟩

theorem kept_close (t u : Tcb) (r : CloseResult) (h : t.close = .ok (u, r)) : FreshKeep t u ∧ PortsKeep t u := by
  rcases Tcb.close_cases h with rfl | ⟨st, rfl, hst⟩
  · exact ⟨.of_eq rfl rfl rfl, .refl _⟩
  · have hst : st ≠ .SynSent := by rcases hst with ⟨-, rfl⟩ | ⟨-, rfl⟩ <;> nofun
    split
    · exact ⟨fun hu => absurd ((Tcb.same_finQueued _).2.symm.trans hu) hst,
        keep_left (keep_finQueued _) rfl rfl rfl⟩
    · exact ⟨fun hu => absurd hu hst, .of_eq rfl rfl rfl⟩

theorem kept_abort (t u : Tcb) (h : t.abort = .ok u) : FreshKeep t u ∧ PortsKeep t u := by
  rw [Tcb.abort_eq] at h
  cases h
  split
  · rename_i hc
    have hne : t.state ≠ .SynSent := by rcases hc with e | e | e | e | e <;> rw [e] <;> nofun
    refine ⟨fun hu => absurd ((Tcb.state_enqueueBuilt _ _).symm.trans hu) hne, ?_⟩
    -- the queues are emptied first: all that is in them afterwards is the RST
    exact fun p k => keep_enqueueBuilt _ _ rfl p (portsOk_empty _ p k.lp rfl rfl)
  · exact ⟨.of_eq rfl rfl rfl, .refl _⟩

theorem segmentize_zero_wnd (m fuel : Nat) (t : Tcb) (q : Nat) (hw : t.snd.wnd = 0) :
    Tcb.segmentize m fuel t q = .ok t :=
  Tcb.segmentize_idle _ _ (by unfold Tcb.cutLen; rw [hw]; simp)

theorem segmentizeIfOpen_synSent (s : Tcb) (hs : s.state = .SynSent) (hw : s.snd.wnd = 0) (hm : ¬ s.mtu.toNat < SPACE_FOR_HEADERS) :
    Tcb.segmentizeIfOpen s = .ok s := by
  have e : Tcb.segmentizes .SynSent = true := rfl
  rw [Tcb.segmentizeIfOpen_eq, hs, if_pos e, if_neg hm]
  exact segmentize_zero_wnd _ _ s _ hw

/-- what `segments()` does in between leaves a TCB that ends in SYN-SENT with a zero window as it was: no FIN waits
    there, and no round of the loop finds room in the window -/
theorem Tcb.Segs.synSent {m : Nat} {p : Bool} {a b : Tcb} (h : Tcb.Segs m p a b) (hb : b.state = .SynSent)
    (hw : a.state = .SynSent → a.snd.wnd = 0) : b = a := by
  induction h with
  | done _ => rfl
  | fin _ hst _ =>
    rw [(Tcb.same_finQueued _).2] at hb
    rcases hst with h | h | h <;> rw [h] at hb <;> cases hb
  | @cut s s' n _ h0 _ _ hle _ ih =>
    have e := ih hb hw
    rw [e] at hb
    rw [hw hb] at hle
    exact absurd (Nat.le_trans hle (Nat.sub_le _ _)) (Nat.not_le.2 h0)

theorem freshKeep_segments (t u : Tcb) (segs : List Segment) (hF : SynSentFresh t)
    (h : t.segments = .ok (u, segs)) : FreshKeep t u := by
  obtain ⟨s2, tmo, k, rfl⟩ := Tcb.segments_segs h
  intro hu
  obtain rfl := k.synSent hu fun hs => (hF hs).2.2
  exact ⟨hu, rfl, rfl⟩

def SysInv (s : Sys) : Prop := ∀ x t, (s.side x).tcb = some t → TcbFresh t x

theorem sysInv_init : SysInv {} := by
  intro x t h
  cases x <;> cases h

theorem sysInv_setSide (s : Sys) (x : SideId) (sd : Side) (hi : SysInv s)
    (h : ∀ t, sd.tcb = some t → TcbFresh t x) : SysInv (s.setSide x sd) :=
  tcbs_touched hi x sd [] h

theorem sysInv_update (s : Sys) (x : SideId) (sd : Side) (hi : SysInv s) {t u : Tcb} (ht : (s.side x).tcb = some t)
    (hu : sd.tcb = some u) (k : FreshKeep t u ∧ PortsKeep t u) : SysInv (s.setSide x sd) :=
  sysInv_setSide s x sd hi fun t' e => by rw [hu] at e; cases e; exact (hi x t ht).step k

theorem sysInv_record (s : Sys) (segs : List Segment) (hi : SysInv s) : SysInv (s.record segs) := by
  intro y t ht
  rw [side_record] at ht
  exact hi y t ht

theorem tcbFresh_open (x : SideId) (iss : Seq) (mtu : U16) (t : Tcb)
    (h : Tcb.open x.port x.peer.port iss mtu = .ok t) : TcbFresh t x := by
  cases (Tcb.open_eq _ _ iss mtu).symm.trans h
  exact ⟨fun _ => ⟨rfl, rfl, rfl⟩, fun _ => rfl, rfl, (fun _ hh => nomatch hh), List.forall_mem_singleton.2 rfl⟩

theorem tcbFresh_listen (x : SideId) (seg : Segment) (iss : Seq) (mtu : U16) (t : Tcb)
    (hd : seg.hdr.dstPort = x.port)
    (h : segmentArrivesListen seg iss mtu = .ok (some (.Tcb t))) : TcbFresh t x := by
  obtain ⟨-, -, -, rfl⟩ := Tcb.segmentArrivesListen_tcb h
  exact ⟨nofun, nofun, hd, (fun _ hh => nomatch hh), List.forall_mem_singleton.2 hd⟩

theorem sysInv_gone (s : Sys) (x : SideId) (hi : SysInv s) : SysInv (s.gone x) :=
  sysInv_setSide s x _ hi fun _ e => nomatch e

theorem sysInv_arrive {s s' : Sys} {x : SideId} {seg : Segment} {r : Res} (hi : SysInv s)
    (hd : seg.hdr.dstPort = x.port) (a : s.Arrive x seg s' r) : SysInv s' := by
  cases a with
  | tcb ht h =>
    exact sysInv_update s x _ hi ht rfl
      ⟨freshKeep_segmentArrives _ _ seg (hi x _ ht).idle h, keep_segmentArrives _ _ seg _ h⟩
  | close => exact sysInv_gone s x hi
  | ignore | closed => exact hi
  | create _ _ h => exact sysInv_setSide s x _ hi fun t' e => by cases e; exact tcbFresh_listen x seg _ _ _ hd h
  | refuse | reset => exact sysInv_record s _ hi

theorem sysInv_step_dst {s s' : Sys} {op : Op} {r : Res} (hi : SysInv s)
    (hd : ∀ seg, op.segment s = some seg → seg.hdr.dstPort = op.side.port) (e : s.step op = .ok (s', r)) :
    SysInv s' := by
  cases step_iff.1 e with
  | «open» h => exact sysInv_setSide s _ _ hi fun t' e1 => by cases e1; exact tcbFresh_open _ _ _ _ h
  | listen => exact sysInv_setSide s _ _ hi (hi _)
  | noSeg | noTcb => exact hi
  | deliver hn a => exact sysInv_arrive hi (hd _ hn) a
  | inject a => exact sysInv_arrive hi (hd _ rfl) a
  | drop | expire => exact sysInv_gone s _ hi
  | write ht => exact sysInv_update s _ _ hi ht rfl (kept_send _ _)
  | read ht => exact sysInv_update s _ _ hi ht rfl (kept_receive _)
  | tick ht h => exact sysInv_update s _ _ hi ht rfl (kept_advanceTime _ _ _ _ h)
  | emit ht h =>
    exact sysInv_record _ _ (sysInv_update s _ _ hi ht rfl
      ⟨freshKeep_segments _ _ _ (hi _ _ ht).fresh h, (ports_segments _ _ _ h).1⟩)
  | close ht h => exact sysInv_update s _ _ hi ht rfl (kept_close _ _ _ h)
  | abort ht h => exact sysInv_update s _ _ hi ht rfl (kept_abort _ _ h)

/-- the genuine exclusions for a segment arriving at side `x`: it is addressed to `x` and comes
    from the peer's port; CLOSED (neither a TCB nor a LISTEN binding): not the `SEQ = 0` reset.
    Nothing is asked when the segment meets a TCB or a LISTEN binding. -/
def ArrExcl (s : Sys) (x : SideId) (seg : Segment) : Prop :=
  seg.hdr.srcPort = x.peer.port ∧ seg.hdr.dstPort = x.port ∧
  match (s.side x).tcb with
  | some _ => True
  | none =>
    match (s.side x).listen with
    | some _ => True
    | none => seg.hdr.ctl.rst = true ∨ seg.hdr.ctl.ack = true

def Excl (s : Sys) (op : Op) : Prop :=
  match op with
  | .deliver x i => ∀ seg, s.nth i = some seg → ArrExcl s x seg
  | .inject x seg => ArrExcl s x seg
  | _ => True

theorem sysInv_step (s s' : Sys) (op : Op) (r : Res) (hi : SysInv s) (he : Excl s op)
    (e : s.step op = .ok (s', r)) : SysInv s' := by
  refine sysInv_step_dst hi (fun seg hn => ?_) e
  cases op with
  | deliver => exact (he seg hn).2.1
  | inject => cases hn; exact he.2.1
  | _ => cases hn

/-- every op of the run meets the genuine exclusions only (evaluated along the original run) -/
def RunExcl : Sys → List Op → Prop
  | _, [] => True
  | s, op :: ops => Excl s op ∧ ∀ s' r, s.step op = .ok (s', r) → RunExcl s' ops

def arrExclB (s : Sys) (x : SideId) (seg : Segment) : Bool :=
  seg.hdr.srcPort == x.peer.port && seg.hdr.dstPort == x.port &&
  match (s.side x).tcb with
  | some _ => true
  | none =>
    match (s.side x).listen with
    | some _ => true
    | none => seg.hdr.ctl.rst || seg.hdr.ctl.ack

def exclB (s : Sys) (op : Op) : Bool :=
  match op with
  | .deliver x i =>
    match s.nth i with
    | some seg => arrExclB s x seg
    | none => true
  | .inject x seg => arrExclB s x seg
  | _ => true

def runExclB : Sys → List Op → Bool
  | _, [] => true
  | s, op :: ops =>
    exclB s op &&
    match s.step op with
    | .ok (s', _) => runExclB s' ops
    | .error _ => true

theorem arrExcl_of_B (s : Sys) (x : SideId) (seg : Segment) (h : arrExclB s x seg = true) : ArrExcl s x seg := by
  revert h
  unfold arrExclB ArrExcl
  cases (s.side x).tcb with
  | some t => simp
  | none => cases (s.side x).listen <;> simp [and_assoc]

theorem excl_of_B (s : Sys) (op : Op) (h : exclB s op = true) : Excl s op := by
  cases op with
  | deliver x i =>
    intro seg hn
    simp only [exclB, hn] at h
    exact arrExcl_of_B s x seg h
  | inject x seg => exact arrExcl_of_B s x seg h
  | _ => trivial

theorem runExcl_of_B (s : Sys) (ops : List Op) (h : runExclB s ops = true) : RunExcl s ops := by
  induction ops generalizing s with
  | nil => trivial
  | cons op ops ih =>
    unfold runExclB at h
    simp only [Bool.and_eq_true] at h
    refine ⟨excl_of_B s op h.1, fun s' r hs => ?_⟩
    have h2 := h.2
    rw [hs] at h2
    exact ih s' h2

end Elvis.Tcp
