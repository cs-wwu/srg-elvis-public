import ElvisVerif.Lemmas.Tcb
import ElvisVerif.Model.TcpSys
/-!
# `Model/Tcb.lean` read once: every block of `process_segment` and every call as equations and inversions

Each block is a `match` on the connection state whose arms repeat one body, so unfolding a block inside a proof
multiplies every case split by the number of arms.  Here each function of the model is re-read as an equation over
named pieces (`textTaken`, `finAdvance`, `ackTaken`, `aep`, `ackOut`, `synMoved`, `cutSegment`, `finQueued`, `markSent`,
`timerRun`, `openT`, `listenT` …), and `f … = .ok (s', r)` is inverted into the explicit shapes `s'` can have.  The
blocks are numbered in the order `process_segment` runs them: 1 `seqCheck` (acceptability), 2 `ackBlock`, 3 `rstBlock`,
4 `synBlock`, 5 `textBlock`, 6 `finBlock`; the file takes them in the order 5, 6, the acceptability test, 1, 3, 4, 2.

Besides the blocks: `segments()` (the loop as `cutSegment`/`segmentize_cut`, its frame `CutOnly`, the whole call as the
relation `Segs`), `close`, `abort`, `send` (stated with `sendAccepts` of `Model/TcpSys.lean`), `receive`,
`advance_time`, `open`, LISTEN, CLOSED; the pipeline forwards (`*_pass`, `processSegment_blocks/_plain/_stop1…4`) and with
a precondition per block (`processSegment_chain`); and the one-step equations with their error arms
(`processSegment_eq`, `drain_succ`, `segmentArrives_eq`, `segmentize_succ`) for the proofs that commute a map with
the model (C12, the one-shot queue), which are the only ones to unfold a model function elsewhere.
-/
namespace Elvis.Tcp.Tcb
open Elvis.ModCmp

/-! ## block 5: segment text -/

/-- the states in which block 5 looks at the segment text -/
def takesText : State → Bool
  | .Established | .SynSent | .SynReceived | .FinWait1 | .FinWait2 => true
  | _ => false

/-- `already_received.min(text_len)`: how much of the text lies below `RCV.NXT` -/
def alreadyReceived (s : Tcb) (seg : Hdr) (tl : Seq) : Seq :=
  if s.rcv.nxt - seg.seq - BitVec.ofNat 32 seg.ctl.syn.toNat ≤ tl
  then s.rcv.nxt - seg.seq - BitVec.ofNat 32 seg.ctl.syn.toNat else tl

/-- `accept`: the unreceived bytes that fit the space left in the receive buffer -/
def acceptLen (s : Tcb) (seg : Hdr) (tl : Seq) : Nat :=
  min (tl.toNat - (alreadyReceived s seg tl).toNat) (s.rcv.wnd.toNat - s.incoming.text.length % 4294967296)

/-- advance `RCV.NXT` over the accepted bytes and buffer them -/
def acceptText (s : Tcb) (n : Seq) (t : List UInt8) : Tcb :=
  { { s with rcv.nxt := s.rcv.nxt + n } with incoming.text := s.incoming.text ++ t }

/-- the TCB after block 5 has buffered what it can of `text` -/
def textBuffered (s : Tcb) (seg : Hdr) (text : List UInt8) (tl : Seq) : Tcb :=
  acceptText s (BitVec.ofNat 32 (acceptLen s seg tl))
    ((text.drop (alreadyReceived s seg tl).toNat).take (acceptLen s seg tl))

/-- the TCB after block 5: what it can take of `text` is buffered and the ACK queued -/
def textTaken (s : Tcb) (seg : Hdr) (text : List UInt8) (tl : Seq) : Tcb :=
  (textBuffered s seg text tl).enqueueBuilt (textBuffered s seg text tl).ackHdr.built

theorem alreadyReceived_toNat (s : Tcb) (seg : Hdr) (tl : Seq) :
    (alreadyReceived s seg tl).toNat =
      min (s.rcv.nxt - seg.seq - BitVec.ofNat 32 seg.ctl.syn.toNat).toNat tl.toNat := by
  unfold alreadyReceived
  split <;> rename_i h <;> rw [BitVec.le_def] at h <;> omega

theorem acceptLen_le (s : Tcb) (seg : Hdr) (tl : Seq) :
    acceptLen s seg tl ≤ tl.toNat - (alreadyReceived s seg tl).toNat := Nat.min_le_left _ _

theorem textBlock_eq (s : Tcb) (seg : Hdr) (text : List UInt8) (tl : Seq) :
    textBlock s seg text tl =
      if text.isEmpty || !takesText s.state then .ok (s, none) else
      if !(s.isInRcvWindow seg.seq || s.isInRcvWindow (seg.seq + tl)) then
        .error "panic:assert:process_segment.text_in_window" else
      if tl.toNat < (alreadyReceived s seg tl).toNat then .error "panic:sub-overflow:process_segment.unreceived" else
      if s.rcv.wnd.toNat < s.incoming.text.length % 4294967296 then
        .error "panic:sub-overflow:process_segment.space_available" else
      if (alreadyReceived s seg tl).toNat + acceptLen s seg tl ≥ 4294967296 then
        .error "panic:add-overflow:process_segment.slice_end" else
      if (alreadyReceived s seg tl).toNat + acceptLen s seg tl > text.length then
        .error "panic:assert:process_segment.slice" else
      .ok (textTaken s seg text tl, none) := by
  obtain ⟨lp, rp, mtu, ini, st, snd, rcv, out, inc, tmo⟩ := s
  unfold textBlock
  cases text.isEmpty
  · cases st <;> simp only [enqueueThen_eq] <;> rfl
  · rfl

/-- what a successful pass through block 5 that took text looked at, and what it left -/
structure TextTaken (s : Tcb) (seg : Hdr) (text : List UInt8) (tl : Seq) (s' : Tcb) : Prop where
  nonempty : text ≠ []
  state : takesText s.state = true
  window : (s.isInRcvWindow seg.seq || s.isInRcvWindow (seg.seq + tl)) = true
  already : (alreadyReceived s seg tl).toNat ≤ tl.toNat
  space : s.incoming.text.length % 4294967296 ≤ s.rcv.wnd.toNat
  slice : (alreadyReceived s seg tl).toNat + acceptLen s seg tl ≤ text.length
  eq : s' = textTaken s seg text tl

theorem textBlock_ok {s s' : Tcb} {seg : Hdr} {text : List UInt8} {tl : Seq} {r : Option ProcessSegmentResult}
    (e : textBlock s seg text tl = .ok (s', r)) : r = none ∧ (s' = s ∨ TextTaken s seg text tl s') := by
  rw [textBlock_eq] at e
  by_cases h0 : (text.isEmpty || !takesText s.state) = true
  · rw [if_pos h0] at e
    cases e
    exact ⟨rfl, Or.inl rfl⟩
  rw [if_neg h0] at e
  by_cases h1 : (!(s.isInRcvWindow seg.seq || s.isInRcvWindow (seg.seq + tl))) = true
  · rw [if_pos h1] at e; cases e
  rw [if_neg h1] at e
  by_cases h2 : tl.toNat < (alreadyReceived s seg tl).toNat
  · rw [if_pos h2] at e; cases e
  rw [if_neg h2] at e
  by_cases h3 : s.rcv.wnd.toNat < s.incoming.text.length % 4294967296
  · rw [if_pos h3] at e; cases e
  rw [if_neg h3] at e
  by_cases h4 : (alreadyReceived s seg tl).toNat + acceptLen s seg tl ≥ 4294967296
  · rw [if_pos h4] at e; cases e
  rw [if_neg h4] at e
  by_cases h5 : (alreadyReceived s seg tl).toNat + acceptLen s seg tl > text.length
  · rw [if_pos h5] at e; cases e
  rw [if_neg h5] at e
  cases e
  rw [Bool.or_eq_true, not_or, Bool.not_eq_true, Bool.not_eq_true, Bool.not_eq_false'] at h0
  rw [Bool.not_eq_true', Bool.not_eq_false] at h1
  exact ⟨rfl, Or.inr ⟨by intro h; simp [h] at h0, h0.2, h1, Nat.le_of_not_lt h2,
    Nat.le_of_not_lt h3, Nat.le_of_not_lt h5, rfl⟩⟩

theorem textBlock_taken {s : Tcb} {seg : Hdr} {text : List UInt8} {tl : Seq} (hne : text ≠ [])
    (hst : takesText s.state = true)
    (hw : (s.isInRcvWindow seg.seq || s.isInRcvWindow (seg.seq + tl)) = true)
    (ha : (alreadyReceived s seg tl).toNat ≤ tl.toNat)
    (hsp : s.incoming.text.length % 4294967296 ≤ s.rcv.wnd.toNat)
    (hwrap : (alreadyReceived s seg tl).toNat + acceptLen s seg tl < 4294967296)
    (hsl : (alreadyReceived s seg tl).toNat + acceptLen s seg tl ≤ text.length) :
    textBlock s seg text tl = .ok (textTaken s seg text tl, none) := by
  have hemp : text.isEmpty = false := by cases text with | nil => exact absurd rfl hne | cons a l => rfl
  rw [textBlock_eq, hemp, hst, hw, if_neg (by decide), if_neg (by decide), if_neg (Nat.not_lt.2 ha),
    if_neg (Nat.not_lt.2 hsp), if_neg (Nat.not_le.2 hwrap), if_neg (Nat.not_lt.2 hsl)]

/-! ## block 6: FIN -/

end Elvis.Tcp.Tcb
namespace Elvis.Tcp
open Elvis.ModCmp

def setRcvNxt (s : Tcb) (n : Seq) : Tcb := { s with rcv.nxt := n }

/-- "advance over the FIN and acknowledge it" -/
def finAdvance (s : Tcb) (seq tl : Seq) : Except String Tcb :=
  if s.state ≠ .SynSent then
    let lastTextByte := seq + tl
    if s.rcv.nxt = lastTextByte || s.rcv.nxt = lastTextByte + 1 then
      let s := { s with rcv.nxt := lastTextByte + 1 }
      s.enqueue s.ackHdr
    else .ok s
  else .ok s

/-- the state transition a FIN causes -/
def finState (s : Tcb) : Tcb.B :=
  match s.state with
  | .SynReceived | .Established => .ok ({ s with state := .CloseWait }, none)
  | .FinWait1 =>
    if s.isFinAcked then
      .ok ({ s with state := .TimeWait, timeouts.timeWait := some TIME_WAIT }, none)
    else .ok ({ s with state := .Closing }, none)
  | .FinWait2 =>
    .ok ({ s with state := .TimeWait, timeouts.timeWait := some TIME_WAIT,
                  timeouts.retransmission := RTO }, none)
  | .TimeWait => .ok ({ s with timeouts.timeWait := some TIME_WAIT }, none)
  | _ => .ok (s, none)

theorem finBlock_eq (s : Tcb) (seg : Hdr) (tl : Seq) :
    Tcb.finBlock s seg tl =
      if !seg.ctl.fin then .ok (s, none) else
      match finAdvance s seg.seq tl with
      | .error e => .error e
      | .ok s => finState s := rfl

theorem finAdvance_ok {s u : Tcb} {seq tl : Seq} (h : finAdvance s seq tl = .ok u) :
    u = s ∨ (s.state ≠ .SynSent ∧ (s.rcv.nxt = seq + tl ∨ s.rcv.nxt = seq + tl + 1) ∧
      u = (setRcvNxt s (seq + tl + 1)).enqueueBuilt (setRcvNxt s (seq + tl + 1)).ackHdr.built) := by
  unfold finAdvance at h
  split at h
  · rename_i hst
    dsimp only at h
    split at h
    · rename_i hc
      rw [Tcb.enqueue_eq] at h
      cases h
      exact Or.inr ⟨hst, by simpa using hc, rfl⟩
    · cases h; exact Or.inl rfl
  · cases h; exact Or.inl rfl

/-- the FIN transitions of RFC 9293 3.10.7.4, eighth -/
theorem finState_ok {s u : Tcb} {r : Option ProcessSegmentResult} (h : finState s = .ok (u, r)) :
    r = none ∧
    (((s.state = .SynReceived ∨ s.state = .Established) ∧ u = { s with state := .CloseWait }) ∨
     (s.state = .FinWait1 ∧ s.isFinAcked = true ∧
        u = { s with state := .TimeWait, timeouts.timeWait := some TIME_WAIT }) ∨
     (s.state = .FinWait1 ∧ s.isFinAcked = false ∧ u = { s with state := .Closing }) ∨
     (s.state = .FinWait2 ∧
        u = { s with state := .TimeWait, timeouts.timeWait := some TIME_WAIT, timeouts.retransmission := RTO }) ∨
     (s.state = .TimeWait ∧ u = { s with timeouts.timeWait := some TIME_WAIT }) ∨
     ((s.state = .SynSent ∨ s.state = .CloseWait ∨ s.state = .Closing ∨ s.state = .LastAck) ∧ u = s)) := by
  unfold finState at h
  split at h
  · cases h; exact ⟨rfl, Or.inl ⟨Or.inl ‹_›, rfl⟩⟩
  · cases h; exact ⟨rfl, Or.inl ⟨Or.inr ‹_›, rfl⟩⟩
  · split at h
    · cases h; exact ⟨rfl, Or.inr (Or.inl ⟨‹_›, ‹_›, rfl⟩)⟩
    · cases h; exact ⟨rfl, Or.inr (Or.inr (Or.inl ⟨‹_›, Bool.eq_false_iff.2 ‹_›, rfl⟩))⟩
  · cases h; exact ⟨rfl, Or.inr (Or.inr (Or.inr (Or.inl ⟨‹_›, rfl⟩)))⟩
  · cases h; exact ⟨rfl, Or.inr (Or.inr (Or.inr (Or.inr (Or.inl ⟨‹_›, rfl⟩))))⟩
  · cases h
    refine ⟨rfl, Or.inr (Or.inr (Or.inr (Or.inr (Or.inr ⟨?_, rfl⟩))))⟩
    cases hst : s.state <;> simp_all

theorem finBlock_ok {s u : Tcb} {seg : Hdr} {tl : Seq} {r : Option ProcessSegmentResult}
    (h : Tcb.finBlock s seg tl = .ok (u, r)) :
    r = none ∧ ((seg.ctl.fin = false ∧ u = s) ∨
      (seg.ctl.fin = true ∧ ∃ s1, finAdvance s seg.seq tl = .ok s1 ∧ finState s1 = .ok (u, none))) := by
  rw [finBlock_eq] at h
  split at h
  · rename_i hf
    cases h
    exact ⟨rfl, Or.inl ⟨by simpa using hf, rfl⟩⟩
  · rename_i hf
    cases hx : finAdvance s seg.seq tl with
    | error e => rw [hx] at h; cases h
    | ok s1 =>
      rw [hx] at h
      obtain ⟨rfl, -⟩ := finState_ok h
      exact ⟨rfl, Or.inr ⟨by simpa using hf, s1, rfl, h⟩⟩

end Elvis.Tcp
namespace Elvis.Tcp.Tcb
open Elvis.ModCmp

/-! ## the acceptability test -/

/-- the test of RFC 9293 table 6 for a segment that occupies `n` sequence numbers from `seq` -/
def acceptable (s : Tcb) (n : Nat) (seq : Seq) : Bool :=
  if n = 0 then
    if s.rcv.wnd = 0 then modBounded (s.rcv.nxt - 1) .Leq seq .Leq s.rcv.nxt else s.isInRcvWindow seq
  else if s.rcv.wnd = 0 then false
  else s.isInRcvWindow seq || s.isInRcvWindow (seq + BitVec.ofNat 32 n - 1)

theorem acceptable_zero {s : Tcb} {seq : Seq} (hw : s.rcv.wnd ≠ 0) : acceptable s 0 seq = s.isInRcvWindow seq := by
  unfold acceptable; rw [if_pos rfl, if_neg hw]

theorem acceptable_pos {s : Tcb} {n : Nat} {seq : Seq} (hn : n ≠ 0) (hw : s.rcv.wnd ≠ 0) :
    acceptable s n seq = (s.isInRcvWindow seq || s.isInRcvWindow (seq + BitVec.ofNat 32 n - 1)) := by
  unfold acceptable; rw [if_neg hn, if_neg hw]

theorem acceptable_first {s : Tcb} {seq : Seq} (hw : s.rcv.wnd ≠ 0) (h : s.isInRcvWindow seq = true) (n : Nat) :
    acceptable s n seq = true := by
  by_cases hn : n = 0
  · rw [hn, acceptable_zero hw, h]
  · rw [acceptable_pos hn hw, h, Bool.true_or]

theorem isSeqOk_eq (s : Tcb) (tl seq : Seq) (syn fin : Bool) :
    s.isSeqOk tl seq syn fin =
      if tl.toNat + fin.toNat + syn.toNat ≥ 4294967296 then .error "panic:add-overflow:is_seq_ok.seg_len"
      else .ok (acceptable s (tl.toNat + fin.toNat + syn.toNat) seq) := by
  unfold isSeqOk acceptable
  simp only [apply_ite (Except.ok (ε := String))]

theorem isSeqOk_nxt {s : Tcb} {tl : Seq} {syn fin : Bool} (hw : s.rcv.wnd ≠ 0)
    (hlen : tl.toNat + fin.toNat + syn.toNat < 4294967296) : s.isSeqOk tl s.rcv.nxt syn fin = .ok true := by
  rw [isSeqOk_eq, if_neg (Nat.not_le.2 hlen), acceptable_first hw (isInRcvWindow_nxt hw)]

theorem isSeqOk_pred {s : Tcb} {seq : Seq} {syn : Bool} (hw : s.rcv.wnd ≠ 0) (h : seq + 1 = s.rcv.nxt) :
    s.isSeqOk 0 seq syn false = .ok true := by
  rw [isSeqOk_eq, if_neg (by cases syn <;> decide), acceptable_first hw (isInRcvWindow_pred h)]

theorem isSeqOk_congr {t u : Tcb} (h : u.rcv = t.rcv) (tl seq : Seq) (syn fin : Bool) :
    u.isSeqOk tl seq syn fin = t.isSeqOk tl seq syn fin := by
  rw [isSeqOk_eq, isSeqOk_eq]
  unfold acceptable
  rw [isInRcvWindow_congr h, isInRcvWindow_congr h, h]

/-! ## blocks 1, 3 and 4 -/

theorem seqCheck_ok {s u : Tcb} {seg : Hdr} {tl : Seq} {r : Option ProcessSegmentResult}
    (h : seqCheck s seg tl = .ok (u, r)) :
    (u = s ∧ r = none ∧ (s.state = .SynSent ∨ s.isSeqOk tl seg.seq seg.ctl.syn seg.ctl.fin = .ok true)) ∨
    (s.state ≠ .SynSent ∧ s.isSeqOk tl seg.seq seg.ctl.syn seg.ctl.fin = .ok false ∧
      u = s.enqueueBuilt s.ackHdr.built ∧ r = some .DiscardSegment) := by
  unfold seqCheck at h
  split at h
  · cases h; exact Or.inl ⟨rfl, rfl, Or.inl ‹_›⟩
  · rename_i hst
    have hst' : s.state ≠ .SynSent := fun hx => hst hx
    split at h
    · cases h
    · cases h; exact Or.inl ⟨rfl, rfl, Or.inr ‹_›⟩
    · rw [enqueueThen_eq] at h
      cases h
      exact Or.inr ⟨hst', ‹_›, rfl, rfl⟩

theorem seqCheck_none {t t' : Tcb} {seg : Hdr} {tl : Seq}
    (e : seqCheck t seg tl = .ok (t', none)) : t' = t :=
  (seqCheck_ok e).elim (·.1) fun h => nomatch h.2.2.2

theorem rstBlock_ok {s u : Tcb} {seg : Hdr} {r : Option ProcessSegmentResult}
    (h : rstBlock s seg = .ok (u, r)) : u = s ∧ (r = none ↔ seg.ctl.rst = false) := by
  unfold rstBlock at h
  split at h
  · rename_i hr
    cases h
    exact ⟨rfl, by simpa using hr⟩
  · rename_i hr
    have hr' : seg.ctl.rst = true := by simpa using hr
    have key : u = s ∧ r ≠ none := by
      repeat' split at h
      all_goals (cases h; exact ⟨rfl, nofun⟩)
    exact ⟨key.1, by simp [hr', key.2]⟩

/-- block 3 as a function of the state, the way the connection was opened, the ACK bit and whether the RST sits at
    `RCV.NXT` -/
def rstResult (s : Tcb) (seg : Hdr) : ProcessSegmentResult :=
  match s.state with
  | .SynSent =>
    if !seg.ctl.ack then .DiscardSegment else if seg.seq = s.rcv.nxt then .ConnectionReset else .BlindReset
  | .SynReceived =>
    match s.initiation with
    | .Listen => .ReturnToListen
    | .Open => .ConnectionRefused
  | .Established | .FinWait1 | .FinWait2 | .CloseWait => .ConnectionReset
  | .Closing | .LastAck | .TimeWait => .FinalizeClose

theorem rstBlock_eq (s : Tcb) (seg : Hdr) :
    rstBlock s seg = .ok (s, if seg.ctl.rst then some (rstResult s seg) else none) := by
  unfold rstBlock rstResult
  cases seg.ctl.rst
  · rfl
  · rw [if_neg (by decide), if_pos rfl]
    cases hs : s.state
    case SynSent =>
      dsimp only
      by_cases ha : (!seg.ctl.ack) = true
      · rw [if_pos ha, if_pos ha]
      · rw [if_neg ha, if_neg ha]
        split <;> rfl
    case SynReceived => dsimp only; cases s.initiation <;> rfl
    all_goals rfl

/-- the TCB of SYN-SENT after the peer's SYN has been taken in, before the state changes -/
def synTaken (s : Tcb) (seg : Hdr) : Tcb :=
  { s with rcv.irs := seg.seq, rcv.nxt := seg.seq + 1, snd.wnd := seg.wnd, snd.wl1 := seg.seq,
           snd.wl2 := if seg.ctl.ack then seg.ack else s.snd.iss }

/-- the SYN,ACK of a simultaneous open -/
def synAckHdr (s : Tcb) : Hdr := (((s.headerBuilder s.snd.iss).withSyn).withAck s.rcv.nxt).withWnd s.rcv.wnd

def synMoved (s : Tcb) (seg : Hdr) (st : State) : Tcb := { synTaken s seg with state := st }

theorem synBlock_eq (s : Tcb) (seg : Hdr) :
    synBlock s seg =
      if !seg.ctl.syn then (if s.state = .SynSent then .ok (s, some .DiscardSegment) else .ok (s, none))
      else if s.state = .SynSent then
        if modGt s.snd.una s.snd.iss then
          enqueueThen (synMoved s seg .Established) (synMoved s seg .Established).ackHdr fun s => .ok (s, none)
        else
          enqueueThen (synMoved s seg .SynReceived) (synMoved s seg .SynReceived).synAckHdr
            fun s => .ok (s, some .Success)
      else enqueueThen s s.ackHdr fun s => .ok (s, some .DiscardSegment) := by
  obtain ⟨lp, rp, mtu, ini, st, snd, rcv, out, inc, tmo⟩ := s
  unfold synBlock
  cases seg.ctl.syn
  · rfl
  · cases st <;> rfl

theorem synBlock_ok {s u : Tcb} {seg : Hdr} {r : Option ProcessSegmentResult}
    (h : synBlock s seg = .ok (u, r)) :
    (seg.ctl.syn = false ∧ u = s ∧
      ((s.state = .SynSent ∧ r = some .DiscardSegment) ∨ (s.state ≠ .SynSent ∧ r = none))) ∨
    (seg.ctl.syn = true ∧ s.state ≠ .SynSent ∧ u = s.enqueueBuilt s.ackHdr.built ∧ r = some .DiscardSegment) ∨
    (seg.ctl.syn = true ∧ s.state = .SynSent ∧ modGt s.snd.una s.snd.iss = true ∧ r = none ∧
      u = ({ synTaken s seg with state := .Established } : Tcb).enqueueBuilt
            ({ synTaken s seg with state := .Established } : Tcb).ackHdr.built) ∨
    (seg.ctl.syn = true ∧ s.state = .SynSent ∧ modGt s.snd.una s.snd.iss = false ∧ r = some .Success ∧
      u = ({ synTaken s seg with state := .SynReceived } : Tcb).enqueueBuilt
            ((((s.headerBuilder s.snd.iss).withSyn).withAck (seg.seq + 1)).withWnd s.rcv.wnd).built) := by
  rw [synBlock_eq] at h
  cases hs : seg.ctl.syn with
  | false =>
    rw [hs, Bool.not_false, if_pos rfl] at h
    by_cases hst : s.state = .SynSent
    · rw [if_pos hst] at h; cases h; exact Or.inl ⟨rfl, rfl, Or.inl ⟨hst, rfl⟩⟩
    · rw [if_neg hst] at h; cases h; exact Or.inl ⟨rfl, rfl, Or.inr ⟨hst, rfl⟩⟩
  | true =>
    rw [hs, Bool.not_true, if_neg Bool.false_ne_true] at h
    by_cases hst : s.state = .SynSent
    · rw [if_pos hst] at h
      by_cases hg : modGt s.snd.una s.snd.iss = true
      · rw [if_pos hg, enqueueThen_eq] at h
        cases h
        exact Or.inr (Or.inr (Or.inl ⟨rfl, hst, hg, rfl, rfl⟩))
      · rw [if_neg hg, enqueueThen_eq] at h
        cases h
        exact Or.inr (Or.inr (Or.inr ⟨rfl, hst, Bool.eq_false_iff.2 hg, rfl, rfl⟩))
    · rw [if_neg hst, enqueueThen_eq] at h
      cases h
      exact Or.inr (Or.inl ⟨rfl, hst, rfl, rfl⟩)

theorem synBlock_established {s : Tcb} {seg : Hdr} (hsyn : seg.ctl.syn = true) (hst : s.state = .SynSent)
    (h : modGt s.snd.una s.snd.iss = true) :
    synBlock s seg =
      .ok ((synMoved s seg .Established).enqueueBuilt (synMoved s seg .Established).ackHdr.built, none) := by
  rw [synBlock_eq, hsyn, Bool.not_true, if_neg Bool.false_ne_true, if_pos hst, if_pos h, enqueueThen_eq]

theorem synBlock_synReceived {s : Tcb} {seg : Hdr} (hsyn : seg.ctl.syn = true) (hst : s.state = .SynSent)
    (h : modGt s.snd.una s.snd.iss = false) :
    synBlock s seg =
      .ok ((synMoved s seg .SynReceived).enqueueBuilt (synMoved s seg .SynReceived).synAckHdr.built, some .Success) := by
  rw [synBlock_eq, hsyn, Bool.not_true, if_neg Bool.false_ne_true, if_pos hst, if_neg (by rw [h]; decide), enqueueThen_eq]

/-! ## block 2: ACK

Block 2 never panics, so it is read as a function `ackOut` over named pieces (`ackBlock_eq`); `ackOut` is then read
state by state, for an inversion as for an evaluation. -/

theorem ackBlock_noAck {s : Tcb} {seg : Hdr} (h : seg.ctl.ack = false) : ackBlock s seg = .ok (s, none) := by
  unfold ackBlock
  rw [h]
  rfl

/-- `SND.UNA := ack`, and what `ack` acknowledges taken off the retransmission queue -/
def ackTaken (s : Tcb) (ack : Seq) : Tcb :=
  ({ s with snd.una := ack } : Tcb).removeAckedFromRetransmission ack

theorem ackTaken_eq (s : Tcb) (ack : Seq) :
    ackTaken s ack =
      { s with snd.una := ack,
               outgoing.retransmit := s.outgoing.retransmit.filter fun t =>
                 modLt ack (t.segment.hdr.seq + BitVec.ofNat 32 t.segment.segLen) } := rfl

/-- the window update a new ACK may bring: "SND.WL1 < SEG.SEQ, or equal and SND.WL2 ≤ SEG.ACK" -/
def wndTaken (s : Tcb) (seg : Hdr) : Tcb :=
  if modLt s.snd.wl1 seg.seq || (s.snd.wl1 == seg.seq && modLeq s.snd.wl2 seg.ack) then
    { s with snd.wnd := seg.wnd, snd.wl1 := seg.seq, snd.wl2 := seg.ack }
  else s

theorem wndTaken_frame (s : Tcb) (seg : Hdr) :
    (wndTaken s seg).state = s.state ∧ (wndTaken s seg).rcv = s.rcv ∧ (wndTaken s seg).outgoing = s.outgoing ∧
    (wndTaken s seg).incoming = s.incoming ∧ (wndTaken s seg).timeouts = s.timeouts ∧
    (wndTaken s seg).snd.una = s.snd.una ∧ (wndTaken s seg).snd.nxt = s.snd.nxt ∧ (wndTaken s seg).snd.iss = s.snd.iss ∧
    (wndTaken s seg).mtu = s.mtu ∧ (wndTaken s seg).initiation = s.initiation ∧
    (wndTaken s seg).localPort = s.localPort ∧ (wndTaken s seg).remotePort = s.remotePort := by
  unfold wndTaken
  split <;> exact ⟨rfl, rfl, rfl, rfl, rfl, rfl, rfl, rfl, rfl, rfl, rfl, rfl⟩

/-- `ack_established_processing` as a function: an old ACK is ignored, a new one is taken and may bring a window
    update, an ACK of something not yet sent is answered by an ACK -/
def aep (s : Tcb) (seg : Hdr) : Tcb × ProcessSegmentResult :=
  if modLeq seg.ack s.snd.una then (s, .Success)
  else if modBounded s.snd.una .Lt seg.ack .Leq s.snd.nxt then (wndTaken (ackTaken s seg.ack) seg, .Success)
  else (s.enqueueBuilt s.ackHdr.built, .InvalidAck)

theorem ackEstablishedProcessing_eq (s : Tcb) (seg : Hdr) : s.ackEstablishedProcessing seg = .ok (aep s seg) := by
  unfold ackEstablishedProcessing aep
  split
  · rfl
  · split
    · rename_i hb
      rw [if_neg (by simpa using hb), enqueue_eq]
    · rename_i hb
      rw [if_pos (by simpa using hb)]
      rfl

theorem aep_old {s : Tcb} {seg : Hdr} (h : modLeq seg.ack s.snd.una = true) : aep s seg = (s, .Success) := if_pos h

theorem aep_new {s : Tcb} {seg : Hdr} (h1 : modLeq seg.ack s.snd.una = false)
    (h2 : modBounded s.snd.una .Lt seg.ack .Leq s.snd.nxt = true) :
    aep s seg = (wndTaken (ackTaken s seg.ack) seg, .Success) := by
  unfold aep
  rw [if_neg (by simp [h1]), if_pos h2]

theorem aep_cases (s : Tcb) (seg : Hdr) :
    ((aep s seg).1 = s ∧ (aep s seg).2 = .Success) ∨
    ((aep s seg).1 = s.enqueueBuilt s.ackHdr.built ∧ (aep s seg).2 = .InvalidAck) ∨
    (modBounded s.snd.una .Lt seg.ack .Leq s.snd.nxt = true ∧ (aep s seg).2 = .Success ∧
      ((aep s seg).1 = ackTaken s seg.ack ∨
       (aep s seg).1 = { ackTaken s seg.ack with snd.wnd := seg.wnd, snd.wl1 := seg.seq, snd.wl2 := seg.ack })) := by
  unfold aep
  split
  · exact Or.inl ⟨rfl, rfl⟩
  · split
    · rename_i hb
      refine Or.inr (Or.inr ⟨hb, rfl, ?_⟩)
      unfold wndTaken
      split
      · exact Or.inr rfl
      · exact Or.inl rfl
    · exact Or.inr (Or.inl ⟨rfl, rfl⟩)

theorem ackEstablishedProcessing_ok {s u : Tcb} {seg : Hdr} {r : ProcessSegmentResult}
    (h : s.ackEstablishedProcessing seg = .ok (u, r)) :
    (u = s ∧ r = .Success) ∨ (u = s.enqueueBuilt s.ackHdr.built ∧ r = .InvalidAck) ∨
    (modBounded s.snd.una .Lt seg.ack .Leq s.snd.nxt = true ∧ r = .Success ∧
      (u = ackTaken s seg.ack ∨
       u = { ackTaken s seg.ack with snd.wnd := seg.wnd, snd.wl1 := seg.seq, snd.wl2 := seg.ack })) := by
  have e : aep s seg = (u, r) := Except.ok.inj ((ackEstablishedProcessing_eq s seg).symm.trans h)
  have c := aep_cases s seg
  rw [e] at c
  exact c

/-- what a result of `ack_established_processing` is (to be preferred to `cases` on the equation, which would
    unfold `aep`) -/
theorem aep_of_ok {s u : Tcb} {seg : Hdr} {r : ProcessSegmentResult} (h : s.ackEstablishedProcessing seg = .ok (u, r)) :
    (aep s seg).1 = u ∧ (aep s seg).2 = r := by
  have e : aep s seg = (u, r) := Except.ok.inj ((ackEstablishedProcessing_eq s seg).symm.trans h)
  rw [e]
  exact ⟨rfl, rfl⟩

theorem aep_state (s : Tcb) (seg : Hdr) : (aep s seg).1.state = s.state := by
  rcases aep_cases s seg with ⟨e, -⟩ | ⟨e, -⟩ | ⟨-, -, e | e⟩ <;> rw [e]
  · exact (enqueueBuilt_frame _ _).state
  · rfl
  · rfl

/-- the TCB of SYN-RECEIVED when the peer acknowledges our SYN, before the ACK is processed as in ESTABLISHED -/
def synAcked (s : Tcb) (seg : Hdr) : Tcb :=
  { s with state := .Established, snd.wnd := seg.wnd, snd.wl1 := seg.seq, snd.wl2 := seg.ack }

/-- what block 2 returns after `ack_established_processing` returned `r1`: `Success` falls through -/
def ackResult (r1 : ProcessSegmentResult) : Option ProcessSegmentResult := if r1 = .Success then none else some r1

/-- block 2 in SYN-SENT (RFC 9293 3.10.7.3, first): an ACK outside `(ISS, SND.NXT]` is answered by a RST unless the
    segment carries one; one in `(ISS, SND.UNA]` is answered by a RST in any case; an acceptable one is taken if the
    SYN comes with it -/
def ackSynSent (s : Tcb) (seg : Hdr) : Tcb × Option ProcessSegmentResult :=
  if modBounded s.snd.nxt .Lt seg.ack .Leq s.snd.iss then
    if seg.ctl.rst then (s, some .DiscardSegment) else (s.enqueueBuilt (s.rstForAck seg).built, some .InvalidAck)
  else if modBounded s.snd.una .Lt seg.ack .Leq s.snd.nxt then
    if seg.ctl.syn then (ackTaken s seg.ack, none) else (s, none)
  else (s.enqueueBuilt (s.rstForAck seg).built, some .InvalidAck)

theorem ackSynSent_cases (s : Tcb) (seg : Hdr) :
    (seg.ctl.rst = true ∧ modBounded s.snd.nxt .Lt seg.ack .Leq s.snd.iss = true ∧
      ackSynSent s seg = (s, some .DiscardSegment)) ∨
    ((modBounded s.snd.nxt .Lt seg.ack .Leq s.snd.iss = true ∨
        modBounded s.snd.una .Lt seg.ack .Leq s.snd.nxt = false) ∧
      ackSynSent s seg = (s.enqueueBuilt (s.rstForAck seg).built, some .InvalidAck)) ∨
    (modBounded s.snd.nxt .Lt seg.ack .Leq s.snd.iss = false ∧
      modBounded s.snd.una .Lt seg.ack .Leq s.snd.nxt = true ∧
      ((seg.ctl.syn = true ∧ ackSynSent s seg = (ackTaken s seg.ack, none)) ∨
        (seg.ctl.syn = false ∧ ackSynSent s seg = (s, none)))) := by
  unfold ackSynSent
  cases b1 : modBounded s.snd.nxt .Lt seg.ack .Leq s.snd.iss with
  | true =>
    cases hr : seg.ctl.rst with
    | true => exact .inl ⟨rfl, rfl, rfl⟩
    | false => exact .inr (.inl ⟨.inl rfl, rfl⟩)
  | false =>
    cases b2 : modBounded s.snd.una .Lt seg.ack .Leq s.snd.nxt with
    | false => exact .inr (.inl ⟨.inr rfl, rfl⟩)
    | true =>
      cases hs : seg.ctl.syn with
      | true => exact .inr (.inr ⟨rfl, rfl, .inl ⟨rfl, rfl⟩⟩)
      | false => exact .inr (.inr ⟨rfl, rfl, .inr ⟨rfl, rfl⟩⟩)

/-- what block 2 makes of the result of `ack_established_processing`, by the state it was entered in: FIN-WAIT-1
    and CLOSING move on and LAST-ACK finishes once our FIN is acknowledged -/
def ackExit (st : State) (v : Tcb × ProcessSegmentResult) : Tcb × Option ProcessSegmentResult :=
  match st with
  | .FinWait1 => (if v.1.isFinAcked then { v.1 with state := .FinWait2 } else v.1, ackResult v.2)
  | .Closing =>
    (if v.1.isFinAcked then { v.1 with state := .TimeWait, timeouts.timeWait := some TIME_WAIT } else v.1, ackResult v.2)
  | .LastAck => (v.1, if v.1.isFinAcked then some .FinalizeClose else ackResult v.2)
  | _ => (v.1, ackResult v.2)

def ackOut (s : Tcb) (seg : Hdr) : Tcb × Option ProcessSegmentResult :=
  if !seg.ctl.ack then (s, none) else
  match s.state with
  | .SynSent => ackSynSent s seg
  | .TimeWait => (s, none)
  | .SynReceived =>
    if modBounded s.snd.una .Lt seg.ack .Leq s.snd.nxt then ackExit .SynReceived (aep (synAcked s seg) seg)
    else (s.enqueueBuilt (s.rstForAck seg).built, none)
  | st => ackExit st (aep s seg)

theorem afterAck_ok (v : Tcb × ProcessSegmentResult) (k : Tcb → ProcessSegmentResult → B) :
    afterAckEstablished (.ok v) k = k v.1 v.2 := rfl

theorem ok_ackResult (u : Tcb) (r : ProcessSegmentResult) :
    (if r = .Success then .ok (u, none) else .ok (u, some r) : B) = .ok (u, ackResult r) := by
  unfold ackResult
  split <;> rfl

theorem ackBlock_eq (s : Tcb) (seg : Hdr) : ackBlock s seg = .ok (ackOut s seg) := by
  obtain ⟨lp, rp, mtu, ini, st, snd, rcv, out, inc, tmo⟩ := s
  unfold ackBlock ackOut
  split
  · rfl
  · cases st <;> dsimp only <;>
      simp only [ackEstablishedProcessing_eq, afterAck_ok, ok_ackResult, enqueueThen_eq]
    · unfold ackSynSent
      split
      · split <;> rfl
      · split
        · split <;> rfl
        · rfl
    · split <;> rfl
    all_goals first | rfl | (unfold ackExit; dsimp only; split <;> rfl)

theorem ackOut_of_ok {s u : Tcb} {seg : Hdr} {r : Option ProcessSegmentResult} (h : ackBlock s seg = .ok (u, r)) :
    (ackOut s seg).1 = u ∧ (ackOut s seg).2 = r := by
  have e : ackOut s seg = (u, r) := Except.ok.inj ((ackBlock_eq s seg).symm.trans h)
  rw [e]
  exact ⟨rfl, rfl⟩

theorem ackOut_synSent {s : Tcb} {seg : Hdr} (ha : seg.ctl.ack = true) (hst : s.state = .SynSent) :
    ackOut s seg = ackSynSent s seg := by
  unfold ackOut
  rw [if_neg (by simp [ha]), hst]

theorem ackOut_synReceived {s : Tcb} {seg : Hdr} (ha : seg.ctl.ack = true) (hst : s.state = .SynReceived) :
    ackOut s seg =
      if modBounded s.snd.una .Lt seg.ack .Leq s.snd.nxt then
        ((aep (synAcked s seg) seg).1, ackResult (aep (synAcked s seg) seg).2)
      else (s.enqueueBuilt (s.rstForAck seg).built, none) := by
  unfold ackOut
  rw [if_neg (by simp [ha]), hst]
  rfl

theorem ackOut_timeWait {s : Tcb} {seg : Hdr} (hst : s.state = .TimeWait) : ackOut s seg = (s, none) := by
  unfold ackOut
  rw [hst]
  split <;> rfl

theorem ackOut_synchronized {s : Tcb} {seg : Hdr} (ha : seg.ctl.ack = true) (h1 : s.state ≠ .SynSent)
    (h2 : s.state ≠ .SynReceived) (h3 : s.state ≠ .TimeWait) : ackOut s seg = ackExit s.state (aep s seg) := by
  unfold ackOut
  rw [if_neg (by simp [ha])]
  split <;> first | rfl | contradiction

theorem ackExit_cases (st : State) (v : Tcb × ProcessSegmentResult) :
    ((st = .LastAck ∧ v.1.isFinAcked = true ∧ (ackExit st v).2 = some .FinalizeClose) ∨
      ((st ≠ .LastAck ∨ v.1.isFinAcked = false) ∧ (ackExit st v).2 = ackResult v.2)) ∧
    ((ackExit st v).1 = v.1 ∨ (st = .FinWait1 ∧ v.1.isFinAcked = true ∧ (ackExit st v).1 = { v.1 with state := .FinWait2 }) ∨
      (st = .Closing ∧ v.1.isFinAcked = true ∧
        (ackExit st v).1 = { v.1 with state := .TimeWait, timeouts.timeWait := some TIME_WAIT })) := by
  cases hf : v.1.isFinAcked <;> cases st <;> simp [ackExit, hf]

theorem synBlock_total (s : Tcb) (seg : Hdr) : ∃ u r, synBlock s seg = .ok (u, r) := by
  rw [synBlock_eq]
  simp only [enqueueThen_eq]
  split
  · split <;> exact ⟨_, _, rfl⟩
  · split
    · split <;> exact ⟨_, _, rfl⟩
    · exact ⟨_, _, rfl⟩

theorem finBlock_total (s : Tcb) (seg : Hdr) (tl : Seq) : ∃ u r, finBlock s seg tl = .ok (u, r) := by
  have hs : ∀ t : Tcb, ∃ u r, finState t = .ok (u, r) := fun t => by
    unfold finState
    split
    · exact ⟨_, _, rfl⟩
    · exact ⟨_, _, rfl⟩
    · split <;> exact ⟨_, _, rfl⟩
    all_goals exact ⟨_, _, rfl⟩
  have ha : ∃ s1, finAdvance s seg.seq tl = .ok s1 := by
    unfold finAdvance
    split
    · dsimp only
      split
      · rw [enqueue_eq]; exact ⟨_, rfl⟩
      · exact ⟨_, rfl⟩
    · exact ⟨_, rfl⟩
  obtain ⟨s1, e1⟩ := ha
  rw [finBlock_eq, e1]
  split
  · exact ⟨_, _, rfl⟩
  · exact hs s1

/-! ## `segments()` -/

/-- the states in which `segments()` cuts queued text into segments -/
def segmentizes : State → Bool
  | .SynSent | .SynReceived | .Established | .CloseWait | .FinWait1 | .Closing | .LastAck => true
  | _ => false

theorem segmentizeIfOpen_eq (s : Tcb) :
    segmentizeIfOpen s =
      if segmentizes s.state then
        if s.mtu.toNat < SPACE_FOR_HEADERS then .error "panic:sub-overflow:segments.max_segment_length"
        else segmentize (s.mtu.toNat - SPACE_FOR_HEADERS) (s.outgoing.text.length + 1) s s.outgoing.queuedBytes
      else .ok s := by
  obtain ⟨lp, rp, mtu, ini, st, snd, rcv, out, inc, tmo⟩ := s
  unfold segmentizeIfOpen
  cases st <;> rfl

theorem segmentizeIfOpen_ok {s u : Tcb} (h : segmentizeIfOpen s = .ok u) :
    u = s ∨ (segmentizes s.state = true ∧ ¬ s.mtu.toNat < SPACE_FOR_HEADERS ∧
      segmentize (s.mtu.toNat - SPACE_FOR_HEADERS) (s.outgoing.text.length + 1) s s.outgoing.queuedBytes = .ok u) := by
  rw [segmentizeIfOpen_eq] at h
  split at h
  · rename_i hs
    split at h
    · cases h
    · rename_i hm
      exact Or.inr ⟨hs, hm, h⟩
  · cases h; exact Or.inl rfl

/-- how many bytes one round of the segmentization loop cuts: at most a segment, what the peer's window leaves
    after the `q` bytes already queued, and what there is -/
def cutLen (m : Nat) (s : Tcb) (q : Nat) : Nat := min (min m (s.snd.wnd.toNat - q)) s.outgoing.text.length

/-- the TCB after one round of the segmentization loop has cut `n` bytes -/
def cutSegment (s : Tcb) (n : Nat) : Tcb :=
  { s with outgoing.text := s.outgoing.text.drop n,
           snd.nxt := s.snd.nxt + BitVec.ofNat 32 (s.outgoing.text.take n).length,
           outgoing.retransmit :=
             s.outgoing.retransmit ++ [Transmit.new ⟨s.ackHdr.built, s.outgoing.text.take n⟩] }

/-- one round of the loop; with segments short enough for `TcpHeaderBuilder::build` it cannot panic -/
theorem segmentize_cut (m : Nat) (hm : m + BASE_HEADER_OCTETS ≤ 65535) (n : Nat) (s : Tcb) (q : Nat) :
    segmentize m (n + 1) s q =
      if cutLen m s q = 0 then .ok s else segmentize m n (cutSegment s (cutLen m s q)) (q + cutLen m s q) := by
  have hlen : (s.outgoing.text.take (cutLen m s q)).length + BASE_HEADER_OCTETS ≤ 65535 := by
    rw [List.length_take]
    have : cutLen m s q ≤ m := Nat.le_trans (Nat.min_le_left _ _) (Nat.min_le_left _ _)
    omega
  conv => lhs; unfold segmentize
  dsimp only
  rw [show min (min m (s.snd.wnd.toNat - q)) s.outgoing.text.length = cutLen m s q from rfl, Hdr.build_eq _ _ hlen]
  rfl

theorem segmentize_idle (m fuel : Nat) {s : Tcb} {q : Nat} (h : cutLen m s q = 0) : segmentize m fuel s q = .ok s := by
  cases fuel with
  | zero => rfl
  | succ n => exact if_pos h

theorem segmentize_induct {R : Nat → Tcb → Tcb → Prop} (m : Nat) (refl : ∀ q s, R q s s)
    (step : ∀ {q : Nat} {s s' : Tcb} (bytes : Nat), 0 < bytes → bytes ≤ s.outgoing.text.length → bytes ≤ m →
      bytes ≤ s.snd.wnd.toNat - q → R (q + bytes) (cutSegment s bytes) s' → R q s s')
    (fuel : Nat) {s s' : Tcb} {q : Nat} (e : segmentize m fuel s q = .ok s') : R q s s' := by
  induction fuel generalizing s q with
  | zero => cases e; exact refl _ _
  | succ n ih =>
    unfold segmentize at e
    dsimp only at e
    split at e
    · cases e; exact refl _ _
    · rename_i hb
      split at e
      · cases e
      · rename_i header hbuild
        have hh : header = s.ackHdr.built := by
          unfold Hdr.build at hbuild
          split at hbuild
          · cases hbuild
          · exact (Option.some.inj hbuild).symm
        subst hh
        exact step _ (Nat.pos_of_ne_zero hb) (Nat.min_le_right _ _)
          (Nat.le_trans (Nat.min_le_left _ _) (Nat.min_le_left _ _))
          (Nat.le_trans (Nat.min_le_left _ _) (Nat.min_le_right _ _)) (ih e)

theorem segmentize_lift {R : Tcb → Tcb → Prop} (refl : ∀ s, R s s)
    (step : ∀ {s s' : Tcb} (bytes : Nat), 0 < bytes → bytes ≤ s.outgoing.text.length →
      R (cutSegment s bytes) s' → R s s')
    (maxSeg fuel : Nat) {s s' : Tcb} {q : Nat} (e : segmentize maxSeg fuel s q = .ok s') : R s s' :=
  segmentize_induct (R := fun _ => R) maxSeg (fun _ => refl) (fun n h0 hl _ _ k => step n h0 hl k) fuel e

/-- the FIN queued behind everything sent so far -/
def finQueued (s : Tcb) : Tcb :=
  { s.enqueueBuilt s.finHdr.built with snd.nxt := (s.enqueueBuilt s.finHdr.built).snd.nxt + 1 }

theorem queueFin_finQueued (s : Tcb) : s.queueFin = .ok (if s.outgoing.text.isEmpty then finQueued s else s) := by
  unfold queueFin
  rw [enqueue_eq]
  split <;> rfl

theorem finQueued_eq (s : Tcb) :
    finQueued s = { s with snd.nxt := s.snd.nxt + 1,
                           outgoing.retransmit := s.outgoing.retransmit ++ [Transmit.new ⟨s.finHdr.built, []⟩] } := by
  unfold finQueued enqueueBuilt
  rw [if_pos (by simp [finHdr, Hdr.built, Hdr.withFin, Hdr.withAck, Hdr.withWnd])]

theorem finQueued_retransmit (s : Tcb) :
    (finQueued s).outgoing.retransmit = s.outgoing.retransmit ++ [Transmit.new ⟨s.finHdr.built, []⟩] := by
  rw [finQueued_eq]

theorem finIfPending_eq (b : Bool) (s : Tcb) :
    finIfPending b s = .ok (if b && s.outgoing.text.isEmpty then finQueued s else s) := by
  unfold finIfPending
  cases b
  · rfl
  · rw [if_pos rfl, queueFin_finQueued, Bool.true_and]

end Elvis.Tcp.Tcb
namespace Elvis.Tcp

def clearOneshot (s : Tcb) : Tcb := { s with outgoing.oneshot := [] }

/-- the bookkeeping at the end of `segments()`: the flags are cleared, and the timer is re-armed unless nothing was
    handed out (`idle`) -/
def markSent (s : Tcb) (idle : Bool) : Tcb :=
  let s := { s with outgoing.retransmit := s.outgoing.retransmit.map fun t => { t with needsTransmit := false } }
  if idle then s else { s with timeouts.retransmission := RTO }

theorem markSent_frame (s : Tcb) (idle : Bool) :
    (markSent s idle).state = s.state ∧ (markSent s idle).snd = s.snd ∧ (markSent s idle).rcv = s.rcv ∧
    (markSent s idle).incoming = s.incoming ∧ (markSent s idle).timeouts.timeWait = s.timeouts.timeWait ∧
    (markSent s idle).outgoing.text = s.outgoing.text ∧ (markSent s idle).outgoing.oneshot = s.outgoing.oneshot ∧
    (markSent s idle).outgoing.retransmit =
      s.outgoing.retransmit.map (fun t => { t with needsTransmit := false }) ∧
    (markSent s idle).mtu = s.mtu ∧ (markSent s idle).initiation = s.initiation ∧
    (markSent s idle).localPort = s.localPort ∧ (markSent s idle).remotePort = s.remotePort := by
  cases idle <;> exact ⟨rfl, rfl, rfl, rfl, rfl, rfl, rfl, rfl, rfl, rfl, rfl, rfl⟩

theorem segments_eq (s : Tcb) :
    s.segments =
      match Tcb.segmentizeIfOpen (clearOneshot s) with
      | .error e => .error e
      | .ok u1 =>
        match Tcb.finIfPending s.finPending u1 with
        | .error e => .error e
        | .ok u =>
          .ok (markSent u ((s.outgoing.oneshot.map fun h => (⟨h, []⟩ : Segment)) ++
                  (u.outgoing.retransmit.filter (·.needsTransmit)).map (·.segment)).isEmpty,
               (s.outgoing.oneshot.map fun h => (⟨h, []⟩ : Segment)) ++
                  (u.outgoing.retransmit.filter (·.needsTransmit)).map (·.segment)) := by
  unfold Tcb.segments clearOneshot markSent
  dsimp only
  cases Tcb.segmentizeIfOpen _ with
  | error e => rfl
  | ok u1 =>
    dsimp only
    cases Tcb.finIfPending _ _ <;> rfl

end Elvis.Tcp
namespace Elvis.Tcp.Tcb
open Elvis.ModCmp

theorem segments_ok {s s' : Tcb} {out : List Segment} (h : s.segments = .ok (s', out)) :
    ∃ s1 s2 tmo, segmentizeIfOpen { s with outgoing.oneshot := [] } = .ok s1 ∧
      s2 = (if s.finPending && s1.outgoing.text.isEmpty then finQueued s1 else s1) ∧
      out = (s.outgoing.oneshot.map fun h => (⟨h, []⟩ : Segment)) ++
        (s2.outgoing.retransmit.filter (·.needsTransmit)).map (·.segment) ∧
      s' = { s2 with outgoing.retransmit := s2.outgoing.retransmit.map fun t => { t with needsTransmit := false },
                     timeouts.retransmission := tmo } ∧
      (tmo = s2.timeouts.retransmission ∨ tmo = RTO) := by
  rw [segments_eq] at h
  cases h1 : segmentizeIfOpen (clearOneshot s) with
  | error err => rw [h1] at h; cases h
  | ok s1 =>
    rw [h1] at h
    dsimp only at h
    rw [finIfPending_eq] at h
    cases h
    generalize hs2 : (if (s.finPending && s1.outgoing.text.isEmpty) = true then finQueued s1 else s1) = s2
    unfold markSent
    dsimp only
    split
    · exact ⟨s1, s2, s2.timeouts.retransmission, h1, hs2.symm, rfl, rfl, Or.inl rfl⟩
    · exact ⟨s1, s2, RTO, h1, hs2.symm, rfl, rfl, Or.inr rfl⟩

/-- `u` is `s` up to the queued text, the retransmission queue and `SND.NXT`; `SND.WL1` and `SND.WL2` are not
    recorded -/
structure CutOnly (s u : Tcb) : Prop where
  mtu : u.mtu = s.mtu
  rcv : u.rcv = s.rcv
  incoming : u.incoming = s.incoming
  state : u.state = s.state
  timeouts : u.timeouts = s.timeouts
  oneshot : u.outgoing.oneshot = s.outgoing.oneshot
  una : u.snd.una = s.snd.una
  wnd : u.snd.wnd = s.snd.wnd
  iss : u.snd.iss = s.snd.iss
  initiation : u.initiation = s.initiation
  localPort : u.localPort = s.localPort
  remotePort : u.remotePort = s.remotePort

theorem segmentizeIfOpen_frame {s u : Tcb} (h : segmentizeIfOpen s = .ok u) : CutOnly s u := by
  rcases segmentizeIfOpen_ok h with rfl | ⟨-, -, h⟩
  · exact ⟨rfl, rfl, rfl, rfl, rfl, rfl, rfl, rfl, rfl, rfl, rfl, rfl⟩
  · exact segmentize_lift (R := CutOnly) (fun _ => ⟨rfl, rfl, rfl, rfl, rfl, rfl, rfl, rfl, rfl, rfl, rfl, rfl⟩)
      (fun _ _ _ k => ⟨k.mtu, k.rcv, k.incoming, k.state, k.timeouts, k.oneshot, k.una, k.wnd, k.iss, k.initiation,
        k.localPort, k.remotePort⟩) _ _ h

theorem finPending_state (s : Tcb) (h : s.finPending = true) :
    s.state = .FinWait1 ∨ s.state = .Closing ∨ s.state = .LastAck := by
  rw [finPending_def] at h
  exact of_decide_eq_true (Bool.and_eq_true_iff.1 h).1

theorem segments_out {s s' : Tcb} {out : List Segment} (e : s.segments = .ok (s', out)) :
    ∀ σ ∈ out, (∃ hd ∈ s.outgoing.oneshot, σ = ⟨hd, []⟩) ∨ ∃ tr ∈ s'.outgoing.retransmit, tr.segment = σ := by
  obtain ⟨s1, s2, tmo, -, -, rfl, rfl, -⟩ := segments_ok e
  intro σ hσ
  rcases List.mem_append.1 hσ with h | h
  · obtain ⟨hd, hhd, rfl⟩ := List.mem_map.1 h
    exact Or.inl ⟨hd, hhd, rfl⟩
  · obtain ⟨t, ht, rfl⟩ := List.mem_map.1 h
    exact Or.inr ⟨{ t with needsTransmit := false }, List.mem_map_of_mem (List.mem_filter.1 ht).1, rfl⟩

/-- what `segments()` does between handing out the one-shot queue and clearing the flags (`p`: a FIN waits for queued
    text): rounds of the loop, each cutting `b > 0` octets (what there is, at most a segment of `m`, what the window leaves
    after what is queued), then the FIN if it waited and no text is left -/
inductive Segs (m : Nat) (p : Bool) : Tcb → Tcb → Prop
  | done {s : Tcb} : (p && s.outgoing.text.isEmpty) = false → Segs m p s s
  | fin {s : Tcb} : p = true → s.state = .FinWait1 ∨ s.state = .Closing ∨ s.state = .LastAck →
      s.outgoing.text.isEmpty = true → Segs m p s (finQueued s)
  | cut {s s' : Tcb} (b : Nat) : segmentizes s.state = true → 0 < b → b ≤ s.outgoing.text.length → b ≤ m →
      b ≤ s.snd.wnd.toNat - s.outgoing.queuedBytes → Segs m p (cutSegment s b) s' → Segs m p s s'

theorem queuedBytes_cutSegment (s : Tcb) (b : Nat) (hl : b ≤ s.outgoing.text.length) :
    (cutSegment s b).outgoing.queuedBytes = s.outgoing.queuedBytes + b := by
  show ((s.outgoing.retransmit ++ [Transmit.new ⟨_, s.outgoing.text.take b⟩]).map _).sum = _
  rw [List.map_append, List.sum_append]
  show _ + ((s.outgoing.text.take b).length + 0) = _
  rw [List.length_take, Nat.min_eq_left hl, Nat.add_zero]
  rfl

theorem segments_segs {s s' : Tcb} {out : List Segment} (e : s.segments = .ok (s', out)) :
    ∃ s2 tmo, Segs (s.mtu.toNat - SPACE_FOR_HEADERS) s.finPending (clearOneshot s) s2 ∧
      s' = { s2 with outgoing.retransmit := s2.outgoing.retransmit.map fun t => { t with needsTransmit := false },
                     timeouts.retransmission := tmo } := by
  obtain ⟨s1, s2, tmo, h1, rfl, -, rfl, -⟩ := segments_ok e
  refine ⟨_, tmo, ?_, rfl⟩
  have st1 := (segmentizeIfOpen_frame h1).state
  have last : Segs (s.mtu.toNat - SPACE_FOR_HEADERS) s.finPending s1
      (if s.finPending && s1.outgoing.text.isEmpty then finQueued s1 else s1) := by
    split
    · rename_i hc
      rw [Bool.and_eq_true] at hc
      exact .fin hc.1 (st1 ▸ finPending_state s hc.1) hc.2
    · rename_i hc
      exact .done (Bool.eq_false_iff.2 hc)
  rcases segmentizeIfOpen_ok h1 with rfl | ⟨hs, -, h⟩
  · exact last
  · -- every round of the loop goes in front of what follows it; the loop counts the queued bytes as it goes
    refine segmentize_induct (R := fun q a b => q = a.outgoing.queuedBytes → segmentizes a.state = true →
        ∀ c, Segs (s.mtu.toNat - SPACE_FOR_HEADERS) s.finPending b c →
          Segs (s.mtu.toNat - SPACE_FOR_HEADERS) s.finPending a c) _
      (fun _ _ _ _ _ k => k) ?_ _ h rfl hs _ last
    intro q a b bytes h0 hl hm hb k hq hs c kc
    subst hq
    exact .cut bytes hs h0 hl hm hb (k (queuedBytes_cutSegment a bytes hl).symm hs c kc)

theorem Segs.idle {m : Nat} {p : Bool} {s s' : Tcb} (h : Segs m p s s') (hp : p = false)
    (ht : segmentizes s.state = true → s.outgoing.text = []) : s' = s := by
  cases h with
  | done _ => rfl
  | fin hp' _ _ => rw [hp] at hp'; cases hp'
  | cut b hs h0 hl _ _ _ => rw [ht hs] at hl; exact absurd hl (Nat.not_le.2 h0)

/-! ## `close`, `abort`, `receive`, `send`, `advance_time` -/

theorem close_eq (s : Tcb) :
    s.close =
      if s.state = .SynReceived ∨ s.state = .Established then
        .ok (if s.outgoing.text.isEmpty then finQueued { s with state := .FinWait1 } else { s with state := .FinWait1 },
          .Ok)
      else if s.state = .CloseWait then
        .ok (if s.outgoing.text.isEmpty then finQueued { s with state := .LastAck } else { s with state := .LastAck },
          .Ok)
      else .ok (s, .ConnectionClosing) := by
  unfold close
  cases hst : s.state <;> simp only [queueFin_finQueued, reduceCtorEq, or_self, or_true, true_or, if_true, if_false] <;> rfl

theorem close_cases {s s' : Tcb} {r : CloseResult} (e : s.close = .ok (s', r)) :
    s' = s ∨ ∃ st, s' = (if s.outgoing.text.isEmpty then finQueued { s with state := st } else { s with state := st }) ∧
      (((s.state = .SynReceived ∨ s.state = .Established) ∧ st = .FinWait1) ∨ (s.state = .CloseWait ∧ st = .LastAck)) := by
  rw [close_eq] at e
  by_cases h1 : s.state = .SynReceived ∨ s.state = .Established
  · rw [if_pos h1] at e
    cases e
    exact Or.inr ⟨.FinWait1, rfl, Or.inl ⟨h1, rfl⟩⟩
  · rw [if_neg h1] at e
    by_cases h2 : s.state = .CloseWait
    · rw [if_pos h2] at e
      cases e
      exact Or.inr ⟨.LastAck, rfl, Or.inr ⟨h2, rfl⟩⟩
    · rw [if_neg h2] at e
      cases e
      exact Or.inl rfl

/-- `Outgoing::reset` then the RST -/
def _root_.Elvis.Tcp.abortRst (s : Tcb) : Tcb :=
  ({ s with outgoing := {} } : Tcb).enqueueBuilt
    ((({ s with outgoing := {} } : Tcb).headerBuilder s.snd.nxt).withRst.withWnd s.rcv.wnd).built

theorem abort_eq (s : Tcb) :
    s.abort = .ok (if s.state = .SynReceived ∨ s.state = .Established ∨ s.state = .FinWait1 ∨ s.state = .FinWait2 ∨
      s.state = .CloseWait then abortRst s else s) := by
  unfold abort Elvis.Tcp.abortRst
  cases hs : s.state <;> simp only [enqueue_eq, reduceCtorEq, or_self, or_true, true_or, if_true, if_false]

theorem abort_cases (s : Tcb) : ∃ u, s.abort = .ok u ∧ (u = s ∨
    u = ({ s with outgoing := {} } : Tcb).enqueueBuilt
      ((({ s with outgoing := {} } : Tcb).headerBuilder s.snd.nxt).withRst.withWnd s.rcv.wnd).built) := by
  unfold abort
  split
  all_goals first
    | (dsimp only; rw [enqueue_eq]; exact ⟨_, rfl, Or.inr rfl⟩)
    | exact ⟨_, rfl, Or.inl rfl⟩

theorem receive_eq (s : Tcb) :
    s.receive = if s.state = .Closing ∨ s.state = .LastAck ∨ s.state = .TimeWait then (s, [])
      else ({ s with incoming.text := [] }, s.incoming.text) := by
  obtain ⟨lp, rp, mtu, ini, st, snd, rcv, out, inc, tmo⟩ := s
  cases st <;> rfl

theorem receive_est_nil (t : Tcb) (h : t.state = .Established) : t.receive.1.incoming.text = [] := by
  rw [receive_eq, if_neg (by rw [h]; simp)]

theorem receive_cases (s : Tcb) :
    s.receive = ({ s with incoming.text := [] }, s.incoming.text) ∨ s.receive = (s, []) := by
  rw [receive_eq]
  split
  · exact Or.inr rfl
  · exact Or.inl rfl

theorem receive_quiet (t : Tcb) (h : t.state = .Closing ∨ t.state = .TimeWait ∨ t.state = .LastAck) :
    t.receive = (t, []) := by
  rw [receive_eq, if_pos (by rcases h with h | h | h <;> simp [h])]

theorem receive_empty (t : Tcb) (h : t.incoming.text = []) : t.receive = (t, []) := by
  cases t with
  | mk lp rp mtu ini st snd rcv out inc tmo =>
    cases inc with
    | mk segs text =>
      simp only at h
      subst h
      rw [receive_eq]
      cases st <;> rfl

theorem send_eq (t : Tcb) (m : List UInt8) :
    t.send m = if sendAccepts t.state then { t with outgoing.text := t.outgoing.text ++ m } else t := by
  obtain ⟨lp, rp, mtu, ini, st, snd, rcv, out, inc, tmo⟩ := t
  cases st <;> rfl

/-- the first half of `advance_time` as a function: the retransmission timer runs down, or it expires, is
    re-armed and flags the whole queue -/
def timerRun (s : Tcb) (dt : Nat) : Tcb :=
  if dt > s.timeouts.retransmission then
    { s with timeouts.retransmission := RTO,
             outgoing.retransmit := s.outgoing.retransmit.map fun t => { t with needsTransmit := true } }
  else { s with timeouts.retransmission := s.timeouts.retransmission - dt }

theorem timerRun_expired {s : Tcb} {dt : Nat} (h : dt > s.timeouts.retransmission) :
    timerRun s dt =
      { s with timeouts.retransmission := RTO,
               outgoing.retransmit := s.outgoing.retransmit.map fun t => { t with needsTransmit := true } } := by
  unfold timerRun; rw [if_pos h]

theorem timerRun_running {s : Tcb} {dt : Nat} (h : ¬ dt > s.timeouts.retransmission) :
    timerRun s dt = { s with timeouts.retransmission := s.timeouts.retransmission - dt } := by
  unfold timerRun; rw [if_neg h]

theorem advanceRetransmission_eq (s : Tcb) (dt : Nat) : s.advanceRetransmission dt = .ok (timerRun s dt) := by
  unfold advanceRetransmission timerRun
  split <;> rfl

theorem timerRun_frame (s : Tcb) (dt : Nat) :
    (timerRun s dt).state = s.state ∧ (timerRun s dt).snd = s.snd ∧ (timerRun s dt).rcv = s.rcv ∧
    (timerRun s dt).incoming = s.incoming ∧ (timerRun s dt).timeouts.timeWait = s.timeouts.timeWait ∧
    (timerRun s dt).outgoing.text = s.outgoing.text ∧ (timerRun s dt).outgoing.oneshot = s.outgoing.oneshot ∧
    (timerRun s dt).outgoing.retransmit.map (·.segment) = s.outgoing.retransmit.map (·.segment) ∧
    (timerRun s dt).mtu = s.mtu ∧ (timerRun s dt).initiation = s.initiation ∧
    (timerRun s dt).localPort = s.localPort ∧ (timerRun s dt).remotePort = s.remotePort := by
  unfold timerRun
  split
  · refine ⟨rfl, rfl, rfl, rfl, rfl, rfl, rfl, ?_, rfl, rfl, rfl, rfl⟩
    show (s.outgoing.retransmit.map _).map _ = _
    rw [List.map_map]
    rfl
  · exact ⟨rfl, rfl, rfl, rfl, rfl, rfl, rfl, rfl, rfl, rfl, rfl, rfl⟩

/-- `advance_time` never panics: both checked subtractions are guarded -/
theorem advanceTime_eq (s : Tcb) (dt : Nat) :
    s.advanceTime dt = .ok (
      match s.timeouts.timeWait with
      | some tw =>
        if tw < dt then (timerRun s dt, .CloseConnection)
        else ({ timerRun s dt with timeouts.timeWait := some (tw - dt) }, .Ignore)
      | none => (timerRun s dt, .Ignore)) := by
  unfold advanceTime
  rw [advanceRetransmission_eq]
  dsimp only
  rw [(timerRun_frame s dt).2.2.2.2.1]
  cases s.timeouts.timeWait with
  | none => rfl
  | some tw =>
    dsimp only
    by_cases h : tw < dt
    · rw [if_pos h, if_pos h]
    · rw [if_neg h, if_neg h, if_neg h]

theorem advanceTime_cases (s : Tcb) (dt : Nat) :
    ∃ u r, s.advanceTime dt = .ok (u, r) ∧ ∃ tmo,
      u = { s with timeouts := tmo } ∨
      u = { s with timeouts := tmo,
                   outgoing.retransmit := s.outgoing.retransmit.map fun t => { t with needsTransmit := true } } := by
  have h1 : ∃ tmo, timerRun s dt = { s with timeouts := tmo } ∨
      timerRun s dt = { s with timeouts := tmo,
                               outgoing.retransmit := s.outgoing.retransmit.map fun t => { t with needsTransmit := true } } := by
    by_cases h : dt > s.timeouts.retransmission
    · exact ⟨_, Or.inr (timerRun_expired h)⟩
    · exact ⟨_, Or.inl (timerRun_running h)⟩
  obtain ⟨tmo, c⟩ := h1
  refine ⟨_, _, advanceTime_eq s dt, ?_⟩
  split
  · split
    · exact ⟨tmo, c⟩
    · rcases c with c | c <;> rw [c]
      · exact ⟨_, Or.inl rfl⟩
      · exact ⟨_, Or.inr rfl⟩
  · exact ⟨tmo, c⟩

theorem advanceTime_ok {s s' : Tcb} {dt : Nat} {r : AdvanceTimeResult} (e : s.advanceTime dt = .ok (s', r)) :
    (s.timeouts.timeWait = none ∧ s' = timerRun s dt ∧ r = .Ignore) ∨
    ∃ tw, s.timeouts.timeWait = some tw ∧
      ((tw < dt ∧ s' = timerRun s dt ∧ r = .CloseConnection) ∨
       (dt ≤ tw ∧ s' = { timerRun s dt with timeouts.timeWait := some (tw - dt) } ∧ r = .Ignore)) := by
  rw [advanceTime_eq] at e
  cases htw : s.timeouts.timeWait with
  | none => rw [htw] at e; cases e; exact .inl ⟨rfl, rfl, rfl⟩
  | some tw =>
    rw [htw] at e
    dsimp only at e
    refine .inr ⟨tw, rfl, ?_⟩
    by_cases hlt : tw < dt
    · rw [if_pos hlt] at e; cases e; exact .inl ⟨hlt, rfl, rfl⟩
    · rw [if_neg hlt] at e; cases e; exact .inr ⟨Nat.le_of_not_lt hlt, rfl, rfl⟩

theorem advanceTime_flags {s s' : Tcb} {dt : Nat} {r : AdvanceTimeResult} (e : s.advanceTime dt = .ok (s', r)) :
    ∃ tmo, s' = { s with timeouts := tmo } ∨
      s' = { s with timeouts := tmo,
                    outgoing.retransmit := s.outgoing.retransmit.map fun t => { t with needsTransmit := true } } := by
  obtain ⟨u, r', e', h⟩ := advanceTime_cases s dt
  cases e.symm.trans e'
  exact h

end Tcb

/-! ## the pipeline as `finish` of the six blocks -/

/-- the last lines of `process_segment`: an early `return r`, or `Success` -/
def finish (r : Tcb.B) : M ProcessSegmentResult :=
  match r with
  | .error e => .error e
  | .ok (s, some r) => .ok (s, r)
  | .ok (s, none) => .ok (s, .Success)

theorem finish_ok {x : Tcb.B} {s' : Tcb} {r : ProcessSegmentResult} (e : finish x = .ok (s', r)) :
    ∃ q, x = .ok (s', q) ∧ (q = some r ∨ q = none ∧ r = .Success) := by
  unfold finish at e
  split at e
  · cases e
  · cases e; exact ⟨_, rfl, .inl rfl⟩
  · cases e; exact ⟨_, rfl, .inr ⟨rfl, rfl⟩⟩

theorem processSegment_eq (s : Tcb) (segment : Segment) :
    Tcb.processSegment s segment =
      finish ((((((Tcb.seqCheck s segment.hdr (BitVec.ofNat 32 segment.text.length)).andThen
        fun s => Tcb.ackBlock s segment.hdr).andThen fun s => Tcb.rstBlock s segment.hdr).andThen
        fun s => Tcb.synBlock s segment.hdr).andThen
        fun s => Tcb.textBlock s segment.hdr segment.text (BitVec.ofNat 32 segment.text.length)).andThen
        fun s => Tcb.finBlock s segment.hdr (BitVec.ofNat 32 segment.text.length)) := rfl

namespace Tcb
open Elvis.ModCmp

/-! ## the pipeline with a precondition per block

Where a block needs what an earlier one established (block 5 that block 4 has left SYN-SENT), each block gets its
own precondition: a block that hands the TCB on establishes the next block's precondition, one that returns early
establishes `Q`.  For an invariant that is kept by every elementary change, see `Lemmas/TcbEff.lean`. -/

theorem andThen_ok {x : B} {f : Tcb → B} {s' : Tcb} {r : Option ProcessSegmentResult}
    (e : x.andThen f = .ok (s', r)) :
    (∃ r0, x = .ok (s', some r0) ∧ r = some r0) ∨ ∃ s1, x = .ok (s1, none) ∧ f s1 = .ok (s', r) := by
  unfold B.andThen at e
  split at e
  · cases e
  · cases e; exact Or.inl ⟨_, rfl, rfl⟩
  · exact Or.inr ⟨_, rfl, e⟩

theorem andThen_chain {P P' Q : Tcb → Prop} {x : B} {f : Tcb → B} {s' : Tcb} {r : Option ProcessSegmentResult}
    (e : x.andThen f = .ok (s', r))
    (hx : ∀ {u q}, x = .ok (u, q) → (q = none → P u) ∧ (q ≠ none → Q u))
    (hf : ∀ {u}, P u → f u = .ok (s', r) → (r = none → P' s') ∧ (r ≠ none → Q s')) :
    (r = none → P' s') ∧ (r ≠ none → Q s') := by
  rcases andThen_ok e with ⟨r0, e1, rfl⟩ | ⟨s1, e1, e2⟩
  · exact ⟨nofun, fun _ => (hx e1).2 nofun⟩
  · exact hf ((hx e1).1 rfl) e2

theorem processSegment_chain (g : Segment) {P1 P2 P3 P4 P5 P6 Q : Tcb → Prop}
    (h1 : ∀ {s s' r}, P1 s → seqCheck s g.hdr (BitVec.ofNat 32 g.text.length) = .ok (s', r) →
      (r = none → P2 s') ∧ (r ≠ none → Q s'))
    (h2 : ∀ {s s' r}, P2 s → ackBlock s g.hdr = .ok (s', r) → (r = none → P3 s') ∧ (r ≠ none → Q s'))
    (h3 : ∀ {s s' r}, P3 s → rstBlock s g.hdr = .ok (s', r) → (r = none → P4 s') ∧ (r ≠ none → Q s'))
    (h4 : ∀ {s s' r}, P4 s → synBlock s g.hdr = .ok (s', r) → (r = none → P5 s') ∧ (r ≠ none → Q s'))
    (h5 : ∀ {s s' r}, P5 s → textBlock s g.hdr g.text (BitVec.ofNat 32 g.text.length) = .ok (s', r) →
      (r = none → P6 s') ∧ (r ≠ none → Q s'))
    (h6 : ∀ {s s' r}, P6 s → finBlock s g.hdr (BitVec.ofNat 32 g.text.length) = .ok (s', r) → Q s')
    {s s' : Tcb} {r : ProcessSegmentResult} (hs : P1 s) (e : processSegment s g = .ok (s', r)) : Q s' := by
  rw [processSegment_eq] at e
  obtain ⟨q, hx, -⟩ := finish_ok e
  have k : (q = none → Q s') ∧ (q ≠ none → Q s') :=
    andThen_chain hx
      (fun e5 => andThen_chain e5
        (fun e4 => andThen_chain e4
          (fun e3 => andThen_chain e3 (fun e2 => andThen_chain e2 (h1 hs) h2) h3) h4) h5)
      fun p e6 => ⟨fun _ => h6 p e6, fun _ => h6 p e6⟩
  cases q
  · exact k.1 rfl
  · exact k.2 nofun

/-! ## the pipeline, forwards

For evaluating `process_segment` on a given segment: the guards under which a block hands the TCB on untouched,
and the pipeline as the composition of what its blocks return. -/

@[simp] theorem andThen_none (s : Tcb) (f : Tcb → B) : B.andThen (.ok (s, none)) f = f s := rfl

theorem seqCheck_pass {s : Tcb} {seg : Hdr} {tl : Seq} (hns : s.state ≠ .SynSent)
    (h : s.isSeqOk tl seg.seq seg.ctl.syn seg.ctl.fin = .ok true) : seqCheck s seg tl = .ok (s, none) := by
  unfold seqCheck
  split
  · rename_i hs; exact absurd hs hns
  · rw [h]

theorem seqCheck_synSent {s : Tcb} {seg : Hdr} {tl : Seq} (h : s.state = .SynSent) : seqCheck s seg tl = .ok (s, none) := by
  unfold seqCheck
  rw [h]

theorem seqCheck_reject {s : Tcb} {seg : Hdr} {tl : Seq} (hns : s.state ≠ .SynSent)
    (h : s.isSeqOk tl seg.seq seg.ctl.syn seg.ctl.fin = .ok false) :
    seqCheck s seg tl = .ok (s.enqueueBuilt s.ackHdr.built, some .DiscardSegment) := by
  unfold seqCheck
  split
  · rename_i hs; exact absurd hs hns
  · rw [h, enqueueThen_eq]

theorem rstBlock_pass {s : Tcb} {seg : Hdr} (h : seg.ctl.rst = false) : rstBlock s seg = .ok (s, none) := by
  unfold rstBlock
  rw [h]
  rfl

theorem synBlock_pass {s : Tcb} {seg : Hdr} (h : seg.ctl.syn = false) (hns : s.state ≠ .SynSent) :
    synBlock s seg = .ok (s, none) := by
  unfold synBlock
  rw [h, if_pos (by decide), if_neg hns]

theorem textBlock_pass (s : Tcb) (seg : Hdr) (tl : Seq) : textBlock s seg [] tl = .ok (s, none) := by
  unfold textBlock
  rfl

theorem finBlock_pass {s : Tcb} {seg : Hdr} {tl : Seq} (h : seg.ctl.fin = false) : finBlock s seg tl = .ok (s, none) := by
  unfold finBlock
  rw [h]
  rfl

theorem processSegment_blocks {s s1 s2 s3 s4 s5 s6 : Tcb} {g : Segment}
    (c1 : seqCheck s g.hdr (BitVec.ofNat 32 g.text.length) = .ok (s1, none))
    (c2 : ackBlock s1 g.hdr = .ok (s2, none)) (c3 : rstBlock s2 g.hdr = .ok (s3, none))
    (c4 : synBlock s3 g.hdr = .ok (s4, none))
    (c5 : textBlock s4 g.hdr g.text (BitVec.ofNat 32 g.text.length) = .ok (s5, none))
    (c6 : finBlock s5 g.hdr (BitVec.ofNat 32 g.text.length) = .ok (s6, none)) :
    s.processSegment g = .ok (s6, .Success) := by
  unfold processSegment
  dsimp only
  rw [c1, andThen_none, c2, andThen_none, c3, andThen_none, c4, andThen_none, c5, andThen_none, c6]

theorem processSegment_stop1 {s s1 : Tcb} {g : Segment} {r : ProcessSegmentResult}
    (c1 : seqCheck s g.hdr (BitVec.ofNat 32 g.text.length) = .ok (s1, some r)) : s.processSegment g = .ok (s1, r) := by
  unfold processSegment
  dsimp only
  rw [c1]
  rfl

theorem processSegment_stop3 {s s1 s2 s3 : Tcb} {g : Segment} {r : ProcessSegmentResult}
    (c1 : seqCheck s g.hdr (BitVec.ofNat 32 g.text.length) = .ok (s1, none))
    (c2 : ackBlock s1 g.hdr = .ok (s2, none)) (c3 : rstBlock s2 g.hdr = .ok (s3, some r)) :
    s.processSegment g = .ok (s3, r) := by
  unfold processSegment
  dsimp only
  rw [c1, andThen_none, c2, andThen_none, c3]
  rfl

theorem processSegment_stop2 {s s1 s2 : Tcb} {g : Segment} {r : ProcessSegmentResult}
    (c1 : seqCheck s g.hdr (BitVec.ofNat 32 g.text.length) = .ok (s1, none))
    (c2 : ackBlock s1 g.hdr = .ok (s2, some r)) : s.processSegment g = .ok (s2, r) := by
  unfold processSegment
  dsimp only
  rw [c1, andThen_none, c2]
  rfl

theorem processSegment_stop4 {s s1 s2 s3 s4 : Tcb} {g : Segment} {r : ProcessSegmentResult}
    (c1 : seqCheck s g.hdr (BitVec.ofNat 32 g.text.length) = .ok (s1, none))
    (c2 : ackBlock s1 g.hdr = .ok (s2, none)) (c3 : rstBlock s2 g.hdr = .ok (s3, none))
    (c4 : synBlock s3 g.hdr = .ok (s4, some r)) : s.processSegment g = .ok (s4, r) := by
  unfold processSegment
  dsimp only
  rw [c1, andThen_none, c2, andThen_none, c3, andThen_none, c4]
  rfl

theorem processSegment_plain {s s2 s5 s6 : Tcb} {g : Segment}
    (c1 : seqCheck s g.hdr (BitVec.ofNat 32 g.text.length) = .ok (s, none))
    (c2 : ackBlock s g.hdr = .ok (s2, none)) (hns : s2.state ≠ .SynSent)
    (hrst : g.hdr.ctl.rst = false) (hsyn : g.hdr.ctl.syn = false)
    (c5 : textBlock s2 g.hdr g.text (BitVec.ofNat 32 g.text.length) = .ok (s5, none))
    (c6 : finBlock s5 g.hdr (BitVec.ofNat 32 g.text.length) = .ok (s6, none)) :
    s.processSegment g = .ok (s6, .Success) :=
  processSegment_blocks c1 c2 (rstBlock_pass hrst) (synBlock_pass hsyn hns) c5 c6

/-- a segment without RST, SYN and text: blocks 2 and 6 alone -/
theorem process_pure {t t1 t2 : Tcb} {g : Segment} (hns : t.state ≠ .SynSent) (hns1 : t1.state ≠ .SynSent)
    (hok : t.isSeqOk (BitVec.ofNat 32 g.text.length) g.hdr.seq g.hdr.ctl.syn g.hdr.ctl.fin = .ok true)
    (hrst : g.hdr.ctl.rst = false) (hsyn : g.hdr.ctl.syn = false) (htext : g.text = [])
    (hab : ackBlock t g.hdr = .ok (t1, none))
    (hfb : finBlock t1 g.hdr (BitVec.ofNat 32 g.text.length) = .ok (t2, none)) :
    t.processSegment g = .ok (t2, .Success) :=
  processSegment_plain (s5 := t1) (seqCheck_pass hns hok) hab hns1 hrst hsyn
    (by rw [htext]; exact textBlock_pass _ _ _) hfb

theorem segmentArrives_ok {s s' : Tcb} {g : Segment} {r : SegmentArrivesResult}
    (e : s.segmentArrives g = .ok (s', r)) :
    (s.state ≠ .SynSent ∧ s.isSeqOk (BitVec.ofNat 32 g.text.length) g.hdr.seq g.hdr.ctl.syn g.hdr.ctl.fin = .ok false ∧
      s' = s.enqueueBuilt s.ackHdr.built ∧ r = .Ok) ∨
    ((s.state = .SynSent ∨
        s.isSeqOk (BitVec.ofNat 32 g.text.length) g.hdr.seq g.hdr.ctl.syn g.hdr.ctl.fin = .ok true) ∧
      drain ((LHeap.push segLe s.incoming.segments g).length + 1)
        { s with incoming.segments := LHeap.push segLe s.incoming.segments g } = .ok (s', r)) := by
  unfold segmentArrives at e
  dsimp only at e
  by_cases hst : s.state = .SynSent
  · rw [if_pos hst] at e
    exact Or.inr ⟨Or.inl hst, e⟩
  · rw [if_neg hst] at e
    cases hok : s.isSeqOk (BitVec.ofNat 32 g.text.length) g.hdr.seq g.hdr.ctl.syn g.hdr.ctl.fin with
    | error err => rw [hok] at e; cases e
    | ok b =>
      rw [hok] at e
      cases b with
      | false =>
        rw [enqueue_eq] at e
        cases e
        exact Or.inl ⟨hst, rfl, rfl, rfl⟩
      | true => exact Or.inr ⟨Or.inr rfl, e⟩

end Elvis.Tcp.Tcb
namespace Elvis.Tcp
open Elvis.ModCmp

/-! ## `segment_arrives_closed`, `open`, `segment_arrives_listen` -/

theorem segmentArrivesListen_response {g : Segment} {iss : Seq} {mtu : U16} {hd : Hdr}
    (e : segmentArrivesListen g iss mtu = .ok (some (.Response hd))) :
    g.hdr.ctl.rst = false ∧ g.hdr.ctl.ack = true ∧
      hd = ((Hdr.builder g.hdr.dstPort g.hdr.srcPort g.hdr.ack).withRst).built := by
  unfold segmentArrivesListen at e
  dsimp only at e
  by_cases hr : g.hdr.ctl.rst = true
  · rw [if_pos hr] at e; cases e
  rw [if_neg hr] at e
  by_cases ha : g.hdr.ctl.ack = true
  · rw [if_pos ha, Hdr.build_zero] at e
    cases e
    exact ⟨Bool.eq_false_iff.2 hr, ha, rfl⟩
  rw [if_neg ha] at e
  by_cases hs : g.hdr.ctl.syn = true
  · rw [if_pos hs, Tcb.enqueue_eq] at e; cases e
  · rw [if_neg hs] at e; cases e

theorem segmentArrivesClosed_eq (seg : Hdr) (tl : Seq) :
    segmentArrivesClosed seg tl =
      if seg.ctl.rst then none
      else if seg.ctl.ack then some ((Hdr.builder seg.dstPort seg.srcPort seg.ack).withRst).built
      else some (((Hdr.builder seg.dstPort seg.srcPort 0).withRst).withAck (seg.seq + tl)).built := by
  unfold segmentArrivesClosed
  rw [Hdr.build_zero, Hdr.build_zero]

theorem segmentArrivesClosed_ok {seg : Hdr} {tl : Seq} {hd : Hdr} (e : segmentArrivesClosed seg tl = some hd) :
    seg.ctl.rst = false ∧
      ((seg.ctl.ack = true ∧ hd = ((Hdr.builder seg.dstPort seg.srcPort seg.ack).withRst).built) ∨
       (seg.ctl.ack = false ∧ hd = (((Hdr.builder seg.dstPort seg.srcPort 0).withRst).withAck (seg.seq + tl)).built)) := by
  rw [segmentArrivesClosed_eq] at e
  by_cases hr : seg.ctl.rst = true
  · rw [if_pos hr] at e; cases e
  rw [if_neg hr] at e
  by_cases ha : seg.ctl.ack = true
  · rw [if_pos ha] at e
    exact ⟨Bool.eq_false_iff.2 hr, Or.inl ⟨ha, (Option.some.inj e).symm⟩⟩
  · rw [if_neg ha] at e
    exact ⟨Bool.eq_false_iff.2 hr, Or.inr ⟨Bool.eq_false_iff.2 ha, (Option.some.inj e).symm⟩⟩

theorem closed_plain {seg : Hdr} {tl : Seq} {hd : Hdr} (e : segmentArrivesClosed seg tl = some hd) :
    hd.ctl.syn = false ∧ hd.ctl.fin = false ∧ hd.srcPort = seg.dstPort := by
  rcases (segmentArrivesClosed_ok e).2 with ⟨-, rfl⟩ | ⟨-, rfl⟩ <;> exact ⟨rfl, rfl, rfl⟩

namespace Tcb

/-- the SYN of an active open -/
def synHdr (lp rp : U16) (iss : Seq) : Hdr := (((Hdr.builder lp rp iss).withSyn).withWnd ({} : Rcv).wnd).built

/-- the TCB `Tcb::open` returns -/
def openT (lp rp : U16) (iss : Seq) (mtu : U16) : Tcb :=
  { localPort := lp, remotePort := rp, mtu := mtu, initiation := .Open, state := .SynSent,
    snd := { iss := iss, una := iss, nxt := iss + 1 }, rcv := {},
    outgoing := { retransmit := [Transmit.new ⟨synHdr lp rp iss, []⟩] } }

theorem open_eq (lp rp : U16) (iss : Seq) (mtu : U16) : Tcb.open lp rp iss mtu = .ok (openT lp rp iss mtu) := by
  unfold Tcb.open
  rw [enqueue_eq, enqueueBuilt_retransmit _ _ (Or.inl rfl)]
  rfl

def lsnSynAck (g : Segment) (iss : Seq) : Hdr :=
  ((((Hdr.builder g.hdr.dstPort g.hdr.srcPort iss).withSyn).withAck (g.hdr.seq + 1)).withWnd ({} : Rcv).wnd).built

/-- the SYN as the LISTEN handler parks it: SYN and ACK bits cleared -/
def parkedSyn (g : Segment) : Segment :=
  ⟨{ g.hdr with ctl := { g.hdr.ctl with syn := false, ack := false } }, g.text⟩

/-- the TCB the LISTEN handler creates for a SYN -/
def listenT (g : Segment) (iss : Seq) (mtu : U16) : Tcb :=
  { localPort := g.hdr.dstPort, remotePort := g.hdr.srcPort, mtu := mtu, initiation := .Listen, state := .SynReceived,
    snd := { iss := iss, una := iss, nxt := iss + 1, wnd := g.hdr.wnd, wl1 := g.hdr.seq, wl2 := iss },
    rcv := { irs := g.hdr.seq, nxt := g.hdr.seq + 1 },
    outgoing := { retransmit := [Transmit.new ⟨lsnSynAck g iss, []⟩] },
    incoming := { segments := [parkedSyn g] } }

theorem listen_eq (g : Segment) (iss : Seq) (mtu : U16) (hrst : g.hdr.ctl.rst = false) (hack : g.hdr.ctl.ack = false)
    (hsyn : g.hdr.ctl.syn = true) :
    segmentArrivesListen g iss mtu = .ok (some (.Tcb (listenT g iss mtu))) := by
  unfold segmentArrivesListen
  dsimp only
  rw [if_neg (by simp [hrst]), if_neg (by simp [hack]), if_pos hsyn, enqueue_eq]
  dsimp only
  rw [enqueueBuilt_retransmit _ _ (Or.inl rfl)]
  rfl

theorem segmentArrivesListen_eq (g : Segment) (iss : Seq) (mtu : U16) :
    segmentArrivesListen g iss mtu = .ok (
      if g.hdr.ctl.rst then none
      else if g.hdr.ctl.ack then some (.Response ((Hdr.builder g.hdr.dstPort g.hdr.srcPort g.hdr.ack).withRst).built)
      else if g.hdr.ctl.syn then some (.Tcb (listenT g iss mtu)) else none) := by
  cases hr : g.hdr.ctl.rst
  · cases ha : g.hdr.ctl.ack
    · cases hs : g.hdr.ctl.syn
      · unfold segmentArrivesListen
        dsimp only
        rw [hr, ha, hs]
        rfl
      · exact listen_eq g iss mtu hr ha hs
    · unfold segmentArrivesListen
      dsimp only
      rw [hr, ha, Hdr.build_zero]
      rfl
  · unfold segmentArrivesListen
    dsimp only
    rw [hr]
    rfl

theorem segmentArrivesListen_tcb {g : Segment} {iss : Seq} {mtu : U16} {tcb : Tcb}
    (e : segmentArrivesListen g iss mtu = .ok (some (.Tcb tcb))) :
    g.hdr.ctl.rst = false ∧ g.hdr.ctl.ack = false ∧ g.hdr.ctl.syn = true ∧ tcb = listenT g iss mtu := by
  rw [segmentArrivesListen_eq] at e
  by_cases hr : g.hdr.ctl.rst = true
  · rw [if_pos hr] at e; cases e
  by_cases ha : g.hdr.ctl.ack = true
  · rw [if_neg hr, if_pos ha] at e; cases e
  by_cases hs : g.hdr.ctl.syn = true
  · rw [if_neg hr, if_neg ha, if_pos hs] at e
    cases e
    exact ⟨Bool.eq_false_iff.2 hr, Bool.eq_false_iff.2 ha, hs, rfl⟩
  · rw [if_neg hr, if_neg ha, if_neg hs] at e; cases e

end Tcb

/-! ## the functions with loops and pipelines, one step at a time (with their error arms)

For facts that must follow the code on every arm, errors included (equivariance, totality): one round of the reorder
loop and of the segmentizing loop, `segment_arrives`; for the pipeline, `processSegment_eq` above. -/

def setHeap (s : Tcb) (h : List Segment) : Tcb := { s with incoming.segments := h }

theorem drain_succ (fuel : Nat) (s : Tcb) :
    Tcb.drain (fuel + 1) s =
      match LHeap.peek s.incoming.segments with
      | none => .ok (s, .Ok)
      | some top =>
        if s.state ≠ .SynSent && modGt top.hdr.seq s.rcv.nxt then .ok (s, .Ok) else
        match LHeap.pop segLe s.incoming.segments with
        | (none, _) => .error "panic:unwrap:segment_arrives.pop"
        | (some segment, rest) =>
          match Tcb.processSegment (setHeap s rest) segment with
          | .error e => .error e
          | .ok (s, r) => if r.shouldDeleteTcb then .ok (s, .Close) else Tcb.drain fuel s := rfl

theorem segmentArrives_eq (s : Tcb) (segment : Segment) :
    s.segmentArrives segment =
      match (if s.state = .SynSent then (.ok true : Except String Bool)
             else s.isSeqOk (BitVec.ofNat 32 segment.text.length) segment.hdr.seq segment.hdr.ctl.syn
                    segment.hdr.ctl.fin) with
      | .error e => .error e
      | .ok false =>
        match s.enqueue s.ackHdr with
        | .error e => .error e
        | .ok s => .ok (s, .Ok)
      | .ok true =>
        Tcb.drain ((LHeap.push segLe s.incoming.segments segment).length + 1)
          (setHeap s (LHeap.push segLe s.incoming.segments segment)) := rfl

/-- one round of the segmentizing loop -/
def pushSeg (s : Tcb) (header : Hdr) (text rest : List UInt8) : Tcb :=
  { s with outgoing.text := rest,
           snd.nxt := s.snd.nxt + BitVec.ofNat 32 text.length,
           outgoing.retransmit := s.outgoing.retransmit ++ [Transmit.new ⟨header, text⟩] }

theorem segmentize_succ (m fuel : Nat) (s : Tcb) (q : Nat) :
    Tcb.segmentize m (fuel + 1) s q =
      if min (min m (s.snd.wnd.toNat - q)) s.outgoing.text.length = 0 then .ok s else
      match (s.ackHdr).build (s.outgoing.text.take (min (min m (s.snd.wnd.toNat - q)) s.outgoing.text.length)).length with
      | none => .error "panic:expect:segments.build"
      | some header =>
        Tcb.segmentize m fuel
          (pushSeg s header (s.outgoing.text.take (min (min m (s.snd.wnd.toNat - q)) s.outgoing.text.length))
            (s.outgoing.text.drop (min (min m (s.snd.wnd.toNat - q)) s.outgoing.text.length)))
          (q + min (min m (s.snd.wnd.toNat - q)) s.outgoing.text.length) := rfl

end Elvis.Tcp
