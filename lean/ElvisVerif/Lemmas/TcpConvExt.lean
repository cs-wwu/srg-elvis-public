import ElvisVerif.Props.C01
import ElvisVerif.Lemmas.TcpConvInv
import ElvisVerif.Lemmas.TcpConvWnd
/-!
# The closed system nobody closes: the facts convergence needs on top of `Conv`

`Ext s` (for states satisfying `Conv`):
* `SysWf` (no call panics; buffers and payloads bounded),
* `SndOk` of C17 for both TCBs (the retransmission queue is a contiguous chain ending at `SND.NXT`
  that covers `[SND.UNA, SND.NXT)`, at most 65535 bytes),
* `KeepOk` (`Lemmas/TcpConvLive.lean`: only unacknowledged segments are queued),
* every header ever formed advertises the window 65535, so `SND.WND = 65535` outside SYN-SENT,
* every header on a one-shot queue is a pure ACK numbered `SND.NXT`.
-/
namespace Elvis.Tcp
open Tcb

structure XStep (t t' : Tcb) : Prop where
  pres : SndPres t t'
  keep : KeepOk t → KeepOk t'
  swnd : t'.snd.wnd = t.snd.wnd
  one : t'.outgoing.oneshot = [] ∨ (t'.outgoing.oneshot = t.outgoing.oneshot ∧ t'.snd.nxt = t.snd.nxt)

theorem XStep.of_eq {t t' : Tcb} (p : SndPres t t') (h1 : t'.snd = t.snd)
    (h2 : t'.outgoing.retransmit = t.outgoing.retransmit) (h3 : t'.outgoing.oneshot = t.outgoing.oneshot) : XStep t t' :=
  ⟨p, fun h => h.of_eq (by rw [h1]) h2, by rw [h1], Or.inr ⟨h3, by rw [h1]⟩⟩

theorem send_x (t : Tcb) (m : List UInt8) : XStep t (t.send m) := by
  have f : (t.send m).snd = t.snd ∧ (t.send m).outgoing.retransmit = t.outgoing.retransmit ∧
      (t.send m).outgoing.oneshot = t.outgoing.oneshot := by
    rw [send_eq]
    split <;> exact ⟨rfl, rfl, rfl⟩
  exact XStep.of_eq (send_step t m).pres f.1 f.2.1 f.2.2

theorem receive_x (t : Tcb) : XStep t t.receive.1 := by
  have p := (receive_step t).pres
  rcases receive_cases t with h | h <;> rw [h] at p ⊢ <;> exact XStep.of_eq p rfl rfl rfl

theorem advanceTime_x (t : Tcb) (dt : Nat) (t' : Tcb) (r : AdvanceTimeResult) (e : t.advanceTime dt = .ok (t', r)) :
    XStep t t' := by
  have p := (advanceTime_step e).pres
  obtain ⟨tmo, rfl | rfl⟩ := advanceTime_flags e
  · exact ⟨p, fun h => h.of_eq rfl rfl, rfl, Or.inr ⟨rfl, rfl⟩⟩
  · exact ⟨p, fun h => keepOk_flags h rfl true rfl, rfl, Or.inr ⟨rfl, rfl⟩⟩

theorem segments_x (t t' : Tcb) (out : List Segment) (e : t.segments = .ok (t', out))
    (hst : C01.Ok3 t.state) (hu : off t.snd.iss t.snd.una ≤ t.sent) (hr : Room t) : XStep t t' := by
  obtain ⟨s1, s2, tmo, hv, hs2, -, hs', -⟩ := segments_ok e
  rw [C01.Ok3.finPending hst] at hs2
  have f := segmentizeIfOpen_frame hv
  refine ⟨(segments_step e).pres, fun h => segments_live t _ out e hst h hu hr, ?_, Or.inl ?_⟩
  · rw [hs', show s2 = s1 from hs2]; exact f.wnd
  · rw [hs', show s2 = s1 from hs2]; exact f.oneshot

structure ExtTcb (t : Tcb) : Prop where
  snd : SndOk t
  keep : KeepOk t
  onew : ∀ h ∈ t.outgoing.oneshot, h.wnd = 65535#16
  rtxw : ∀ tr ∈ t.outgoing.retransmit, tr.segment.hdr.wnd = 65535#16
  heapw : ∀ σ ∈ t.incoming.segments, σ.hdr.wnd = 65535#16
  swnd : t.state ≠ .SynSent → t.snd.wnd = 65535#16
  one : ∀ h ∈ t.outgoing.oneshot, h.seq = t.snd.nxt ∧ h.ctl.ack = true ∧ h.ctl.syn = false ∧ h.ctl.fin = false
  rtxa : ∀ tr ∈ t.outgoing.retransmit, tr.segment.hdr.ctl.ack = true ∨ tr.segment.hdr.ctl.syn = true

structure Ext (s : Sys) : Prop where
  wf : SysWf s
  hist : ∀ σ ∈ s.history, σ.hdr.wnd = 65535#16
  tcb : ∀ x t, (s.side x).tcb = some t → ExtTcb t

theorem ExtTcb.local {t t' : Tcb} (h : ExtTcb t) (l : LStep t t') (x : XStep t t') (hw : t'.rcv.wnd = 65535#16) :
    ExtTcb t' := by
  refine ⟨h.snd.step x.pres, x.keep h.keep, fun y hy => ?_, fun tr hy => ?_, by rw [l.heap]; exact h.heapw,
    fun hs => by rw [x.swnd]; exact h.swnd (fun e => hs (l.synsent.2 e)), fun y hy => ?_, fun tr hy => ?_⟩
  · rcases l.q.one y hy with e | e
    · exact h.onew y e
    · rw [e.2.1, hw]
  · rcases l.q.rtx tr hy with ⟨t0, e, es⟩ | e
    · rw [← es]; exact h.rtxw t0 e
    · rw [e.2.1, hw]
  · rcases x.one with e | ⟨e1, e2⟩
    · rw [e] at hy; cases hy
    · rw [e1] at hy; rw [e2]; exact h.one y hy
  · rcases l.q.rtx tr hy with ⟨t0, e, es⟩ | e
    · rw [← es]; exact h.rtxa t0 e
    · exact e.2.2.2

theorem ExtTcb.arrive {u u' : Tcb} {σ : Segment} (h : ExtTcb u) (e : u.segmentArrives σ = .ok (u', .Ok))
    (hwf : Wf u) (hp : σ.text.length ≤ MAX_PAYLOAD) (hE : Early u) (hσ : σ.hdr.wnd = 65535#16)
    (hw : u'.rcv.wnd = 65535#16) (hn : ∀ y ∈ u'.outgoing.oneshot, y.ctl.rst = false) : ExtTcb u' := by
  have ss := segmentArrives_s u σ u' .Ok e
  have hsub := segmentArrives_heap_sub u σ u' .Ok e
  have hW : ∀ w, (∃ τ ∈ σ :: u.incoming.segments, w = τ.hdr.wnd) → w = 65535#16 := by
    intro w ⟨τ, hτ, hwτ⟩
    rw [hwτ]
    rcases List.mem_cons.1 hτ with rfl | hτ
    · exact hσ
    · exact h.heapw τ hτ
  refine ⟨h.snd.step (segmentArrives_step e).pres, (segmentArrives_live e hE h.keep).1,
    fun y hy => ?_, fun tr hy => ?_, fun τ hτ => ?_, fun hs => ?_, fun y hy => ?_, fun tr hy => ?_⟩
  rotate_right
  · rcases ss.rtx tr hy with ⟨t0, e1, es⟩ | e1
    · rw [← es]; exact h.rtxa t0 e1
    · exact e1.2
  · rcases ss.one y hy with e1 | e1
    · exact h.onew y e1
    · rw [e1.1, hw]
  · rcases ss.rtx tr hy with ⟨t0, e1, es⟩ | e1
    · rw [← es]; exact h.rtxw t0 e1
    · rw [e1.1, hw]
  · rcases List.mem_cons.1 (hsub τ hτ) with rfl | e1
    · exact hσ
    · exact h.heapw τ e1
  · by_cases hu : u.state = .SynSent
    · exact hW _ (ss.wnd1 hu hs)
    · rcases ss.wnd with e1 | e1
      · rw [e1]; exact h.swnd hu
      · exact hW _ e1
  · rcases ss.one y hy with e1 | e1
    · rw [ss.nxt]; exact h.one y e1
    · rcases e1.2 with e2 | e2
      · rw [hn y hy] at e2; cases e2
      · exact e2

theorem extTcb_fresh {u : Tcb} {hd : Hdr} (hsnd : SndOk u) (ho : u.outgoing.oneshot = [])
    (hr : u.outgoing.retransmit = [Transmit.new ⟨hd, []⟩]) (hsyn : hd.ctl.syn = true) (hfin : hd.ctl.fin = false)
    (hseq : hd.seq = u.snd.una) (hw : hd.wnd = 65535#16) (hheap : ∀ σ ∈ u.incoming.segments, σ.hdr.wnd = 65535#16)
    (hswnd : u.state ≠ .SynSent → u.snd.wnd = 65535#16) : ExtTcb u := by
  have hmem : ∀ tr ∈ u.outgoing.retransmit, tr = Transmit.new ⟨hd, []⟩ := fun tr h => by
    rw [hr] at h; exact List.mem_singleton.1 h
  have none : ∀ y ∈ u.outgoing.oneshot, False := fun y hy => by rw [ho] at hy; cases hy
  refine ⟨hsnd, fun tr h => ?_, fun y hy => (none y hy).elim, fun tr h => (hmem tr h ▸ hw), hheap, hswnd,
    fun y hy => (none y hy).elim, fun tr h => hmem tr h ▸ Or.inr hsyn⟩
  have hl : (Transmit.new ⟨hd, []⟩).segment.segLen = 1 := by simp [Transmit.new, Segment.segLen, hsyn, hfin]
  rw [hmem tr h, keepFor, hl]
  exact ⟨Nat.one_pos, hseq ▸ ModCmp.modGt_succ _⟩

theorem extTcb_listen (σ : Segment) (iss : Seq) (mtu : U16) (tcb : Tcb)
    (e : segmentArrivesListen σ iss mtu = .ok (some (.Tcb tcb))) (hσ : σ.hdr.wnd = 65535#16) : ExtTcb tcb := by
  have hsnd := listen_sndOk σ iss mtu tcb e
  obtain ⟨-, -, -, rfl⟩ := segmentArrivesListen_tcb e
  -- the send window and the parked SYN have the window of the peer's SYN
  exact extTcb_fresh hsnd rfl rfl rfl rfl rfl rfl (fun τ hτ => by cases List.mem_singleton.1 hτ; exact hσ) (fun _ => hσ)

theorem extTcb_open (lp rp : U16) (iss : Seq) (mtu : U16) (t : Tcb) (e : Tcb.open lp rp iss mtu = .ok t) :
    ExtTcb t := by
  have hsnd := open_sndOk lp rp iss mtu t e
  rw [open_eq] at e
  cases e
  exact extTcb_fresh hsnd rfl rfl rfl rfl rfl rfl (fun _ h => nomatch h) (fun h => absurd rfl h)

theorem early_of_conv {iss : SideId → Seq} {s : Sys} (h : Conv iss s) (x : SideId) (t : Tcb)
    (ht : (s.side x).tcb = some t) : Early t := by
  have hf := (h.full.fresh x t ht).fresh
  refine ⟨fun hs => ⟨(hf hs).2.1, Or.inl (hf hs).1⟩, fun hs => ?_⟩
  cases hu : (s.side x.peer).tcb with
  | some u => exact (h.full.ack.tcbs ht hu).rcvd t u rfl rfl hs
  | none =>
    -- the peer only listens: `t` is still in SYN-SENT
    exfalso
    rcases h.nr.alive x.peer with ha | ha
    · rw [hu] at ha; cases ha
    · have := ((h.full.inv.link x.peer).fresh hu ha).2 t (by rw [SideId.peer_peer]; exact ht)
      rw [this.1] at hs; cases hs

theorem una_le_sent_of_conv {iss : SideId → Seq} {s : Sys} (h : Conv iss s) (x : SideId) (t : Tcb)
    (ht : (s.side x).tcb = some t) : off t.snd.iss t.snd.una ≤ t.sent := by
  have hA := h.full.ack x
  unfold AckLink at hA
  rw [ht] at hA
  cases hu : (s.side x.peer).tcb with
  | some u =>
    rw [hu] at hA
    exact Nat.le_trans (hA.una t u rfl rfl) (top_le ((h.full.inv.link x).rcv t u ht hu).1)
  | none =>
    rcases h.nr.alive x.peer with ha | ha
    · rw [hu] at ha; cases ha
    · rw [hu, ha] at hA
      rw [(hA.fresh t rfl rfl rfl).2.una, off_self]
      exact Nat.zero_le _

theorem wf_of_sysWf {s : Sys} (h : SysWf s) (x : SideId) (t : Tcb) (ht : (s.side x).tcb = some t) : Wf t :=
  ((h.side x).1 t ht).1

theorem Ext.setSide {s : Sys} (h : Ext s) (hw : SysWf (s.setSide x sd)) (ht : ∀ t, sd.tcb = some t → ExtTcb t) :
    Ext (s.setSide x sd) := by
  refine ⟨hw, by rw [history_setSide]; exact h.hist, fun y u hu => ?_⟩
  rw [side_setSide] at hu
  split at hu
  · exact ht u hu
  · exact h.tcb y u hu

theorem ext_arrive {iss : SideId → Seq} {s s' : Sys} {x : SideId} {σ : Segment} {r : Res} (hx : Ext s)
    (a : Sys.Arrive s x σ s' r) (hc : Conv iss s) (hb : RoomH s) (hc' : Conv iss s') (hwf' : SysWf s')
    (hmem : σ ∈ s.history) (hsrc : σ.hdr.srcPort = x.peer.port) : Ext s' := by
  have hσw := hx.hist σ hmem
  rcases conv_arrive hc hb a hmem hsrc with ⟨t, t', ht, h1, rfl⟩ | rfl | ⟨il, mtu, t, -, h1, rfl⟩
  · refine hx.setSide hwf' (fun u hu => ?_)
    cases hu
    have hs' : ((s.withTcb x t').side x).tcb = some t' := by rw [side_setSide_same]
    exact (hx.tcb x t ht).arrive h1 (wf_of_sysWf hx.wf x t ht) (hx.wf.hist σ hmem) (early_of_conv hc x t ht) hσw
      ((wf_of_sysWf hwf' x t' hs').rcv_wnd) (hc'.nr.tcb x t' hs').one
  · exact hx
  · refine hx.setSide hwf' (fun u hu => ?_)
    cases hu
    exact extTcb_listen σ _ _ _ h1 hσw

theorem ext_step {iss : SideId → Seq} (s : Sys) (hc : Conv iss s) (hx : Ext s) (hb : RoomH s) (op : Op)
    (hp : Op.Plain s op) (s' : Sys) (r : Res) (e : s.step op = .ok (s', r)) : Ext s' := by
  have hc' := conv_step s hc hb op hp s' r e
  have hroom := room_of_inv hc.c01 hb
  have hwf' : SysWf s' := by
    obtain ⟨s1, r1, e1, w1⟩ := c01_step_total s hx.wf op (by cases op <;> first | trivial | exact hp.elim)
    rw [e] at e1
    cases e1
    exact w1
  have hrw : ∀ y t, (s'.side y).tcb = some t → t.rcv.wnd = 65535#16 :=
    fun y t ht => (wf_of_sysWf hwf' y t ht).rcv_wnd
  -- a local call that records nothing
  have loc : ∀ {x t t' sd}, (s.side x).tcb = some t → sd.tcb = some t' → s' = s.setSide x sd → LStep t t' →
      XStep t t' → Ext s' := by
    intro x t t' sd ht hsd es l xs
    subst es
    refine hx.setSide hwf' (fun u hu => ?_)
    rw [hsd] at hu
    cases hu
    exact (hx.tcb x t ht).local l xs (hrw x _ (by rw [side_setSide_same]; exact hsd))
  cases step_iff.1 e with
  | «open» | listen | inject | abort | drop | close => exact hp.elim
  | noSeg | noTcb => exact hx
  | deliver hn a => exact ext_arrive hx a hc hb hc' hwf' (nth_mem s _ _ hn) (hp _ hn).1
  | write ht => exact loc ht rfl rfl (send_l _ _) (send_x _ _)
  | read ht => exact loc ht rfl rfl (receive_l _) (receive_x _)
  | tick ht h1 => exact loc ht rfl rfl (advanceTime_l _ _ _ h1) (advanceTime_x _ _ _ _ h1)
  | expire => exact hx.setSide hwf' (fun u hu => by cases hu)
  | @emit x t t' segs ht h1 =>
    have xt := hx.tcb x t ht
    obtain ⟨l, hnew⟩ := segments_l t t' segs h1 (hc.full.fresh x t ht).fresh
    have xt' : ExtTcb t' := xt.local l (segments_x t t' segs h1 ((hc.c01.side x).tcb t ht).st
      (una_le_sent_of_conv hc x t ht) (hroom x t ht)) (hrw x t' (by rw [Elvis.Tcp.side_record, side_setSide_same]))
    refine ⟨hwf', fun σ hσ => ?_, fun y u hu => ?_⟩
    · rw [mem_history_record, history_setSide] at hσ
      rcases hσ with hn | ho
      · rcases hnew σ hn with e2 | ⟨tr, e2, es⟩
        · exact xt.onew _ e2
        · rw [← es]; exact xt'.rtxw tr e2
      · exact hx.hist σ ho
    · rw [Elvis.Tcp.side_record, side_setSide] at hu
      split at hu
      · cases hu; exact xt'
      · exact hx.tcb y u hu

theorem ext_run {iss : SideId → Seq} {s s' : Sys} (hc : Conv iss s) (hx : Ext s) (r : PlainRun s s') (hb : RoomH s') :
    Conv iss s' ∧ Ext s' :=
  r.invariant (I := fun s => Conv iss s ∧ Ext s)
    (fun h hb hp e => ⟨conv_step _ h.1 hb _ hp _ _ e, ext_step _ h.1 h.2 hb _ hp _ _ e⟩) ⟨hc, hx⟩ hb

theorem ext_init (ia ib : Seq) (ma mb : U16) (simultaneous : Bool) (sys : Sys) (rs : List Res)
    (hma : SPACE_FOR_HEADERS ≤ ma.toNat) (hmb : SPACE_FOR_HEADERS ≤ mb.toNat)
    (e : Sys.run {} [.open .A ia ma, if simultaneous then .open .B ib mb else .listen .B ib mb] = .ok (sys, rs)) :
    Ext sys := by
  have hwf : SysWf sys := by
    obtain ⟨s1, rs1, e1, w⟩ := run_total {} sysWf_empty
      [.open .A ia ma, if simultaneous then .open .B ib mb else .listen .B ib mb] (fun op hop => by
      rcases List.mem_cons.1 hop with rfl | hop
      · exact hma
      cases List.mem_singleton.1 hop
      cases simultaneous <;> exact hmb)
    rw [e] at e1
    cases e1
    exact w
  obtain ⟨ta, h1, ⟨-, rfl⟩ | ⟨-, tb, h2, rfl⟩⟩ := init_cases e
  · refine ⟨hwf, fun σ hσ => (nomatch hσ), fun y u hu => ?_⟩
    cases y with
    | A => cases hu; exact extTcb_open _ _ _ _ _ h1
    | B => cases hu
  · refine ⟨hwf, fun σ hσ => (nomatch hσ), fun y u hu => ?_⟩
    cases y with
    | A => cases hu; exact extTcb_open _ _ _ _ _ h1
    | B => cases hu; exact extTcb_open _ _ _ _ _ h2

end Elvis.Tcp
