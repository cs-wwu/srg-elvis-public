import ElvisVerif.Lemmas.TcpAckCore
import ElvisVerif.Lemmas.TcpSysInv
/-!
# The acknowledgment invariant of the closed two-endpoint system

`AckInv sys`: `AckCore` (`Lemmas/TcpAckCore.lean`) for both orderings of the two sides.  Kept by
every clean op (`Op.Clean`: write, read, tick, emit, close, delivery of any history element to the
side it is addressed to) and by `drop`, given the two invariants it builds on:

* `Inv` of `Lemmas/TcpSysInv.lean` (RCV.NXT of one side never passes SND.NXT of the other), with
  `RoomOk` (H31: fewer than 2^31 sequence numbers per direction);
* `SysInv` of `Lemmas/ShiftInv.lean` (a TCB in SYN-SENT is as `open` made it; built for C12).

`Full` of `Lemmas/TcpAckStep.lean` bundles the three.
-/
namespace Elvis.Tcp
open Tcb

def AckLink (sys : Sys) (x : SideId) : Prop :=
  AckCore (sys.side x).tcb (sys.side x.peer).tcb (sys.side x.peer).listen.isSome sys.history x.peer.port

def AckInv (sys : Sys) : Prop := ∀ x, AckLink sys x

theorem side_setSide_if (sys : Sys) (z : SideId) (sd' : Side) (y : SideId) :
    (sys.setSide z sd').side y = if y = z then sd' else sys.side y := side_setSide sys z sd' y

theorem AckInv.tcbs {sys : Sys} (ha : AckInv sys) {x : SideId} {t u : Tcb} (ht : (sys.side x).tcb = some t)
    (hu : (sys.side x.peer).tcb = some u) :
    AckCore (some t) (some u) (sys.side x.peer).listen.isSome sys.history x.peer.port := by
  have hA := ha x
  unfold AckLink at hA
  rwa [ht, hu] at hA

theorem AckInv.peer {sys : Sys} (ha : AckInv sys) (z : SideId) :
    AckCore (sys.side z.peer).tcb (sys.side z).tcb (sys.side z).listen.isSome sys.history z.port := by
  have := ha z.peer
  unfold AckLink at this
  rwa [SideId.peer_peer] at this

/-- side `z` is replaced by `sd'` and `new` is recorded: the invariant with `z` as receiver of ACKs, and with `z` as
    acknowledger -/
theorem ackInv_of_cores {sys : Sys} {z : SideId} {sd' : Side} {new : List Segment}
    (hx : AckCore sd'.tcb (sys.side z.peer).tcb (sys.side z.peer).listen.isSome (sys.record new).history z.peer.port)
    (hy : AckCore (sys.side z.peer).tcb sd'.tcb sd'.listen.isSome (sys.record new).history z.port) :
    AckInv ((sys.setSide z sd').record new) := by
  have hh : ((sys.setSide z sd').record new).history = (sys.record new).history :=
    congrArg (new.reverse ++ ·) (history_setSide sys z sd')
  refine z.both ?_ ?_
  · unfold AckLink
    rw [hh, side_touched, side_untouched]; exact hx
  · unfold AckLink
    rw [hh, SideId.peer_peer, side_touched, side_untouched]; exact hy

theorem ackInv_update (sys : Sys) (hi : Inv sys) (ha : AckInv sys) (z : SideId) (t t' : Tcb) (sd' : Side)
    (new : List Segment) (ht : (sys.side z).tcb = some t) (hsd : sd'.tcb = some t')
    (hl : sd'.listen = (sys.side z).listen) (l : LStep t t') (hp : ∀ σ ∈ new, σ.hdr.srcPort = z.port)
    (hnew : ∀ σ ∈ new, σ.hdr ∈ t.outgoing.oneshot ∨ ∃ tr ∈ t'.outgoing.retransmit, tr.segment = σ) :
    AckInv ((sys.setSide z sd').record new) := by
  have hhist : ∀ σ ∈ (sys.record new).history, σ ∈ new ∨ σ ∈ sys.history := fun σ => (mem_history_record sys new σ).1
  have hx := ha z
  have hy := ha.peer z
  unfold AckLink at hx
  rw [ht] at hx hy
  refine ackInv_of_cores ?_ ?_
  · rw [hsd]
    exact hx.local_x l hhist (fun σ hσ => by rw [hp σ hσ]; exact fun e => SideId.port_ne z e.symm) hnew
      fun hn hlis => (((hi.link z.peer).fresh hn hlis).2 t (by rw [SideId.peer_peer]; exact ht)).1
  · rw [hsd, hl]
    exact hy.local_y l hhist hnew

theorem ackInv_delete (sys : Sys) (_ha : AckInv sys) (z : SideId) (sd' : Side) (hsd : sd'.tcb = none)
    (hl : sd'.listen = none) : AckInv (sys.setSide z sd') := by
  refine ackInv_of_cores (new := []) ?_ ?_
  · rw [hsd]; exact AckCore.of_none _ _ _ _
  · rw [hsd, hl]; exact AckCore.of_gone _ _ _

theorem ackInv_respond (sys : Sys) (ha : AckInv sys) (z : SideId) (hz : (sys.side z).tcb = none)
    (new : List Segment)
    (hn : (sys.side z).listen.isSome = true → ∀ σ ∈ new, σ.hdr.ctl.ack = false) : AckInv (sys.record new) := by
  rw [← sys.setSide_side z]
  refine ackInv_of_cores ?_ ((ha.peer z).respond (fun σ => (mem_history_record sys new σ).1)
    fun σ hσ => ⟨fun u hu => ?_, fun _ hlis => hn hlis σ hσ⟩)
  · rw [hz]; exact AckCore.of_none _ _ _ _
  · rw [hz] at hu; cases hu

theorem arrive_both (sys : Sys) (hi : Inv sys) (hs : SysInv sys) (ha : AckInv sys) (hroom : RoomOk sys)
    (z : SideId) (u u' : Tcb) (σ : Segment)
    (hu : (sys.side z).tcb = some u) (hσ : σ ∈ sys.history) (hsrc : σ.hdr.srcPort = z.peer.port)
    (e : u.segmentArrives σ = .ok (u', .Ok)) (t : Tcb) (ht : (sys.side z.peer).tcb = some t) :
    AStep t.snd.iss t.sent False (fun v => 1 ≤ off u.snd.iss v ∧ off u.snd.iss v ≤ top u.snd.iss t) u u' ∧
      AckRcv u.snd.iss (top u.snd.iss t) u' := by
  have huz : (sys.side z.peer.peer).tcb = some u := by rw [SideId.peer_peer]; exact hu
  have hAz := ha z
  have hAp := ha.peer z
  unfold AckLink at hAz
  rw [hu] at hAz hAp
  obtain ⟨r1, r2⟩ := (hi.link z.peer).rcv t u ht huz
  have r3 := ((hi.link z).rcv u t hu ht).1
  have hr : AckRcv u.snd.iss (top u.snd.iss t) u :=
    ⟨(hs z u hu).fresh, hAz.rcvd u t rfl ht, rfl, hAz.una u t rfl ht, top_le r3, hroom.sent_lt hu⟩
  obtain ⟨a, _, hr'⟩ := segmentArrives_ack u σ u' e t.snd.iss t.sent (hroom.sent_lt ht) r1 (hAp.q t u ht rfl).pos
    ((hi.link z.peer).hist t ht σ hσ hsrc) r2 u.snd.iss (top u.snd.iss t) hr
    (hAz.hist u t rfl ht σ hσ hsrc) (hAz.heap u t rfl ht)
  exact ⟨a, hr'⟩

theorem arrive_listening (sys : Sys) (hi : Inv sys) (hs : SysInv sys) (ha : AckInv sys) (hroom : RoomOk sys)
    (z : SideId) (u u' : Tcb) (σ : Segment)
    (hu : (sys.side z).tcb = some u) (hσ : σ ∈ sys.history) (hsrc : σ.hdr.srcPort = z.peer.port)
    (e : u.segmentArrives σ = .ok (u', .Ok)) (ht : (sys.side z.peer).tcb = none)
    (hlis : (sys.side z.peer).listen.isSome = true) :
    AStep 0 0 False (fun v => 1 ≤ off u.snd.iss v ∧ off u.snd.iss v ≤ 0) u u' ∧ AckRcv u.snd.iss 0 u' ∧
      u.state = .SynSent ∧ u'.state = .SynSent := by
  have huz : (sys.side z.peer.peer).tcb = some u := by rw [SideId.peer_peer]; exact hu
  have hAz := ha z
  unfold AckLink at hAz
  rw [hu, ht, hlis] at hAz
  obtain ⟨f1, f2⟩ := hAz.fresh u rfl rfl rfl
  obtain ⟨g1, g2⟩ := (hi.link z.peer).fresh ht hlis
  obtain ⟨hst, g3⟩ := g2 u huz
  have hσ0 := g1 σ hσ hsrc
  have hst' : u'.state = .SynSent :=
    segmentArrives_synsent_stays u σ u' e hst hσ0.2 (fun x hx => (g3 x hx).2)
  have hr : AckRcv u.snd.iss 0 u :=
    ⟨(hs z u hu).fresh, fun h => (by rw [hst] at h; cases h), rfl, (by rw [f2.una, off_self]; exact Nat.le_refl _),
      Nat.zero_le _, hroom.sent_lt hu⟩
  obtain ⟨a, _, hr'⟩ := segmentArrives_ack u σ u' e 0 0 (by omega) (fun hne => absurd hst hne)
    (fun hne => absurd hst hne) (segBelow_of_empty _ _ _ hσ0) (fun x hx => segBelow_of_empty _ _ _ (g3 x hx))
    u.snd.iss 0 hr (ackLe_of_noack (f1 σ hσ)) (fun x hx => ackLe_of_noack (f2.heap x hx))
  exact ⟨a, hr', hst, hst'⟩

theorem ackInv_arrive_tcb (sys : Sys) (hi : Inv sys) (hs : SysInv sys) (ha : AckInv sys) (hroom : RoomOk sys)
    (z : SideId) (u u' : Tcb) (σ : Segment)
    (hu : (sys.side z).tcb = some u) (hσ : σ ∈ sys.history) (hsrc : σ.hdr.srcPort = z.peer.port)
    (e : u.segmentArrives σ = .ok (u', .Ok)) (sd' : Side) (hsd : sd'.tcb = some u')
    (hl : sd'.listen = (sys.side z).listen) : AckInv (sys.setSide z sd') := by
  have k := segmentArrives_snd u σ u' .Ok e
  have hsub := segmentArrives_heap_sub u σ u' .Ok e
  have hAz := ha z
  have hAp := ha.peer z
  unfold AckLink at hAz
  rw [hu] at hAz hAp
  have key := arrive_both sys hi hs ha hroom z u u' σ hu hσ hsrc e
  refine ackInv_of_cores (new := []) ?_ ?_
  · rw [hsd]
    cases ht : (sys.side z.peer).tcb with
    | some t =>
      rw [ht] at hAz
      exact hAz.arrive_x k.iss (key t ht).2 hsub hσ hsrc
    | none =>
      rw [ht] at hAz
      cases hlis : (sys.side z.peer).listen.isSome with
      | false => exact AckCore.of_gone _ _ _
      | true =>
        rw [hlis] at hAz
        obtain ⟨f1, f2⟩ := hAz.fresh u rfl rfl rfl
        obtain ⟨a, hr', _, hst'⟩ := arrive_listening sys hi hs ha hroom z u u' σ hu hσ hsrc e ht hlis
        -- still in SYN-SENT: what was queued acknowledges at most `top = 0`, that is, nothing
        refine hAz.arrive_fresh (f2.of_qstep a.q (fun x e1 => ?_) (fun x hx => ?_) ?_)
        · have := e1.1
          rw [top_of_synSent hst'] at this
          exact this.zero
        · rcases List.mem_cons.1 (hsub x hx) with rfl | e1
          · exact f1 _ hσ
          · exact f2.heap x e1
        · rw [k.iss]
          exact off_eq_zero (Nat.le_zero.1 hr'.una)
  · rw [hsd, hl]
    exact hAp.arrive_y (fun t ht => ⟨_, _, _, (key t ht).1⟩)

/-- the peer of the new TCB, if it exists, is still in SYN-SENT and has met no ACK (`fresh` of both invariants) -/
theorem ackInv_create (sys : Sys) (hi : Inv sys) (ha : AckInv sys) (z : SideId) (iss : Seq) (mtu : U16) (σ : Segment)
    (tcb : Tcb) (hz : (sys.side z).tcb = none) (hlis : (sys.side z).listen = some (iss, mtu))
    (hσ : σ ∈ sys.history) (hsrc : σ.hdr.srcPort = z.peer.port)
    (e : segmentArrivesListen σ iss mtu = .ok (some (.Tcb tcb))) (sd' : Side) (hsd : sd'.tcb = some tcb)
    (hl : sd'.listen = (sys.side z).listen) : AckInv (sys.setSide z sd') := by
  obtain ⟨_, ciss, _, _, _, cst, cnxt, _⟩ := listen_create σ iss mtu tcb e
  obtain ⟨cuna, cone, crtx, cheap⟩ := listen_create_ack σ iss mtu tcb e
  have hlis' : (sys.side z).listen.isSome = true := by rw [hlis]; rfl
  have hAp := ha.peer z
  rw [hz, hlis'] at hAp
  obtain ⟨_, f2⟩ := (hi.link z).fresh hz hlis'
  refine ackInv_of_cores (new := []) ?_ ?_
  · rw [hsd]
    cases ht : (sys.side z.peer).tcb with
    | none =>
      rw [hi.peer_noListen hlis']
      exact AckCore.of_gone _ _ _
    | some t =>
      rw [ht] at hAp
      obtain ⟨g1, g2⟩ := hAp.fresh t rfl rfl rfl
      refine AckCore.of_noack g1 (fun τ hτ => (cheap τ hτ).1) (cuna.trans ciss.symm) nofun fun a ha' => ?_
      cases ha'
      exact ⟨(f2 t ht).1, g2.one, g2.rtx⟩
  · rw [hsd, hl]
    cases ht : (sys.side z.peer).tcb with
    | none => exact AckCore.of_none _ _ _ _
    | some t =>
      rw [ht] at hAp
      obtain ⟨g1, g2⟩ := hAp.fresh t rfl rfl rfl
      have o1 := (listen_create_rcv σ iss mtu tcb e t.snd.iss t.sent ((hi.link z.peer).hist t ht σ hσ hsrc)).1
      exact AckCore.of_first g1 g2 (f2 t ht).1 (by rw [cst]; nofun) o1 cone fun tr hh => (crtx tr hh).1.trans cnxt.symm

end Elvis.Tcp
