import ElvisVerif.Lemmas.TcpAckBlocks
/-!
# Before the connection is established nothing is acknowledged

`Early s` — block-stable facts about the two pre-synchronised states:

* SYN-SENT: only the SYN has been numbered (`SND.NXT = ISS + 1`) and `SND.UNA` is `ISS`, or —
  between block 2 and block 4 of the segment that completes the handshake — `ISS + 1`;
* SYN-RECEIVED: our SYN is unacknowledged (`SND.UNA = ISS`).

Every change `process_segment` makes keeps `Early` (`Eff.early`).  It is what makes the ACK test of block 2 succeed
for every ACK number in `[ISS + 1, SND.NXT]` (`goodAck_of` of `Lemmas/TcpAckDrain.lean`): no RST "for an unacceptable ACK".
-/
namespace Elvis.Tcp
open Elvis.ModCmp
namespace Tcb

structure Early (s : Tcb) : Prop where
  synSent : s.state = .SynSent →
    s.snd.nxt = s.snd.iss + 1 ∧ (s.snd.una = s.snd.iss ∨ s.snd.una = s.snd.iss + 1)
  synRcvd : s.state = .SynReceived → s.snd.una = s.snd.iss

theorem Early.congr {s s' : Tcb} (h : Early s) (h1 : s'.state = s.state) (h2 : s'.snd = s.snd) : Early s' :=
  ⟨fun hs => by rw [h2]; exact h.synSent (h1 ▸ hs), fun hs => by rw [h2]; exact h.synRcvd (h1 ▸ hs)⟩

theorem Early.of_late {s : Tcb} (h1 : s.state ≠ .SynSent) (h2 : s.state ≠ .SynReceived) : Early s :=
  ⟨fun h => absurd h h1, fun h => absurd h h2⟩

theorem early_enqueueBuilt {s : Tcb} (h : Early s) (hd : Hdr) : Early (s.enqueueBuilt hd) :=
  h.congr (state_enqueueBuilt _ _) (snd_enqueueBuilt _ _)

theorem modGt_succ (iss : Seq) : modGt (iss + 1) iss = true := ModCmp.modGt_succ iss

/-- in SYN-SENT with only the SYN sent, an acceptable ACK acknowledges exactly the SYN -/
theorem ack_of_bounded_syn (iss una ack : Seq) (hu : una = iss ∨ una = iss + 1)
    (h : modBounded una .Lt ack .Leq (iss + 1) = true) : ack = iss + 1 := by
  have o1 := off_succ iss
  have ou : off iss una ≤ 1 := by
    rcases hu with rfl | rfl
    · rw [off_self]; omega
    · rw [o1]; omega
  have := (bounded_iff_off iss una ack (iss + 1) (by omega) (by omega)).1 h
  exact off_eq_one (by omega)

/-- **every elementary change keeps `Early`**: `SND.UNA` moves only when an ACK is taken, which in SYN-SENT is the
    ACK of our SYN and in SYN-RECEIVED comes after the move to ESTABLISHED; a SYN that leaves us in SYN-RECEIVED
    (simultaneous open) found our SYN unacknowledged -/
theorem Eff.early {g : Segment} {k : Nat} {s s' : Tcb} (e : Eff g k s s') (h : Early s) : Early s' := by
  cases e with
  | reply => exact early_enqueueBuilt h _
  | ack _ _ hnr hb =>
    refine ⟨fun hs => ?_, fun hs => absurd hs hnr⟩
    obtain ⟨hn, hu⟩ := h.synSent hs
    have hb' : modBounded s.snd.una .Lt g.hdr.ack .Leq (s.snd.iss + 1) = true := hn ▸ hb
    exact ⟨hn, Or.inr (ack_of_bounded_syn _ _ _ hu hb')⟩
  | window => exact ⟨h.synSent, h.synRcvd⟩
  | text | fin | rto => exact h.congr rfl rfl
  | established | finWait2 | timeWaitAcked | closeWait | closing | timeWaitFin => exact Early.of_late nofun nofun
  | syn _ _ hst =>
    refine ⟨fun hs => ?_, fun hs => ?_⟩
    · split at hs <;> cases hs
    · -- `SND.UNA = ISS`, or block 4 would have made the connection ESTABLISHED
      rcases (h.synSent hst).2 with hu | hu
      · exact hu
      · rw [show modGt s.snd.una s.snd.iss = true from hu ▸ modGt_succ _, if_pos rfl] at hs
        cases hs

theorem processSegment_early (s : Tcb) (segment : Segment) (s' : Tcb) (r : ProcessSegmentResult)
    (e : s.processSegment segment = .ok (s', r)) (h : Early s) : Early s' :=
  processSegment_lift (R := fun s s' => Early s → Early s') (fun _ h => h) (fun h1 h2 h => h2 (h1 h))
    (fun x => x.early) e h

theorem seqCheck_early (s : Tcb) (seg : Hdr) (tl : Seq) (s' : Tcb) (r : Option ProcessSegmentResult)
    (e : seqCheck s seg tl = .ok (s', r)) (h : Early s) : Early s' := by
  rcases seqCheck_ok e with ⟨rfl, -⟩ | ⟨-, -, rfl, -⟩
  · exact h
  · exact early_enqueueBuilt h _

theorem ackBlock_early (s : Tcb) (seg : Hdr) (h : Early s) :
    ∃ s' r, ackBlock s seg = .ok (s', r) ∧ Early s' :=
  ⟨_, _, ackBlock_eq s seg, (ackBlock_effs (g := ⟨seg, []⟩) (ackBlock_eq s seg)).1.lift
    (R := fun s s' => Early s → Early s') (fun _ h => h) (fun h1 h2 h => h2 (h1 h)) (fun x => x.early) h⟩

end Tcb
end Elvis.Tcp
