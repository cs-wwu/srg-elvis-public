import ElvisVerif.Lemmas.TcpAckProc
import ElvisVerif.Lemmas.TcpAckEarly
import ElvisVerif.Lemmas.ShiftInv
/-!
# `segment_arrives`: ACK numbers issued and ACK numbers received

The endpoint in both roles at once:

* as **acknowledger** of the peer's data (`base` = peer's ISS, `N` = sequence numbers the peer has
  used): `AStep` of `Lemmas/TcpAckProc.lean`;
* as **receiver of ACKs** for its own data (`own` = its ISS, `R` = what the peer has received,
  `R ≤ SND.NXT − ISS`): `AckRcv own R s` — `SND.UNA ≤ own + R`, and the pre-synchronised states are
  as fresh as `open` / LISTEN made them.  If every ACK field it meets lies in `[own + 1, own + R]`
  (`AckLe own R`), `AckRcv` is kept and the ACK test of block 2 never fails (`goodAck_of`): no RST
  is queued.
-/
namespace Elvis.Tcp
open Elvis.ModCmp
namespace Tcb

structure AckRcv (own : Seq) (R : Nat) (s : Tcb) : Prop where
  fresh : SynSentFresh s
  rcvd : s.state = .SynReceived → s.snd.una = s.snd.iss
  iss : s.snd.iss = own
  una : off own s.snd.una ≤ R
  sent : R ≤ s.sent ∧ s.sent < 2147483648

theorem AckRcv.early {own : Seq} {R : Nat} {s : Tcb} (h : AckRcv own R s) : Early s :=
  ⟨fun hs => ⟨(h.fresh hs).2.1, Or.inl (h.fresh hs).1⟩, h.rcvd⟩

theorem AckRcv.congr {own : Seq} {R : Nat} {s s' : Tcb} (h : AckRcv own R s) (h1 : s'.state = s.state)
    (h2 : s'.snd = s.snd) : AckRcv own R s' := by
  refine ⟨fun hs => ?_, fun hs => ?_, by rw [h2]; exact h.iss, by rw [h2]; exact h.una, ?_⟩
  · rw [h2]; exact h.fresh (h1 ▸ hs)
  · rw [h2]; exact h.rcvd (h1 ▸ hs)
  · have : s'.sent = s.sent := sent_congr (by rw [h2]) (by rw [h2])
    rw [this]; exact h.sent

/-- **no RST for an unacceptable ACK**: an ACK field in `[own + 1, own + R]` passes the test of
    block 2 in SYN-SENT and SYN-RECEIVED -/
theorem goodAck_of {own : Seq} {R : Nat} {s : Tcb} {seg : Hdr} (hr : AckRcv own R s) (ha : AckLe own R seg) :
    GoodAck s seg := by
  intro hf
  obtain ⟨h1, h2⟩ := ha hf
  have hsent := hr.sent
  refine ⟨fun hst => ?_, fun hst => ?_⟩
  · obtain ⟨hu, hn, _⟩ := hr.fresh hst
    have hs1 : s.sent = 1 := by
      unfold sent; rw [hn, off_succ]
    have h1' : off s.snd.iss seg.ack = 1 := by rw [hr.iss]; omega
    have hack : seg.ack = s.snd.iss + 1 := off_eq_one h1'
    rw [hu, hn, hack]
    exact ⟨not_bounded_self _ _, bounded_succ _⟩
  · have hu := hr.rcvd hst
    rw [hu]
    have hnx : off own s.snd.nxt = s.sent := by unfold Tcb.sent; rw [hr.iss]
    refine bounded_of_off own _ _ _ (by rw [hnx]; exact hsent.2) ?_ ?_
    · have : off own s.snd.iss = 0 := by rw [hr.iss]; exact off_self _
      omega
    · omega

theorem processSegment_ackRcv {own : Seq} {R : Nat} (s : Tcb) (segment : Segment) (s' : Tcb)
    (r : ProcessSegmentResult) (e : s.processSegment segment = .ok (s', r)) (hd : r.shouldDeleteTcb = false)
    (hr : AckRcv own R s)
    (hu : s'.snd.una = s.snd.una ∨ (1 ≤ off own s'.snd.una ∧ off own s'.snd.una ≤ R)) : AckRcv own R s' := by
  have k := processSegment_snd s segment s' r e
  have hs : s'.sent = s.sent := sent_congr k.iss k.nxt
  have he := processSegment_early s segment s' r e hr.early
  refine ⟨fun hst => ?_, he.synRcvd, by rw [k.iss]; exact hr.iss, ?_, by rw [hs]; exact hr.sent⟩
  · have hst0 : s.state = .SynSent := (processSegment_rx e).synsent hst
    have := processSegment_synSent s s' segment r hst0 e hd hst
    rw [this]; exact hr.fresh hst0
  · rcases hu with hu | hu
    · rw [hu]; exact hr.una
    · exact hu.2

theorem Drains.ack {s s' : Tcb} (d : Drains s .Ok s')
    (base : Seq) (N : Nat) (hN : N < 2147483648) (hb : RcvBelow base N s)
    (hpos : s.state ≠ .SynSent → 1 ≤ off base s.rcv.nxt)
    (hh : ∀ σ ∈ s.incoming.segments, SegBelow base N σ)
    (own : Seq) (R : Nat) (hr : AckRcv own R s) (hha : ∀ σ ∈ s.incoming.segments, AckLe own R σ.hdr) :
    AStep base N False (fun v => 1 ≤ off own v ∧ off own v ≤ R) s s' ∧ AckRcv own R s' := by
  generalize hres : SegmentArrivesResult.Ok = res at d
  induction d with
  | stop => exact ⟨AStep.refl hb hpos, hr⟩
  | close => cases hres
  | @step s s1 s' top rest r1 _ P hdel _ ih =>
    have hr0 : AckRcv own R ({ s with incoming.segments := rest } : Tcb) := hr.congr rfl rfl
    have htop := (P.mem top).2 (Or.inl rfl)
    have a0 := processSegment_ack { s with incoming.segments := rest } top s1 r1 P.proc base N hN hb hpos
      (hh top htop) P.gate (fun v => 1 ≤ off own v ∧ off own v ≤ R) (hha top htop)
    have a1 : AStep base N False (fun v => 1 ≤ off own v ∧ off own v ≤ R) s s1 :=
      ⟨a0.rcv.of_left rfl rfl, a0.pos,
        QStep.of_eq_left (t := { s with incoming.segments := rest }) rfl rfl rfl
          (a0.imp (fun hbad => hbad (goodAck_of hr0 (hha top htop)))).q⟩
    have hr1 : AckRcv own R s1 := processSegment_ackRcv _ top s1 r1 P.proc hdel hr0 a0.q.una
    obtain ⟨a2, hr2⟩ := ih a1.rcv.below a1.pos (fun σ hσ => hh σ ((P.mem σ).2 (Or.inr hσ))) hr1
      (fun σ hσ => hha σ ((P.mem σ).2 (Or.inr hσ))) hres
    exact ⟨a1.trans a2, hr2⟩

/-- **`segment_arrives`**, both roles: with the arriving segment and everything parked below
    `base + N`, all their ACK fields in `[own + 1, own + R]`: every header queued meanwhile
    acknowledges a number in `[base + 1, RCV.NXT']` and is no RST; `SND.UNA` stays `≤ own + R` -/
theorem segmentArrives_ack (s : Tcb) (segment : Segment) (s' : Tcb)
    (e : s.segmentArrives segment = .ok (s', .Ok))
    (base : Seq) (N : Nat) (hN : N < 2147483648) (hb : RcvBelow base N s)
    (hpos : s.state ≠ .SynSent → 1 ≤ off base s.rcv.nxt)
    (hseg : SegBelow base N segment) (hh : ∀ σ ∈ s.incoming.segments, SegBelow base N σ)
    (own : Seq) (R : Nat) (hr : AckRcv own R s) (hsa : AckLe own R segment.hdr)
    (hha : ∀ σ ∈ s.incoming.segments, AckLe own R σ.hdr) :
    AStep base N False (fun v => 1 ≤ off own v ∧ off own v ≤ R) s s' ∧
      (∀ σ ∈ s'.incoming.segments, SegBelow base N σ) ∧ AckRcv own R s' := by
  have key : AStep base N False (fun v => 1 ≤ off own v ∧ off own v ≤ R) s s' ∧ AckRcv own R s' := by
    rcases segmentArrives_iff.1 e with ⟨hst, -, rfl, -⟩ | ⟨-, d⟩
    · have rc : (s.enqueueBuilt s.ackHdr.built).rcv = s.rcv := (same_enqueueBuilt _ _).rcv
      have pos' : (s.enqueueBuilt s.ackHdr.built).state ≠ .SynSent →
          1 ≤ off base (s.enqueueBuilt s.ackHdr.built).rcv.nxt := by
        intro _; rw [rc]; exact hpos hst
      exact ⟨AStep.of_same hb hpos rc (by rw [state_enqueueBuilt]) (qstep_enqueue _ _ (ackP_new
        (newHdr_ackHdr _ _ (by rw [rc]) (by rw [state_enqueueBuilt]; exact hst)) pos')),
        hr.congr (state_enqueueBuilt _ _) (snd_enqueueBuilt _ _)⟩
    · have t0 := d.ack base N hN hb hpos (LHeap.forall_mem_push hseg hh) own R (hr.congr rfl rfl)
        (LHeap.forall_mem_push hsa hha)
      exact ⟨⟨t0.1.rcv.of_left rfl rfl, t0.1.pos,
        QStep.of_eq_left (t := { s with incoming.segments := LHeap.push segLe s.incoming.segments segment })
          rfl rfl rfl t0.1.q⟩, t0.2⟩
  exact ⟨key.1, segmentArrives_parked e hseg hh, key.2⟩

end Tcb
end Elvis.Tcp
