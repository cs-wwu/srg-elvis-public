import ElvisVerif.Lemmas.TcbEff
/-!
# The retransmission timer is not touched by `segment_arrives` (no FIN around)

Needed for the system invariant `timeouts.retransmission ≤ RTO` (so that a tick of `RTO + 1` always expires the timer).
-/
namespace Elvis.Tcp.Tcb

/-- only the change that re-arms the timer on the peer's FIN in FIN-WAIT-2 writes it -/
theorem Eff.tmo {g : Segment} {k : Nat} {s s' : Tcb} (h : Eff g k s s') (hfin : g.hdr.ctl.fin = false) :
    s'.timeouts.retransmission = s.timeouts.retransmission := by
  cases h with
  | reply _ => exact congrArg Timeouts.retransmission (enqueueBuilt_frame _ _).timeouts
  | ack | window | established | finWait2 | timeWaitAcked | syn | text => rfl
  | fin h | closeWait h | closing h | timeWaitFin h | rto h => exact Bool.noConfusion (hfin.symm.trans h)

end Elvis.Tcp.Tcb

namespace Elvis.Tcp.Full
open Elvis.ModCmp Elvis.Tcp.Tcb

theorem afterAck_inv (m : M ProcessSegmentResult) (k : Tcb → ProcessSegmentResult → B) (s' : Tcb) (r)
    (e : afterAckEstablished m k = .ok (s', r)) : ∃ s1 r1, m = .ok (s1, r1) ∧ k s1 r1 = .ok (s', r) := by
  cases m with
  | error _ => cases e
  | ok v => exact ⟨v.1, v.2, rfl, e⟩

theorem segmentArrives_tmo (s : Tcb) (g : Segment) (s' : Tcb) (r : SegmentArrivesResult) (hg : g.hdr.ctl.fin = false)
    (hf : ∀ x ∈ s.incoming.segments, x.hdr.ctl.fin = false) (e : s.segmentArrives g = .ok (s', r)) :
    s'.timeouts.retransmission = s.timeouts.retransmission :=
  segmentArrives_lift_mem (Q := fun x => x.hdr.ctl.fin = false)
    (R := fun a b => b.timeouts.retransmission = a.timeouts.retransmission) (fun _ => rfl) (fun h1 h2 => h2.trans h1)
    (fun _ _ _ => rfl)
    (fun hx _ => processSegment_lift (R := fun a b => b.timeouts.retransmission = a.timeouts.retransmission)
      (fun _ => rfl) (fun h1 h2 => h2.trans h1) fun h => h.tmo hx)
    (fun _ _ => congrArg Timeouts.retransmission (enqueueBuilt_frame _ _).timeouts) e hg hf

end Elvis.Tcp.Full
