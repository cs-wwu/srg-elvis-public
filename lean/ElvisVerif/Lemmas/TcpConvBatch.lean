import ElvisVerif.Lemmas.TcpConvEmit
/-!
# A loss-free, in-order batch of segments arrives at an ESTABLISHED endpoint

`InRun r gs`: every segment of `gs` is plain (ACK bit only) and is numbered exactly where the
previous one ended, starting at `r` — pure ACKs (no text) leave the number alone.  This is what a peer
emits in one `segments()` call when nothing is lost: its pure ACKs (numbered `SND.NXT`), then its new
data.

`arriveList_fwd`: delivered in order to an ESTABLISHED endpoint with an empty reorder heap whose
`RCV.NXT = r`, with room for all the text: every segment is taken at once; `RCV.NXT` advances by the
total text, the text is buffered, `SND.UNA` becomes the maximum of itself and the ACK numbers seen, exactly the
segments beyond it stay on the retransmission queue, and (if text arrived) the last header queued
acknowledges the new `RCV.NXT`.
-/
namespace Elvis.Tcp
open Elvis.ModCmp

def Full.LastAck (t : Tcb) : Prop := ∃ h, t.outgoing.oneshot.getLast? = some h ∧ h.ack = t.rcv.nxt

namespace Tcb

/-- deliver a list of segments in order; a segment that deletes the TCB (`.Close`) counts as an error -/
def arriveList (t : Tcb) : List Segment → Except String Tcb
  | [] => .ok t
  | g :: rest =>
    match t.segmentArrives g with
    | .error e => .error e
    | .ok (t1, .Ok) => arriveList t1 rest
    | .ok (_, .Close) => .error "closed"

def InRun : Seq → List Segment → Prop
  | _, [] => True
  | r, g :: rest => g.hdr.seq = r ∧ g.hdr.ctl.rst = false ∧ g.hdr.ctl.syn = false ∧ g.hdr.ctl.fin = false ∧
      g.hdr.ctl.ack = true ∧ InRun (r + BitVec.ofNat 32 g.text.length) rest

def maxAck (iss : Seq) : List Segment → Nat
  | [] => 0
  | g :: rest => max (off iss g.hdr.ack) (maxAck iss rest)

theorem maxAck_le (iss : Seq) (R : Nat) (gs : List Segment) (h : ∀ g ∈ gs, off iss g.hdr.ack ≤ R) :
    maxAck iss gs ≤ R := by
  induction gs with
  | nil => simp [maxAck]
  | cons x xs ih =>
    simp only [maxAck]
    have := h x List.mem_cons_self
    have := ih (fun y hy => h y (List.mem_cons_of_mem _ hy))
    omega

def txEnd (tr : Transmit) : Seq := tr.segment.hdr.seq + BitVec.ofNat 32 tr.segment.segLen

theorem keepFor_iff (iss una : Seq) (tr : Transmit) (N : Nat) (hN : N < 2147483648) (hu : off iss una ≤ N)
    (he : off iss (txEnd tr) ≤ N) : keepFor una tr = true ↔ off iss una < off iss (txEnd tr) := by
  unfold keepFor
  unfold txEnd at he ⊢
  exact modLt_iff_off iss una _ (by omega) (by omega)

theorem filter_keep_trans (iss : Seq) (l : List Transmit) (a a' : Seq) (N : Nat) (hN : N < 2147483648)
    (hl : ∀ tr ∈ l, off iss (txEnd tr) ≤ N) (ha : off iss a ≤ off iss a') (ha' : off iss a' ≤ N) :
    (l.filter (keepFor a)).filter (keepFor a') = l.filter (keepFor a') := by
  rw [List.filter_filter]
  apply List.filter_congr
  intro tr htr
  have h1 := keepFor_iff iss a tr N hN (by omega) (hl tr htr)
  have h2 := keepFor_iff iss a' tr N hN ha' (hl tr htr)
  cases hk : keepFor a' tr with
  | false => simp
  | true =>
    have := h2.1 hk
    have : keepFor a tr = true := h1.2 (by omega)
    simp [this]

theorem filter_keep_self (l : List Transmit) (una : Seq) (h : ∀ tr ∈ l, keepFor una tr = true) :
    l.filter (keepFor una) = l := List.filter_eq_self.2 h

theorem ackGood_of_off (iss una ack nxt : Seq) (hn : off iss nxt < 2147483648) (hu : off iss una ≤ off iss nxt)
    (ha : off iss ack ≤ off iss nxt) :
    modLeq ack una = true ∨ modBounded una .Lt ack .Leq nxt = true := by
  rcases Nat.lt_or_ge (off iss una) (off iss ack) with hlt | hge
  · exact Or.inr (bounded_of_off iss _ _ _ hn hlt ha)
  · exact Or.inl ((modLeq_iff_off iss _ _ (by omega) (by omega)).2 hge)

structure BatchFx (iss : Seq) (t : Tcb) (gs : List Segment) (t' : Tcb) : Prop where
  st : t'.state = .Established
  heap : t'.incoming.segments = []
  nxt : t'.rcv.nxt = t.rcv.nxt + BitVec.ofNat 32 (segBytes gs)
  rwnd : t'.rcv.wnd = t.rcv.wnd
  text : t'.incoming.text = t.incoming.text ++ (gs.map (·.text)).flatten
  otext : t'.outgoing.text = t.outgoing.text
  snxt : t'.snd.nxt = t.snd.nxt
  mtu : t'.mtu = t.mtu
  una : off iss t'.snd.una = max (off iss t.snd.una) (maxAck iss gs)
  rtx : t'.outgoing.retransmit = t.outgoing.retransmit.filter (keepFor t'.snd.una)
  oneSame : segBytes gs = 0 → t'.outgoing.oneshot = t.outgoing.oneshot
  oneLast : 0 < segBytes gs → Full.LastAck t'

theorem maxAck_append (iss : Seq) (a b : List Segment) : maxAck iss (a ++ b) = max (maxAck iss a) (maxAck iss b) := by
  induction a with
  | nil => exact (Nat.zero_max _).symm
  | cons x xs ih => simp only [List.cons_append, maxAck, ih, Nat.max_assoc]

theorem BatchFx.nil {iss : Seq} {t : Tcb} (hst : t.state = .Established) (hheap : t.incoming.segments = [])
    (hq : ∀ tr ∈ t.outgoing.retransmit, keepFor t.snd.una tr = true) : BatchFx iss t [] t :=
  ⟨hst, hheap, by simp, rfl, by simp, rfl, rfl, rfl, by simp [maxAck], (filter_keep_self _ _ hq).symm,
    fun _ => rfl, fun h => by simp at h⟩

/-- **effects compose**: the queue is filtered by the last `SND.UNA` alone because `SND.UNA` only grows (offsets up to
    `N < 2^31`); the last header queued acknowledges the last text that arrived -/
theorem BatchFx.append {iss : Seq} {N : Nat} {t t1 t' : Tcb} {gs gs' : List Segment} (hN : N < 2147483648)
    (h1 : BatchFx iss t gs t1) (h2 : BatchFx iss t1 gs' t')
    (hl : ∀ tr ∈ t.outgoing.retransmit, off iss (txEnd tr) ≤ N) (hu : off iss t'.snd.una ≤ N) :
    BatchFx iss t (gs ++ gs') t' := by
  refine ⟨h2.st, h2.heap, ?_, h2.rwnd.trans h1.rwnd, ?_, h2.otext.trans h1.otext, h2.snxt.trans h1.snxt,
    h2.mtu.trans h1.mtu, ?_, ?_, fun h0 => ?_, fun hpos => ?_⟩
  · rw [h2.nxt, h1.nxt, segBytes_append, BitVec.add_assoc, ← BitVec.ofNat_add]
  · rw [h2.text, h1.text, List.map_append, List.flatten_append, List.append_assoc]
  · rw [h2.una, h1.una, maxAck_append, Nat.max_assoc]
  · rw [h2.rtx, h1.rtx]
    exact filter_keep_trans iss _ _ _ N hN hl (by rw [h2.una]; exact Nat.le_max_left _ _) hu
  · rw [segBytes_append] at h0
    rw [h2.oneSame (Nat.eq_zero_of_add_eq_zero_left h0), h1.oneSame (Nat.eq_zero_of_add_eq_zero_right h0)]
  · by_cases h0 : segBytes gs' = 0
    · -- no text follows `gs`: the ACK of its last data segment is still the last header queued
      rw [segBytes_append, h0] at hpos
      obtain ⟨h, hh, ha⟩ := h1.oneLast hpos
      exact ⟨h, by rw [h2.oneSame h0]; exact hh, by rw [ha, h2.nxt, h0]; simp⟩
    · exact h2.oneLast (Nat.pos_of_ne_zero h0)

/-- what `ack_established_processing` does to `SND.UNA` and the queue, in offsets up to `N < 2^31`: `SND.UNA` becomes
    the larger of itself and the ACK number, and the queue is the old one filtered by it -/
theorem ack_max {iss : Seq} {N : Nat} (hN : N < 2147483648) {una una1 ack : Seq} {l l1 : List Transmit}
    (e1 : una1 = if modLeq ack una then una else ack)
    (e2 : l1 = if modLeq ack una then l else l.filter (keepFor ack))
    (hu : off iss una ≤ N) (ha : off iss ack ≤ N) (hq : ∀ tr ∈ l, keepFor una tr = true) :
    off iss una1 = max (off iss una) (off iss ack) ∧ l1 = l.filter (keepFor una1) := by
  have hiff := modLeq_iff_off iss ack una (Nat.lt_of_le_of_lt ha hN) (Nat.lt_of_le_of_lt hu hN)
  by_cases hle : modLeq ack una = true
  · rw [if_pos hle] at e1 e2
    rw [e1, e2]
    exact ⟨(Nat.max_eq_left (hiff.1 hle)).symm, (filter_keep_self _ _ hq).symm⟩
  · rw [if_neg hle] at e1 e2
    rw [e1, e2]
    exact ⟨(Nat.max_eq_right (Nat.le_of_not_le fun h => hle (hiff.2 h))).symm, rfl⟩

theorem arrive_one_fwd (iss : Seq) (N : Nat) (hN : N < 2147483648) (t : Tcb) (g : Segment)
    (hst : t.state = .Established) (hw : t.rcv.wnd = 65535#16) (hheap : t.incoming.segments = [])
    (hp : Plain t g.hdr) (hseq : g.hdr.seq = t.rcv.nxt) (hfit : t.incoming.text.length + g.text.length ≤ 65535)
    (hu : off iss t.snd.una ≤ N) (ha : off iss g.hdr.ack ≤ N)
    (hq : ∀ tr ∈ t.outgoing.retransmit, keepFor t.snd.una tr = true) :
    ∃ t1, t.segmentArrives g = .ok (t1, .Ok) ∧ BatchFx iss t [g] t1 := by
  have ackfx : ∀ t1, AckFx t g.hdr t1 → off iss t1.snd.una = max (off iss t.snd.una) (maxAck iss [g]) ∧
      t1.outgoing.retransmit = t.outgoing.retransmit.filter (keepFor t1.snd.una) := fun t1 fx => by
    rw [show maxAck iss [g] = off iss g.hdr.ack from Nat.max_zero _]
    exact ack_max hN fx.una fx.rtx hu ha hq
  by_cases htext : g.text = []
  · obtain ⟨t1, e1, fx⟩ := arrive_ack_fwd t g hst hw hheap hp htext hseq
    have hb0 : segBytes [g] = 0 := by rw [segBytes_cons, htext]; rfl
    refine ⟨t1, e1, fx.st.trans hst, by rw [fx.inc, hheap], by rw [fx.rcv, hb0]; simp, by rw [fx.rcv], ?_, fx.otext,
      fx.nxt, fx.mtu, (ackfx t1 fx).1, (ackfx t1 fx).2, fun _ => fx.one, fun h => ?_⟩
    · rw [fx.inc]; simp [htext]
    · rw [hb0] at h; cases h
  · obtain ⟨t1, t2, e1, fx, tx⟩ := arrive_catch_fwd t g 0 hst hw hheap hp htext (by rw [hseq]; simp) (Nat.zero_le _)
      (Nat.le_trans (Nat.le_add_left _ _) hfit) hfit
    have hb : segBytes [g] = g.text.length := by rw [segBytes_cons]; rfl
    obtain ⟨h, hh, hha⟩ := tx.one
    refine ⟨t2, e1, tx.st.trans (fx.st.trans hst), by rw [tx.heap, fx.inc, hheap], by rw [tx.nxt, fx.rcv, hb]; rfl,
      by rw [tx.rwnd, fx.rcv], ?_, tx.otext.trans fx.otext, by rw [tx.snd, fx.nxt], tx.mtu.trans fx.mtu,
      by rw [tx.snd]; exact (ackfx t1 fx).1, by rw [tx.rtx, tx.snd]; exact (ackfx t1 fx).2,
      fun h0 => ?_, fun _ => ⟨h, by rw [hh]; simp, hha⟩⟩
    · rw [tx.text, fx.inc]; simp
    · rw [hb] at h0
      exact absurd (List.length_eq_zero_iff.1 h0) htext

theorem arriveList_fwd (iss : Seq) (R N : Nat) (hN : N < 2147483648) (hRN : R ≤ N) (gs : List Segment) :
    ∀ (t : Tcb), t.state = .Established → t.rcv.wnd = 65535#16 → t.incoming.segments = [] → t.snd.iss = iss →
      t.sent = N → off iss t.snd.una ≤ R → InRun t.rcv.nxt gs →
      (∀ g ∈ gs, 1 ≤ off iss g.hdr.ack ∧ off iss g.hdr.ack ≤ R) →
      t.incoming.text.length + segBytes gs ≤ 65535 →
      (∀ tr ∈ t.outgoing.retransmit, keepFor t.snd.una tr = true ∧ off iss (txEnd tr) ≤ N) →
      ∃ t', arriveList t gs = .ok t' ∧ BatchFx iss t gs t' := by
  induction gs with
  | nil =>
    intro t hst _ hheap _ _ _ _ _ _ hq
    exact ⟨t, rfl, .nil hst hheap (fun tr htr => (hq tr htr).1)⟩
  | cons g rest ih =>
    intro t hst hw hheap hiss hsent hu hrun hack hfit hq
    obtain ⟨hseq, hrst, hsyn, hfin, hackb, hrun'⟩ := hrun
    obtain ⟨-, ha2⟩ := hack g List.mem_cons_self
    have hsentN : off iss t.snd.nxt = N := by rw [← hsent, ← hiss]; rfl
    have hp : Plain t g.hdr :=
      ⟨hrst, hsyn, hfin, hackb, ackGood_of_off iss _ _ _ (hsentN ▸ hN) (hsentN ▸ Nat.le_trans hu hRN)
        (hsentN ▸ Nat.le_trans ha2 hRN)⟩
    rw [segBytes_cons, ← Nat.add_assoc] at hfit
    obtain ⟨t1, e1, b1⟩ := arrive_one_fwd iss N hN t g hst hw hheap hp hseq (Nat.le_trans (Nat.le_add_right _ _) hfit)
      (Nat.le_trans hu hRN) (Nat.le_trans ha2 hRN) (fun tr htr => (hq tr htr).1)
    have k := segmentArrives_snd t g t1 .Ok e1
    have hu1 : off iss t1.snd.una ≤ R := by
      rw [b1.una]
      exact Nat.max_le.2 ⟨hu, maxAck_le iss R [g] (fun x hx => by rw [List.mem_singleton.1 hx]; exact ha2)⟩
    have hack' : ∀ x ∈ rest, 1 ≤ off iss x.hdr.ack ∧ off iss x.hdr.ack ≤ R :=
      fun x hx => hack x (List.mem_cons_of_mem _ hx)
    -- what the induction hypothesis asks of `t1` is read off the effect of `g`
    obtain ⟨t', e', b2⟩ := ih t1 b1.st (b1.rwnd.trans hw) b1.heap (k.iss.trans hiss) ((sent_congr k.iss k.nxt).trans hsent)
      hu1 (by rw [b1.nxt, segBytes_cons, segBytes_nil, Nat.add_zero]; exact hrun') hack'
      (by
        rw [b1.text]
        simp only [List.map_cons, List.map_nil, List.flatten_cons, List.flatten_nil, List.append_nil, List.length_append]
        exact hfit)
      (fun tr htr => by
        rw [b1.rtx] at htr
        exact ⟨(List.mem_filter.1 htr).2, (hq tr (List.mem_filter.1 htr).1).2⟩)
    refine ⟨t', by simp only [arriveList, e1]; exact e', ?_⟩
    refine BatchFx.append (gs := [g]) hN b1 b2 (fun tr htr => (hq tr htr).2) ?_
    rw [b2.una]
    exact Nat.le_trans (Nat.max_le.2 ⟨hu1, maxAck_le iss R rest (fun x hx => (hack' x hx).2)⟩) hRN

structure PureAck (g : Segment) : Prop where
  rst : g.hdr.ctl.rst = false
  syn : g.hdr.ctl.syn = false
  fin : g.hdr.ctl.fin = false
  ackb : g.hdr.ctl.ack = true
  text : g.text = []

def AcksFor (iss r : Seq) (N : Nat) (gs : List Segment) : Prop :=
  ∀ g ∈ gs, PureAck g ∧ g.hdr.seq = r ∧ 1 ≤ off iss g.hdr.ack ∧ off iss g.hdr.ack ≤ N

theorem AcksFor.mono {iss r : Seq} {N N' : Nat} {gs : List Segment} (h : AcksFor iss r N gs) (hN : N ≤ N') :
    AcksFor iss r N' gs :=
  fun g hg => ⟨(h g hg).1, (h g hg).2.1, (h g hg).2.2.1, Nat.le_trans (h g hg).2.2.2 hN⟩

theorem AcksFor.append {iss r : Seq} {N : Nat} {gs gs' : List Segment} (h : AcksFor iss r N gs)
    (h' : AcksFor iss r N gs') : AcksFor iss r N (gs ++ gs') :=
  fun g hg => (List.mem_append.1 hg).elim (h g) (h' g)

theorem AcksFor.maxAck_le {iss r : Seq} {N : Nat} {gs : List Segment} (h : AcksFor iss r N gs) : maxAck iss gs ≤ N :=
  Tcb.maxAck_le _ _ _ fun g hg => (h g hg).2.2.2

theorem arriveList_append (a b : List Segment) : ∀ (t t1 : Tcb), arriveList t a = .ok t1 →
    arriveList t (a ++ b) = arriveList t1 b := by
  induction a with
  | nil => intro t t1 h; cases h; rfl
  | cons g rest ih =>
    intro t t1 h
    simp only [arriveList, List.cons_append] at h ⊢
    cases hg : t.segmentArrives g with
    | error e => rw [hg] at h; cases h
    | ok p =>
      obtain ⟨t2, r⟩ := p
      rw [hg] at h
      cases r with
      | Ok => exact ih t2 t1 h
      | Close => cases h

end Tcb
end Elvis.Tcp
