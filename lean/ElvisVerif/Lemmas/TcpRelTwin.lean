import ElvisVerif.Lemmas.TcpRelAcks
import ElvisVerif.Lemmas.TcpRelEmit
import ElvisVerif.Lemmas.TcpConvFwd
/-!
# The closer in FIN-WAIT-1 with text still queued behaves like its ESTABLISHED twin on pure ACKs

While `fin_pending()` holds (`outgoing.text ≠ []`) `is_fin_acked()` is false, so block 2 of `process_segment` in
FIN-WAIT-1 does exactly what it does in ESTABLISHED (`fw t` is `t` with the state set to FIN-WAIT-1).
-/
namespace Elvis.Tcp
open Elvis.ModCmp Elvis.Tcp.Fin
namespace Tcb

theorem aep_fw (t : Tcb) (seg : Hdr) :
    (fw t).ackEstablishedProcessing seg =
      match t.ackEstablishedProcessing seg with
      | .error e => .error e
      | .ok (t1, r) => .ok (fw t1, r) := by
  -- `ack_established_processing` does not read the connection state
  rw [ackEstablishedProcessing_eq, ackEstablishedProcessing_eq]
  unfold aep
  show Except.ok (if modLeq seg.ack t.snd.una = true then _ else _) = _
  by_cases h1 : modLeq seg.ack t.snd.una = true
  · rw [if_pos h1, if_pos h1]
  · rw [if_neg h1, if_neg h1]
    show Except.ok (if modBounded t.snd.una .Lt seg.ack .Leq t.snd.nxt = true then _ else _) = _
    by_cases h2 : modBounded t.snd.una .Lt seg.ack .Leq t.snd.nxt = true
    · rw [if_pos h2, if_pos h2]
      unfold wndTaken
      rw [ackTaken_eq, ackTaken_eq]
      unfold fw
      dsimp only
      by_cases hc : (modLt t.snd.wl1 seg.seq || (t.snd.wl1 == seg.seq && modLeq t.snd.wl2 seg.ack)) = true
      · rw [if_pos hc, if_pos hc]
      · rw [if_neg hc, if_neg hc]
    · rw [if_neg h2, if_neg h2]
      rfl

theorem arrive_ack_twin (t : Tcb) (g : Segment) (hst : t.state = .Established) (hw : t.rcv.wnd = 65535#16)
    (hheap : t.incoming.segments = []) (ht : t.outgoing.text ≠ []) (hp : PureAck g) (hseq : g.hdr.seq = t.rcv.nxt)
    (hg : modLeq g.hdr.ack t.snd.una = true ∨ modBounded t.snd.una .Lt g.hdr.ack .Leq t.snd.nxt = true) :
    ∃ t1, t.segmentArrives g = .ok (t1, .Ok) ∧ AckFx t g.hdr t1 ∧ (fw t).segmentArrives g = .ok (fw t1, .Ok) := by
  have hns : t.state ≠ .SynSent := by rw [hst]; simp
  have hns' : (fw t).state ≠ .SynSent := by show State.FinWait1 ≠ _; simp
  have hok := C01.isSeqOk_ack hw hp.text hp.syn hp.fin hseq
  have hok' : (fw t).isSeqOk (BitVec.ofNat 32 g.text.length) g.hdr.seq g.hdr.ctl.syn g.hdr.ctl.fin = .ok true := hok
  obtain ⟨t1, e1, fx⟩ := ackEst_fwd t g.hdr hg
  have c2 : ackBlock t g.hdr = .ok (t1, none) := (ackBlock_success t t1 g.hdr hp.ackb e1).1 (Or.inl hst)
  have hfa : (fw t1).isFinAcked = false := by
    rw [isFinAcked_eq]
    rw [finPending_eq]
    show (!(closing3 .FinWait1 && !t1.outgoing.text.isEmpty) && _) = false
    rw [fx.otext]
    cases h : t.outgoing.text with
    | nil => exact (ht h).elim
    | cons a l => rfl
  have c2' : ackBlock (fw t) g.hdr = .ok (fw t1, none) := by
    rw [(ackBlock_success (fw t) (fw t1) g.hdr hp.ackb (by rw [aep_fw, e1])).2.1 rfl, hfa]
    rfl
  exact ⟨t1, arrive_pure hns (by rw [fx.st, hst]; simp) hheap hok hp.rst hp.syn hp.text hseq c2 (finBlock_pass hp.fin), fx,
    arrive_pure hns' (by show State.FinWait1 ≠ _; simp) hheap hok' hp.rst hp.syn hp.text hseq c2' (finBlock_pass hp.fin)⟩

theorem ackList_twin (iss : Seq) (N : Nat) (hN : N < 2147483648) (gs : List Segment) :
    ∀ (t t' : Tcb), t.state = .Established → t.rcv.wnd = 65535#16 → t.incoming.segments = [] →
      t.outgoing.text ≠ [] → t.snd.iss = iss → off iss t.snd.nxt = N → off iss t.snd.una ≤ N →
      (∀ g ∈ gs, PureAck g ∧ g.hdr.seq = t.rcv.nxt ∧ 1 ≤ off iss g.hdr.ack ∧ off iss g.hdr.ack ≤ N) →
      arriveList t gs = .ok t' → arriveList (fw t) gs = .ok (fw t') ∧ t'.outgoing.oneshot = t.outgoing.oneshot := by
  induction gs with
  | nil =>
    intro t t' _ _ _ _ _ _ _ _ h
    simp only [arriveList] at h ⊢
    cases h
    exact ⟨rfl, rfl⟩
  | cons g rest ih =>
    intro t t' hst hw hheap htext hiss hsent hu hall h
    obtain ⟨hp, hseq, ha1, ha2⟩ := hall g List.mem_cons_self
    obtain ⟨t1, e1, fx, e1'⟩ := arrive_ack_twin t g hst hw hheap htext hp hseq
      (ackGood_of_off iss _ _ _ (by omega) (by omega) (by omega))
    have k := segmentArrives_snd t g t1 .Ok e1
    simp only [arriveList, e1] at h
    simp only [arriveList, e1']
    have hu1 : off iss t1.snd.una ≤ N := by
      by_cases hle : modLeq g.hdr.ack t.snd.una = true
      · rw [fx.una, if_pos hle]; exact hu
      · rw [fx.una, if_neg hle]; exact ha2
    have := ih t1 t' (by rw [fx.st]; exact hst) (by rw [fx.rcv]; exact hw) (by rw [fx.inc]; exact hheap)
      (by rw [fx.otext]; exact htext) (by rw [k.iss]; exact hiss) (by rw [fx.nxt]; exact hsent) hu1
      (fun g' hg' => by
        obtain ⟨a, b, c, d⟩ := hall g' (List.mem_cons_of_mem _ hg')
        exact ⟨a, by rw [fx.rcv]; exact b, c, d⟩) h
    exact ⟨this.1, this.2.trans fx.one⟩

end Tcb
end Elvis.Tcp
