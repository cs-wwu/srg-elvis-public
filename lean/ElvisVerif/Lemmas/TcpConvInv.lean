import ElvisVerif.Lemmas.TcpAckStep
import ElvisVerif.Lemmas.C01Run
import ElvisVerif.Props.C03
/-!
# The closed system nobody closes: all invariants together, and no RST, ever

`Op.Plain`: `write`, `read`, `tick`, `emit`, delivery of any history element to the side it is
addressed to — the ops of C01's fair phase and of its schedules, without `close`/`abort`/`drop`.

`Conv iss s` bundles, for such runs from `open A` + (`listen B` | `open B`):
* `C01.Inv` (stream facts: `Lemmas/C01Sys.lean`),
* `Full` (`Inv` of `Lemmas/TcpSysInv.lean`, SYN-SENT freshness, acknowledgment invariant),
* `NoRst`: no RST in the history, on any queue or in any reorder heap; the 2·MSL timer is armed only in
  TIME-WAIT (`TwInv`); neither side has lost its TCB / LISTEN binding.

`conv_step`: one plain step keeps `Conv` (H31 as `RoomH`: fewer than 2^31 − 2 bytes submitted per
direction).  `PlainRun`: runs of plain ops; `plainRunB` decides them for concrete op lists (`plainRunB_sound`).
-/
namespace Elvis.Tcp
open Tcb Elvis.Rfc9293

def Op.Plain (sys : Sys) : Op → Prop
  | .deliver x i => ∀ σ, sys.nth i = some σ → σ.hdr.srcPort = x.peer.port ∧ σ.hdr.dstPort = x.port
  | .write .. => True
  | .read _ => True
  | .tick .. => True
  | .emit _ => True
  | _ => False

theorem Op.Plain.clean {sys : Sys} {op : Op} (h : Op.Plain sys op) : Op.Clean sys op := by
  cases op <;> first | exact h | exact h.elim

theorem Op.Plain.opOk {iss : SideId → Seq} {sys : Sys} {op : Op} (h : Op.Plain sys op) : C01.OpOk iss sys op := by
  cases op <;> first | exact h | exact h.elim | trivial

/-- fewer than 2^31 − 2 bytes submitted in each direction (room for SYN and FIN) -/
def RoomH (s : Sys) : Prop := s.a.submitted.length + 2 < 2147483648 ∧ s.b.submitted.length + 2 < 2147483648

theorem RoomH.side {s : Sys} (h : RoomH s) (x : SideId) : (s.side x).submitted.length + 2 < 2147483648 := by
  cases x
  · exact h.1
  · exact h.2

theorem RoomH.lt31 {s : Sys} (h : RoomH s) : C01.Lt31 s := ⟨by have := h.1; omega, by have := h.2; omega⟩

theorem sent_of_tinv {port : U16} {ix iy : Seq} {sx sy dx : List UInt8} {t : Tcb}
    (h : C01.TInv port ix iy sx sy dx t) (hb : sx.length + 2 < 2147483648) :
    t.sent + t.outgoing.text.length = sx.length + 1 := by
  obtain ⟨pre, hsub, hnxt⟩ := h.out
  have hl : pre.length + t.outgoing.text.length = sx.length := by rw [hsub, List.length_append]
  unfold sent
  rw [h.iss, hnxt]
  have e : ix + 1 + BitVec.ofNat 32 pre.length = ix + BitVec.ofNat 32 (pre.length + 1) := by
    rw [show (1 : Seq) = BitVec.ofNat 32 1 from rfl, C01.add_ofNat_assoc, Nat.add_comm]
  rw [e, off_add ix ix (pre.length + 1) (by rw [off_self]; omega), off_self]
  omega

theorem room_of_inv {iss : SideId → Seq} {s : Sys} (h : C01.Inv iss s) (hb : RoomH s) : RoomOk s := by
  intro x t ht
  have := sent_of_tinv ((h.side x).tcb t ht) (hb.side x)
  unfold Room
  have := hb.side x
  omega

structure NoRstTcb (t : Tcb) : Prop where
  one : ∀ h ∈ t.outgoing.oneshot, h.ctl.rst = false
  rtx : ∀ tr ∈ t.outgoing.retransmit, tr.segment.hdr.ctl.rst = false
  heap : ∀ σ ∈ t.incoming.segments, σ.hdr.ctl.rst = false
  tw : TwInv t

structure NoRst (s : Sys) : Prop where
  hist : ∀ σ ∈ s.history, σ.hdr.ctl.rst = false
  tcb : ∀ x t, (s.side x).tcb = some t → NoRstTcb t
  alive : ∀ x, (s.side x).tcb.isSome = true ∨ (s.side x).listen.isSome = true

theorem NoRstTcb.of_qstep {P : Hdr → Prop} {A : Seq → Prop} {t t' : Tcb} (h : NoRstTcb t) (q : QStep P A t t')
    (hp : ∀ x, P x → x.ctl.rst = false) (hh : ∀ σ ∈ t'.incoming.segments, σ.hdr.ctl.rst = false) (htw : TwInv t') :
    NoRstTcb t' := by
  refine ⟨fun x hx => ?_, fun tr hx => ?_, hh, htw⟩
  · rcases q.one x hx with e | e
    · exact h.one x e
    · exact hp x e
  · rcases q.rtx tr hx with ⟨t0, e, es⟩ | e
    · rw [← es]; exact h.rtx t0 e
    · exact hp _ e

theorem NoRstTcb.of_lstep {t t' : Tcb} (h : NoRstTcb t) (l : LStep t t') (htw : TwInv t') : NoRstTcb t' :=
  h.of_qstep l.q (fun _ hx => hx.1) (by rw [l.heap]; exact h.heap) htw

theorem nodel_of_ok3 {s s' : Tcb} {segment : Segment} {r : ProcessSegmentResult}
    (e : s.processSegment segment = .ok (s', r)) (hst : C01.Ok3 s'.state) (hr : segment.hdr.ctl.rst = false) :
    r.shouldDeleteTcb = false := by
  cases hdel : r.shouldDeleteTcb with
  | false => rfl
  | true =>
    -- a result that deletes the TCB comes with a RST or finds the TCB in LAST-ACK
    rcases (processSegment_effs e).2 hdel with ⟨h1, -⟩ | ⟨-, -, h2, -⟩
    · rw [hr] at h1; cases h1
    · rw [h2] at hst; exact hst.elim

section
variable {port : U16} {issX issY : Seq} {subX subY delX : List UInt8}

/-- a popped segment is valid and no RST: processing it keeps the invariant and does not delete the TCB -/
theorem drains_ok {t t' : Tcb} {r : SegmentArrivesResult} (d : Drains t r t')
    (h : C01.TInv port issX issY subX subY delX t) (h31 : subY.length < 2147483648)
    (hr : ∀ σ ∈ t.incoming.segments, σ.hdr.ctl.rst = false) : r = .Ok := by
  have pop : ∀ {s s1 : Tcb} {g : Segment} {rest : List Segment} {r1 : ProcessSegmentResult}, Pops s g rest s1 r1 →
      C01.TInv port issX issY subX subY delX s → (∀ σ ∈ s.incoming.segments, σ.hdr.ctl.rst = false) →
      r1.shouldDeleteTcb = false ∧ C01.TInv port issX issY subX subY delX s1 ∧
        ∀ σ ∈ s1.incoming.segments, σ.hdr.ctl.rst = false := by
    intro s s1 g rest r1 P hs hr
    obtain ⟨h0, hv⟩ := hs.pop P.pop
    have i1 := C01.processSegment_inv h0 hv h31 P.gate P.proc
    exact ⟨nodel_of_ok3 P.proc i1.st (hr g ((P.mem g).2 (Or.inl rfl))), i1,
      fun σ hσ => hr σ ((P.mem σ).2 (Or.inr hσ))⟩
  induction d with
  | stop _ => rfl
  | close P hd =>
    rw [(pop P h hr).1] at hd
    cases hd
  | step P _ _ ih => exact ih (pop P h hr).2.1 (pop P h hr).2.2

theorem segmentArrives_ok {t t' : Tcb} {g : Segment} {r : SegmentArrivesResult}
    (h : C01.TInv port issX issY subX subY delX t) (hv : C01.Valid issY subY g) (h31 : subY.length < 2147483648)
    (hg : g.hdr.ctl.rst = false) (hr : ∀ σ ∈ t.incoming.segments, σ.hdr.ctl.rst = false)
    (e : t.segmentArrives g = .ok (t', r)) : r = .Ok := by
  rcases segmentArrives_iff.1 e with ⟨-, -, -, rfl⟩ | ⟨-, d⟩
  · rfl
  · exact drains_ok d (h.push hv) h31 (LHeap.forall_mem_push hg hr)

end

structure Conv (iss : SideId → Seq) (s : Sys) : Prop where
  c01 : C01.Inv iss s
  full : Full s
  nr : NoRst s

theorem NoRst.setSide {s : Sys} (h : NoRst s) {x : SideId} {sd : Side} (ht : ∀ t, sd.tcb = some t → NoRstTcb t)
    (ha : sd.tcb.isSome = true ∨ sd.listen.isSome = true) : NoRst (s.setSide x sd) :=
  ⟨by rw [history_setSide]; exact h.hist, tcbs_touched h.tcb x sd [] ht,
    x.both (by rw [side_setSide_same]; exact ha) (by rw [side_setSide_peer]; exact h.alive _)⟩

theorem noRst_update (s : Sys) (h : NoRst s) (x : SideId) (t t' : Tcb) (sd' : Side) (new : List Segment)
    (ht : (s.side x).tcb = some t) (hsd : sd'.tcb = some t') (l : LStep t t') (htw : TwInv t')
    (hnew : ∀ σ ∈ new, σ.hdr ∈ t.outgoing.oneshot ∨ ∃ tr ∈ t'.outgoing.retransmit, tr.segment = σ) :
    NoRst ((s.setSide x sd').record new) := by
  have n' := (h.tcb x t ht).of_lstep l htw
  have n1 : NoRst (s.setSide x sd') :=
    h.setSide (fun u hu => by rw [hsd] at hu; cases hu; exact n') (Or.inl (by rw [hsd]; rfl))
  refine ⟨fun σ hσ => ?_, fun y u hu => n1.tcb y u (by rwa [Elvis.Tcp.side_record] at hu),
    fun y => by rw [Elvis.Tcp.side_record]; exact n1.alive y⟩
  rcases (mem_history_record _ _ _).1 hσ with hn | ho
  · rcases hnew σ hn with e | ⟨tr, e, es⟩
    · exact (h.tcb x t ht).one _ e
    · rw [← es]; exact n'.rtx tr e
  · exact n1.hist σ ho

/-- **the arrivals that happen in the closed system nobody closes**: a TCB takes the segment and stays, or the
    LISTEN binding ignores it or creates the TCB.  No RST reaches a TCB, so none is deleted; the LISTEN handler sees
    only the SYN of a peer in SYN-SENT, which carries no ACK bit, so it refuses nothing; both sides are alive, so the
    CLOSED handler never runs. -/
theorem conv_arrive {iss : SideId → Seq} {s s' : Sys} {x : SideId} {σ : Segment} {r : Res} (h : Conv iss s)
    (hb : RoomH s) (a : Sys.Arrive s x σ s' r) (hmem : σ ∈ s.history) (hsrc : σ.hdr.srcPort = x.peer.port) :
    (∃ t t', (s.side x).tcb = some t ∧ t.segmentArrives σ = .ok (t', .Ok) ∧ s' = s.withTcb x t') ∨ s' = s ∨
    ∃ il mtu t, (s.side x).tcb = none ∧ segmentArrivesListen σ il mtu = .ok (some (.Tcb t)) ∧ s' = s.withTcb x t := by
  have n := h.nr
  have dead : (s.side x).tcb = none → (s.side x).listen = none → False := fun ht hlis => by
    rcases n.alive x with ha | ha
    · rw [ht] at ha; cases ha
    · rw [hlis] at ha; cases ha
  cases a with
  | tcb ht h1 => exact Or.inl ⟨_, _, ht, h1, rfl⟩
  | @close t _ ht h1 =>
    cases segmentArrives_ok ((h.c01.side x).tcb t ht) (h.c01.hist σ hmem x.peer hsrc) (hb.lt31.side x.peer)
      (n.hist σ hmem) (n.tcb x t ht).heap h1
  | ignore => exact Or.inr (Or.inl rfl)
  | create ht _ h1 => exact Or.inr (Or.inr ⟨_, _, _, ht, h1, rfl⟩)
  | refuse ht hlis h1 =>
    exfalso
    have hlis' : (s.side x).listen.isSome = true := by rw [hlis]; rfl
    have hA := h.full.ack.peer x
    rw [ht, hlis'] at hA
    rcases n.alive x.peer with ha | ha
    · obtain ⟨u, hu⟩ := Option.isSome_iff_exists.1 ha
      rw [hu] at hA
      cases (segmentArrivesListen_response h1).2.1.symm.trans ((hA.fresh u rfl rfl rfl).1 σ hmem)
    · -- only B listens
      have hxB : x = .B := by
        cases x with
        | A => rw [show (s.side .A).listen = s.a.listen from rfl, h.full.inv.noListenA] at hlis; cases hlis
        | B => rfl
      subst hxB
      have : s.a.listen.isSome = true := ha
      rw [h.full.inv.noListenA] at this
      cases this
  | closed ht hlis => exact (dead ht hlis).elim
  | reset ht hlis => exact (dead ht hlis).elim

/-- … and the 2·MSL timer is armed on neither side, so no tick closes a connection -/
theorem conv_tick {iss : SideId → Seq} {s : Sys} {x : SideId} {t t' : Tcb} {ms : Nat} (h : Conv iss s)
    (ht : (s.side x).tcb = some t) (h1 : t.advanceTime ms = .ok (t', .CloseConnection)) : False := by
  have hc := (advanceTime_edges t _ _ _ h1).2.2 rfl (h.nr.tcb x t ht).tw
  rcases ((h.c01.side x).tcb t ht).st.cases with hs | hs | hs <;> rw [hs] at hc <;> simp [rfcCause] at hc

theorem noRst_arrive {iss : SideId → Seq} {s s' : Sys} {x : SideId} {σ : Segment} {r : Res} (h : Conv iss s)
    (a : Sys.Arrive s x σ s' r) (hb : RoomH s) (hmem : σ ∈ s.history) (hsrc : σ.hdr.srcPort = x.peer.port) : NoRst s' := by
  have n := h.nr
  have hroom := room_of_inv h.c01 hb
  have hσr := n.hist σ hmem
  rcases conv_arrive h hb a hmem hsrc with ⟨t, t', ht, h1, rfl⟩ | rfl | ⟨il, mtu, t, -, h1, rfl⟩
  · have nt := n.tcb x t ht
    refine n.setSide (fun u hu => ?_) (Or.inl rfl)
    cases hu
    have hheap : ∀ τ ∈ t'.incoming.segments, τ.hdr.ctl.rst = false := segmentArrives_parked h1 hσr nt.heap
    have htw := (segmentArrives_path t σ t' .Ok h1).2 nt.tw rfl
    -- the new headers are no RSTs: the peer has a TCB or listens
    cases hu : (s.side x.peer).tcb with
    | some u =>
      exact nt.of_qstep (arrive_both s h.full.inv h.full.fresh h.full.ack hroom x t t' σ ht hmem hsrc h1 u hu).1.q
        (fun _ hy => Bool.eq_false_iff.2 hy.2) hheap htw
    | none =>
      have ha : (s.side x.peer).listen.isSome = true := (n.alive x.peer).resolve_left (by rw [hu]; exact nofun)
      exact nt.of_qstep
        (arrive_listening s h.full.inv h.full.fresh h.full.ack hroom x t t' σ ht hmem hsrc h1 hu ha).1.q
        (fun _ hy => Bool.eq_false_iff.2 hy.2) hheap htw
  · exact n
  · refine n.setSide (fun u hu => ?_) (Or.inl rfl)
    cases hu
    obtain ⟨_, cone, crtx, cheap⟩ := listen_create_ack σ _ _ _ h1
    exact ⟨fun y hy => (by rw [cone] at hy; cases hy), fun tr hy => (crtx tr hy).2,
      fun τ hτ => (by rw [(cheap τ hτ).2]; exact hσr), (C03.c03_transitions_start.2 σ _ _ _ h1).2⟩

theorem conv_step {iss : SideId → Seq} (s : Sys) (h : Conv iss s) (hb : RoomH s) (op : Op) (hp : Op.Plain s op)
    (s' : Sys) (r : Res) (e : s.step op = .ok (s', r)) : Conv iss s' := by
  have hroom := room_of_inv h.c01 hb
  refine ⟨C01.step_inv h.c01 (hp.opOk (iss := iss)) hb.lt31 e, full_step s h.full hroom op (Or.inl hp.clean) s' r e, ?_⟩
  have n := h.nr
  have loc : ∀ {x t t' sd'}, (s.side x).tcb = some t → sd'.tcb = some t' → LStep t t' → TwInv t' →
      NoRst (s.setSide x sd') := fun ht hsd l tw =>
    noRst_update s n _ _ _ _ [] ht hsd l tw (fun _ h => nomatch h)
  cases step_iff.1 e with
  | «open» | listen | inject | abort | drop | close => exact hp.elim
  | noSeg | noTcb => exact n
  | deliver hn a => exact noRst_arrive h a hb (nth_mem s _ _ hn) (hp _ hn).1
  | write ht => exact loc ht rfl (send_l _ _) ((send_keep _ _).twInv (n.tcb _ _ ht).tw)
  | read ht => exact loc ht rfl (receive_l _) ((receive_keep _).twInv (n.tcb _ _ ht).tw)
  | tick ht h1 => exact loc ht rfl (advanceTime_l _ _ _ h1) ((advanceTime_edges _ _ _ _ h1).2.1 (n.tcb _ _ ht).tw)
  | expire ht h1 => exact (conv_tick h ht h1).elim
  | emit ht h1 =>
    obtain ⟨l, hnew⟩ := segments_l _ _ _ h1 (h.full.fresh _ _ ht).fresh
    exact noRst_update s n _ _ _ _ _ ht rfl l ((segments_keep _ _ _ h1).twInv (n.tcb _ _ ht).tw) hnew

inductive PlainRun : Sys → Sys → Prop
  | refl (s : Sys) : PlainRun s s
  | step {s s1 s2 : Sys} {op : Op} {r : Res} : PlainRun s s1 → Op.Plain s1 op →
      s1.step op = .ok (s2, r) → PlainRun s s2

theorem PlainRun.trans {a b c : Sys} (h1 : PlainRun a b) (h2 : PlainRun b c) : PlainRun a c := by
  induction h2 with
  | refl => exact h1
  | step _ hp e ih => exact .step ih hp e

theorem PlainRun.sub {s s' : Sys} (r : PlainRun s s') (y : SideId) :
    (s.side y).submitted <+: (s'.side y).submitted := by
  induction r with
  | refl => exact List.prefix_refl _
  | step _ _ e ih => exact ih.trans (C01.step_sub e y)

theorem RoomH.of_run {s s' : Sys} (r : PlainRun s s') (h : RoomH s') : RoomH s :=
  ⟨Nat.lt_of_le_of_lt (Nat.add_le_add_right (r.sub .A).length_le 2) h.1,
   Nat.lt_of_le_of_lt (Nat.add_le_add_right (r.sub .B).length_le 2) h.2⟩

/-- what plain steps keep under H31 holds along a plain run; H31 is asked of the final logs only: `submitted` grows
    along a run (`RoomH.of_run`) -/
theorem PlainRun.invariant {I : Sys → Prop} {s s' : Sys} (r : PlainRun s s')
    (step : ∀ {s op s' r}, I s → RoomH s → Op.Plain s op → s.step op = .ok (s', r) → I s') (h : I s) (hb : RoomH s') :
    I s' := by
  induction r with
  | refl => exact h
  | step _ hp e ih =>
    have hb1 := RoomH.of_run (.step (.refl _) hp e) hb
    exact step (ih hb1) hb1 hp e

def plainB (s : Sys) : Op → Bool
  | .deliver x i =>
    match s.nth i with
    | none => true
    | some σ => σ.hdr.srcPort == x.peer.port && σ.hdr.dstPort == x.port
  | .write .. => true
  | .read _ => true
  | .tick .. => true
  | .emit _ => true
  | _ => false

theorem plainB_sound (s : Sys) (op : Op) (h : plainB s op = true) : Op.Plain s op := by
  cases op <;> simp only [plainB, Op.Plain] at h ⊢ <;> try trivial
  · intro σ hσ
    rw [hσ] at h
    simpa using h
  all_goals exact absurd h (by simp)

def plainRunB : Sys → List Op → Option Sys
  | s, [] => some s
  | s, op :: ops =>
    if plainB s op then
      match s.step op with
      | .ok (s', _) => plainRunB s' ops
      | .error _ => none
    else none

theorem PlainRun.head {s s1 s2 : Sys} {op : Op} {r : Res} (hp : Op.Plain s op)
    (e : s.step op = .ok (s1, r)) (h : PlainRun s1 s2) : PlainRun s s2 :=
  (PlainRun.step (.refl _) hp e).trans h

theorem plainRunB_sound (s s' : Sys) (ops : List Op) (h : plainRunB s ops = some s') : PlainRun s s' := by
  induction ops generalizing s with
  | nil => simp only [plainRunB, Option.some.injEq] at h; subst h; exact .refl _
  | cons op ops ih =>
    unfold plainRunB at h
    split at h
    · rename_i hc
      split at h
      · rename_i s1 r e
        exact PlainRun.head (plainB_sound s op hc) e (ih s1 h)
      · simp at h
    · simp at h

theorem conv_run {iss : SideId → Seq} {s s' : Sys} (h : Conv iss s) (r : PlainRun s s') (hb : RoomH s') :
    Conv iss s' :=
  r.invariant (fun h hb hp e => conv_step _ h hb _ hp _ _ e) h hb

def issOf (ia ib : Seq) : SideId → Seq
  | .A => ia
  | .B => ib

theorem noRstTcb_open (lp rp : U16) (iss : Seq) (mtu : U16) (t : Tcb) (e : Tcb.open lp rp iss mtu = .ok t) :
    NoRstTcb t := by
  obtain ⟨_, h2, h3, h4, _⟩ := open_ack lp rp iss mtu t e
  exact ⟨fun y hy => (by rw [h2] at hy; cases hy), fun tr hy => (h3 tr hy).2, fun τ hτ => (by rw [h4] at hτ; cases hτ),
    (C03.c03_transitions_start.1 lp rp iss mtu t e).2⟩

theorem runOk_start (ia ib : Seq) (ma mb : U16) (simultaneous : Bool) :
    C01.RunOk (issOf ia ib) {} [.open .A ia ma, if simultaneous then .open .B ib mb else .listen .B ib mb] := by
  refine ⟨⟨rfl, rfl, rfl, rfl, rfl⟩, fun s1 r1 e1 => ⟨?_, fun _ _ _ => trivial⟩⟩
  -- `open A` leaves side B alone
  have hb : C01.Pristine (s1.side .B) := by
    rw [show s1.side .B = _ from (step_iff.1 e1).peer]
    exact ⟨rfl, rfl, rfl, rfl⟩
  cases simultaneous
  · exact ⟨rfl, hb⟩
  · exact ⟨rfl, hb⟩

theorem conv_init (ia ib : Seq) (ma mb : U16) (simultaneous : Bool) (sys : Sys) (rs : List Res)
    (e : Sys.run {} [.open .A ia ma, if simultaneous then .open .B ib mb else .listen .B ib mb] = .ok (sys, rs)) :
    Conv (issOf ia ib) sys := by
  have hlen : C01.Lt31 sys :=
    C01.Lt31.of_writes e (by cases simultaneous <;> simp [C01.writeBytes])
      (by cases simultaneous <;> simp [C01.writeBytes])
  refine ⟨C01.run_inv (C01.Inv.init _) (runOk_start ia ib ma mb simultaneous) e hlen, full_init e, ?_⟩
  · obtain ⟨ta, h1, ⟨-, rfl⟩ | ⟨-, tb, h2, rfl⟩⟩ := init_cases e
    · refine ⟨fun σ hσ => (nomatch hσ), fun x t ht => ?_, fun x => ?_⟩
      · cases x with
        | A => cases ht; exact noRstTcb_open _ _ _ _ _ h1
        | B => cases ht
      · cases x with
        | A => left; rfl
        | B => right; rfl
    · refine ⟨fun σ hσ => (nomatch hσ), fun x t ht => ?_, fun x => ?_⟩
      · cases x with
        | A => cases ht; exact noRstTcb_open _ _ _ _ _ h1
        | B => cases ht; exact noRstTcb_open _ _ _ _ _ h2
      · cases x <;> (left; rfl)

end Elvis.Tcp
