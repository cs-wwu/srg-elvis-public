import ElvisVerif.Lemmas.TcpRelSeqSys
/-!
# The sequential close with B first (mirror image of `release_sequential`)

`release_sequential_BA`: from a quiet pair, `releaseRoundSeqBA` = `close B`, phase, phase (B FIN-WAIT-2, A CLOSE-WAIT),
`close A` (LAST-ACK), phase, phase (B TIME-WAIT; A's TCB deleted by B's ACK of its FIN), `tick B (2·MSL + 1)`.
It is `release_sequential_x` (`Lemmas/TcpRelSeqSys.lean`) with A as the side that closes second.
-/
namespace Elvis.Tcp
open Tcb Elvis.ModCmp Elvis.Tcp.Fin

def releaseRoundSeqBA (s : Sys) : Except String Sys :=
  match s.step (.close .B) with
  | .error e => .error e
  | .ok (s1, _) =>
  match phase s1 with
  | .error e => .error e
  | .ok s2 =>
  match phase s2 with
  | .error e => .error e
  | .ok s3 =>
  match s3.step (.close .A) with
  | .error e => .error e
  | .ok (s4, _) =>
  match phase s4 with
  | .error e => .error e
  | .ok s5 =>
  match phase s5 with
  | .error e => .error e
  | .ok s6 =>
  match s6.step (.tick .B (TIME_WAIT + 1)) with
  | .error e => .error e
  | .ok (s7, _) => .ok s7

theorem release_sequential_BA (s : Sys) (ta tb : Tcb) (ha : (s.side .A).tcb = some ta) (hb : (s.side .B).tcb = some tb)
    (qa : QuietX .A ta tb) (qb : QuietX .B tb ta) :
    ∃ s', releaseRoundSeqBA s = .ok s' ∧ FinRun s s' ∧ (s'.side .A).tcb = none ∧ (s'.side .B).tcb = none ∧
      (s'.side .A).submitted = (s.side .A).submitted ∧ (s'.side .B).submitted = (s.side .B).submitted ∧
      (s'.side .A).delivered = (s.side .A).delivered ∧ (s'.side .B).delivered = (s.side .B).delivered ∧
      s'.historyLen = s.historyLen + 4 := by
  obtain ⟨s', e, r, v⟩ := release_sequential_x (View.start s .A ta tb ha hb) qb qa
  exact ⟨s', e, r, v.t, v.u, v.st, v.su, v.dt, v.du, v.n⟩

end Elvis.Tcp
