import ElvisVerif.Lemmas.TcbInv
/-!
# Unacceptable segments: specification (written from RFC 9293, independent of `is_seq_ok`) and
the bridge to the code's acceptability test

Also `processSegment_synSent_rows`: where `process_segment` ends from SYN-SENT, row by row, each with the result as an
equation, so that it is read forwards (the no-op below) and backwards (`Lemmas/ShiftInv.lean`, `proc_ss` of
`Lemmas/TcpFullHsTcb.lean`).
-/
namespace Elvis.Tcp
open Elvis.ModCmp
namespace Tcb

/-- sequence number `n` lies in the receive window `[RCV.NXT, RCV.NXT + RCV.WND)` widened by
    `RCV.NXT − 1` on the left (the rule this implementation documents for keep-alives) -/
def InWindow (s : Tcb) (n : Seq) : Prop := (n - (s.rcv.nxt - 1)).toNat ≤ s.rcv.wnd.toNat

/-- none of the sequence numbers the segment occupies (its `SEG.SEQ` when it occupies none)
    lies in the window -/
def EntirelyOutside (s : Tcb) (seg : Segment) : Prop :=
  ∀ k, k < max 1 seg.segLen → ¬ InWindow s (seg.hdr.seq + BitVec.ofNat 32 k)

/-- what a conforming receiver must treat as unacceptable: in SYN-SENT a segment with neither
    SYN nor RST (RFC 9293 3.10.7.3); otherwise a segment entirely outside the receive window
    (3.10.7.4, first) -/
def Unacceptable (s : Tcb) (seg : Segment) : Prop :=
  if s.state = .SynSent then seg.hdr.ctl.syn = false ∧ seg.hdr.ctl.rst = false
  else EntirelyOutside s seg

/-- `s'` equals `s` in every field except that at most one header was appended to the one-shot
    output queue -/
structure OnlyOneshot (s s' : Tcb) : Prop where
  localPort : s'.localPort = s.localPort
  remotePort : s'.remotePort = s.remotePort
  mtu : s'.mtu = s.mtu
  initiation : s'.initiation = s.initiation
  state : s'.state = s.state
  snd : s'.snd = s.snd
  rcv : s'.rcv = s.rcv
  incoming : s'.incoming = s.incoming
  timeouts : s'.timeouts = s.timeouts
  text : s'.outgoing.text = s.outgoing.text
  retransmit : s'.outgoing.retransmit = s.outgoing.retransmit
  oneshot : ∃ l : List Hdr, l.length ≤ 1 ∧ s'.outgoing.oneshot = s.outgoing.oneshot ++ l

theorem inWindow_iff (s : Tcb) (n : Seq) : s.isInRcvWindow n = true ↔ InWindow s n := by
  rw [isInRcvWindow_iff]
  unfold InWindow
  have e : n - (s.rcv.nxt - 1) = (n - s.rcv.nxt) + 1 := by
    simp only [BitVec.sub_eq_add_neg, BitVec.neg_add, BitVec.neg_neg]; ac_rfl
  rw [e]
  generalize (n - s.rcv.nxt) = d
  have h1 : (1 : BitVec 32).toNat = 1 := rfl
  simp only [BitVec.toNat_add, h1]
  have := d.isLt
  have := s.rcv.wnd.isLt
  omega

theorem ofNat_pred (n : Nat) (h : 0 < n) : BitVec.ofNat 32 n - 1 = BitVec.ofNat 32 (n - 1) := by
  have : n = (n - 1) + 1 := by omega
  conv => lhs; rw [this, BitVec.ofNat_add]
  exact BitVec.add_sub_cancel _ _

theorem isSeqOk_of_outside (s : Tcb) (seg : Segment) (hw : s.rcv.wnd ≠ 0)
    (hp : seg.text.length ≤ MAX_PAYLOAD) (ho : EntirelyOutside s seg) :
    s.isSeqOk (BitVec.ofNat 32 seg.text.length) seg.hdr.seq seg.hdr.ctl.syn seg.hdr.ctl.fin = .ok false := by
  have htl := toNat_ofNat_payload hp
  have hlen : seg.text.length + seg.hdr.ctl.fin.toNat + seg.hdr.ctl.syn.toNat = seg.segLen := by
    unfold Segment.segLen; omega
  have hb : seg.segLen < 4294967296 := by
    unfold Segment.segLen MAX_PAYLOAD at *
    have := Bool.toNat_le seg.hdr.ctl.syn; have := Bool.toNat_le seg.hdr.ctl.fin
    omega
  rw [isSeqOk_eq, htl, hlen, if_neg (by omega)]
  have h0 : ¬ InWindow s seg.hdr.seq := by
    have := ho 0 (by omega)
    simpa using this
  congr 1
  rw [Bool.eq_false_iff]
  by_cases hn : seg.segLen = 0
  · rw [hn, acceptable_zero hw]
    exact fun h => h0 ((inWindow_iff _ _).1 h)
  · rw [acceptable_pos hn hw]
    intro h
    rw [Bool.or_eq_true] at h
    rcases h with h | h
    · exact h0 ((inWindow_iff _ _).1 h)
    · refine ho (seg.segLen - 1) (by omega) ?_
      have e : seg.hdr.seq + BitVec.ofNat 32 seg.segLen - 1 = seg.hdr.seq + BitVec.ofNat 32 (seg.segLen - 1) := by
        rw [← ofNat_pred _ (by omega), BitVec.sub_eq_add_neg, BitVec.sub_eq_add_neg, BitVec.add_assoc]
      exact e ▸ (inWindow_iff _ _).1 h

theorem OnlyOneshot.refl (s : Tcb) : OnlyOneshot s s :=
  ⟨rfl, rfl, rfl, rfl, rfl, rfl, rfl, rfl, rfl, rfl, rfl, [], Nat.zero_le _, by simp⟩

theorem onlyOneshot_enqueue (s : Tcb) (h : Hdr) (hs : h.ctl.syn = false) (hf : h.ctl.fin = false) :
    OnlyOneshot s (s.enqueueBuilt h) := by
  rw [enqueueBuilt_oneshot s h hs hf]
  exact ⟨rfl, rfl, rfl, rfl, rfl, rfl, rfl, rfl, rfl, rfl, rfl, [h], Nat.le_refl _, rfl⟩

theorem segmentArrives_outside (s : Tcb) (seg : Segment) (h : Wf s) (hst : s.state ≠ .SynSent)
    (hp : seg.text.length ≤ MAX_PAYLOAD) (ho : EntirelyOutside s seg) :
    ∃ s', s.segmentArrives seg = .ok (s', .Ok) ∧ OnlyOneshot s s' := by
  exact ⟨_, segmentArrives_iff.2 (Or.inl ⟨hst, isSeqOk_of_outside s seg (by rw [h.rcv_wnd]; decide) hp ho, rfl, rfl⟩),
    onlyOneshot_enqueue _ _ rfl rfl⟩

/-- the TCB block 4 hands to blocks 5 and 6 when the peer's SYN finds ours acknowledged -/
abbrev synEst (v : Tcb) (seg : Hdr) : Tcb :=
  (synMoved v seg .Established).enqueueBuilt (synMoved v seg .Established).ackHdr.built

/-- blocks 3 and 4 in SYN-SENT on the TCB `v` that block 2 hands on: a RST ends it (and deletes the TCB exactly when it
    comes with an ACK); without SYN the segment is discarded; a SYN leads to SYN-RECEIVED with the SYN,ACK queued, or —
    our SYN acknowledged — to ESTABLISHED, an ACK queued, and on to blocks 5 and 6 -/
def SynSentRest (t : Tcb) (g : Segment) (v : Tcb) : Prop :=
  (g.hdr.ctl.rst = true ∧ t.processSegment g = .ok (v, rstResult v g.hdr) ∧
    (rstResult v g.hdr).shouldDeleteTcb = g.hdr.ctl.ack) ∨
  (g.hdr.ctl.rst = false ∧ g.hdr.ctl.syn = false ∧ t.processSegment g = .ok (v, .DiscardSegment)) ∨
  (g.hdr.ctl.rst = false ∧ g.hdr.ctl.syn = true ∧ modGt v.snd.una v.snd.iss = false ∧
    t.processSegment g = .ok ((synMoved v g.hdr .SynReceived).enqueueBuilt
      (synMoved v g.hdr .SynReceived).synAckHdr.built, .Success)) ∨
  (g.hdr.ctl.rst = false ∧ g.hdr.ctl.syn = true ∧ modGt v.snd.una v.snd.iss = true ∧
    t.processSegment g = finish ((textBlock (synEst v g.hdr) g.hdr g.text (tl g)).andThen
      fun u => finBlock u g.hdr (tl g)))

/-- **`process_segment` in SYN-SENT, row by row** (RFC 9293 3.10.7.3), each row with the result as an equation: block 2
    answers an ACK field that fails its test (drops the segment if it carries a RST, else queues a RST), or hands on
    the TCB as it was, or with the ACK of our SYN taken when the SYN comes with it; then `SynSentRest` -/
theorem processSegment_synSent_rows (t : Tcb) (g : Segment) (hst : t.state = .SynSent) :
    (g.hdr.ctl.ack = true ∧
      ((g.hdr.ctl.rst = true ∧ t.processSegment g = .ok (t, .DiscardSegment)) ∨
        t.processSegment g = .ok (t.enqueueBuilt (t.rstForAck g.hdr).built, .InvalidAck))) ∨
    ∃ v, (v = t ∨ (g.hdr.ctl.ack = true ∧ g.hdr.ctl.syn = true ∧
        modBounded t.snd.una .Lt g.hdr.ack .Leq t.snd.nxt = true ∧ v = ackTaken t g.hdr.ack)) ∧
      SynSentRest t g v := by
  have c1 : seqCheck t g.hdr (tl g) = .ok (t, none) := seqCheck_synSent hst
  have rest : ∀ v : Tcb, v.state = .SynSent → ackBlock t g.hdr = .ok (v, none) → SynSentRest t g v := by
    intro v hv c2
    unfold SynSentRest
    cases hr : g.hdr.ctl.rst with
    | true =>
      refine .inl ⟨rfl, processSegment_stop3 c1 c2 (by rw [rstBlock_eq, hr]; rfl), ?_⟩
      -- block 3 in SYN-SENT deletes the TCB exactly when the RST comes with an ACK
      unfold rstResult
      rw [hv]
      cases g.hdr.ctl.ack
      · rfl
      · dsimp only
        rw [Bool.not_true, if_neg Bool.false_ne_true]
        split <;> rfl
    | false =>
      have c3 := rstBlock_pass (s := v) hr
      cases hs : g.hdr.ctl.syn with
      | false =>
        exact .inr (.inl ⟨rfl, rfl, processSegment_stop4 c1 c2 c3
          (by rw [synBlock_eq, hs, Bool.not_false, if_pos rfl, if_pos hv])⟩)
      | true =>
        cases hg : modGt v.snd.una v.snd.iss with
        | false => exact .inr (.inr (.inl ⟨rfl, rfl, rfl, processSegment_stop4 c1 c2 c3 (synBlock_synReceived hs hv hg)⟩))
        | true =>
          refine .inr (.inr (.inr ⟨rfl, rfl, rfl, ?_⟩))
          rw [processSegment_eq, c1, andThen_none, c2, andThen_none, c3, andThen_none, synBlock_established hs hv hg,
            andThen_none]
  cases ha : g.hdr.ctl.ack with
  | false => exact .inr ⟨t, .inl rfl, rest t hst (ackBlock_noAck ha)⟩
  | true =>
    have c2 : ackBlock t g.hdr = .ok (ackSynSent t g.hdr) := by rw [ackBlock_eq, ackOut_synSent ha hst]
    rcases ackSynSent_cases t g.hdr with ⟨hr, -, e⟩ | ⟨-, e⟩ | ⟨-, hb, ⟨hsyn, e⟩ | ⟨-, e⟩⟩ <;> rw [e] at c2
    · exact .inl ⟨rfl, .inl ⟨hr, processSegment_stop2 c1 c2⟩⟩
    · exact .inl ⟨rfl, .inr (processSegment_stop2 c1 c2)⟩
    · exact .inr ⟨_, .inr ⟨rfl, hsyn, hb, rfl⟩, rest _ hst c2⟩
    · exact .inr ⟨t, .inl rfl, rest t hst c2⟩

theorem finish56_ok {w t' : Tcb} {g : Segment} {r : ProcessSegmentResult}
    (h : finish ((textBlock w g.hdr g.text (tl g)).andThen fun u => finBlock u g.hdr (tl g)) = .ok (t', r)) :
    ∃ s5, textBlock w g.hdr g.text (tl g) = .ok (s5, none) ∧ finBlock s5 g.hdr (tl g) = .ok (t', none) := by
  obtain ⟨q, hx, -⟩ := finish_ok h
  rcases andThen_ok hx with ⟨r0, e5, -⟩ | ⟨s5, e5, e6⟩
  · cases (textBlock_ok e5).1
  · exact ⟨s5, e5, (finBlock_ok e6).1 ▸ e6⟩

theorem processSegment_synsent_noop (s : Tcb) (seg : Segment) (hst : s.state = .SynSent)
    (hsyn : seg.hdr.ctl.syn = false) (hrst : seg.hdr.ctl.rst = false) :
    ∃ s' r, s.processSegment seg = .ok (s', r) ∧ OnlyOneshot s s' ∧ r.shouldDeleteTcb = false := by
  rcases processSegment_synSent_rows s seg hst with ⟨-, ⟨hr, -⟩ | e⟩ | ⟨v, hv, ⟨hr, -⟩ | ⟨-, -, e⟩ | ⟨-, hs, -⟩ | ⟨-, hs, -⟩⟩
  · rw [hrst] at hr; cases hr
  · exact ⟨_, _, e, onlyOneshot_enqueue _ _ rfl rfl, rfl⟩
  · rw [hrst] at hr; cases hr
  · obtain rfl : v = s := hv.resolve_right fun h => by rw [hsyn] at h; cases h.2.1
    exact ⟨_, _, e, OnlyOneshot.refl _, rfl⟩
  · rw [hsyn] at hs; cases hs
  · rw [hsyn] at hs; cases hs

theorem segmentArrives_synsent_noop (s : Tcb) (seg : Segment) (hst : s.state = .SynSent)
    (hi : HeapIdle s) (hsyn : seg.hdr.ctl.syn = false) (hrst : seg.hdr.ctl.rst = false) :
    ∃ s', s.segmentArrives seg = .ok (s', .Ok) ∧ OnlyOneshot s s' := by
  obtain ⟨s1, r1, e1, oo1, nd1⟩ := processSegment_synsent_noop s seg hst hsyn hrst
  exact ⟨s1, (segmentArrives_idle (hi hst) fun h => absurd hst h).2 ⟨r1, e1, by rw [nd1]; rfl⟩, oo1⟩

end Tcb
end Elvis.Tcp
