import ElvisVerif.Lemmas.NdlTree
/-!
# NDL: whole-file rejection

"The file contains an offending line" is declared on the line structure of `Lemmas/NdlGram.lean`:
`InFile off s l` is a path from the top of the text `s` to an offending line — through blocks that
read as blocks, into a `[Networks]` or `[Machines]` block, through entries that read as entries,
into a network / machine / section, through lines that read as lines — ending in a line for which
the offence `off` holds in the context of that place (expected depth, types allowed there, whether
it is the first child of its parent).  Nothing is assumed about what follows the offending line.

`inFile_rejects`: for every offence that is `Fatal` (every loop of the builder, meeting such a
line, reports an error) a file that contains it is answered with a reported error.
The four offences of C19 — wrong depth, a line the lexer rejects (unknown type tag, duplicate
argument, …), a known type where it does not belong, a machine lacking a section — are `Fatal`.
Duplicate network ids depend on what was seen before and get their own path predicate `DupFile`.

`DupFile.otherBlock` asks the second block to read to its end, because that is where the code
compares its ids with the earlier ones.  `DupFileAny` asks nothing of the text after the repeated
id: the loop of `networks_parser` only ever *adds* to the map it is building, so if the block is
read at all the repeated id is in what it hands to `core_parser`, whose merge refuses it.  The
outcome is therefore never a `Sim`; by totality it is a reported error whenever the text has fewer
than 2^31 − 1 newline characters.
-/
namespace Elvis.Ndl
open Elvis.Gen.Ndl

/-- a reported error (`Err(String)`), as opposed to a value, a panic or the model's fuel marker -/
def IsErr {α : Type} (x : R α) : Prop := ∃ k n, x = .error (.err k n)

theorem IsErr.intro {α : Type} (k : ErrKind) (n : Nat) : IsErr (.error (.err k n) : R α) := ⟨k, n, rfl⟩

theorem IsErr.not_ok {α : Type} {x : R α} (h : IsErr x) (a : α) : x ≠ .ok a := by
  obtain ⟨k, n, rfl⟩ := h; intro h; cases h

/-- where a line is expected: at which depth, which types may be declared there, and whether the
    line would be the first child of its parent (the code checks that one differently) -/
structure Ctx where
  depth : Nat
  allowed : List DecType
  first : Bool

abbrev Off := Ctx → Text → Nat → Prop

def topKinds : List DecType := [.template, .networks, .machines]
def secKinds : List DecType := [.networks, .protocols, .applications]

structure Fatal (off : Off) : Prop where
  core : ∀ {s l}, off ⟨0, topKinds, false⟩ s l → ∀ fuel nets ms, IsErr (coreLoop (fuel + 1) s l nets ms)
  nets : ∀ {s l}, off ⟨1, [.network], false⟩ s l → ∀ fuel seen, IsErr (networksLoop 1 (fuel + 1) s l seen)
  machs : ∀ {s l}, off ⟨1, [.machine], false⟩ s l → ∀ fuel, IsErr (machinesLoop 1 (fuel + 1) s l)
  mach : ∀ {s l}, off ⟨2, secKinds, false⟩ s l → ∀ fuel a, (∀ k ∈ a.req, IsSec k) →
    IsErr (machineLoop 2 (fuel + 1) s l a)
  leaf : ∀ {exp d s l}, off ⟨d, [exp], false⟩ s l → 1 < d → ∀ fuel, IsErr (leafLoop exp d (fuel + 1) s l)
  leafFirst : ∀ {exp d s l}, off ⟨d, [exp], true⟩ s l → 1 < d → ∀ first, IsErr (leafList exp first d s l)

inductive InLeaves (off : Off) (exp : DecType) (d : Nat) : Bool → Text → Nat → Prop
  | here {b s l} : off ⟨d, [exp], b⟩ s l → InLeaves off exp d b s l
  | later {b ps s l tail l'} : LineAt d exp ps s l tail l' → d ≤ countTabs tail →
      InLeaves off exp d false tail l' → InLeaves off exp d b s l

inductive InNets (off : Off) : Text → Nat → Prop
  | here {s l} : off ⟨1, [.network], false⟩ s l → InNets off s l
  | inside {ps s l tail l'} : LineAt 1 .network ps s l tail l' → InLeaves off .ip 2 true tail l' → InNets off s l
  | later {ps ips s l rest l'} : NetBodyAt ps ips s l rest l' → InNets off rest l' → InNets off s l

inductive InMach (off : Off) : Text → Nat → Prop
  | here {s l} : off ⟨2, secKinds, false⟩ s l → InMach off s l
  | inside {k ps s l tail l'} : IsSec k → LineAt 2 k ps s l tail l' →
      InLeaves off (secLeaf k) 3 true tail l' → InMach off s l
  | later {k ps ls s l tail l1 rest l'} : IsSec k → LineAt 2 k ps s l tail l1 →
      LeavesAt (secLeaf k) 3 ls tail l1 rest l' → InMach off rest l' → InMach off s l

inductive InMachs (off : Off) : Text → Nat → Prop
  | here {s l} : off ⟨1, [.machine], false⟩ s l → InMachs off s l
  | inside {ps s l tail l'} : LineAt 1 .machine ps s l tail l' → InMach off tail l' → InMachs off s l
  | later {ps secs s l tail l1 rest l'} : LineAt 1 .machine ps s l tail l1 → SecsAt secs tail l1 rest l' →
      InMachs off rest l' → InMachs off s l

inductive InFile (off : Off) : Text → Nat → Prop
  | here {s l} : off ⟨0, topKinds, false⟩ s l → InFile off s l
  | inNets {ps s l tail l'} : LineAt 0 .networks ps s l tail l' → InNets off tail l' → InFile off s l
  | inMachs {ps s l tail l'} : LineAt 0 .machines ps s l tail l' → InMachs off tail l' → InFile off s l
  | later {b s l rest l'} : BlockAt b s l rest l' → InFile off rest l' → InFile off s l

theorem reqDrop_eq_erase (req : List DecType) (k : DecType) : reqDrop req k = req.erase k := by
  rw [List.erase_eq_eraseIdx, reqDrop]
  cases List.idxOf? k req <;> rfl

theorem requiredSections_isSec : ∀ k ∈ requiredSections, IsSec k := by
  rw [requiredSections_eq]
  intro k hk
  simp only [List.mem_cons, List.not_mem_nil, or_false] at hk
  exact hk

def Block.ids : Block → List Text
  | .nets ns => ns.map (·.1)
  | _ => []

theorem stepBlock_spec (nets : List (Text × Network)) (ms : List Machine) (b : Block) :
    match stepBlock nets ms b with
    | .error e => e = .err .dupId 0
    | .ok (nets', _) => nets'.map (·.1) = nets.map (·.1) ++ b.ids := by
  cases b with
  | template => simp [stepBlock, Block.ids]
  | machs m => simp [stepBlock, Block.ids]
  | nets ns =>
    simp only [stepBlock]
    by_cases hf : Fresh (nets.map (·.1)) ns
    · simp only [if_pos hf, List.map_append, Block.ids]
    · simp only [if_neg hf]

theorem stepBlock_err {nets : List (Text × Network)} {ms : List Machine} {b : Block} {e : Fail}
    (h : stepBlock nets ms b = .error e) : e = .err .dupId 0 := by
  have := stepBlock_spec nets ms b
  rwa [h] at this

theorem stepBlock_ids {nets nets' : List (Text × Network)} {ms ms' : List Machine} {b : Block}
    (h : stepBlock nets ms b = .ok (nets', ms')) : nets'.map (·.1) = nets.map (·.1) ++ b.ids := by
  have := stepBlock_spec nets ms b
  rwa [h] at this

section
variable {off : Off} (hf : Fatal off)
include hf

theorem inLeaves_loop {exp : DecType} {d : Nat} (hd : 1 < d) {b s l} (h : InLeaves off exp d b s l) :
    b = false → ∀ fuel, s.length < fuel → IsErr (leafLoop exp d fuel s l) := by
  induction h with
  | here h =>
    intro hb fuel hfu
    subst hb
    obtain ⟨f, rfl⟩ := exists_fuel hfu
    exact hf.leaf h hd f
  | @later b ps s l tail l' h1 hc _ ih =>
    intro _ fuel hfu
    obtain ⟨f, rfl⟩ := exists_fuel hfu
    have hl := h1.length
    rw [leafLoop_step, if_neg h1.ne_nil, lexAt_line h1]
    have h1' : ¬ countTabs tail < d := by omega
    simp only [ne_eq, not_true_eq_false, if_false, h1']
    split
    · exact IsErr.intro _ _
    · obtain ⟨k, n, hx⟩ := ih rfl f (by omega)
      rw [hx]; exact IsErr.intro _ _

theorem inLeaves_list {exp : DecType} {d : Nat} (hd : 1 < d) {s l} (h : InLeaves off exp d true s l)
    (first : ErrKind) : IsErr (leafList exp first d s l) := by
  cases h with
  | here h => exact hf.leafFirst h hd first
  | later h1 hc h3 =>
    unfold leafList
    simp only [h1.1, ne_eq, not_true_eq_false, if_false]
    exact inLeaves_loop hf hd (InLeaves.later (b := false) h1 hc h3) rfl _ (Nat.lt_succ_self _)

theorem inNets_rejects {s l} (h : InNets off s l) :
    ∀ fuel seen, s.length < fuel → IsErr (networksLoop 1 fuel s l seen) := by
  induction h with
  | here h =>
    intro fuel seen hfu
    obtain ⟨f, rfl⟩ := exists_fuel hfu
    exact hf.nets h f seen
  | inside h1 h2 =>
    intro fuel seen hfu
    obtain ⟨f, rfl⟩ := exists_fuel hfu
    obtain ⟨k, n, hx⟩ := inLeaves_list hf (by omega) h2 .expectedTabs
    rw [networksLoop_step, entry_line h1]
    simp only [if_true, networkParser, hx]
    exact IsErr.intro _ _
  | @later ps ips s l rest l' hb _ ih =>
    intro fuel seen hfu
    obtain ⟨f, rfl⟩ := exists_fuel hfu
    have hl := hb.length
    obtain ⟨tail, l1, h1, h2⟩ := networkParser_of hb
    rw [networksLoop_step, entry_line h1, h2]
    simp only [if_true]
    split
    · exact IsErr.intro _ _
    · split
      · exact IsErr.intro _ _
      · exact ih f _ (by omega)

theorem inMach_rejects {s l} (h : InMach off s l) :
    ∀ fuel a, (∀ k ∈ a.req, IsSec k) → s.length < fuel → IsErr (machineLoop 2 fuel s l a) := by
  induction h with
  | here h =>
    intro fuel a ha hfu
    obtain ⟨f, rfl⟩ := exists_fuel hfu
    exact hf.mach h f a ha
  | inside hk h1 h2 =>
    intro fuel a ha hfu
    obtain ⟨f, rfl⟩ := exists_fuel hfu
    obtain ⟨k', n, hx⟩ := inLeaves_list hf (by omega) h2 .formatting
    rw [machineLoop_step, entry_line h1]
    split
    · simp only [hx]; exact IsErr.intro _ _
    · exact IsErr.intro _ _
  | @later k ps ls s l tail l1 rest l' hk h1 h2 _ ih =>
    intro fuel a ha hfu
    obtain ⟨f, rfl⟩ := exists_fuel hfu
    have := h1.length
    have := h2.length
    rw [machineLoop_step, entry_line h1, leafList_of h2]
    split
    · refine ih f _ ?_ (by omega)
      intro x hx
      have hx' : x ∈ a.req.erase k := by rw [← reqDrop_eq_erase]; exact hx
      exact ha x (List.mem_of_mem_erase hx')
    · exact IsErr.intro _ _

theorem inMachs_rejects {s l} (h : InMachs off s l) :
    ∀ fuel, s.length < fuel → IsErr (machinesLoop 1 fuel s l) := by
  induction h with
  | here h =>
    intro fuel hfu
    obtain ⟨f, rfl⟩ := exists_fuel hfu
    exact hf.machs h f
  | @inside ps s l tail l' h1 h2 =>
    intro fuel hfu
    obtain ⟨f, rfl⟩ := exists_fuel hfu
    obtain ⟨k, n, hx⟩ := inMach_rejects hf h2 (tail.length + 1) ⟨requiredSections, [], [], []⟩
      requiredSections_isSec (Nat.lt_succ_self _)
    rw [machinesLoop_step, entry_line h1]
    simp only [if_true, machineParser, hx]
    exact IsErr.intro _ _
  | @later ps secs s l tail l1 rest l' h1 h2 _ ih =>
    intro fuel hfu
    obtain ⟨f, rfl⟩ := exists_fuel hfu
    have := h1.length
    have := h2.length
    rw [machinesLoop_step, entry_line h1, machineParser_of h2]
    simp only [if_true]
    cases runSecs ⟨requiredSections, [], [], []⟩ secs with
    | none => exact IsErr.intro _ _
    | some a =>
      simp only []
      by_cases hreq : a.req ≠ []
      · rw [if_pos hreq]; exact IsErr.intro _ _
      · obtain ⟨k, n, hx⟩ := ih f (by omega)
        rw [if_neg hreq]; simp only [hx]; exact IsErr.intro _ _

theorem inFile_rejects {s l} (h : InFile off s l) :
    ∀ fuel nets ms, s.length < fuel → IsErr (coreLoop fuel s l nets ms) := by
  induction h with
  | here h =>
    intro fuel nets ms hfu
    obtain ⟨f, rfl⟩ := exists_fuel hfu
    exact hf.core h f nets ms
  | @inNets ps s l tail l' h1 h2 =>
    intro fuel nets ms hfu
    obtain ⟨f, rfl⟩ := exists_fuel hfu
    obtain ⟨k, n, hx⟩ := inNets_rejects hf h2 (tail.length + 1) [] (Nat.lt_succ_self _)
    rw [coreLoop_step, if_neg h1.ne_nil, lexAt_line h1]
    simp only [networksParser, hx]
    exact IsErr.intro _ _
  | @inMachs ps s l tail l' h1 h2 =>
    intro fuel nets ms hfu
    obtain ⟨f, rfl⟩ := exists_fuel hfu
    obtain ⟨k, n, hx⟩ := inMachs_rejects hf h2 (tail.length + 1) (Nat.lt_succ_self _)
    rw [coreLoop_step, if_neg h1.ne_nil, lexAt_line h1]
    simp only [machinesParser, hx]
    exact IsErr.intro _ _
  | @later b s l rest l' hb _ ih =>
    intro fuel nets ms hfu
    obtain ⟨f, rfl⟩ := exists_fuel hfu
    have := hb.length
    rw [coreLoop_block hb]
    cases hs : stepBlock nets ms b with
    | error e => rw [stepBlock_err hs]; exact IsErr.intro _ _
    | ok p => exact ih f _ _ (by omega)

theorem build_rejects {s : Text} (h : InFile off s 1) : IsErr (build s) :=
  inFile_rejects hf h _ _ _ (Nat.lt_succ_self _)

end

/-- wrong nesting depth: deeper than the block allows; for the first child of a block: any depth
    other than one level below its parent (this includes "no child at all") -/
def depthOff : Off := fun c s _ => if c.first then countTabs s ≠ c.depth else c.depth < countTabs s

def lexOff (k : ErrKind) : Off := fun c s l =>
  s ≠ [] ∧ countTabs s = c.depth ∧ generalParser (s.drop c.depth) l = .error (.err k l)

def typeOff : Off := fun c s l =>
  ∃ dt ps tail l', LineAt c.depth dt ps s l tail l' ∧ c.allowed.contains dt = false

/-- a `[Machine]` whose body (well-formed sections, each read to its end) lacks a section kind -/
def lacksOff : Off := fun c s l =>
  c.depth = 1 ∧ c.allowed = [.machine] ∧ ∃ ps tail l1 secs rest l', LineAt 1 .machine ps s l tail l1 ∧
    SecsAt secs tail l1 rest l' ∧ ∃ k, IsSec k ∧ k ∉ secs.map (·.1)

theorem countTabs_pos_ne_nil {s : Text} {d : Nat} (h : d < countTabs s) : s ≠ [] := by
  intro hs; subst hs; simp [countTabs] at h

theorem drop_tab_of_lt : ∀ (d : Nat) (s : Text), d < countTabs s → ∃ r, s.drop d = '\t' :: r
  | _, [], h => by simp [countTabs] at h
  | 0, c :: r, h => by
    by_cases hc : c = '\t'
    · exact ⟨r, by simp [hc]⟩
    · simp [countTabs, hc] at h
  | d + 1, c :: r, h => by
    by_cases hc : c = '\t'
    · have : d < countTabs r := by simp [countTabs, hc] at h ⊢; omega
      simpa using drop_tab_of_lt d r this
    · simp [countTabs, hc] at h

theorem generalParser_tab (r : Text) (l : Nat) : generalParser ('\t' :: r) l = .error (.err .section l) := by
  simp [generalParser, sectionP]

theorem fatal_depth : Fatal depthOff where
  core := by
    intro s l h fuel nets ms
    obtain ⟨r, hr⟩ := drop_tab_of_lt 0 s h
    simp only [List.drop_zero] at hr
    subst hr
    rw [coreLoop]
    simp only [generalParser_tab]
    exact IsErr.intro _ _
  nets := fun h fuel seen => by rw [networksLoop_step, entry_deep h]; exact IsErr.intro _ _
  machs := fun h fuel => by rw [machinesLoop_step, entry_deep h]; exact IsErr.intro _ _
  mach := fun h fuel a _ => by rw [machineLoop_step, entry_deep h]; exact IsErr.intro _ _
  leaf := by
    intro exp d s l h _ fuel
    have h : d < countTabs s := h
    obtain ⟨r, hr⟩ := drop_tab_of_lt d s h
    rw [leafLoop_step, if_neg (countTabs_pos_ne_nil h), lexAt_err (Nat.le_of_lt h) (hr ▸ generalParser_tab r l)]
    exact IsErr.intro _ _
  leafFirst := by
    intro exp d s l h _ first
    have h : countTabs s ≠ d := h
    rw [leafList, if_pos h]
    exact IsErr.intro _ _

theorem fatal_lex (k : ErrKind) : Fatal (lexOff k) where
  core := by
    intro s l h fuel nets ms
    obtain ⟨h0, _, h2⟩ := h
    simp only [List.drop_zero] at h2
    rw [coreLoop]
    simp only [h0, if_false, h2]
    exact IsErr.intro _ _
  nets := fun h fuel seen => by rw [networksLoop_step, entry_err h.1 h.2.1 h.2.2]; exact IsErr.intro _ _
  machs := fun h fuel => by rw [machinesLoop_step, entry_err h.1 h.2.1 h.2.2]; exact IsErr.intro _ _
  mach := fun h fuel a _ => by rw [machineLoop_step, entry_err h.1 h.2.1 h.2.2]; exact IsErr.intro _ _
  leaf := fun h _ fuel => by
    rw [leafLoop_step, if_neg h.1, lexAt_err (Nat.le_of_eq h.2.1.symm) h.2.2]; exact IsErr.intro _ _
  leafFirst := fun h _ first => by
    rw [leafList, if_neg (not_not_intro h.2.1), leafLoop_step, if_neg h.1, lexAt_err (Nat.le_of_eq h.2.1.symm) h.2.2]
    exact IsErr.intro _ _

theorem fatal_type : Fatal typeOff where
  core := by
    intro s l h fuel nets ms
    obtain ⟨dt, ps, tail, l', h1, h2⟩ := h
    rw [coreLoop_step, if_neg h1.ne_nil, lexAt_line h1]
    cases dt <;> first | exact IsErr.intro _ _ | (simp [topKinds] at h2)
  nets := by
    intro s l h fuel seen
    obtain ⟨dt, ps, tail, l', h1, h2⟩ := h
    have hne : dt ≠ .network := by intro he; subst he; simp at h2
    rw [networksLoop_step, entry_line h1]
    simp only [hne, if_false]
    exact IsErr.intro _ _
  machs := by
    intro s l h fuel
    obtain ⟨dt, ps, tail, l', h1, h2⟩ := h
    have hne : dt ≠ .machine := by intro he; subst he; simp at h2
    rw [machinesLoop_step, entry_line h1]
    simp only [hne, if_false]
    exact IsErr.intro _ _
  mach := by
    intro s l h fuel a _
    obtain ⟨dt, ps, tail, l', h1, h2⟩ := h
    have hns : ¬ IsSec dt := by
      intro hs
      rcases hs with rfl | rfl | rfl <;> simp [secKinds] at h2
    rw [machineLoop_step, entry_line h1]
    simp only [hns, and_false, if_false]
    exact IsErr.intro _ _
  leaf := by
    intro exp d s l h _ fuel
    obtain ⟨dt, ps, tail, l', h1, h2⟩ := h
    have hne : dt ≠ exp := by intro he; subst he; simp at h2
    rw [leafLoop_step, if_neg h1.ne_nil, lexAt_line h1]
    simp only [ne_eq, hne, not_false_eq_true, if_true]
    exact IsErr.intro _ _
  leafFirst := by
    intro exp d s l h _ first
    obtain ⟨dt, ps, tail, l', h1, h2⟩ := h
    have hne : dt ≠ exp := by intro he; subst he; simp at h2
    unfold leafList
    simp only [h1.1, ne_eq, not_true_eq_false, if_false]
    rw [leafLoop_step, if_neg h1.ne_nil, lexAt_line h1]
    simp only [ne_eq, hne, not_false_eq_true, if_true]
    exact IsErr.intro _ _

theorem runSecs_keeps : ∀ (secs : List (DecType × List Leaf)) (a a' : MAcc), runSecs a secs = some a' →
    ∀ k ∈ a.req, k ∉ secs.map (·.1) → k ∈ a'.req
  | [], a, a', h, k, hk, _ => by simp [runSecs] at h; subst h; exact hk
  | (k', ls) :: r, a, a', h, k, hk, hn => by
    simp only [runSecs] at h
    split at h
    · simp only [List.map_cons, List.mem_cons, not_or] at hn
      refine runSecs_keeps r _ a' h k ?_ hn.2
      simp only [reqDrop_eq_erase]
      exact (List.mem_erase_of_ne hn.1).2 hk
    · cases h

theorem fatal_lacks : Fatal lacksOff where
  core := by intro s l h; exact absurd h.1 (by decide)
  nets := by intro s l h; exact absurd h.2.1 (by decide)
  mach := by intro s l h; exact absurd h.1 (by decide)
  leaf := by intro exp d s l h hd; have := h.1; simp only at this; omega
  leafFirst := by intro exp d s l h hd; have := h.1; simp only at this; omega
  machs := by
    intro s l h fuel
    obtain ⟨_, _, ps, tail, l1, secs, rest, l', h1, h2, k, hk, hn⟩ := h
    rw [machinesLoop_step, entry_line h1, machineParser_of h2]
    simp only [if_true]
    cases hr : runSecs ⟨requiredSections, [], [], []⟩ secs with
    | none => exact IsErr.intro _ _
    | some a =>
      have hmem : k ∈ a.req := runSecs_keeps secs _ a hr k (by
        rw [requiredSections_eq]
        rcases hk with rfl | rfl | rfl <;> simp) hn
      have hne : a.req ≠ [] := by intro he; rw [he] at hmem; simp at hmem
      simp only [hne, ne_eq, not_false_eq_true, if_true]
      exact IsErr.intro _ _

/-- inside the body of a `[Networks]` block, after entries with the ids `ids`: entries that read
    as entries, then one whose id was already used in this block -/
inductive DupInNets : List Text → Text → Nat → Prop
  | here {ids id n s l rest l'} : NetworkAt id n s l rest l' → id ∈ ids → DupInNets ids s l
  | later {ids id n s l rest l'} : NetworkAt id n s l rest l' → DupInNets (ids ++ [id]) rest l' →
      DupInNets ids s l

theorem dupInNets_rejects {ids s l} (h : DupInNets ids s l) :
    ∀ fuel seen, seen.map (·.1) = ids → s.length < fuel →
      networksLoop 1 fuel s l seen = .error (.err .dupId 0) := by
  induction h with
  | here h hi =>
    intro fuel seen hs hfu
    obtain ⟨f, rfl⟩ := exists_fuel hfu
    subst hs
    rw [networksLoop_network h, if_pos ((any_id_iff seen _).2 hi)]
  | @later ids id n s l rest l' h _ ih =>
    intro fuel seen hs hfu
    obtain ⟨f, rfl⟩ := exists_fuel hfu
    have := h.2.2.length
    rw [networksLoop_network h]
    split
    · rfl
    · exact ih f _ (by simp [hs]) (by omega)

/-- the file has two networks with the same id: blocks that read as blocks (their ids are
    collected in `ids`), then a `[Networks]` block that either repeats an id within itself or
    reads to its end and holds an id of an earlier block -/
inductive DupFile : List Text → Text → Nat → Prop
  | sameBlock {ids ps s l tail l'} : LineAt 0 .networks ps s l tail l' → DupInNets [] tail l' →
      DupFile ids s l
  | otherBlock {ids ps s l tail l1 ns rest l'} : LineAt 0 .networks ps s l tail l1 →
      NetsAt ns tail l1 rest l' → (∃ id, id ∈ ns.map (·.1) ∧ id ∈ ids) → DupFile ids s l
  | later {ids b s l rest l'} : BlockAt b s l rest l' → DupFile (ids ++ b.ids) rest l' → DupFile ids s l

theorem dupFile_rejects {ids s l} (h : DupFile ids s l) :
    ∀ fuel nets ms, nets.map (·.1) = ids → s.length < fuel → IsErr (coreLoop fuel s l nets ms) := by
  induction h with
  | @sameBlock ids ps s l tail l' h1 h2 =>
    intro fuel nets ms _ hfu
    obtain ⟨f, rfl⟩ := exists_fuel hfu
    rw [coreLoop_step, if_neg h1.ne_nil, lexAt_line h1]
    simp only [networksParser, dupInNets_rejects h2 _ [] rfl (Nat.lt_succ_self _)]
    exact IsErr.intro _ _
  | @otherBlock ids ps s l tail l1 ns rest l' h1 h2 h3 =>
    intro fuel nets ms hs hfu
    obtain ⟨f, rfl⟩ := exists_fuel hfu
    obtain ⟨id, hin, hid⟩ := h3
    -- the block reads as a block; the merge finds `id`
    rw [coreLoop_block (b := .nets ns) ⟨ps, tail, l1, h1, h2⟩]
    simp only [stepBlock, if_neg fun hf : Fresh (nets.map (·.1)) ns => hf.2 id hin (hs ▸ hid)]
    exact IsErr.intro _ _
  | @later ids b s l rest l' hb _ ih =>
    intro fuel nets ms hs hfu
    obtain ⟨f, rfl⟩ := exists_fuel hfu
    have := hb.length
    rw [coreLoop_block hb]
    cases hst : stepBlock nets ms b with
    | error e => rw [stepBlock_err hst]; exact IsErr.intro _ _
    | ok p =>
      obtain ⟨nets', ms'⟩ := p
      exact ih f nets' ms' (by rw [stepBlock_ids hst, hs]) (by omega)

theorem build_rejects_dup {s : Text} (h : DupFile [] s 1) : IsErr (build s) :=
  dupFile_rejects h _ [] [] rfl (Nat.lt_succ_self _)

theorem networksLoop_mono (nt : Nat) : ∀ (fuel : Nat) (s : Text) (l : Nat) (seen r : List (Text × Network))
    (rest : Text) (l' : Nat), networksLoop nt fuel s l seen = .ok (r, rest, l') → ∀ e ∈ seen, e ∈ r
  | 0, s, l, seen, r, rest, l', h => by simp [networksLoop] at h
  | fuel + 1, s, l, seen, r, rest, l', h => by
    by_cases hst : s = [] ∨ countTabs s < nt
    · rw [networksLoop_step, entry_stop hst] at h; cases h; exact fun e he => he
    · have hs : s ≠ [] := fun h => hst (.inl h)
      by_cases hd : nt < countTabs s
      · rw [networksLoop_step, entry_deep hd] at h; cases h
      · have ht : countTabs s = nt := by omega
        cases hg : generalParser (s.drop nt) l with
        | error e => rw [networksLoop_step, entry_err hs ht hg] at h; cases h
        | ok x =>
          -- a line is read: the loop goes on with `seen` and one more entry, or fails
          rw [networksLoop_step, entry_line (show LineAt nt x.dectype x.params s l x.rest x.line from ⟨ht, hg⟩)] at h
          split at h
          · split at h
            · cases h
            · split at h
              · cases h
              · split at h
                · cases h
                · exact fun e he => networksLoop_mono nt fuel _ _ _ r rest l' h e (List.mem_append_left _ he)
          · cases h

/-- inside the body of a `[Networks]` block: entries that read as entries, then one whose id is
    among `ids` (the ids of earlier blocks); nothing about what follows it -/
inductive DupAcross (ids : List Text) : Text → Nat → Prop
  | here {id n s l rest l'} : NetworkAt id n s l rest l' → id ∈ ids → DupAcross ids s l
  | later {id n s l rest l'} : NetworkAt id n s l rest l' → DupAcross ids rest l' → DupAcross ids s l

theorem dupAcross_result {ids s l} (h : DupAcross ids s l) :
    ∀ fuel seen r rest l', s.length < fuel → networksLoop 1 fuel s l seen = .ok (r, rest, l') →
      ∃ id, id ∈ ids ∧ id ∈ r.map (·.1) := by
  induction h with
  | @here id n s l rest0 l0 h hi =>
    intro fuel seen r rest l' hf hr
    obtain ⟨f, rfl⟩ := exists_fuel hf
    rw [networksLoop_network h] at hr
    split at hr
    · cases hr
    · have := networksLoop_mono 1 f _ _ _ r rest l' hr (id, n) (by simp)
      exact ⟨id, hi, List.mem_map.2 ⟨(id, n), this, rfl⟩⟩
  | @later id n s l rest0 l0 h _ ih =>
    intro fuel seen r rest l' hf hr
    obtain ⟨f, rfl⟩ := exists_fuel hf
    have := h.2.2.length
    rw [networksLoop_network h] at hr
    split at hr
    · cases hr
    · exact ih f _ r rest l' (by omega) hr

/-- the file: blocks that read as blocks (ids collected), then a `[Networks]` block that comes to
    an id of an earlier block -/
inductive DupFileAny : List Text → Text → Nat → Prop
  | block {ids ps s l tail l'} : LineAt 0 .networks ps s l tail l' → DupAcross ids tail l' → DupFileAny ids s l
  | later {ids b s l rest l'} : BlockAt b s l rest l' → DupFileAny (ids ++ b.ids) rest l' → DupFileAny ids s l

theorem dupFileAny_not_ok {ids s l} (h : DupFileAny ids s l) :
    ∀ fuel nets ms sim, nets.map (·.1) = ids → s.length < fuel → coreLoop fuel s l nets ms ≠ .ok sim := by
  induction h with
  | @block ids ps s l tail l' h1 h2 =>
    intro fuel nets ms sim hs hf
    obtain ⟨f, rfl⟩ := exists_fuel hf
    rw [coreLoop_step, if_neg h1.ne_nil, lexAt_line h1]
    simp only [networksParser]
    cases hr : networksLoop 1 (tail.length + 1) tail l' [] with
    | error e => intro h; cases h
    | ok p =>
      obtain ⟨r, rest, l2⟩ := p
      obtain ⟨id, hi, hin⟩ := dupAcross_result h2 _ [] r rest l2 (Nat.lt_succ_self _) hr
      simp only [mergeNets_dup (acc := nets) (hs ▸ hi) hin]
      intro h; cases h
  | @later ids b s l rest l' hb _ ih =>
    intro fuel nets ms sim hs hf
    obtain ⟨f, rfl⟩ := exists_fuel hf
    have := hb.length
    rw [coreLoop_block hb]
    cases hst : stepBlock nets ms b with
    | error e => intro h; cases h
    | ok p =>
      obtain ⟨nets', ms'⟩ := p
      exact ih f nets' ms' sim (by rw [stepBlock_ids hst, hs]) (by omega)

theorem build_not_ok_dup {s : Text} (h : DupFileAny [] s 1) (sim : Sim) : build s ≠ .ok sim :=
  dupFileAny_not_ok h _ [] [] sim rfl (Nat.lt_succ_self _)

/-- a path that may pass over a block that reads as a block (`InFile`, `DupFile`, `DupFileAny`:
    their `later`) may start after any sequence of such blocks -/
theorem path_after_doc {X : List Text → Text → Nat → Prop}
    (later : ∀ {ids b s l rest l'}, BlockAt b s l rest l' → X (ids ++ b.ids) rest l' → X ids s l)
    {bs s l rest l'} (h : DocAt bs s l rest l') :
    ∀ ids, X (ids ++ bs.flatMap Block.ids) rest l' → X ids s l := by
  induction h with
  | nil => intro ids h2; simpa using h2
  | cons hb _ ih =>
    intro ids h2
    refine later hb (ih _ ?_)
    simpa [List.append_assoc] using h2

end Elvis.Ndl
