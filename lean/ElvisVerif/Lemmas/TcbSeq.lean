import ElvisVerif.Lemmas.TcbIrs
import ElvisVerif.Lemmas.SeqArith
/-!
# RCV.NXT never passes the end of what the peer has numbered

Single endpoint.  `base` is the peer's ISS, `N` how many sequence numbers the peer has
consumed so far (`SND.NXT_peer = base + N`, `N < 2^31`).  If every segment handed to the
endpoint lies below `base + N` (`SegBelow`), then `RCV.NXT` stays at most `N` ahead of `base`
(`RcvBelow`) and never moves backwards.  Proved once for the elementary changes (`Eff.rcv`), with the reorder gate
carried along in a form that stays true as `RCV.NXT` advances (`Gate`).
-/
namespace Elvis.Tcp
open Elvis.ModCmp
namespace Tcb

/-- the segment occupies sequence numbers below `base + N` only; a SYN sits at `base` -/
structure SegBelow (base : Seq) (N : Nat) (σ : Segment) : Prop where
  syn : σ.hdr.ctl.syn = true → σ.hdr.seq = base
  len : 0 < σ.segLen → off base σ.hdr.seq + σ.segLen ≤ N

theorem SegBelow.mono {base : Seq} {N M : Nat} {σ : Segment} (h : SegBelow base N σ) (hm : N ≤ M) :
    SegBelow base M σ := ⟨h.syn, fun hl => Nat.le_trans (h.len hl) hm⟩

theorem SegBelow.text {base : Seq} {N : Nat} {σ : Segment} (h : SegBelow base N σ) (hne : σ.text ≠ []) :
    off base σ.hdr.seq + σ.text.length ≤ N := by
  have := List.length_pos_iff.2 hne
  have := h.len (by unfold Segment.segLen; omega)
  unfold Segment.segLen at this
  omega

theorem SegBelow.syn_off {base : Seq} {N : Nat} {σ : Segment} (h : SegBelow base N σ) (hsyn : σ.hdr.ctl.syn = true) :
    off base σ.hdr.seq = 0 ∧ off base (σ.hdr.seq + 1) = 1 ∧ 1 ≤ σ.segLen ∧ σ.segLen ≤ N := by
  have hl : 1 ≤ σ.segLen := by
    unfold Segment.segLen; rw [hsyn]; simp only [Bool.toNat_true]; omega
  have hlen := h.len hl
  rw [h.syn hsyn, off_self] at hlen ⊢
  exact ⟨rfl, off_succ base, hl, by omega⟩

/-- outside SYN-SENT, RCV.NXT is at most `N` ahead of `base` -/
def RcvBelow (base : Seq) (N : Nat) (s : Tcb) : Prop := s.state ≠ .SynSent → off base s.rcv.nxt ≤ N

/-- what a step does to the receive side: still below, never backwards, and where SYN-SENT is left RCV.NXT is past
    the peer's SYN -/
structure RcvStep (base : Seq) (N : Nat) (s s' : Tcb) : Prop where
  below : RcvBelow base N s'
  mono : s.state ≠ .SynSent → off base s.rcv.nxt ≤ off base s'.rcv.nxt
  notBack : s.state ≠ .SynSent → s'.state ≠ .SynSent
  fromSyn : s.state = .SynSent → s'.state ≠ .SynSent → 1 ≤ off base s'.rcv.nxt

theorem RcvStep.of_same {base : Seq} {N : Nat} {s s' : Tcb} (hb : RcvBelow base N s)
    (hr : s'.rcv = s.rcv) (hs : s'.state = .SynSent ↔ s.state = .SynSent) : RcvStep base N s s' :=
  ⟨fun h => by rw [hr]; exact hb (fun hx => h (hs.2 hx)), fun _ => by rw [hr]; exact Nat.le_refl _,
    fun h hx => h (hs.1 hx), fun h hx => absurd (hs.2 h) hx⟩

theorem RcvStep.trans {base : Seq} {N : Nat} {a b c : Tcb} (h1 : RcvStep base N a b) (h2 : RcvStep base N b c) :
    RcvStep base N a c :=
  ⟨h2.below, fun h => Nat.le_trans (h1.mono h) (h2.mono (h1.notBack h)), fun h => h2.notBack (h1.notBack h),
    fun ha hc => if hb : b.state = .SynSent then h2.fromSyn hb hc else Nat.le_trans (h1.fromSyn ha hb) (h2.mono hb)⟩

/-- the step as seen from a TCB that differs from `s` outside what the receive side reads (the reorder heap) -/
theorem RcvStep.of_left {base : Seq} {N : Nat} {s t s' : Tcb} (h : RcvStep base N t s') (hs : t.state = s.state)
    (hr : t.rcv = s.rcv) : RcvStep base N s s' :=
  ⟨h.below, hr ▸ hs ▸ h.mono, hs ▸ h.notBack, hs ▸ h.fromSyn⟩

theorem RcvStep.pos {base : Seq} {N : Nat} {s s' : Tcb} (h : RcvStep base N s s')
    (hp : s.state ≠ .SynSent → 1 ≤ off base s.rcv.nxt) (hs : s'.state ≠ .SynSent) : 1 ≤ off base s'.rcv.nxt :=
  if ha : s.state = .SynSent then h.fromSyn ha hs else Nat.le_trans (hp ha) (h.mono ha)

/-- the reorder gate as every block finds it: outside SYN-SENT a segment that occupies sequence numbers does not
    start beyond RCV.NXT -/
def Gate (base : Seq) (g : Segment) (u : Tcb) : Prop :=
  u.state ≠ .SynSent → 0 < g.segLen → off base g.hdr.seq ≤ off base u.rcv.nxt

theorem gate_of_modGt {base : Seq} {N : Nat} {g : Segment} {s : Tcb} (hN : N < 2147483648) (hb : RcvBelow base N s)
    (hσ : SegBelow base N g) (hgate : s.state ≠ .SynSent → modGt g.hdr.seq s.rcv.nxt = false) : Gate base g s :=
  fun hns hl => by
    have hbs := hb hns
    have hlen := hσ.len hl
    have hiff := modGt_iff_off base g.hdr.seq s.rcv.nxt (by omega) (by omega)
    rw [hgate hns] at hiff
    exact Nat.le_of_not_lt fun hlt => absurd (hiff.2 hlt) (by simp)

/-- **every elementary change** keeps RCV.NXT below, moves it forward only, and keeps the gate: RCV.NXT is written
    when the peer's SYN is taken (to `base + 1`), when text is buffered (by at most what lies beyond RCV.NXT) and
    when the FIN is passed (to the end of the segment) -/
theorem Eff.rcv {g : Segment} {k : Nat} {a b : Tcb} (h : Eff g k a b) (base : Seq) (N : Nat) (hN : N < 2147483648)
    (hσ : SegBelow base N g) (hb : RcvBelow base N a) (hg : Gate base g a) :
    RcvStep base N a b ∧ Gate base g b := by
  have same : ∀ {b : Tcb}, b.rcv = a.rcv → (b.state = .SynSent ↔ a.state = .SynSent) →
      RcvStep base N a b ∧ Gate base g b :=
    fun hr hs => ⟨RcvStep.of_same hb hr hs, fun hns hl => by rw [hr]; exact hg (fun hx => hns (hs.2 hx)) hl⟩
  have hsyn1 : g.hdr.ctl.syn.toNat ≤ 1 := by cases g.hdr.ctl.syn <;> simp
  have hiff := h.synSent_iff
  cases h with
  | reply => exact same (same_enqueueBuilt _ _).rcv (by rw [state_enqueueBuilt])
  | ack | window | rto | established | finWait2 | timeWaitAcked | closing | closeWait | timeWaitFin =>
    exact same rfl (hiff (.inl (by decide)))
  | syn hsyn _ hst =>
    obtain ⟨o0, o1, hl, hle⟩ := hσ.syn_off hsyn
    exact ⟨⟨fun _ => by show off base (g.hdr.seq + 1) ≤ N; rw [o1]; omega, fun h => absurd hst h, fun h => absurd hst h,
        fun _ _ => Nat.le_of_eq o1.symm⟩,
      fun _ _ => by show off base g.hdr.seq ≤ off base (g.hdr.seq + 1); rw [o0, o1]; omega⟩
  | text hss h hn =>
    have hl : 0 < g.segLen := by
      unfold Segment.segLen
      have := List.length_pos_iff.2 h.nonempty
      omega
    have hlen := hσ.len hl
    unfold Segment.segLen at hlen
    have htl : (tl g).toNat = g.text.length := by
      simp only [BitVec.toNat_ofNat]; omega
    have hacc := acceptLen_le a g.hdr (tl g)
    rw [alreadyReceived_toNat, htl, ← hn] at hacc
    have k := accept_off base a.rcv.nxt g.hdr.seq g.hdr.ctl.syn.toNat g.text.length _ N hsyn1 hN (hb hss) (by omega)
      (hg hss hl) hacc
    exact ⟨⟨fun _ => k.2, fun _ => k.1, fun h => h, fun h => absurd h hss⟩, fun _ _ => Nat.le_trans (hg hss hl) k.1⟩
  | fin hfin hns hc =>
    have hl : 0 < g.segLen := by unfold Segment.segLen; rw [hfin]; simp
    have hlen := hσ.len hl
    unfold Segment.segLen at hlen
    rw [hfin] at hlen
    simp only [Bool.toNat_true] at hlen
    have o1 : off base (g.hdr.seq + tl g) = off base g.hdr.seq + g.text.length := off_add base g.hdr.seq _ (by omega)
    have o2 : off base (g.hdr.seq + tl g + 1) = off base g.hdr.seq + g.text.length + 1 := by
      rw [off_add_one base _ (by omega), o1]
    have k : off base a.rcv.nxt ≤ off base (g.hdr.seq + tl g + 1) := by
      rcases hc with h | h <;> rw [h] <;> omega
    exact ⟨⟨fun _ => by show off base (g.hdr.seq + tl g + 1) ≤ N; rw [o2]; omega, fun _ => k, fun h => h,
        fun h => absurd h hns⟩,
      fun _ _ => by show off base g.hdr.seq ≤ off base (g.hdr.seq + tl g + 1); rw [o2]; omega⟩

theorem processSegment_rcv (s : Tcb) (segment : Segment) (s' : Tcb) (r : ProcessSegmentResult)
    (e : s.processSegment segment = .ok (s', r))
    (base : Seq) (N : Nat) (hN : N < 2147483648) (hb : RcvBelow base N s) (hσ : SegBelow base N segment)
    (hgate : s.state ≠ .SynSent → modGt segment.hdr.seq s.rcv.nxt = false) :
    RcvStep base N s s' := by
  exact (processSegment_lift
    (R := fun a b => RcvBelow base N a → Gate base segment a → RcvStep base N a b ∧ Gate base segment b)
    (fun a hb hg => ⟨RcvStep.of_same hb rfl Iff.rfl, hg⟩)
    (fun h1 h2 hb hg => ⟨(h1 hb hg).1.trans (h2 (h1 hb hg).1.below (h1 hb hg).2).1, (h2 (h1 hb hg).1.below (h1 hb hg).2).2⟩)
    (fun h hb hg => h.rcv base N hN hσ hb hg) e hb (gate_of_modGt hN hb hσ hgate)).1

/-- **`segment_arrives`**: with the arriving segment and everything parked below `base + N`,
    RCV.NXT stays at most `N` ahead of `base`, never moves backwards, and what stays parked is
    still below -/
theorem segmentArrives_rcv (s : Tcb) (segment : Segment) (s' : Tcb)
    (e : s.segmentArrives segment = .ok (s', .Ok))
    (base : Seq) (N : Nat) (hN : N < 2147483648) (hb : RcvBelow base N s)
    (hseg : SegBelow base N segment) (hh : ∀ σ ∈ s.incoming.segments, SegBelow base N σ) :
    RcvStep base N s s' ∧ ∀ σ ∈ s'.incoming.segments, SegBelow base N σ :=
  ⟨segmentArrives_lift_mem (Q := SegBelow base N) (R := fun a b => RcvBelow base N a → RcvStep base N a b)
      (fun _ hb => .of_same hb rfl Iff.rfl) (fun h1 h2 hb => (h1 hb).trans (h2 (h1 hb).below))
      (fun _ _ _ hb => .of_same hb rfl Iff.rfl)
      (fun hσ hgate e hb => processSegment_rcv _ _ _ _ e base N hN hb hσ hgate)
      (fun _ _ hb => .of_same hb (same_enqueueBuilt _ _).rcv (by rw [state_enqueueBuilt])) e hseg hh hb,
    segmentArrives_parked e hseg hh⟩

end Tcb
end Elvis.Tcp
