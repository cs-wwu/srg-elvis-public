import ElvisVerif.Lemmas.ShiftTcb
/-!
# Every block of `process_segment` commutes with the shift map (C12)

Method: each block is read as a composition of the named pieces of `Lemmas/TcbBlocks.lean` (`ackTaken`,
`wndTaken`, `aep`, `ackExit`, `synMoved`, `textTaken`, `finAdvance`, …), each piece is shown to commute with
`Tcb.shift` (by `rfl`, or by the shift-invariance of the circular comparisons, `Lemmas/ShiftCmp.lean`), and the
block lemma rewrites with these, by hand or with the set `shift_simps`, until both sides test the same conditions
and build the same pieces.  Outside SYN-SENT the shift is the uniform translation `Tcb.shiftU`
(`Tcb.shift_late`), which commutes with every record update by `rfl`; SYN-SENT is left only through `synMoved`,
which overwrites all that the shift leaves alone there.  No lemma unfolds a circular predicate.
-/
namespace Elvis.Tcp
open Elvis.ModCmp
variable (ka kb : Seq)

theorem shift_seqCheck (s : Tcb) (seg : Hdr) (tl : Seq) :
    Tcb.seqCheck (s.shift ka kb) (seg.shift kb ka) tl = M.shift ka kb (Tcb.seqCheck s seg tl) := by
  unfold Tcb.seqCheck
  rw [Tcb.shift_state]
  split
  · rfl
  · rename_i hne
    simp only [shift_simps, Tcb.shift_isSeqOk ka kb s hne, Tcb.shift_ackHdr ka kb s hne]
    cases s.isSeqOk tl seg.seq seg.ctl.syn seg.ctl.fin with
    | error e => rfl
    | ok b => cases b <;> rfl

theorem shift_ackTaken (s : Tcb) (a : Seq) :
    Tcb.ackTaken (s.shift ka kb) (a + ka) = (Tcb.ackTaken s a).shift ka kb := by
  -- an entry is acknowledged or not whatever the common shift
  have h : ∀ l : List Transmit,
      (l.map (Transmit.shift ka kb)).filter (fun t => modLt (a + ka) (t.segment.hdr.seq + BitVec.ofNat 32 t.segment.segLen)) =
      (l.filter (fun t => modLt a (t.segment.hdr.seq + BitVec.ofNat 32 t.segment.segLen))).map (Transmit.shift ka kb) := by
    intro l
    rw [List.filter_map]
    congr 2
    funext t
    show modLt (a + ka) (t.segment.hdr.seq + ka + BitVec.ofNat 32 t.segment.segLen) = _
    rw [add_add_comm', modLt_shift]
  rw [Tcb.ackTaken_eq, Tcb.ackTaken_eq]
  simp only [Tcb.shift, h]
  rfl

theorem shift_setWindow (s : Tcb) (w : U16) (q a : Seq) (h1 : s.state ≠ .SynSent) :
    ({ s.shift ka kb with snd.wnd := w, snd.wl1 := q + kb, snd.wl2 := a + ka } : Tcb) =
      ({ s with snd.wnd := w, snd.wl1 := q, snd.wl2 := a } : Tcb).shift ka kb := by
  rw [Tcb.shift_late ka kb s h1,
    Tcb.shift_late ka kb ({ s with snd.wnd := w, snd.wl1 := q, snd.wl2 := a } : Tcb) h1]
  rfl

theorem shift_wndTaken (s : Tcb) (seg : Hdr) (ha : seg.ctl.ack = true) (h1 : s.state ≠ .SynSent) :
    Tcb.wndTaken (s.shift ka kb) (seg.shift kb ka) = (Tcb.wndTaken s seg).shift ka kb := by
  unfold Tcb.wndTaken
  rw [Tcb.shift_wl1 ka kb s h1, Tcb.shift_wl2 ka kb s h1, Hdr.shift_seq, Hdr.shift_wnd, Hdr.shift_ack_of kb ka seg ha,
    modLt_shift, beq_shift, modLeq_shift]
  split
  · exact shift_setWindow ka kb s seg.wnd seg.seq seg.ack h1
  · rfl

theorem shift_aep (s : Tcb) (seg : Hdr) (ha : seg.ctl.ack = true) (h1 : s.state ≠ .SynSent) :
    Tcb.aep (s.shift ka kb) (seg.shift kb ka) = Prod.map (Tcb.shift ka kb) id (Tcb.aep s seg) := by
  unfold Tcb.aep
  simp only [shift_simps, Hdr.shift_ack_of kb ka seg ha, shift_ackTaken,
    shift_wndTaken ka kb (Tcb.ackTaken s seg.ack) seg ha h1, Tcb.shift_ackHdr ka kb s h1]

theorem shift_setState_late (s : Tcb) (st : State) (h1 : s.state ≠ .SynSent) (g1 : st ≠ .SynSent) :
    ({ s.shift ka kb with state := st } : Tcb) = ({ s with state := st } : Tcb).shift ka kb := by
  rw [Tcb.shift_late ka kb s h1, Tcb.shift_late ka kb ({ s with state := st } : Tcb) g1]
  rfl

theorem shift_synAcked (s : Tcb) (seg : Hdr) (ha : seg.ctl.ack = true) (h : s.state = .SynReceived) :
    Tcb.synAcked (s.shift ka kb) (seg.shift kb ka) = (Tcb.synAcked s seg).shift ka kb := by
  obtain ⟨lp, rp, mtu, ini, st, snd, rcv, out, inc, tmo⟩ := s
  cases h
  unfold Tcb.synAcked
  rw [Hdr.shift_ack_of kb ka seg ha]
  rfl

theorem shift_ackSynSent (s : Tcb) (seg : Hdr) (ha : seg.ctl.ack = true) :
    Tcb.ackSynSent (s.shift ka kb) (seg.shift kb ka) = Prod.map (Tcb.shift ka kb) id (Tcb.ackSynSent s seg) := by
  unfold Tcb.ackSynSent
  simp only [shift_simps, Hdr.shift_ack_of kb ka seg ha, shift_ackTaken, Tcb.shift_rstForAck ka kb s seg ha]

theorem shift_ackExit (st : State) (v : Tcb × ProcessSegmentResult) (hv : v.1.state ≠ .SynSent) :
    Tcb.ackExit st (v.1.shift ka kb, v.2) = Prod.map (Tcb.shift ka kb) id (Tcb.ackExit st v) := by
  have e2 : ({ v.1.shift ka kb with state := .TimeWait, timeouts.timeWait := some TIME_WAIT } : Tcb) =
      ({ v.1 with state := .TimeWait, timeouts.timeWait := some TIME_WAIT } : Tcb).shift ka kb :=
    congrArg (fun t : Tcb => { t with timeouts.timeWait := some TIME_WAIT })
      (shift_setState_late ka kb v.1 .TimeWait hv (by decide))
  unfold Tcb.ackExit
  split
  · dsimp only
    rw [Tcb.shift_isFinAcked, shift_setState_late ka kb v.1 .FinWait2 hv (by decide)]
    split <;> rfl
  · dsimp only
    rw [Tcb.shift_isFinAcked, e2]
    split <;> rfl
  · dsimp only
    rw [Tcb.shift_isFinAcked]
    rfl
  · rfl

theorem shift_ackOut (s : Tcb) (seg : Hdr) :
    Tcb.ackOut (s.shift ka kb) (seg.shift kb ka) = Prod.map (Tcb.shift ka kb) id (Tcb.ackOut s seg) := by
  unfold Tcb.ackOut
  rw [Hdr.shift_ctl, Tcb.shift_state]
  split
  · rfl
  · rename_i hack
    have ha : seg.ctl.ack = true := by simpa using hack
    split
    · exact shift_ackSynSent ka kb s seg ha
    · rfl
    · rename_i hst
      simp only [shift_simps, Hdr.shift_ack_of kb ka seg ha, shift_synAcked ka kb s seg ha hst,
        Tcb.shift_rstForAck ka kb s seg ha, shift_aep ka kb _ seg ha (nofun : (Tcb.synAcked s seg).state ≠ .SynSent)]
      split
      · exact shift_ackExit ka kb _ (Tcb.aep (Tcb.synAcked s seg) seg) (by rw [Tcb.aep_state]; nofun)
      · rfl
    · rename_i h1 _ _
      rw [shift_aep ka kb s seg ha h1]
      exact shift_ackExit ka kb _ (Tcb.aep s seg) (by rw [Tcb.aep_state]; exact h1)

theorem shift_ackBlock (s : Tcb) (seg : Hdr) :
    Tcb.ackBlock (s.shift ka kb) (seg.shift kb ka) = M.shift ka kb (Tcb.ackBlock s seg) := by
  rw [Tcb.ackBlock_eq, Tcb.ackBlock_eq, shift_ackOut]
  rfl

/-- forget the distinction between the two "delete the TCB" results (see `psNorm`) -/
def normB (x : Tcb.B) : Tcb.B :=
  match x with
  | .error e => .error e
  | .ok (s, r) => .ok (s, r.map psNorm)

/-- outside SYN-SENT the answer of block 3 is read off the state and the kind of open -/
theorem shift_rstResult (s : Tcb) (seg : Hdr) (h : s.state ≠ .SynSent) :
    Tcb.rstResult (s.shift ka kb) (seg.shift kb ka) = Tcb.rstResult s seg := by
  unfold Tcb.rstResult
  rw [Tcb.shift_state, Tcb.shift_initiation]
  split
  · exact absurd ‹_› h
  all_goals rfl

theorem shift_rstBlock (s : Tcb) (seg : Hdr) (h : s.state ≠ .SynSent) :
    Tcb.rstBlock (s.shift ka kb) (seg.shift kb ka) = M.shift ka kb (Tcb.rstBlock s seg) := by
  rw [Tcb.rstBlock_eq, Tcb.rstBlock_eq, Hdr.shift_ctl, shift_rstResult ka kb s seg h]
  rfl

/-- in SYN-SENT the result (not the TCB) depends on whether `SEG.SEQ` equals the unset
    `RCV.NXT`; both results make `segment_arrives` delete the TCB -/
theorem shift_rstBlock_norm (s : Tcb) (seg : Hdr) :
    normB (Tcb.rstBlock (s.shift ka kb) (seg.shift kb ka)) = normB (M.shift ka kb (Tcb.rstBlock s seg)) := by
  by_cases h : s.state = .SynSent
  · have e : psNorm (Tcb.rstResult (s.shift ka kb) (seg.shift kb ka)) = psNorm (Tcb.rstResult s seg) := by
      unfold Tcb.rstResult
      rw [Tcb.shift_state, h, Hdr.shift_ctl]
      dsimp only
      split
      · rfl
      · split <;> split <;> rfl
    rw [Tcb.rstBlock_eq, Tcb.rstBlock_eq, Hdr.shift_ctl]
    cases seg.ctl.rst
    · rfl
    · exact congrArg (fun r => (.ok (s.shift ka kb, some r) : Tcb.B)) e
  · rw [shift_rstBlock ka kb s seg h]

theorem Tcb.shift_synAckHdr (s : Tcb) (h : s.state ≠ .SynSent) :
    (s.shift ka kb).synAckHdr = s.synAckHdr.shift ka kb := by
  unfold Tcb.synAckHdr
  rw [Tcb.shift_headerBuilder, Tcb.shift_iss, Tcb.shift_rcvnxt ka kb s h, Tcb.shift_rcvwnd]
  rfl

/-- `SND.WL2` after the peer's SYN: its ACK field under the ACK bit, else `ISS`; either way a local number -/
theorem shift_synWl2 (seg : Hdr) (iss : Seq) :
    (if seg.ctl.ack then (seg.shift kb ka).ack else iss + ka) = (if seg.ctl.ack then seg.ack else iss) + ka := by
  cases h : seg.ctl.ack
  · rfl
  · rw [Hdr.shift_ack_of kb ka seg h]
    rfl

/-- the peer's SYN overwrites everything `Tcb.shift` leaves alone in SYN-SENT (`RCV.*`, `SND.WL1`, `SND.WL2`), and the
    state it moves to is one in which they move -/
theorem shift_synMoved (s : Tcb) (seg : Hdr) (st : State) (h : s.state = .SynSent) (hst : st ≠ .SynSent) :
    Tcb.synMoved (s.shift ka kb) (seg.shift kb ka) st = (Tcb.synMoved s seg st).shift ka kb := by
  obtain ⟨lp, rp, mtu, ini, _, snd, rcv, out, inc, tmo⟩ := s
  cases h
  rw [Tcb.shift_late ka kb (Tcb.synMoved _ seg st) hst]
  unfold Tcb.synMoved Tcb.synTaken
  rw [Hdr.shift_seq, Hdr.shift_wnd, Hdr.shift_ctl, Tcb.shift_iss, shift_synWl2, add_add_comm' seg.seq 1 kb]
  rfl

theorem shift_synBlock (s : Tcb) (seg : Hdr) :
    Tcb.synBlock (s.shift ka kb) (seg.shift kb ka) = M.shift ka kb (Tcb.synBlock s seg) := by
  rw [Tcb.synBlock_eq, Tcb.synBlock_eq]
  by_cases hs : s.state = .SynSent
  · simp only [shift_simps, hs, if_true, shift_synMoved ka kb s seg .Established hs nofun,
      shift_synMoved ka kb s seg .SynReceived hs nofun, Tcb.shift_ackHdr ka kb (Tcb.synMoved s seg .Established) nofun,
      Tcb.shift_synAckHdr ka kb (Tcb.synMoved s seg .SynReceived) nofun]
  · simp only [shift_simps, hs, if_false, Tcb.shift_ackHdr ka kb s hs]

theorem shift_acceptText (s : Tcb) (n : Seq) (t : List UInt8) (h : s.state ≠ .SynSent) :
    Tcb.acceptText (s.shift ka kb) n t = (Tcb.acceptText s n t).shift ka kb := by
  rw [Tcb.shift_late ka kb s h, Tcb.shift_late ka kb (Tcb.acceptText s n t) h]
  unfold Tcb.acceptText
  rw [show (s.shiftU ka kb).rcv.nxt = s.rcv.nxt + kb from rfl, add_add_comm']
  rfl

theorem shift_alreadyReceived (s : Tcb) (seg : Hdr) (tl : Seq) (h : s.state ≠ .SynSent) :
    Tcb.alreadyReceived (s.shift ka kb) (seg.shift kb ka) tl = Tcb.alreadyReceived s seg tl := by
  unfold Tcb.alreadyReceived
  rw [Tcb.shift_rcvnxt ka kb s h, Hdr.shift_seq, Hdr.shift_ctl, add_sub_add_right]

theorem shift_acceptLen (s : Tcb) (seg : Hdr) (tl : Seq) (h : s.state ≠ .SynSent) :
    Tcb.acceptLen (s.shift ka kb) (seg.shift kb ka) tl = Tcb.acceptLen s seg tl := by
  unfold Tcb.acceptLen
  rw [shift_alreadyReceived ka kb s seg tl h, Tcb.shift_rcvwnd, Tcb.shift_itext]

theorem shift_textTaken (s : Tcb) (seg : Hdr) (text : List UInt8) (tl : Seq) (h : s.state ≠ .SynSent) :
    Tcb.textTaken (s.shift ka kb) (seg.shift kb ka) text tl = (Tcb.textTaken s seg text tl).shift ka kb := by
  unfold Tcb.textTaken Tcb.textBuffered
  rw [shift_alreadyReceived ka kb s seg tl h, shift_acceptLen ka kb s seg tl h, shift_acceptText ka kb s _ _ h,
    Tcb.shift_ackHdr ka kb (Tcb.acceptText s _ _) h, Hdr.shift_built, Tcb.shift_enqueueBuilt]

theorem shift_textBlock (s : Tcb) (seg : Hdr) (text : List UInt8) (tl : Seq) (h : s.state ≠ .SynSent) :
    Tcb.textBlock (s.shift ka kb) (seg.shift kb ka) text tl = M.shift ka kb (Tcb.textBlock s seg text tl) := by
  have hw2 : (s.shift ka kb).isInRcvWindow (seg.seq + kb + tl) = s.isInRcvWindow (seg.seq + tl) := by
    rw [add_add_comm', Tcb.shift_isInRcvWindow ka kb s h]
  rw [Tcb.textBlock_eq, Tcb.textBlock_eq]
  simp only [shift_simps, Tcb.shift_isInRcvWindow ka kb s h, hw2, shift_alreadyReceived ka kb s seg tl h,
    shift_acceptLen ka kb s seg tl h, shift_textTaken ka kb s seg text tl h]

theorem shift_setRcvNxt (s : Tcb) (n : Seq) (h : s.state ≠ .SynSent) :
    setRcvNxt (s.shift ka kb) (n + kb) = (setRcvNxt s n).shift ka kb := by
  rw [Tcb.shift_late ka kb s h, Tcb.shift_late ka kb (setRcvNxt s n) h]
  rfl

theorem finCond_shift (n q tl : Seq) :
    (decide (n + kb = q + kb + tl) || decide (n + kb = q + kb + tl + 1)) =
      (decide (n = q + tl) || decide (n = q + tl + 1)) := by
  rw [add_add_comm' q tl kb, add_add_comm' (q + tl) 1 kb]
  simp only [eq_shift]

theorem shift_finAdvance (s : Tcb) (seq tl : Seq) :
    finAdvance (s.shift ka kb) (seq + kb) tl = shiftE ka kb (finAdvance s seq tl) := by
  unfold finAdvance
  rw [Tcb.shift_state]
  by_cases h : s.state ≠ .SynSent
  · rw [if_pos h, if_pos h]
    dsimp only
    rw [Tcb.shift_rcvnxt ka kb s h, finCond_shift]
    split
    · have e := shift_setRcvNxt ka kb s (seq + tl + 1) h
      rw [← add_add_comm' (seq + tl) 1 kb, ← add_add_comm' seq tl kb] at e
      have e2 := Tcb.shift_enqueue ka kb (setRcvNxt s (seq + tl + 1)) _ _
        (Tcb.shift_ackHdr ka kb (setRcvNxt s (seq + tl + 1)) h)
      rw [← e] at e2
      exact e2
    · rfl
  · rw [if_neg h, if_neg h]; rfl

theorem shift_finState (s : Tcb) :
    finState (s.shift ka kb) = M.shift ka kb (finState s) := by
  unfold finState
  rw [Tcb.shift_state, Tcb.shift_isFinAcked]
  obtain ⟨lp, rp, mtu, ini, st, snd, rcv, out, inc, tmo⟩ := s
  cases st <;> first
    | rfl
    | (dsimp only; split <;> rfl)

theorem shift_finBlock (s : Tcb) (seg : Hdr) (tl : Seq) :
    Tcb.finBlock (s.shift ka kb) (seg.shift kb ka) tl = M.shift ka kb (Tcb.finBlock s seg tl) := by
  rw [finBlock_eq, finBlock_eq, Hdr.shift_ctl, Hdr.shift_seq]
  by_cases hf : (!seg.ctl.fin) = true
  · rw [if_pos hf, if_pos hf]; rfl
  · rw [if_neg hf, if_neg hf, shift_finAdvance]
    cases hx : finAdvance s seg.seq tl with
    | error e => rfl
    | ok u => exact shift_finState ka kb u

end Elvis.Tcp
