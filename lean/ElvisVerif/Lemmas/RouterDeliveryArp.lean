import ElvisVerif.Lemmas.RouterDelivery
import ElvisVerif.Lemmas.RouterRefine
/-!
# Faithfulness of ARP, derived from the concrete ARP layer of `Model/Router.lean`

`c16_delivery_partial` assumes `FaithfulRun`: every ARP resolution made for the datagram returns
`faithfulMac` (the MAC, on the outgoing network, of the machine that answers ARP for the next
hop) and none gives up.  Here the first half is PROVED for the concrete system (`CState`, `cstep`:
per-machine table keyed by IP only, learn from every packet, reply for local addresses, broadcast
to every tap, retry budget) under an explicit well-formedness predicate on the topology, in the
style of C06's `c06_resolve_sound` / `c06_reply_only_owner` (which speak about ONE network; the
table of a router is shared by all its networks, so the invariant here is the multi-network one):

* `TopoWf`: on every network an address is answered for by at most one tap, and the address a
  machine sends its requests from on a slot is one it answers for;
* `CInv` (Lemmas/RouterDeliveryInv.lean; invariant of every reachable concrete state): every ARP
  frame in flight carries an (address, MAC) pair of a tap of its network whose machine answers
  for the address; every `Ok` entry `(ip ↦ mac)` in the table of machine `n` is what a tap
  answering for `ip` has as MAC on SOME network `n` is attached to (`Learnable`);
* `SharedOnce p`: the only network the forwarding machine shares with a machine answering for the
  next hop is the one the forward leaves on — "the next hop is an interface on THE shared
  network".  Then `Learnable` determines the MAC: it is `faithfulMac` (`hop_faithful`).

The second half (no resolution of the datagram gives up) stays a hypothesis about the schedule,
`ArpInTime`: no resolve task of the datagram is polled with an exhausted retry budget and no
answer in the table (the untimed system lets a retry timer fire at any moment).
-/
namespace Elvis.Router

theorem tapsOnFrom_eq (net : NetId) : ∀ (nodes : List Node) (i : Nat),
    tapsOnFrom i nodes net =
      (nodes.zipIdx i).flatMap fun x => (x.1.slots.filter (fun s => s.1 == net)).map fun s => (x.2, x.1, s.2)
  | [], _ => rfl
  | nd :: rest, i => by simp [tapsOnFrom, tapsOnFrom_eq net rest (i + 1)]

theorem mem_tapsOn {topo : Topo} {net : NetId} {n : Nat} {nd : Node} {mac : Mac} :
    (n, nd, mac) ∈ tapsOn topo net ↔ topo.nodes[n]? = some nd ∧ (net, mac) ∈ nd.slots := by
  simp only [tapsOn, tapsOnFrom_eq, List.mem_flatMap, List.mem_map, List.mem_filter, beq_iff_eq,
    List.mem_zipIdx_iff_getElem?, Prod.exists, Prod.mk.injEq]
  constructor
  · rintro ⟨nd', n', h, net', mac', ⟨hs, rfl⟩, rfl, rfl, rfl⟩
    exact ⟨h, hs⟩
  · rintro ⟨h, hs⟩
    exact ⟨nd, n, h, net, mac, ⟨hs, rfl⟩, rfl, rfl, rfl⟩

def OnNet (topo : Topo) (n : Nat) (net : NetId) : Prop := ∃ nd mac, (n, nd, mac) ∈ tapsOn topo net

def Claims (topo : Topo) (net : NetId) (ip : Addr) (mac : Mac) : Prop :=
  ∃ n nd, (n, nd, mac) ∈ tapsOn topo net ∧ nd.arpIps.contains ip = true

/-- what machine `n` can have learned about `ip`: the MAC a tap answering for `ip` has on SOME
    network `n` is attached to (the table does not remember which) -/
def Learnable (topo : Topo) (n : Nat) (ip : Addr) (mac : Mac) : Prop :=
  ∃ net, OnNet topo n net ∧ Claims topo net ip mac

structure TopoWf (topo : Topo) : Prop where
  /-- addresses are claimed once per network segment: at most one tap of a network belongs to a
      machine that answers for a given address -/
  claimOnce : ∀ net ip (t1 t2 : Nat × Node × Mac), t1 ∈ tapsOn topo net → t2 ∈ tapsOn topo net →
    t1.2.1.arpIps.contains ip = true → t2.2.1.arpIps.contains ip = true → t1 = t2
  /-- the address a machine puts into its ARP requests on a slot (`local_ips[slot]`) is one it
      answers for (`Arp::listen` is called for it) -/
  localClaimed : ∀ (n : Nat) (nd : Node) (σ : Slot) (loc : Addr), topo.nodes[n]? = some nd → nd.localIps[σ]? = some loc →
    nd.arpIps.contains loc = true

theorem arpAnswer_of_claims {topo : Topo} (wf : TopoWf topo) {net : NetId} {ip : Addr} {mac : Mac}
    (h : Claims topo net ip mac) : arpAnswer topo net ip = some mac := by
  obtain ⟨n, nd, hmem, hc⟩ := h
  unfold arpAnswer
  cases hf : (tapsOn topo net).find? (fun t => t.2.1.arpIps.contains ip) with
  | none =>
    have := List.find?_eq_none.1 hf (n, nd, mac) hmem
    exact absurd hc (by simpa using this)
  | some t =>
    have hp := List.find?_some hf
    have hm := List.mem_of_find?_eq_some hf
    have := wf.claimOnce net ip t (n, nd, mac) hm hmem hp hc
    subst this
    rfl

def SharedOnce (topo : Topo) (p : Pending) : Prop :=
  ∀ net, OnNet topo p.node net → (∃ mac, Claims topo net p.nextHop mac) → outNet topo p = some net

theorem hop_faithful {topo : Topo} (wf : TopoWf topo) {p : Pending} (so : SharedOnce topo p) {mac : Mac}
    (h : Learnable topo p.node p.nextHop mac) : faithfulMac topo p = some mac := by
  obtain ⟨net, on, cl⟩ := h
  have ho := so net on ⟨mac, cl⟩
  unfold faithfulMac
  rw [ho]
  show arpAnswer topo net p.nextHop = some mac
  exact arpAnswer_of_claims wf cl

/-- `Route` (Lemmas/RouterDelivery.lean) plus `SharedOnce` at every hop -/
inductive RouteS (topo : Topo) (hd port : Nat) (data : List UInt8) : Nat → Pending → Prop
  | deliver (p : Pending) (mac : Mac) (nd : Node) (net : NetId) (smac : Mac) (ndh : Node) (σ : Slot) :
      SharedOnce topo p →
      faithfulMac topo p = some mac →
      topo.nodes[p.node]? = some nd → nd.slots[p.slot]? = some (net, smac) → frameLen p.pkt ≤ topo.mtu net →
      tapOwner topo net mac = some (hd, ndh, σ) →
      findBind ndh.binds p.pkt.hdr.dst (protoClass p.pkt.hdr.proto) = some .udp →
      isWhole p.pkt.hdr = true → Elvis.Gen.ipv4BaseOctets ≤ p.pkt.hdr.totalLength →
      udpDemux ndh p.pkt = .app port data →
      RouteS topo hd port data 0 p
  | forward (m : Nat) (p : Pending) (mac : Mac) (nd : Node) (net : NetId) (smac : Mac) (r : Nat) (ndr : Node)
      (σ : Slot) (e : RouteEntry) (loc : Addr) :
      SharedOnce topo p →
      faithfulMac topo p = some mac →
      topo.nodes[p.node]? = some nd → nd.slots[p.slot]? = some (net, smac) → frameLen p.pkt ≤ topo.mtu net →
      tapOwner topo net mac = some (r, ndr, σ) →
      findBind ndr.binds p.pkt.hdr.dst (protoClass p.pkt.hdr.proto) = some .router →
      isWhole p.pkt.hdr = true → ndr.subnet = none →
      Elvis.Gen.ipv4BaseOctets ≤ p.pkt.hdr.totalLength → p.pkt.hdr.fragOffset ≤ Elvis.Gen.ipv4FragmentOffsetMask →
      lookup ndr.table p.pkt.hdr.dst = some e → ndr.localIps[e.slot]? = some loc →
      RouteS topo hd port data m
        { node := r, slot := e.slot, loc := loc, nextHop := e.gw.getD p.pkt.hdr.dst, viaRouter := true,
          pkt := p.pkt.withTtl (p.pkt.hdr.ttl - 1) } →
      RouteS topo hd port data (m + 1) p

theorem RouteS.route {topo : Topo} {hd port : Nat} {data : List UInt8} {m : Nat} {p : Pending}
    (h : RouteS topo hd port data m p) : Route topo hd port data m p := by
  induction h with
  | deliver p mac nd net smac ndh σ _ a b c d e f g i j => exact .deliver p mac nd net smac ndh σ a b c d e f g i j
  | forward m p mac nd net smac r ndr σ e loc _ a b c d f g i j k l m' n _ ih =>
    exact .forward m p mac nd net smac r ndr σ e loc a b c d f g i j k l m' n ih

/-- `SharedOnce` holds at this forward and at every forward the configuration produces from it
    through faithful hops -/
inductive HopsWf (topo : Topo) : Pending → Prop
  | mk (p : Pending) : SharedOnce topo p →
      (∀ mac f n nd σ p', faithfulMac topo p = some mac → emit topo p mac = .ok (some f) →
        tapOwner topo f.net f.dmac = some (n, nd, σ) → ipv4Demux n nd f.pkt = .ok (.routed (some p')) →
        HopsWf topo p') →
      HopsWf topo p

theorem HopsWf.shared {topo : Topo} {p : Pending} (h : HopsWf topo p) : SharedOnce topo p := by
  cases h with
  | mk _ so _ => exact so

theorem RouteS.leads {topo : Topo} {hd port : Nat} {data : List UInt8} {m : Nat} {p : Pending}
    (h : RouteS topo hd port data m p) : m < p.pkt.hdr.ttl ∨ m = 0 → Leads topo (SharedOnce topo) hd port data p := by
  induction h with
  | deliver p mac nd net smac ndh σ so hfm hn hs hmtu ho hb hw hlen hu =>
    exact fun _ => leads_deliver so hfm hn hs hmtu ho hb hw hlen hu
  | forward m p mac nd net smac r ndr σ e loc so hfm hn hs hmtu ho hb hw hsub hlen hoff hlk hloc _ ih =>
    exact fun hlt => leads_forward so hfm hn hs hmtu ho hb hw hsub hlen hoff hlk hloc (by omega)
      (ih (.inl (by simp only [Pkt.withTtl]; omega)))

end Elvis.Router
