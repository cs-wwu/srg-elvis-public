import ElvisVerif.Lemmas.NdlReject
import ElvisVerif.Lemmas.NdlNorm
/-!
# NDL: every way of writing a description

A `Doc` is a description as it is laid out in a file: any number of `[Template]`, `[Networks]`
and `[Machines]` blocks in any order, each machine with its sections in the order they are
written, every line with its own spelling of the type tag (any letter case) and its own number of
blank lines after it; the headers of blocks and sections may carry arguments (the code ignores
them).  `renderDoc` writes it in one of the three layouts; `Doc.sim` is what it means.

`build_renderDoc`: the tree builder reads the tab layout of a well-formed `Doc` back to `Doc.sim`.
What `render` writes for a well-formed `Sim` is one such `Doc` (`canon`), whence `build_render`.
-/
namespace Elvis.Ndl
open Elvis.Gen.Ndl

/-- number of line ends a list of written lines contributes to the line counter -/
def lc (ls : List RLine) : Nat := (ls.map fun x => x.deco.blank + 1).sum

theorem lc_cons (x : RLine) (ls : List RLine) : lc (x :: ls) = x.deco.blank + 1 + lc ls := by simp [lc]
theorem lc_append (a b : List RLine) : lc (a ++ b) = lc a + lc b := by simp [lc]
theorem lc_nil : lc [] = 0 := rfl

theorem rlText_noNl (ls : List RLine) (rest : Text) (h : NoNl rest) : NoNl (rlText .tabs ls ++ rest) := by
  cases ls with
  | nil => simpa [rlText] using h
  | cons x ls => rw [rlText_cons, List.append_assoc]; exact rline_noNl x _

theorem countTabs_rlText_cons (x : RLine) (ls : List RLine) (rest : Text) :
    countTabs (rlText .tabs (x :: ls) ++ rest) = x.depth := by
  rw [rlText_cons, List.append_assoc]; exact countTabs_rline x _

theorem lineAt_head (x : RLine) (body : List RLine) (hok : ∀ y ∈ x :: body, y.Ok) (rest : Text) (hn : NoNl rest)
    (l l' : Nat) (hl : l + (x.deco.blank + 1) = l') (hb : l' ≤ i32Max) :
    LineAt x.depth x.dt x.ps (rlText .tabs (x :: body) ++ rest) l (rlText .tabs body ++ rest) l' := by
  rw [rlText_cons, List.append_assoc]
  exact lineAt_rline x (hok x List.mem_cons_self) _ (rlText_noNl _ _ hn) l l' hl hb

/-- what is free about a written line: the spelling of its tag, its blank lines, its arguments -/
structure DLine where
  deco : Deco
  ps : Params
deriving DecidableEq, Repr

structure DNet where
  hd : DLine
  ips : List DLine
deriving DecidableEq, Repr

/-- a section of a machine: `kind` is `Networks`, `Protocols` or `Applications` -/
structure DSec where
  kind : DecType
  hd : DLine
  leaves : List DLine
deriving DecidableEq, Repr

structure DMach where
  hd : DLine
  secs : List DSec
deriving DecidableEq, Repr

inductive DBlock
  | template (hd : DLine)
  | nets (hd : DLine) (ns : List DNet)
  | machs (hd : DLine) (ms : List DMach)
deriving DecidableEq, Repr

abbrev Doc := List DBlock

def DLine.rl (d : Nat) (dt : DecType) (x : DLine) : RLine := ⟨d, dt, x.deco, x.ps⟩
def DLine.leaf (exp : DecType) (x : DLine) : Leaf := ⟨exp, x.ps⟩

def DNet.lines (n : DNet) : List RLine := n.hd.rl 1 .network :: n.ips.map (DLine.rl 2 .ip)
def DSec.lines (s : DSec) : List RLine := s.hd.rl 2 s.kind :: s.leaves.map (DLine.rl 3 (secLeaf s.kind))
def DMach.lines (m : DMach) : List RLine := m.hd.rl 1 .machine :: m.secs.flatMap DSec.lines
def DBlock.lines : DBlock → List RLine
  | .template hd => [hd.rl 0 .template]
  | .nets hd ns => hd.rl 0 .networks :: ns.flatMap DNet.lines
  | .machs hd ms => hd.rl 0 .machines :: ms.flatMap DMach.lines
def Doc.lines (doc : Doc) : List RLine := doc.flatMap DBlock.lines

def renderDoc (lay : Layout) (doc : Doc) : Text := rlText lay doc.lines

def secLeaves (k : DecType) (secs : List (DecType × List Leaf)) : List Leaf :=
  (secs.filter (·.1 == k)).flatMap (·.2)

def DNet.net (n : DNet) : Text × Network :=
  ((n.hd.ps.get? ['i', 'd']).getD [], ⟨.network, n.hd.ps, n.ips.map (DLine.leaf .ip)⟩)
def DSec.sec (s : DSec) : DecType × List Leaf := (s.kind, s.leaves.map (DLine.leaf (secLeaf s.kind)))
def DMach.machine (m : DMach) : Machine :=
  ⟨.machine, m.hd.ps, secLeaves .networks (m.secs.map DSec.sec), secLeaves .protocols (m.secs.map DSec.sec),
    secLeaves .applications (m.secs.map DSec.sec)⟩
def DBlock.block : DBlock → Block
  | .template _ => .template
  | .nets _ ns => .nets (ns.map DNet.net)
  | .machs _ ms => .machs (ms.map DMach.machine)
def DBlock.nets' : DBlock → List (Text × Network)
  | .nets _ ns => ns.map DNet.net
  | _ => []
def DBlock.machs' : DBlock → List Machine
  | .machs _ ms => ms.map DMach.machine
  | _ => []

/-- what the file means: all networks of all `[Networks]` blocks, all machines of all
    `[Machines]` blocks, in the order written -/
def Doc.sim (doc : Doc) : Sim := ⟨doc.flatMap DBlock.nets', doc.flatMap DBlock.machs'⟩

def DNet.Shape (n : DNet) : Prop := (∃ id, n.hd.ps.get? ['i', 'd'] = some id) ∧ n.ips ≠ []
def DSec.Shape (s : DSec) : Prop := IsSec s.kind ∧ s.leaves ≠ []
def DMach.Shape (m : DMach) : Prop := (∀ s ∈ m.secs, s.Shape) ∧ (m.secs.map (·.kind)).Perm secKinds
def DBlock.Shape : DBlock → Prop
  | .template _ => True
  | .nets _ ns => ∀ n ∈ ns, n.Shape
  | .machs _ ms => ∀ m ∈ ms, m.Shape

/-- a well-formed written description: every line can be read back (tag spells the type, keys and
    values in the grammar's classes, keys of a line distinct), every network has an `id` and an
    `[IP]`, every machine its three non-empty sections in some order, network ids distinct over
    the whole file, fewer than 2^31 − 1 line ends -/
def Doc.Ok (doc : Doc) : Prop :=
  (∀ x ∈ doc.lines, x.Ok) ∧ (∀ b ∈ doc, b.Shape) ∧ (doc.sim.networks.map (·.1)).Nodup ∧
    1 + lc doc.lines ≤ i32Max

theorem leavesAt_render (exp : DecType) (d : Nat) : ∀ (xs : List DLine) (rest : Text) (l l' : Nat),
    xs ≠ [] → (∀ x ∈ xs.map (DLine.rl d exp), x.Ok) → After d rest →
    l + lc (xs.map (DLine.rl d exp)) = l' → l' ≤ i32Max →
    LeavesAt exp d (xs.map (DLine.leaf exp)) (rlText .tabs (xs.map (DLine.rl d exp)) ++ rest) l rest l'
  | [], _, _, _, h, _, _, _, _ => absurd rfl h
  | [x], rest, l, l', _, hok, ha, hl, hb =>
    LeavesAt.last (lineAt_head (x.rl d exp) [] hok rest ha.2 l l' (by simpa [lc] using hl) hb) ha.1
  | x :: y :: xs, rest, l, l', _, hok, ha, hl, hb => by
    rw [List.map_cons, lc_cons] at hl
    exact LeavesAt.cons (lineAt_head (x.rl d exp) _ hok rest ha.2 l _ rfl (by omega))
      (leavesAt_render exp d (y :: xs) rest _ l' (by simp) (fun z hz => hok z (List.mem_cons_of_mem _ hz)) ha
        (by omega) hb)

theorem after_flat {α : Type} (f : α → List RLine) (d : Nat) (hf : ∀ a, ∃ x r, f a = x :: r ∧ x.depth = d)
    (l : List α) {e : Nat} {rest : Text} (he : e ≤ d + 1) (ha : After e rest) :
    After (d + 1) (rlText .tabs (l.flatMap f) ++ rest) := by
  refine ⟨?_, rlText_noNl _ _ ha.2⟩
  cases l with
  | nil => exact Nat.lt_of_lt_of_le ha.1 he
  | cons a l =>
    obtain ⟨x, r, hx, hd⟩ := hf a
    simp only [List.flatMap_cons, hx, List.cons_append]
    rw [countTabs_rlText_cons, hd]
    exact Nat.lt_succ_self _

theorem netAt_render (n : DNet) (hs : n.Shape) (hok : ∀ x ∈ n.lines, x.Ok) (rest : Text) (l l' : Nat)
    (ha : After 2 rest) (hl : l + lc n.lines = l') (hb : l' ≤ i32Max) :
    NetworkAt n.net.1 n.net.2 (rlText .tabs n.lines ++ rest) l rest l' := by
  obtain ⟨⟨id, hid⟩, hne⟩ := hs
  rw [DNet.lines, lc_cons] at hl
  exact ⟨rfl, by simp [DNet.net, hid], _, _, lineAt_head (n.hd.rl 1 .network) _ hok rest ha.2 l _ rfl (by omega),
    leavesAt_render .ip 2 n.ips rest _ l' hne (fun x hx => hok x (List.mem_cons_of_mem _ hx)) ha (by omega) hb⟩

theorem netsAt_render : ∀ (ns : List DNet) (rest : Text) (l l' : Nat), (∀ n ∈ ns, n.Shape) →
    (∀ x ∈ ns.flatMap DNet.lines, x.Ok) → After 1 rest → l + lc (ns.flatMap DNet.lines) = l' → l' ≤ i32Max →
    NetsAt (ns.map DNet.net) (rlText .tabs (ns.flatMap DNet.lines) ++ rest) l rest l'
  | [], rest, l, l', _, _, ha, hl, _ => by
    obtain rfl : l = l' := hl
    exact NetsAt.nil ha.1
  | n :: ns, rest, l, l', hs, hok, ha, hl, hb => by
    simp only [List.flatMap_cons, lc_append, rlText_append, List.append_assoc, List.map_cons, List.mem_append]
      at hl hok ⊢
    exact NetsAt.cons
      (netAt_render n (hs n List.mem_cons_self) (fun x hx => hok x (.inl hx)) _ l _
        (after_flat DNet.lines 1 (fun _ => ⟨_, _, rfl, rfl⟩) ns (by omega) ha) rfl (by omega))
      (netsAt_render ns rest _ l' (fun m hm => hs m (List.mem_cons_of_mem _ hm)) (fun x hx => hok x (.inr hx)) ha
        (by omega) hb)

theorem secsAt_render : ∀ (secs : List DSec) (rest : Text) (l l' : Nat), (∀ s ∈ secs, s.Shape) →
    (∀ x ∈ secs.flatMap DSec.lines, x.Ok) → After 2 rest → l + lc (secs.flatMap DSec.lines) = l' → l' ≤ i32Max →
    SecsAt (secs.map DSec.sec) (rlText .tabs (secs.flatMap DSec.lines) ++ rest) l rest l'
  | [], rest, l, l', _, _, ha, hl, _ => by
    obtain rfl : l = l' := hl
    exact SecsAt.nil ha.1
  | s :: secs, rest, l, l', hs, hok, ha, hl, hb => by
    simp only [List.flatMap_cons, lc_append, rlText_append, List.append_assoc, List.map_cons, List.mem_append]
      at hl hok ⊢
    obtain ⟨hk, hne⟩ := hs s List.mem_cons_self
    have haft := after_flat DSec.lines 2 (fun _ => ⟨_, _, rfl, rfl⟩) secs (by omega) ha
    rw [DSec.lines, lc_cons] at hl
    exact SecsAt.cons hk
      (lineAt_head (s.hd.rl 2 s.kind) _ (fun x hx => hok x (.inl hx)) _ haft.2 l _ rfl (by omega))
      (leavesAt_render (secLeaf s.kind) 3 s.leaves _ _ _ hne
        (fun x hx => hok x (.inl (List.mem_cons_of_mem _ hx))) haft rfl (by omega))
      (secsAt_render secs rest _ l' (fun m hm => hs m (List.mem_cons_of_mem _ hm)) (fun x hx => hok x (.inr hx)) ha
        (by omega) hb)

theorem runSecs_distinct : ∀ (secs : List (DecType × List Leaf)) (a : MAcc), (secs.map (·.1)).Nodup →
    (∀ k ∈ secs.map (·.1), k ∈ a.req ∧ IsSec k) →
    ∃ a', runSecs a secs = some a' ∧ a'.req.length + secs.length = a.req.length ∧
      a'.nets = a.nets ++ secLeaves .networks secs ∧ a'.prots = a.prots ++ secLeaves .protocols secs ∧
      a'.apps = a.apps ++ secLeaves .applications secs
  | [], a, _, _ => ⟨a, rfl, rfl, by simp [secLeaves]⟩
  | (k, ls) :: r, a, hnd, hk => by
    simp only [List.map_cons, List.nodup_cons] at hnd
    obtain ⟨hmem, hsec⟩ := hk k List.mem_cons_self
    obtain ⟨a', h1, h2, h3, h4, h5⟩ := runSecs_distinct r { a.add k ls with req := reqDrop a.req k } hnd.2
      (fun k' hk' => by
        have := hk k' (List.mem_cons_of_mem _ hk')
        refine ⟨?_, this.2⟩
        rw [reqDrop_eq_erase]
        exact (List.mem_erase_of_ne (fun e => hnd.1 (by rw [← e]; exact hk'))).2 this.1)
    refine ⟨a', by simp only [runSecs, List.contains_iff_mem.2 hmem, if_true]; exact h1, ?_, ?_⟩
    · have := List.length_erase_of_mem hmem
      have := List.length_pos_of_mem hmem
      simp only [reqDrop_eq_erase, List.length_cons] at h2 ⊢
      omega
    · rcases hsec with rfl | rfl | rfl <;> simp [h3, h4, h5, MAcc.add, secLeaves]

theorem runSecs_perm (secs : List (DecType × List Leaf)) (h : (secs.map (·.1)).Perm secKinds) :
    runSecs ⟨requiredSections, [], [], []⟩ secs =
      some ⟨[], secLeaves .networks secs, secLeaves .protocols secs, secLeaves .applications secs⟩ := by
  obtain ⟨a', h1, h2, h3, h4, h5⟩ := runSecs_distinct secs ⟨requiredSections, [], [], []⟩
    (h.nodup_iff.2 (by decide)) (fun k hk => by
      have := h.mem_iff.1 hk
      rw [requiredSections_eq]
      exact ⟨this, by simpa [secKinds, IsSec] using this⟩)
  have hl := h.length_eq
  simp only [requiredSections_eq, secKinds, List.length_map, List.length_cons, List.length_nil] at h2 hl
  have h0 : a'.req = [] := List.eq_nil_of_length_eq_zero (by omega)
  rw [h1]
  cases a'
  simp only [List.nil_append] at h0 h3 h4 h5
  rw [h0, h3, h4, h5]

theorem machineAt_render (m : DMach) (hs : m.Shape) (hok : ∀ x ∈ m.lines, x.Ok) (rest : Text) (l l' : Nat)
    (ha : After 2 rest) (hl : l + lc m.lines = l') (hb : l' ≤ i32Max) :
    MachineAt m.machine (rlText .tabs m.lines ++ rest) l rest l' := by
  rw [DMach.lines, lc_cons] at hl
  refine ⟨rfl, m.secs.map DSec.sec, _, _, lineAt_head (m.hd.rl 1 .machine) _ hok rest ha.2 l _ rfl (by omega),
    secsAt_render m.secs rest _ l' hs.1 (fun x hx => hok x (List.mem_cons_of_mem _ hx)) ha (by omega) hb,
    runSecs_perm _ ?_⟩
  have : (m.secs.map DSec.sec).map (·.1) = m.secs.map (·.kind) := by
    simp [List.map_map, Function.comp_def, DSec.sec]
  rw [this]; exact hs.2

theorem machsAt_render : ∀ (ms : List DMach) (rest : Text) (l l' : Nat), (∀ m ∈ ms, m.Shape) →
    (∀ x ∈ ms.flatMap DMach.lines, x.Ok) → After 1 rest → l + lc (ms.flatMap DMach.lines) = l' → l' ≤ i32Max →
    MachsAt (ms.map DMach.machine) (rlText .tabs (ms.flatMap DMach.lines) ++ rest) l rest l'
  | [], rest, l, l', _, _, ha, hl, _ => by
    obtain rfl : l = l' := hl
    exact MachsAt.nil ha.1
  | m :: ms, rest, l, l', hs, hok, ha, hl, hb => by
    simp only [List.flatMap_cons, lc_append, rlText_append, List.append_assoc, List.map_cons, List.mem_append]
      at hl hok ⊢
    exact MachsAt.cons
      (machineAt_render m (hs m List.mem_cons_self) (fun x hx => hok x (.inl hx)) _ l _
        (after_flat DMach.lines 1 (fun _ => ⟨_, _, rfl, rfl⟩) ms (by omega) ha) rfl (by omega))
      (machsAt_render ms rest _ l' (fun x hx => hs x (List.mem_cons_of_mem _ hx)) (fun x hx => hok x (.inr hx)) ha
        (by omega) hb)

theorem blockAt_render (b : DBlock) (hs : b.Shape) (hok : ∀ x ∈ b.lines, x.Ok) (rest : Text) (l l' : Nat)
    (ha : After 1 rest) (hl : l + lc b.lines = l') (hb : l' ≤ i32Max) :
    BlockAt b.block (rlText .tabs b.lines ++ rest) l rest l' := by
  cases b with
  | template hd =>
    exact ⟨_, lineAt_head (hd.rl 0 .template) [] hok rest ha.2 l l' (by simpa [DBlock.lines, lc] using hl) hb⟩
  | nets hd ns =>
    rw [DBlock.lines, lc_cons] at hl
    exact ⟨_, _, _, lineAt_head (hd.rl 0 .networks) _ hok rest ha.2 l _ rfl (by omega),
      netsAt_render ns rest _ l' hs (fun x hx => hok x (List.mem_cons_of_mem _ hx)) ha (by omega) hb⟩
  | machs hd ms =>
    rw [DBlock.lines, lc_cons] at hl
    exact ⟨_, _, _, lineAt_head (hd.rl 0 .machines) _ hok rest ha.2 l _ rfl (by omega),
      machsAt_render ms rest _ l' hs (fun x hx => hok x (List.mem_cons_of_mem _ hx)) ha (by omega) hb⟩

theorem block_lines_head (b : DBlock) : ∃ x r, b.lines = x :: r ∧ x.depth = 0 := by
  cases b <;> exact ⟨_, _, rfl, rfl⟩

theorem docAt_render : ∀ (doc : Doc) (rest : Text) (l l' : Nat), (∀ b ∈ doc, b.Shape) → (∀ x ∈ doc.lines, x.Ok) →
    After 1 rest → l + lc doc.lines = l' → l' ≤ i32Max →
    DocAt (doc.map DBlock.block) (rlText .tabs doc.lines ++ rest) l rest l'
  | [], rest, l, l', _, _, _, hl, _ => by
    obtain rfl : l = l' := hl
    exact DocAt.nil
  | b :: doc, rest, l, l', hs, hok, ha, hl, hb => by
    simp only [Doc.lines, List.flatMap_cons, lc_append, rlText_append, List.append_assoc, List.map_cons,
      List.mem_append] at hl hok ⊢
    exact DocAt.cons
      (blockAt_render b (hs b List.mem_cons_self) (fun x hx => hok x (.inl hx)) _ l _
        (after_flat DBlock.lines 0 block_lines_head doc (by omega) ha) rfl (by omega))
      (docAt_render doc rest _ l' (fun x hx => hs x (List.mem_cons_of_mem _ hx)) (fun x hx => hok x (.inr hx)) ha
        (by unfold Doc.lines; omega) hb)

theorem block_nets (b : DBlock) : (match b.block with | .nets ns => ns | _ => []) = b.nets' := by
  cases b <;> rfl

theorem runDoc_ok : ∀ (doc : Doc) (nets : List (Text × Network)) (ms : List Machine),
    ((nets ++ doc.flatMap DBlock.nets').map (·.1)).Nodup →
    runDoc nets ms (doc.map DBlock.block) =
      .ok (nets ++ doc.flatMap DBlock.nets', ms ++ doc.flatMap DBlock.machs')
  | [], nets, ms, _ => by simp [runDoc]
  | b :: doc, nets, ms, hnd => by
    simp only [List.map_cons, runDoc, List.flatMap_cons]
    cases b with
    | template hd =>
      simp only [DBlock.block, stepBlock, DBlock.nets', DBlock.machs', List.nil_append]
      exact runDoc_ok doc nets ms (by simpa [DBlock.nets'] using hnd)
    | machs hd m =>
      simp only [DBlock.block, stepBlock, DBlock.nets', DBlock.machs', List.nil_append]
      rw [runDoc_ok doc nets _ (by simpa [DBlock.nets'] using hnd)]
      simp
    | nets hd ns =>
      simp only [DBlock.block, stepBlock, DBlock.nets', DBlock.machs', List.nil_append]
      -- the ids seen so far and those of this block are distinct among themselves
      have hnd' : (((nets ++ ns.map DNet.net) ++ doc.flatMap DBlock.nets').map (·.1)).Nodup := by
        simpa [DBlock.nets', List.append_assoc] using hnd
      have h := (List.nodup_append.1 (List.map_append ▸ hnd')).1
      rw [List.map_append, List.nodup_append] at h
      rw [if_pos ⟨h.2.1, fun id hid hin => h.2.2 _ hin _ hid rfl⟩]
      simp only []
      rw [runDoc_ok doc _ ms hnd']
      simp

theorem build_renderDoc (doc : Doc) (h : doc.Ok) : build (renderDoc .tabs doc) = .ok doc.sim := by
  obtain ⟨hok, hs, hnd, hb⟩ := h
  have hd := docAt_render doc [] 1 _ hs hok ⟨by simp [countTabs], by intro r h; cases h⟩ rfl hb
  simp only [List.append_nil] at hd
  unfold renderDoc
  rw [build_of hd, runDoc_ok doc [] [] (by simpa [Doc.sim] using hnd)]
  simp [Doc.sim]

def DLine.norm (x : DLine) : DLine := ⟨x.deco, normParams x.ps⟩
def DNet.norm (n : DNet) : DNet := ⟨n.hd.norm, n.ips.map DLine.norm⟩
def DSec.norm (s : DSec) : DSec := ⟨s.kind, s.hd.norm, s.leaves.map DLine.norm⟩
def DMach.norm (m : DMach) : DMach := ⟨m.hd.norm, m.secs.map DSec.norm⟩
def DBlock.norm : DBlock → DBlock
  | .template hd => .template hd.norm
  | .nets hd ns => .nets hd.norm (ns.map DNet.norm)
  | .machs hd ms => .machs hd.norm (ms.map DMach.norm)

def normDoc (doc : Doc) : Doc := doc.map DBlock.norm

theorem rl_norm (d : Nat) (dt : DecType) (x : DLine) : x.norm.rl d dt = (x.rl d dt).norm := rfl

theorem map_rl_norm (d : Nat) (dt : DecType) (xs : List DLine) :
    (xs.map DLine.norm).map (DLine.rl d dt) = (xs.map (DLine.rl d dt)).map RLine.norm := by
  simp [List.map_map, Function.comp_def, rl_norm]

theorem DNet.norm_lines (n : DNet) : n.norm.lines = n.lines.map RLine.norm := by
  simp [DNet.lines, DNet.norm, rl_norm]

theorem DSec.norm_lines (s : DSec) : s.norm.lines = s.lines.map RLine.norm := by
  simp [DSec.lines, DSec.norm, rl_norm]

theorem flatMap_map_lines {α β γ δ : Type} (f : β → List δ) (g : α → β) (f' : α → List γ) (h : γ → δ)
    (l : List α) (hg : ∀ a ∈ l, f (g a) = (f' a).map h) : (l.map g).flatMap f = (l.flatMap f').map h := by
  induction l with
  | nil => rfl
  | cons a l ih =>
    simp only [List.map_cons, List.flatMap_cons, List.map_append, hg a List.mem_cons_self,
      ih fun x hx => hg x (List.mem_cons_of_mem _ hx)]

theorem flatMap_norm {α : Type} (f : α → List RLine) (g : α → α) (hg : ∀ a, f (g a) = (f a).map RLine.norm)
    (l : List α) : (l.map g).flatMap f = (l.flatMap f).map RLine.norm :=
  flatMap_map_lines f g f RLine.norm l fun a _ => hg a

theorem DMach.norm_lines (m : DMach) : m.norm.lines = m.lines.map RLine.norm := by
  simp [DMach.lines, DMach.norm, rl_norm, flatMap_norm DSec.lines DSec.norm DSec.norm_lines]

theorem DBlock.norm_lines (b : DBlock) : b.norm.lines = b.lines.map RLine.norm := by
  cases b with
  | template hd => simp [DBlock.lines, DBlock.norm, rl_norm]
  | nets hd ns => simp [DBlock.lines, DBlock.norm, rl_norm, flatMap_norm DNet.lines DNet.norm DNet.norm_lines]
  | machs hd ms => simp [DBlock.lines, DBlock.norm, rl_norm, flatMap_norm DMach.lines DMach.norm DMach.norm_lines]

theorem normDoc_lines (doc : Doc) : (normDoc doc).lines = doc.lines.map RLine.norm :=
  flatMap_norm DBlock.lines DBlock.norm DBlock.norm_lines doc

theorem fourSpFrom_head : ∀ (r : Text) (j : Nat), 0 < j → j ≤ 3 →
    ∃ c t, fourSpFrom j r = c :: t ∧ (c = ' ' ∨ c = '\t')
  | [], j, h0, _ => by
    obtain ⟨i, rfl⟩ : ∃ i, j = i + 1 := ⟨j - 1, by omega⟩
    exact ⟨' ', List.replicate i ' ', by simp [fourSpFrom, List.replicate_succ], .inl rfl⟩
  | c :: r, j, h0, h3 => by
    unfold fourSpFrom
    split
    · split
      · exact ⟨'\t', _, rfl, .inr rfl⟩
      · exact fourSpFrom_head r (j + 1) (by omega) (by omega)
    · obtain ⟨i, rfl⟩ : ∃ i, j = i + 1 := ⟨j - 1, by omega⟩
      exact ⟨' ', List.replicate i ' ' ++ c :: fourSpFrom 0 r, by simp [List.replicate_succ], .inl rfl⟩

/-- keys that are still keys after the rewriting did not begin with a space -/
theorem keysStart_of_lineOk (ps : Params) (h : LineOk (normParams ps)) : KeysStart ps := by
  intro kv hkv r hr
  have hm : (normalise kv.1, normalise kv.2) ∈ normParams ps := List.mem_map.2 ⟨kv, hkv, rfl⟩
  have hk := (h.1 _ hm).1.2
  obtain ⟨c, t, hct, hc⟩ := fourSpFrom_head r 1 (by omega) (by omega)
  have hn : normalise kv.1 = c :: t := by
    unfold normalise fourSp
    rw [hr]
    simpa [fourSpFrom] using hct
  have := hk c t hn
  rcases hc with rfl | rfl <;> simp [isSep] at this

/-- lines that are well-formed after the rewriting are rewritten one by one -/
theorem doc_lines_cond (doc : Doc) (h : (normDoc doc).Ok) :
    ∀ x ∈ doc.lines, (' ' ∉ x.deco.tag ∧ '\r' ∉ x.deco.tag) ∧ KeysStart x.ps := by
  intro x hx
  have hxn : x.norm ∈ (normDoc doc).lines := by
    rw [normDoc_lines]; exact List.mem_map_of_mem hx
  have hok := h.1 _ hxn
  exact ⟨tag_no_space_cr x.dt x.deco.tag hok.1, keysStart_of_lineOk x.ps hok.2⟩

def plainLine (dt : DecType) (ps : Params) : DLine := ⟨⟨dt.name, 0⟩, ps⟩

def canonLeaves (dt : DecType) (ls : List Leaf) : List DLine := ls.map fun l => plainLine dt l.options

def canonNet (e : Text × Network) : DNet := ⟨plainLine .network e.2.options, canonLeaves .ip e.2.ip⟩

def canonMach (m : Machine) : DMach :=
  ⟨plainLine .machine m.options,
    [⟨.networks, plainLine .networks [], canonLeaves .network m.networks⟩,
     ⟨.protocols, plainLine .protocols [], canonLeaves .protocol m.protocols⟩,
     ⟨.applications, plainLine .applications [], canonLeaves .application m.applications⟩]⟩

/-- one `[Networks]` block, one `[Machines]` block, sections in the order Networks, Protocols,
    Applications, tags as the variants are spelled, no blank lines: what `render` writes -/
def canon (s : Sim) : Doc :=
  [.nets (plainLine .networks []) (s.networks.map canonNet),
   .machs (plainLine .machines []) (s.machines.map canonMach)]

theorem canonLeaves_lines (d : Nat) (dt : DecType) (ls : List Leaf) (h : ∀ l ∈ ls, l.dectype = dt) :
    (canonLeaves dt ls).map (DLine.rl d dt) = (leafLines d ls).map RLine.plain := by
  induction ls with
  | nil => rfl
  | cons l ls ih =>
    have hl := h l List.mem_cons_self
    simp only [canonLeaves, leafLines, List.map_cons, List.map_map] at ih ⊢
    rw [ih (fun x hx => h x (List.mem_cons_of_mem _ hx))]
    simp [DLine.rl, plainLine, RLine.plain, hl]

theorem canon_lines (s : Sim) (hs : SimOk s) : (canon s).lines = s.lineList.map RLine.plain := by
  obtain ⟨hn, _, hm, _⟩ := hs
  have h1 := flatMap_map_lines DNet.lines canonNet (fun e => e.2.lineList) RLine.plain s.networks fun e he => by
    simp only [DNet.lines, canonNet, Network.lineList, List.map_cons,
      canonLeaves_lines 2 .ip e.2.ip (fun l hl => ((hn e he).2.2.2.2 l hl).1)]
    rfl
  have h2 := flatMap_map_lines DMach.lines canonMach (·.lineList) RLine.plain s.machines fun m hmm => by
    obtain ⟨_, _, _, ha, _, hb, _, hc⟩ := hm m hmm
    simp only [DMach.lines, canonMach, Machine.lineList, List.map_cons, List.map_append, List.flatMap_cons,
      List.flatMap_nil, List.append_nil, DSec.lines, secLeaf,
      canonLeaves_lines 3 .network m.networks (fun l hl => (ha l hl).1),
      canonLeaves_lines 3 .protocol m.protocols (fun l hl => (hb l hl).1),
      canonLeaves_lines 3 .application m.applications (fun l hl => (hc l hl).1)]
    simp [DLine.rl, plainLine, RLine.plain]
  simp only [canon, Doc.lines, List.flatMap_cons, List.flatMap_nil, List.append_nil, DBlock.lines,
    Sim.lineList, List.map_cons, List.map_append, h1, h2, List.cons_append]
  rfl

theorem renderDoc_canon (lay : Layout) (s : Sim) (hs : SimOk s) : renderDoc lay (canon s) = render lay s := by
  rw [render_lines, renderDoc, canon_lines s hs]

theorem simOk_lines (s : Sim) (hs : SimOk s) : ∀ x ∈ s.lineList, LineOk x.2.2 := by
  obtain ⟨hn, _, hm, _⟩ := hs
  intro x hx
  simp only [Sim.lineList, List.mem_cons, List.mem_append, List.mem_flatMap] at hx
  rcases hx with rfl | ⟨e, he, hx⟩ | rfl | ⟨m, hmm, hx⟩
  · exact lineOk_nil
  · obtain ⟨_, ho, _, _, hips⟩ := hn e he
    simp only [Network.lineList, leafLines, List.mem_cons, List.mem_map] at hx
    rcases hx with rfl | ⟨l, hl, rfl⟩
    · exact ho
    · exact (hips l hl).2
  · exact lineOk_nil
  · obtain ⟨_, ho, _, ha, _, hb, _, hc⟩ := hm m hmm
    simp only [Machine.lineList, leafLines, List.mem_cons, List.mem_append, List.mem_map] at hx
    rcases hx with rfl | rfl | ⟨l, hl, rfl⟩ | rfl | ⟨l, hl, rfl⟩ | rfl | ⟨l, hl, rfl⟩
    · exact ho
    · exact lineOk_nil
    · exact (ha l hl).2
    · exact lineOk_nil
    · exact (hb l hl).2
    · exact lineOk_nil
    · exact (hc l hl).2

theorem canonLeaves_leaf (dt : DecType) (ls : List Leaf) (h : ∀ l ∈ ls, l.dectype = dt) :
    (canonLeaves dt ls).map (DLine.leaf dt) = ls := by
  rw [canonLeaves, List.map_map, map_eq_self_iff]
  intro ⟨dt', o⟩ hl
  obtain rfl : dt' = dt := h _ hl
  rfl

theorem canon_sim (s : Sim) (hs : SimOk s) : (canon s).sim = s := by
  obtain ⟨hn, _, hm, _⟩ := hs
  have h1 : (s.networks.map canonNet).map DNet.net = s.networks := by
    rw [List.map_map, map_eq_self_iff]
    intro ⟨id, dt, o, ip⟩ he
    obtain ⟨hdt, _, hid, _, hips⟩ := hn _ he
    simp only at hdt hid hips
    subst hdt
    simp only [Function.comp, DNet.net, canonNet, plainLine, hid, Option.getD_some,
      canonLeaves_leaf .ip ip (fun l hl => (hips l hl).1)]
  have h2 : (s.machines.map canonMach).map DMach.machine = s.machines := by
    rw [List.map_map, map_eq_self_iff]
    intro ⟨dt, o, a, b, c⟩ hmm
    obtain ⟨hdt, _, _, ha, _, hb, _, hc⟩ := hm _ hmm
    simp only at hdt ha hb hc
    subst hdt
    simp [DMach.machine, canonMach, secLeaves, DSec.sec, secLeaf, plainLine,
      canonLeaves_leaf _ a (fun l hl => (ha l hl).1), canonLeaves_leaf _ b (fun l hl => (hb l hl).1),
      canonLeaves_leaf _ c (fun l hl => (hc l hl).1)]
  cases s
  simp [canon, Doc.sim, DBlock.nets', DBlock.machs'] at h1 h2 ⊢
  exact ⟨h1, h2⟩

theorem lc_plain (ls : List LineSpec) : lc (ls.map RLine.plain) = ls.length := by
  induction ls with
  | nil => rfl
  | cons x ls ih => rw [List.map_cons, lc_cons, ih, List.length_cons]; simp [RLine.plain]; omega

theorem lineList_length (s : Sim) : s.lineList.length = s.lines := by
  have h1 : ∀ n : Network, n.lineList.length = n.lines := by
    intro n; simp [Network.lineList, Network.lines, leafLines]; omega
  have h2 : ∀ m : Machine, m.lineList.length = m.lines := by
    intro m; simp [Machine.lineList, Machine.lines, leafLines]; omega
  simp [Sim.lineList, Sim.lines, List.length_flatMap, h1, h2]
  omega

theorem canon_ok (s : Sim) (hs : SimOk s) : (canon s).Ok := by
  refine ⟨?_, ?_, by rw [canon_sim s hs]; exact hs.2.1, ?_⟩
  · intro x hx
    rw [canon_lines s hs] at hx
    obtain ⟨y, hy, rfl⟩ := List.mem_map.1 hx
    exact ⟨rfl, simOk_lines s hs y hy⟩
  · obtain ⟨hn, _, hm, _⟩ := hs
    intro b hb
    simp only [canon, List.mem_cons, List.not_mem_nil, or_false] at hb
    rcases hb with rfl | rfl
    · intro n hn'
      obtain ⟨e, he, rfl⟩ := List.mem_map.1 hn'
      obtain ⟨_, _, hid, hne, _⟩ := hn e he
      exact ⟨⟨e.1, hid⟩, by simpa [canonNet, canonLeaves] using hne⟩
    · intro m hm'
      obtain ⟨m0, hm0, rfl⟩ := List.mem_map.1 hm'
      obtain ⟨_, _, h1, _, h2, _, h3, _⟩ := hm m0 hm0
      refine ⟨?_, List.Perm.refl _⟩
      intro sec hsec
      simp only [canonMach, List.mem_cons, List.not_mem_nil, or_false] at hsec
      rcases hsec with rfl | rfl | rfl
      · exact ⟨.inl rfl, by simpa [canonLeaves] using h1⟩
      · exact ⟨.inr (.inl rfl), by simpa [canonLeaves] using h2⟩
      · exact ⟨.inr (.inr rfl), by simpa [canonLeaves] using h3⟩
  · rw [canon_lines s hs, lc_plain, lineList_length]
    have := hs.2.2.2
    omega

theorem build_render (s : Sim) (hs : SimOk s) : build (render .tabs s) = .ok s := by
  rw [← renderDoc_canon .tabs s hs, build_renderDoc _ (canon_ok s hs), canon_sim s hs]
end Elvis.Ndl
