import ElvisVerif.Model.Codec.Bytes
/-!
Helper lemmas shared by the codec proofs: byte <-> number conversions and the
`BytesExt` readers on serialised fields.
-/
deriving instance DecidableEq for Except

namespace Elvis.Codec

@[simp] theorem n2b_toNat (n : Nat) : (n2b n).toNat = n % 256 := by
  simp [n2b, UInt8.toNat_ofNat']

theorem n2b_toNat_of_lt {n : Nat} (h : n < 256) : (n2b n).toNat = n := by
  rw [n2b_toNat]; omega

@[simp] theorem n2b_of_toNat (b : UInt8) : n2b b.toNat = b := by
  simp [n2b]

theorem n2b_congr {x y : Nat} (h : x % 256 = y % 256) : n2b x = n2b y := by
  apply UInt8.toNat_inj.mp
  simp [h]

theorem n2b_eq_byte {x : Nat} {b : UInt8} (h : x % 256 = b.toNat) : n2b x = b := by
  apply UInt8.toNat_inj.mp
  simp [h]

theorem n2b_mod (x : Nat) : n2b (x % 256) = n2b x := n2b_congr (Nat.mod_mod ..)

theorem toNat_lt (b : UInt8) : b.toNat < 256 := b.toNat_lt

theorem le_of_bit_set {n k : Nat} (h : n / 2 ^ k % 2 = 1) : 2 ^ k ≤ n := by
  rcases Nat.lt_or_ge n (2 ^ k) with hlt | hge
  · rw [Nat.div_eq_of_lt hlt] at h; cases h
  · exact hge

theorem xor_one (y : Nat) : y ^^^ 1 = if y % 2 = 1 then y - 1 else y + 1 := by
  have h1 : (y ^^^ 1) / 2 = y / 2 := by rw [Nat.xor_div_two]; exact Nat.xor_zero _
  have h2 := Nat.xor_mod_two_eq_one (a := y) (b := 1)
  split <;> omega

/-- Xor acts digit by digit: below `2 ^ k` nothing changes, from there up it is `^^^ 1`. -/
theorem xor_two_pow (x k : Nat) :
    x ^^^ 2 ^ k = if x / 2 ^ k % 2 = 1 then x - 2 ^ k else x + 2 ^ k := by
  have hd : (x ^^^ 2 ^ k) / 2 ^ k = x / 2 ^ k ^^^ 1 := by
    rw [Nat.xor_div_two_pow, Nat.div_self (Nat.two_pow_pos k)]
  have hm : (x ^^^ 2 ^ k) % 2 ^ k = x % 2 ^ k := by
    rw [Nat.xor_mod_two_pow, Nat.mod_self, Nat.xor_zero]
  have e := Nat.div_add_mod (x ^^^ 2 ^ k) (2 ^ k)
  have e' := Nat.div_add_mod x (2 ^ k)
  rw [hd, hm, xor_one] at e
  generalize x / 2 ^ k = q at *
  split at e <;> rename_i hb <;> simp only [hb, if_true, if_false]
  · obtain ⟨q, rfl⟩ : ∃ q', q = q' + 1 := ⟨q - 1, by omega⟩
    rw [Nat.add_sub_cancel] at e
    rw [Nat.mul_add, Nat.mul_one] at e'
    omega
  · rw [Nat.mul_add, Nat.mul_one] at e
    omega

theorem bit_xor_two_pow (x k l : Nat) :
    ((x ^^^ 2 ^ k) / 2 ^ l % 2 == 1) = ((x / 2 ^ l % 2 == 1) ^^ decide (k = l)) := by
  have e (y : Nat) : (y / 2 ^ l % 2 == 1) = y.testBit l := by
    rw [Nat.testBit_eq_decide_div_mod_eq]; rfl
  rw [e, e, Nat.testBit_xor, Nat.testBit_two_pow]

theorem nextU8_n2b {v : Nat} (r : List UInt8) (h : v < 256) :
    nextU8 (n2b v :: r) = some (v, r) := by
  simp [nextU8, n2b_toNat_of_lt h]

theorem W_n2b {v : Nat} (h : v < 65536) : (n2b (v / 256)).toNat * 256 + (n2b v).toNat = v := by
  simp only [n2b_toNat]; omega

theorem W4_n2b {v : Nat} (h : v < 4294967296) :
    (n2b (v / 16777216)).toNat * 16777216 + (n2b (v / 65536)).toNat * 65536
      + (n2b (v / 256)).toNat * 256 + (n2b v).toNat = v := by
  simp only [n2b_toNat]; omega

theorem nextU16_be16 {v : Nat} (r : List UInt8) (h : v < 65536) :
    nextU16 (be16 v ++ r) = some (v, r) := by
  simp only [be16, List.cons_append, List.nil_append, nextU16, W_n2b h]

theorem nextU32_be32 {v : Nat} (r : List UInt8) (h : v < 4294967296) :
    nextU32 (be32 v ++ r) = some (v, r) := by
  simp only [be32, List.cons_append, List.nil_append, nextU32, W4_n2b h]

theorem nextU8_some {bs r : List UInt8} {v : Nat} (h : nextU8 bs = some (v, r)) :
    ∃ a, bs = a :: r ∧ v = a.toNat := by
  cases bs with
  | nil => simp [nextU8] at h
  | cons a t => simp [nextU8] at h; exact ⟨a, by simp [h.2], h.1.symm⟩

theorem nextU16_some {bs r : List UInt8} {v : Nat} (h : nextU16 bs = some (v, r)) :
    ∃ a b, bs = a :: b :: r ∧ v = a.toNat * 256 + b.toNat := by
  match bs, h with
  | a :: b :: t, h => simp [nextU16] at h; exact ⟨a, b, by simp [h.2], h.1.symm⟩

theorem nextU32_some {bs r : List UInt8} {v : Nat} (h : nextU32 bs = some (v, r)) :
    ∃ a b c d, bs = a :: b :: c :: d :: r ∧
      v = a.toNat * 16777216 + b.toNat * 65536 + c.toNat * 256 + d.toNat := by
  match bs, h with
  | a :: b :: c :: d :: t, h =>
    simp [nextU32] at h; exact ⟨a, b, c, d, by simp [h.2], h.1.symm⟩

/-! A decoder is a chain of reads and checks, each with the rest of the decoder as continuation.
If the whole returns `.ok`, the first read succeeded (so the input starts with the bytes read) or
the first check passed, and the continuation returns that `.ok`. -/

theorem ok_of_nextU8 {ε α : Type} {e : Fail ε} {k : Nat → List UInt8 → Res ε α} {bs : List UInt8}
    {x : α} (h : (match nextU8 bs with | none => (.error e : Res ε α) | some (v, r) => k v r) = .ok x) :
    ∃ a r, bs = a :: r ∧ k a.toNat r = .ok x := by
  cases bs with
  | nil => cases h
  | cons a r => exact ⟨a, r, rfl, h⟩

theorem ok_of_nextU16 {ε α : Type} {e : Fail ε} {k : Nat → List UInt8 → Res ε α} {bs : List UInt8}
    {x : α} (h : (match nextU16 bs with | none => (.error e : Res ε α) | some (v, r) => k v r) = .ok x) :
    ∃ a b r, bs = a :: b :: r ∧ k (a.toNat * 256 + b.toNat) r = .ok x := by
  match bs, h with
  | a :: b :: r, h => exact ⟨a, b, r, rfl, h⟩

theorem ok_of_nextU32 {ε α : Type} {e : Fail ε} {k : Nat → List UInt8 → Res ε α} {bs : List UInt8}
    {x : α} (h : (match nextU32 bs with | none => (.error e : Res ε α) | some (v, r) => k v r) = .ok x) :
    ∃ a b c d r, bs = a :: b :: c :: d :: r ∧
      k (a.toNat * 16777216 + b.toNat * 65536 + c.toNat * 256 + d.toNat) r = .ok x := by
  match bs, h with
  | a :: b :: c :: d :: r, h => exact ⟨a, b, c, d, r, rfl, h⟩

theorem ok_of_ite_error {ε α : Type} {c : Prop} [Decidable c] {e : ε} {t : Except ε α} {x : α}
    (h : (if c then .error e else t) = .ok x) : ¬ c ∧ t = .ok x := by
  by_cases hc : c
  · rw [if_pos hc] at h; cases h
  · rw [if_neg hc] at h; exact ⟨hc, h⟩

theorem ok_of_ite_ok {ε α : Type} {c : Prop} [Decidable c] {e : Fail ε} {y x : α}
    (h : (if c then .ok y else .error e : Res ε α) = .ok x) : c ∧ y = x := by
  by_cases hc : c
  · rw [if_pos hc] at h; exact ⟨hc, Except.ok.inj h⟩
  · rw [if_neg hc] at h; cases h

/-! The same chain read for totality: a decoder whose own failures are reported errors panics
only if its continuation does. -/

theorem noPanic_read {ε α : Type} {e : ε} {rd : List UInt8 → Option (Nat × List UInt8)}
    {k : Nat → List UInt8 → Res ε α} {bs : List UInt8} (h : ∀ v r, (k v r).isPanic = false) :
    Res.isPanic (match rd bs with | none => (.error (.err e) : Res ε α) | some (v, r) => k v r)
      = false := by
  cases rd bs with
  | none => rfl
  | some p => exact h p.1 p.2

theorem noPanic_ite_err {ε α : Type} {c : Prop} [Decidable c] {e : ε} {t : Res ε α}
    (h : t.isPanic = false) : Res.isPanic (if c then .error (.err e) else t) = false := by
  split
  · rfl
  · exact h

theorem noPanic_ite_ok {ε α : Type} {c : Prop} [Decidable c] {e : ε} {y : α} :
    Res.isPanic (if c then .ok y else .error (.err e) : Res ε α) = false := by
  split <;> rfl

theorem be16_of_bytes (a b : UInt8) : be16 (a.toNat * 256 + b.toNat) = [a, b] := by
  have := a.toNat_lt; have := b.toNat_lt
  simp only [be16, List.cons.injEq, and_true]
  exact ⟨n2b_eq_byte (by omega), n2b_eq_byte (by omega)⟩

theorem be32_of_bytes (a b c d : UInt8) :
    be32 (a.toNat * 16777216 + b.toNat * 65536 + c.toNat * 256 + d.toNat) = [a, b, c, d] := by
  have := a.toNat_lt; have := b.toNat_lt; have := c.toNat_lt; have := d.toNat_lt
  simp only [be32, List.cons.injEq, and_true]
  exact ⟨n2b_eq_byte (by omega), n2b_eq_byte (by omega), n2b_eq_byte (by omega),
         n2b_eq_byte (by omega)⟩

theorem be16_cons (v : Nat) (r : List UInt8) : be16 v ++ r = n2b (v / 256) :: n2b v :: r := rfl
theorem be32_cons (v : Nat) (r : List UInt8) :
    be32 v ++ r = n2b (v / 16777216) :: n2b (v / 65536) :: n2b (v / 256) :: n2b v :: r := rfl

theorem be16_length (v : Nat) : (be16 v).length = 2 := rfl
theorem be32_length (v : Nat) : (be32 v).length = 4 := rfl

end Elvis.Codec
