import ElvisVerif.Model.Codec.Ipv4
import ElvisVerif.Lemmas.Codec
import ElvisVerif.Lemmas.Checksum
/-!
Helper lemmas for the IPv4 codec: what `from_bytes` accepting says about the
input (`fromBytes_ok_inv`), and `matchesField` facts.
-/
namespace Elvis.Codec

abbrev W (a b : UInt8) : Nat := a.toNat * 256 + b.toNat
abbrev W4 (a b c d : UInt8) : Nat :=
  a.toNat * 16777216 + b.toNat * 65536 + c.toNat * 256 + d.toNat

theorem W_lt (a b : UInt8) : W a b < 65536 := by
  have := a.toNat_lt; have := b.toNat_lt; simp only [W]; omega
theorem W4_lt (a b c d : UInt8) : W4 a b c d < 4294967296 := by
  have := a.toNat_lt; have := b.toNat_lt; have := c.toNat_lt; have := d.toNat_lt
  simp only [W4]; omega

end Elvis.Codec

namespace Elvis.Ck

theorem matchesField_asU16 (ck : Bool) (acc : Nat) : matchesField ck acc (asU16 ck acc) = true := by
  simp [matchesField]

/-- unless the field is the second representation of zero (`0x0000` with the feature on), an
    accepted field is exactly `as_u16()` -/
theorem matchesField_eq {ck : Bool} {acc e : Nat} (h : matchesField ck acc e = true)
    (hz : ck = false ∨ e ≠ 0) : asU16 ck acc = e := by
  unfold matchesField at h
  simp only [Bool.or_eq_true, beq_iff_eq, Bool.and_eq_true] at h
  rcases h with h | ⟨⟨h1, _⟩, h3⟩
  · exact h
  · rcases hz with hz | hz
    · simp [hz] at h1
    · exact absurd h3 hz

theorem matchesField_off (acc e : Nat) : matchesField false acc e = true ↔ e = 0 := by
  simp only [matchesField, asU16, Bool.false_eq_true, if_false, Bool.false_and, Bool.or_false,
    beq_iff_eq]
  exact eq_comm

end Elvis.Ck

namespace Elvis.Codec.Ipv4
open Elvis.Ck Elvis.Codec

/-! The flags / fragment-offset word `(flags << 13) | (offset & 0x1fff)`: three flag bits above
thirteen offset bits. -/

theorem ffWord_lt (fl fo : Nat) : fl % 8 * 8192 + fo % 8192 < 65536 := by omega

theorem ffWord_div {fl : Nat} (fo : Nat) (h : fl < 8) : (fl % 8 * 8192 + fo % 8192) / 8192 = fl := by
  rw [Nat.mod_eq_of_lt h, Nat.mul_comm, Nat.mul_add_div (by decide),
    Nat.div_eq_of_lt (Nat.mod_lt _ (by decide)), Nat.add_zero]

theorem ffWord_mod (fl : Nat) {fo : Nat} (h : fo < 8192) :
    (fl % 8 * 8192 + fo % 8192) % 8192 = fo := by
  rw [Nat.mul_comm, Nat.mul_add_mod, Nat.mod_mod, Nat.mod_eq_of_lt h]

theorem ffWord_eq {w : Nat} (h : w < 65536) : w / 8192 % 8 * 8192 + w % 8192 % 8192 = w := by
  rw [Nat.mod_mod, Nat.mod_eq_of_lt (Nat.div_lt_of_lt_mul h), Nat.div_add_mod']

theorem ffWord_flags_lt {w : Nat} (h : w < 65536) (hr : w / 8192 / 4 % 2 = 0) : w / 8192 < 4 := by
  omega

/-- with the reserved flag clear the word is DF, MF and the offset, as RFC 791 lists them -/
theorem ffWord_bits {fl : Nat} (fo : Nat) (h : fl < 4) :
    fl % 8 * 8192 + fo % 8192 = fl / 2 % 2 * 16384 + (fl % 2 * 8192 + fo % 8192) := by
  omega

/-- accumulator of `from_bytes` over the 18 checksummed header bytes, in code order -/
def accBytes (ck : Bool)
    (b0 b1 b2 b3 b4 b5 b6 b7 b8 b9 b12 b13 b14 b15 b16 b17 b18 b19 : UInt8) : Nat :=
  addWord32 ck (addWord32 ck (addU8 ck (add16 ck (add16 ck (add16 ck
    (addU8 ck 0 b0.toNat b1.toNat) (W b2 b3)) (W b4 b5)) (W b6 b7)) b8.toNat b9.toNat)
    (W4 b12 b13 b14 b15)) (W4 b16 b17 b18 b19)

theorem fromBytes_ok_inv {ck : Bool} {bs : List UInt8} {hd : Header}
    (h : fromBytes ck bs = .ok hd) :
    ∃ b0 b1 b2 b3 b4 b5 b6 b7 b8 b9 b10 b11 b12 b13 b14 b15 b16 b17 b18 b19 rest,
      bs = b0 :: b1 :: b2 :: b3 :: b4 :: b5 :: b6 :: b7 :: b8 :: b9 :: b10 :: b11 :: b12 :: b13 ::
        b14 :: b15 :: b16 :: b17 :: b18 :: b19 :: rest ∧
      b0.toNat = 69 ∧ b1.toNat % 4 = 0 ∧ 20 ≤ W b2 b3 ∧ W b6 b7 / 8192 < 4 ∧
      matchesField ck (accBytes ck b0 b1 b2 b3 b4 b5 b6 b7 b8 b9 b12 b13 b14 b15 b16 b17 b18 b19)
        (W b10 b11) = true ∧
      hd = { ihl := 5, tos := b1.toNat, totalLength := W b2 b3, identification := W b4 b5,
             fragmentOffset := W b6 b7 % 8192, flags := W b6 b7 / 8192, ttl := b8.toNat,
             protocol := b9.toNat, checksum := W b10 b11, source := W4 b12 b13 b14 b15,
             destination := W4 b16 b17 b18 b19 } := by
  unfold fromBytes at h
  obtain ⟨b0, _, rfl, h⟩ := ok_of_nextU8 h
  obtain ⟨hv, h⟩ := ok_of_ite_error h
  obtain ⟨hi, h⟩ := ok_of_ite_error h
  obtain ⟨b1, _, rfl, h⟩ := ok_of_nextU8 h
  obtain ⟨ht, h⟩ := ok_of_ite_error h
  obtain ⟨b2, b3, _, rfl, h⟩ := ok_of_nextU16 h
  obtain ⟨hl, h⟩ := ok_of_ite_error h
  obtain ⟨b4, b5, _, rfl, h⟩ := ok_of_nextU16 h
  obtain ⟨b6, b7, _, rfl, h⟩ := ok_of_nextU16 h
  obtain ⟨hf, h⟩ := ok_of_ite_error h
  obtain ⟨b8, _, rfl, h⟩ := ok_of_nextU8 h
  obtain ⟨b9, _, rfl, h⟩ := ok_of_nextU8 h
  obtain ⟨b10, b11, _, rfl, h⟩ := ok_of_nextU16 h
  obtain ⟨b12, b13, b14, b15, _, rfl, h⟩ := ok_of_nextU32 h
  obtain ⟨b16, b17, b18, b19, rest, rfl, h⟩ := ok_of_nextU32 h
  obtain ⟨hm, h⟩ := ok_of_ite_error h
  have hv := Decidable.not_not.mp hv
  have hi := Decidable.not_not.mp hi
  rw [hi] at hl h
  refine ⟨b0, b1, b2, b3, b4, b5, b6, b7, b8, b9, b10, b11, b12, b13, b14, b15, b16, b17, b18,
    b19, rest, rfl, by rw [← Nat.div_add_mod b0.toNat 16, hv, hi], Decidable.not_not.mp ht,
    Nat.le_of_not_lt hl, ffWord_flags_lt (W_lt b6 b7) (Decidable.not_not.mp hf),
    Decidable.not_not.mp hm, (Except.ok.inj h).symm⟩

theorem fromBytes_cons20 (ck : Bool)
    (b0 b1 b2 b3 b4 b5 b6 b7 b8 b9 b10 b11 b12 b13 b14 b15 b16 b17 b18 b19 : UInt8)
    (rest : List UInt8) :
    fromBytes ck (b0 :: b1 :: b2 :: b3 :: b4 :: b5 :: b6 :: b7 :: b8 :: b9 :: b10 :: b11 :: b12 ::
        b13 :: b14 :: b15 :: b16 :: b17 :: b18 :: b19 :: rest) =
      if b0.toNat / 16 ≠ 4 then .error (.err .incorrectIpv4Version)
      else if b0.toNat % 16 ≠ 5 then .error (.err .invalidHeaderLength)
      else if b1.toNat % 4 ≠ 0 then .error (.err .usedReservedTos)
      else if W b2 b3 < b0.toNat % 16 * 4 then .error (.err .invalidTotalLength)
      else if W b6 b7 / 8192 / 4 % 2 ≠ 0 then .error (.err .usedReservedFlag)
      else if ¬ matchesField ck
          (accBytes ck b0 b1 b2 b3 b4 b5 b6 b7 b8 b9 b12 b13 b14 b15 b16 b17 b18 b19) (W b10 b11) then
        .error (.err (.checksum (W b10 b11)
          (asU16 ck (accBytes ck b0 b1 b2 b3 b4 b5 b6 b7 b8 b9 b12 b13 b14 b15 b16 b17 b18 b19))))
      else .ok { ihl := b0.toNat % 16, tos := b1.toNat, totalLength := W b2 b3,
                 identification := W b4 b5, fragmentOffset := W b6 b7 % 8192,
                 flags := W b6 b7 / 8192, ttl := b8.toNat, protocol := b9.toNat,
                 checksum := W b10 b11, source := W4 b12 b13 b14 b15,
                 destination := W4 b16 b17 b18 b19 } := by
  simp only [fromBytes, nextU8, nextU16, nextU32]
  rfl

end Elvis.Codec.Ipv4
