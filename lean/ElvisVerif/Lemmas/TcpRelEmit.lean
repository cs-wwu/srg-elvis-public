import ElvisVerif.Lemmas.TcpRelFwd
import ElvisVerif.Lemmas.TcpConvEmit
/-!
# `segments()` in FIN-WAIT-1 while text is still queued: the data, then the FIN

`close()` on an ESTABLISHED endpoint with unsent text only changes the state (`close_pending`: `queue_fin` does nothing
while text is queued; `fin_pending()` holds from then on).  The segmentizing loop does not read the state
(`segmentize_withState`), so the next `segments()` cuts exactly the segments the ESTABLISHED twin would cut; when that
empties `outgoing.text`, `if fin_pending { self.queue_fin() }` (`finIfPending`) numbers the FIN behind the last text
byte and it leaves in the same batch: `segments_twin`.
-/
namespace Elvis.Tcp
open Elvis.ModCmp Elvis.Tcp.Fin
namespace Tcb

def fw (t : Tcb) : Tcb := { t with state := .FinWait1 }

theorem close_pending (t : Tcb) (hst : t.state = .Established) (ht : t.outgoing.text ≠ []) :
    t.close = .ok (fw t, .Ok) := by
  rw [close_eq, if_pos (Or.inr hst), if_neg (by rw [List.isEmpty_iff]; exact ht)]
  rfl

theorem segmentize_withState (st : State) (m fuel : Nat) (s : Tcb) (q : Nat) :
    segmentize m fuel ({ s with state := st } : Tcb) q =
      match segmentize m fuel s q with
      | .error e => .error e
      | .ok u => .ok ({ u with state := st } : Tcb) := by
  induction fuel generalizing s q with
  | zero => rfl
  | succ n ih =>
    rw [segmentize_succ, segmentize_succ]
    show (if min (min m (s.snd.wnd.toNat - q)) s.outgoing.text.length = 0 then _ else _) = _
    generalize hb : min (min m (s.snd.wnd.toNat - q)) s.outgoing.text.length = bytes
    by_cases h0 : bytes = 0
    · rw [if_pos h0, if_pos h0]
    · rw [if_neg h0, if_neg h0]
      show (match s.ackHdr.build (List.take bytes s.outgoing.text).length with
        | none => _
        | some header => _) = _
      cases hbuild : s.ackHdr.build (List.take bytes s.outgoing.text).length with
      | none => rfl
      | some header =>
        dsimp only
        exact ih (pushSeg s header (List.take bytes s.outgoing.text) (List.drop bytes s.outgoing.text)) (q + bytes)

/-- what the closing `segments()` adds to the result of the twin's `segments()` -/
structure CloseFx (t1 : Tcb) (fin : Hdr) (t1' : Tcb) : Prop where
  st : t1'.state = .FinWait1
  nxt : t1'.snd.nxt = t1.snd.nxt + 1
  una : t1'.snd.una = t1.snd.una
  iss : t1'.snd.iss = t1.snd.iss
  rcv : t1'.rcv = t1.rcv
  inc : t1'.incoming = t1.incoming
  text : t1'.outgoing.text = []
  one : t1'.outgoing.oneshot = []
  rtx : t1'.outgoing.retransmit = t1.outgoing.retransmit ++ [⟨⟨fin, []⟩, false⟩]
  mtu : t1'.mtu = t1.mtu
  lp : t1'.localPort = t1.localPort
  rp : t1'.remotePort = t1.remotePort
  isfin : IsFin ⟨fin, []⟩ t1.snd.nxt t1.rcv.nxt
  src : fin.srcPort = t1.localPort
  dst : fin.dstPort = t1.remotePort

theorem twin_cut (t : Tcb) (hst : t.state = .Established) (hmtu : SPACE_FOR_HEADERS < t.mtu.toNat) :
    ∃ u new out, segmentizeIfOpen (clearOneshot (fw t)) = .ok (fw u) ∧
      SegFx (clearOneshot t) (min (clearOneshot t).outgoing.text.length
        ((clearOneshot t).snd.wnd.toNat - (clearOneshot t).outgoing.queuedBytes)) u ∧
      out = (t.outgoing.oneshot.map fun h => (⟨h, []⟩ : Segment)) ++
        (u.outgoing.retransmit.filter (·.needsTransmit)).map (·.segment) ∧
      t.segments = .ok (markSent u out.isEmpty, out) ∧ EmitFx t new (markSent u out.isEmpty) out := by
  obtain ⟨u, hv, fx⟩ := cut_fwd t (by rw [hst]; rfl) hmtu
  obtain ⟨new, ef⟩ := EmitFx.of_cut fx _
  have hlt : ¬ (clearOneshot t).mtu.toNat < SPACE_FOR_HEADERS := by show ¬ t.mtu.toNat < _; omega
  refine ⟨u, new, _, ?_, fx, rfl, ?_, ef⟩
  · have e := hv
    have hs : (clearOneshot t).state = .Established := hst
    rw [segmentizeIfOpen_eq, hs, if_pos (show segmentizes .Established = true from rfl), if_neg hlt] at e
    have hs' : (clearOneshot (fw t)).state = .FinWait1 := rfl
    have hlt' : ¬ (clearOneshot (fw t)).mtu.toNat < SPACE_FOR_HEADERS := hlt
    rw [segmentizeIfOpen_eq, hs', if_pos (show segmentizes .FinWait1 = true from rfl), if_neg hlt']
    have := segmentize_withState .FinWait1 ((clearOneshot t).mtu.toNat - SPACE_FOR_HEADERS)
      ((clearOneshot t).outgoing.text.length + 1) (clearOneshot t) (clearOneshot t).outgoing.queuedBytes
    rw [e] at this
    exact this
  · rw [segments_eq, hv]
    dsimp only
    rw [C01.Ok3.finPending (by rw [hst]; trivial), finIfPending_eq, Bool.false_and, if_neg Bool.false_ne_true]

theorem finPending_fw (t : Tcb) (hne : t.outgoing.text ≠ []) : (fw t).finPending = true := by
  rw [finPending_eq]
  show (closing3 .FinWait1 && !t.outgoing.text.isEmpty) = true
  cases h : t.outgoing.text with
  | nil => exact (hne h).elim
  | cons a l => rfl

theorem segments_twin (t : Tcb) (hst : t.state = .Established) (hmtu : SPACE_FOR_HEADERS < t.mtu.toNat)
    (hfit : t.outgoing.text.length ≤ t.snd.wnd.toNat - rtxBytes t.outgoing.retransmit) :
    ∃ new t1 out t1' fin, t.segments = .ok (t1, out) ∧ EmitFx t new t1 out ∧
      (t.outgoing.text ≠ [] → (fw t).segments = .ok (t1', out ++ [⟨fin, []⟩])) ∧ CloseFx t1 fin t1' := by
  obtain ⟨u, new, outP, hv', fx, houtP, eP, ef⟩ := twin_cut t hst hmtu
  have hall : min (clearOneshot t).outgoing.text.length
      ((clearOneshot t).snd.wnd.toNat - (clearOneshot t).outgoing.queuedBytes) = t.outgoing.text.length := by
    have : (clearOneshot t).outgoing.queuedBytes = rtxBytes t.outgoing.retransmit := rfl
    rw [this]
    show min t.outgoing.text.length (t.snd.wnd.toNat - rtxBytes t.outgoing.retransmit) = _
    omega
  have hutext : u.outgoing.text = [] := by
    rw [fx.text, hall]
    show List.drop t.outgoing.text.length t.outgoing.text = []
    simp
  let fin : Hdr := (fw u).finHdr.built
  let u2 : Tcb := ({ u with state := .FinWait1, snd.nxt := u.snd.nxt + 1, outgoing.retransmit := u.outgoing.retransmit ++ [Transmit.new ⟨fin, []⟩] } : Tcb)
  let outC : List Segment := (t.outgoing.oneshot.map fun h => (⟨h, []⟩ : Segment)) ++
      (u2.outgoing.retransmit.filter (·.needsTransmit)).map (·.segment)
  have houtC : outC = outP ++ [⟨fin, []⟩] := by
    show _ ++ ((u.outgoing.retransmit ++ [Transmit.new ⟨fin, []⟩]).filter (·.needsTransmit)).map (·.segment) = _
    rw [List.filter_append, List.map_append, ← List.append_assoc, houtP]
    rfl
  refine ⟨new, _, outP, markSent u2 outC.isEmpty, fin, eP, ef, ?_, ?_⟩
  · intro hne
    rw [segments_eq, hv']
    dsimp only
    rw [finPending_fw t hne, finIfPending_eq, Bool.true_and,
      if_pos (by show u.outgoing.text.isEmpty = true; rw [hutext]; rfl), finQueued_eq]
    dsimp only
    show Except.ok (markSent u2 outC.isEmpty, outC) = _
    rw [houtC]
  · obtain ⟨m7, m4, m5, m6, -, m3, m2, m1, m8, -, m9, m10⟩ := markSent_frame u outP.isEmpty
    obtain ⟨n7, n4, n5, n6, -, n3, n2, n1, n8, -, n9, n10⟩ := markSent_frame u2 outC.isEmpty
    exact {
      st := by rw [n7]
      nxt := by rw [n4, m4]
      una := by rw [n4, m4]
      iss := by rw [n4, m4]
      rcv := by rw [n5, m5]
      inc := by rw [n6, m6]
      text := by rw [n3]; exact hutext
      one := by rw [n2]; show u.outgoing.oneshot = []; rw [fx.one]; rfl
      rtx := by
        rw [n1, m1]
        show (u.outgoing.retransmit ++ [Transmit.new ⟨fin, []⟩]).map _ = _
        rw [List.map_append]
        rfl
      mtu := by rw [n8, m8]
      lp := by rw [n9, m9]
      rp := by rw [n10, m10]
      isfin := by
        rw [m4, m5]
        exact ⟨rfl, rfl, rfl, rfl, rfl, rfl, rfl⟩
      src := by rw [m9]; rfl
      dst := by rw [m10]; rfl }

theorem fw_markSent (u : Tcb) (b : Bool) : markSent (fw u) b = fw (markSent u b) := by
  unfold markSent fw
  cases b <;> rfl

theorem segments_twin_more (t : Tcb) (hst : t.state = .Established) (hmtu : SPACE_FOR_HEADERS < t.mtu.toNat) :
    ∃ new t1 out, t.segments = .ok (t1, out) ∧ EmitFx t new t1 out ∧
      (t1.outgoing.text ≠ [] → (fw t).segments = .ok (fw t1, out)) := by
  obtain ⟨u, new, outP, hv', fx, houtP, eP, ef⟩ := twin_cut t hst hmtu
  refine ⟨new, _, outP, eP, ef, fun hmore => ?_⟩
  rw [(markSent_frame u outP.isEmpty).2.2.2.2.2.1] at hmore
  have hne : t.outgoing.text ≠ [] := by
    intro h0
    apply hmore
    rw [fx.text]
    show List.drop _ t.outgoing.text = []
    rw [h0]; simp
  rw [segments_eq, hv']
  dsimp only
  rw [finPending_fw t hne, finIfPending_eq, Bool.true_and,
    if_neg (by show ¬ u.outgoing.text.isEmpty = true; rw [List.isEmpty_iff]; exact hmore)]
  dsimp only
  show Except.ok (markSent (fw u) _, _) = _
  rw [fw_markSent, houtP]
  rfl

/-- the endpoint with nothing unsent and its closed twin (FIN numbered by `close()` itself) emit -/
theorem segments_closedT (t : Tcb) (ht : t.outgoing.text = []) (hm : ¬ t.mtu.toNat < SPACE_FOR_HEADERS) :
    t.segments = .ok (emitT t, emitOut t) ∧
      (closedT t).segments = .ok (emitT (closedT t), emitOut t ++ [finSeg t]) ∧
      CloseFx (emitT t) (finSeg t).hdr (emitT (closedT t)) := by
  refine ⟨segments_notext_eq t ht hm, ?_, ?_⟩
  · have := segments_notext_eq (closedT t) ht hm
    have hout : emitOut (closedT t) = emitOut t ++ [finSeg t] := by
      unfold emitOut closedT
      simp only [List.filter_append, List.map_append, List.append_assoc]
      rfl
    rw [hout] at this
    exact this
  · exact {
      st := rfl, nxt := rfl, una := rfl, iss := rfl, rcv := rfl, inc := rfl, text := ht, one := rfl
      rtx := by
        show (t.outgoing.retransmit ++ [Transmit.new (finSeg t)]).map _ = _
        rw [List.map_append]
        rfl
      mtu := rfl, lp := rfl, rp := rfl
      isfin := ⟨rfl, rfl, rfl, rfl, rfl, rfl, rfl⟩
      src := rfl, dst := rfl }

end Tcb
end Elvis.Tcp
