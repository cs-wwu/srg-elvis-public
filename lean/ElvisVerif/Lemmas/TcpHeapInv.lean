import ElvisVerif.Lemmas.LHeapOrd
import ElvisVerif.Lemmas.C01Proc
import ElvisVerif.Lemmas.SeqArith
import ElvisVerif.Lemmas.TcbPath
/-!
# The reorder heap is a heap: its root has the least sequence number

`Segment::cmp` compares sequence numbers circularly; it is a total preorder only on a window of 2^31
numbers.  `leK base` compares the offsets from `base` (a total preorder) and agrees with `segLe` on segments
whose offsets are below 2^31 (`InWin`).  `HeapOk base t`: every parked segment is in the window and the heap array
satisfies the binary-heap invariant for `leK base`; `Ahead base t`: at rest in ESTABLISHED every parked segment is
ahead of `RCV.NXT` (the processing loop of `segment_arrives` stops only when the root is ahead, and the root is the
least).  `Drains.heapOk`, `segmentArrives_heapOk`: preserved by `segment_arrives` for every valid in-window segment.
-/
namespace Elvis.Tcp
open Elvis.ModCmp Elvis.Tcp.Tcb

/-- compare by offset from `base`: "a ≤ b" in the heap's sense = `a` has the larger sequence number -/
def leK (base : Seq) (a b : Segment) : Bool := decide (off base b.hdr.seq ≤ off base a.hdr.seq)

theorem leK_tp (base : Seq) : Heap.TotalPreorder (leK base) := by
  refine ⟨fun a b => ?_, fun a b c h1 h2 => ?_⟩
  · unfold leK
    rcases Nat.le_total (off base b.hdr.seq) (off base a.hdr.seq) with h | h
    · left; simpa using h
    · right; simpa using h
  · unfold leK at *
    simp only [decide_eq_true_eq] at *
    omega

def InWin (base : Seq) (g : Segment) : Prop := off base g.hdr.seq < 2147483648

theorem segLe_eq_leK (base : Seq) (a b : Segment) (ha : InWin base a) (hb : InWin base b) :
    segLe a b = leK base a b := by
  have hlt := modLt_iff_off base a.hdr.seq b.hdr.seq ha hb
  unfold segLe leK
  cases hm : modLt a.hdr.seq b.hdr.seq with
  | true =>
    have h := hlt.1 hm
    have hne : (a.hdr.seq == b.hdr.seq) = false := beq_false_of_ne fun he => by rw [he] at h; omega
    rw [hne]
    exact (decide_eq_false (by omega)).symm
  | false =>
    have h : ¬ off base a.hdr.seq < off base b.hdr.seq := fun h => by rw [hlt.2 h] at hm; cases hm
    rw [Bool.not_false, Bool.or_true]
    exact (decide_eq_true (by omega)).symm

theorem agree_of_win (base : Seq) (l : List Segment) (h : ∀ g ∈ l, InWin base g) :
    LHeap.Agree segLe (leK base) l :=
  fun a ha b hb => segLe_eq_leK base a b (h a ha) (h b hb)

structure HeapOk (base : Seq) (t : Tcb) : Prop where
  win : ∀ g ∈ t.incoming.segments, InWin base g
  heap : Heap.IsHeap (leK base) t.incoming.segments.toArray

def Ahead (base : Seq) (t : Tcb) : Prop :=
  t.state = .Established → ∀ g ∈ t.incoming.segments, off base t.rcv.nxt < off base g.hdr.seq

theorem HeapOk.root_le {base : Seq} {t : Tcb} (hk : HeapOk base t) {top : Segment}
    (hpeek : LHeap.peek t.incoming.segments = some top) {g : Segment} (hg : g ∈ t.incoming.segments) :
    off base top.hdr.seq ≤ off base g.hdr.seq := by
  have := LHeap.peek_max (leK_tp base) _ top hpeek hk.heap g hg
  unfold leK at this
  simpa using this

theorem HeapOk.push {base : Seq} {t : Tcb} (hk : HeapOk base t) {g : Segment} (hw : InWin base g) :
    HeapOk base { t with incoming.segments := LHeap.push segLe t.incoming.segments g } := by
  exact ⟨LHeap.forall_mem_push hw hk.win, LHeap.push_isHeap (leK_tp base) _ g
    (agree_of_win base _ (List.forall_mem_append.2 ⟨hk.win, List.forall_mem_singleton.2 hw⟩)) hk.heap⟩

theorem HeapOk.pops {base : Seq} {s s1 : Tcb} {g : Segment} {rest : List Segment} {r1 : ProcessSegmentResult}
    (hk : HeapOk base s) (P : Pops s g rest s1 r1) : HeapOk base s1 := by
  have hmem := LHeap.mem_of_mem_pop P.pop
  exact ⟨by rw [P.heap]; exact fun x hx => hk.win x (hmem.2 x hx),
    by rw [P.heap]; exact (LHeap.pop_isHeap (leK_tp base) _ g rest P.pop (agree_of_win base _ hk.win) hk.heap).1⟩

theorem HeapOk.ahead_of_stops {base : Seq} {t : Tcb} (hk : HeapOk base t) (hs : Stops t)
    (hq : off base t.rcv.nxt < 2147483648) {g : Segment} (hg : g ∈ t.incoming.segments) :
    off base t.rcv.nxt < off base g.hdr.seq := by
  cases hl : t.incoming.segments with
  | nil => rw [hl] at hg; cases hg
  | cons a u =>
    have hpeek : LHeap.peek t.incoming.segments = some a := by rw [hl]; rfl
    have ha : a ∈ t.incoming.segments := by rw [hl]; exact List.mem_cons_self
    exact Nat.lt_of_lt_of_le ((modGt_iff_off base a.hdr.seq t.rcv.nxt (hk.win a ha) hq).1 (hs a hpeek).2)
      (hk.root_le hpeek hg)

section
variable {port : U16} {issX issY : Seq} {subX subY delX : List UInt8}

theorem tinv_rcv_off {t : Tcb} (h : C01.TInv port issX issY subX subY delX t) (hns : t.state ≠ .SynSent)
    (h31 : subY.length + 1 < 2147483648) :
    off issY t.rcv.nxt = 1 + (delX.length + t.incoming.text.length) ∧
      delX.length + t.incoming.text.length ≤ subY.length := by
  obtain ⟨hn, hp⟩ := h.rcv1 hns
  have hle := hp.length_le
  rw [List.length_append] at hle
  refine ⟨?_, hle⟩
  have one1 : (1 : Seq) = BitVec.ofNat 32 1 := rfl
  rw [hn, one1, C01.add_ofNat_assoc]
  have := off_add issY issY (1 + (delX.length + t.incoming.text.length)) (by rw [off_self]; omega)
  rw [off_self] at this
  omega

theorem Tcb.Drains.heapOk {base : Seq} {t t' : Tcb} {r : SegmentArrivesResult} (d : Drains t r t')
    (hk : HeapOk base t) : HeapOk base t' :=
  d.lift (R := fun s s' => HeapOk base s → HeapOk base s') (fun _ hk => hk) (fun P k hk => k (hk.pops P)) hk

theorem ahead_of_rest {t : Tcb} (h : C01.TInv port issX issY subX subY delX t) (h31 : subY.length + 1 < 2147483648)
    (hk : HeapOk issY t)
    (hrest : ∀ top, LHeap.peek t.incoming.segments = some top →
      t.state ≠ .SynSent ∧ modGt top.hdr.seq t.rcv.nxt = true) : Ahead issY t := by
  intro hst g hg
  have hr := tinv_rcv_off h (by rw [hst]; nofun) h31
  exact hk.ahead_of_stops hrest (by omega) hg

theorem segmentArrives_heapOk {t t' : Tcb} {g : Segment} {r : SegmentArrivesResult}
    (h : C01.TInv port issX issY subX subY delX t) (hv : C01.Valid issY subY g) (h31 : subY.length + 1 < 2147483648)
    (hw : InWin issY g) (hk : HeapOk issY t) (ha : Ahead issY t)
    (e : t.segmentArrives g = .ok (t', r)) : HeapOk issY t' ∧ (r = .Ok → Ahead issY t') := by
  rcases segmentArrives_iff.1 e with ⟨-, -, rfl, -⟩ | ⟨-, d⟩
  · have f := Fin.FrF.enqAck t
    refine ⟨⟨by rw [f.inc]; exact hk.win, by rw [f.inc]; exact hk.heap⟩, fun _ hst g hg => ?_⟩
    rw [f.inc] at hg
    rw [f.rcv]
    exact ha (by rw [← state_enqueueBuilt]; exact hst) g hg
  · have hk' := hk.push hw
    have hk1 := d.heapOk hk'
    refine ⟨hk1, fun hr => ?_⟩
    subst hr
    exact ahead_of_rest (C01.segmentArrives_inv h hv (by omega) e) h31 hk1 d.rest

end
end Elvis.Tcp
