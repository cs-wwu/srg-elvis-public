import ElvisVerif.Lemmas.TcpConvBatch
/-!
# One loss-free exchange phase of the closed system: definitions and bookkeeping

`phase s`: `emit A`, `emit B`, then every element A just emitted is delivered to B and every
element B just emitted to A, each batch in emission order (by history index), then `read A`,
`read B`.  `phases k` iterates it; `fairRound k` = `tick A (RTO + 1)`, `tick B (RTO + 1)`
(both retransmission timers expire), `phases k`.

Bookkeeping: `HL` (`historyLen` is the length of the history), and the `submitted` logs, which no call of a phase
writes (`phase_submitted`, `phases_submitted`).  The phase is evaluated in `Lemmas/TcpView.lean`.
-/
namespace Elvis.Tcp
open Tcb

def HL (s : Sys) : Prop := s.historyLen = s.history.length

theorem hl_step {s s' : Sys} {op : Op} {r : Res} (h : HL s) (e : s.step op = .ok (s', r)) : HL s' := by
  obtain ⟨segs, h1, h2⟩ := (step_iff.1 e).history
  unfold HL at *
  rw [h1, h2, h, List.length_append, List.length_reverse, Nat.add_comm]

theorem hl_plainRun {s s' : Sys} (h : HL s) (r : PlainRun s s') : HL s' := by
  induction r with
  | refl => exact h
  | step _ _ e ih => exact hl_step ih e

def deliverRange (s : Sys) (x : SideId) (lo : Nat) : Nat → Except String Sys
  | 0 => .ok s
  | n + 1 =>
    match s.step (.deliver x lo) with
    | .error e => .error e
    | .ok (s', _) => deliverRange s' x (lo + 1) n

def phase (s : Sys) : Except String Sys :=
  match s.step (.emit .A) with
  | .error e => .error e
  | .ok (s1, _) =>
    match s1.step (.emit .B) with
    | .error e => .error e
    | .ok (s2, _) =>
      match deliverRange s2 .B s.historyLen (s1.historyLen - s.historyLen) with
      | .error e => .error e
      | .ok s3 =>
        match deliverRange s3 .A s1.historyLen (s2.historyLen - s1.historyLen) with
        | .error e => .error e
        | .ok s4 =>
          match s4.step (.read .A) with
          | .error e => .error e
          | .ok (s5, _) =>
            match s5.step (.read .B) with
            | .error e => .error e
            | .ok (s6, _) => .ok s6

def phases : Nat → Sys → Except String Sys
  | 0, s => .ok s
  | k + 1, s =>
    match phase s with
    | .error e => .error e
    | .ok s' => phases k s'

/-- a step other than `write`, then `k`: the logs `k` starts from are those before the step -/
theorem submitted_of_step {s s' : Sys} {op : Op} {k : Sys → Except String Sys} (hnw : ∀ x b, op ≠ .write x b)
    (e : (match s.step op with
      | .error e => Except.error e
      | .ok (s1, _) => k s1) = .ok s') :
    ∃ s1, (∀ y, (s1.side y).submitted = (s.side y).submitted) ∧ k s1 = .ok s' := by
  split at e
  · cases e
  · exact ⟨_, C01.step_sub_eq hnw ‹_›, e⟩

theorem deliverRange_submitted (n : Nat) : ∀ (s s' : Sys) (x : SideId) (lo : Nat), deliverRange s x lo n = .ok s' →
    ∀ y, (s'.side y).submitted = (s.side y).submitted := by
  induction n with
  | zero => intro s s' x lo e y; cases e; rfl
  | succ k ih =>
    intro s s' x lo e y
    obtain ⟨s1, h1, e⟩ := submitted_of_step (k := fun s1 => deliverRange s1 x (lo + 1) k) (fun _ _ h => by cases h) e
    rw [ih s1 s' x (lo + 1) e y, h1 y]

theorem submitted_of_range {s s' : Sys} {x : SideId} {lo n : Nat} {k : Sys → Except String Sys}
    (e : (match deliverRange s x lo n with
      | .error e => Except.error e
      | .ok s1 => k s1) = .ok s') :
    ∃ s1, (∀ y, (s1.side y).submitted = (s.side y).submitted) ∧ k s1 = .ok s' := by
  split at e
  · cases e
  · exact ⟨_, deliverRange_submitted _ _ _ _ _ ‹_›, e⟩

theorem phase_submitted (s s' : Sys) (e : phase s = .ok s') (y : SideId) :
    (s'.side y).submitted = (s.side y).submitted := by
  unfold phase at e
  obtain ⟨s1, h1, e⟩ := submitted_of_step (fun _ _ h => by cases h) e
  obtain ⟨s2, h2, e⟩ := submitted_of_step (fun _ _ h => by cases h) e
  obtain ⟨s3, h3, e⟩ := submitted_of_range e
  obtain ⟨s4, h4, e⟩ := submitted_of_range e
  obtain ⟨s5, h5, e⟩ := submitted_of_step (fun _ _ h => by cases h) e
  obtain ⟨s6, h6, e⟩ := submitted_of_step (k := fun s6 => .ok s6) (fun _ _ h => by cases h) e
  cases e
  rw [h6, h5, h4, h3, h2, h1]

theorem phases_submitted (k : Nat) : ∀ (s s' : Sys), phases k s = .ok s' → ∀ y, (s'.side y).submitted = (s.side y).submitted := by
  induction k with
  | zero => intro s s' e y; cases e; rfl
  | succ k ih =>
    intro s s' e y
    unfold phases at e
    split at e
    · cases e
    · rw [ih _ s' e y, phase_submitted s _ ‹_› y]

def fairRound (k : Nat) (s : Sys) : Except String Sys :=
  match s.step (.tick .A (RTO + 1)) with
  | .error e => .error e
  | .ok (s1, _) =>
    match s1.step (.tick .B (RTO + 1)) with
    | .error e => .error e
    | .ok (s2, _) => phases k s2

theorem fairRound_submitted {k : Nat} {s s' : Sys} (e : fairRound k s = .ok s') (y : SideId) :
    (s'.side y).submitted = (s.side y).submitted := by
  unfold fairRound at e
  obtain ⟨s1, h1, e⟩ := submitted_of_step (fun _ _ h => by cases h) e
  obtain ⟨s2, h2, e⟩ := submitted_of_step (fun _ _ h => by cases h) e
  rw [phases_submitted k s2 s' e y, h2, h1]

theorem fairRound_eq {s s1 s2 : Sys} {r1 r2 : Res} (e1 : s.step (.tick .A (RTO + 1)) = .ok (s1, r1))
    (e2 : s1.step (.tick .B (RTO + 1)) = .ok (s2, r2)) (k : Nat) : fairRound k s = phases k s2 := by
  unfold fairRound
  rw [e1]
  dsimp only
  rw [e2]

theorem fairRound_of {k : Nat} {s s1 s2 s' : Sys} {r1 r2 : Res} (e1 : s.step (.tick .A (RTO + 1)) = .ok (s1, r1))
    (e2 : s1.step (.tick .B (RTO + 1)) = .ok (s2, r2)) (hp : phases k s2 = .ok s') : fairRound k s = .ok s' :=
  (fairRound_eq e1 e2 k).trans hp

end Elvis.Tcp
