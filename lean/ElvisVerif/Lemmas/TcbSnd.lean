import ElvisVerif.Lemmas.TcbSeq
import ElvisVerif.Lemmas.TcbClose
/-!
# Everything an endpoint queues for (re)transmission lies below its SND.NXT

The send half of C03's synchronisation clause.  `SndBelow s`: at least the SYN has been
numbered, and every entry of the retransmission queue occupies sequence numbers below
`SND.NXT` only (a SYN sits at ISS).  Segment processing never touches ISS / SND.NXT and adds only
a SYN,ACK at ISS (`SndKeep`); `segments()` and `close()` advance SND.NXT by exactly what they
append (`SndGrow`), provided fewer than 2^31 sequence numbers are used (`Room`).
-/
namespace Elvis.Tcp
open Elvis.ModCmp
namespace Tcb

/-- sequence numbers consumed so far -/
def sent (s : Tcb) : Nat := off s.snd.iss s.snd.nxt

structure SndBelow (s : Tcb) : Prop where
  pos : 1 ≤ s.sent
  queue : ∀ t ∈ s.outgoing.retransmit, SegBelow s.snd.iss s.sent t.segment
  plain : ∀ h ∈ s.outgoing.oneshot, h.ctl.syn = false ∧ h.ctl.fin = false
  qports : ∀ t ∈ s.outgoing.retransmit, t.segment.hdr.srcPort = s.localPort ∧ t.segment.hdr.dstPort = s.remotePort
  oports : ∀ h ∈ s.outgoing.oneshot, h.srcPort = s.localPort ∧ h.dstPort = s.remotePort

/-- room for all queued text and a FIN below 2^31 sequence numbers -/
def Room (s : Tcb) : Prop := s.sent + s.outgoing.text.length + 1 < 2147483648

theorem SndBelow.congr {s s' : Tcb} (h : SndBelow s) (h1 : s'.snd.iss = s.snd.iss)
    (h2 : s'.snd.nxt = s.snd.nxt)
    (h3 : ∀ t ∈ s'.outgoing.retransmit, ∃ t0 ∈ s.outgoing.retransmit, t0.segment = t.segment)
    (h4 : ∀ x ∈ s'.outgoing.oneshot, x ∈ s.outgoing.oneshot)
    (h5 : s'.localPort = s.localPort) (h6 : s'.remotePort = s.remotePort) :
    SndBelow s' := by
  have hs : s'.sent = s.sent := by unfold sent; rw [h1, h2]
  refine ⟨by rw [hs]; exact h.pos, fun t ht => ?_, fun x hx => h.plain x (h4 x hx), fun t ht => ?_,
    fun x hx => by rw [h5, h6]; exact h.oports x (h4 x hx)⟩
  · obtain ⟨t0, ht0, e⟩ := h3 t ht
    rw [hs, h1, ← e]; exact h.queue t0 ht0
  · obtain ⟨t0, ht0, e⟩ := h3 t ht
    rw [h5, h6, ← e]; exact h.qports t0 ht0

theorem SndBelow.append {s u : Tcb} (h : SndBelow s) (t0 : Transmit) (hi : u.snd.iss = s.snd.iss) (hm : s.sent ≤ u.sent)
    (hq : u.outgoing.retransmit = s.outgoing.retransmit ++ [t0]) (h0 : SegBelow s.snd.iss u.sent t0.segment)
    (hp0 : t0.segment.hdr.srcPort = s.localPort ∧ t0.segment.hdr.dstPort = s.remotePort)
    (ho : u.outgoing.oneshot = s.outgoing.oneshot) (hl : u.localPort = s.localPort) (hr : u.remotePort = s.remotePort) :
    SndBelow u := by
  refine ⟨Nat.le_trans h.pos hm, ?_, fun x hx => h.plain x (ho ▸ hx), ?_,
    fun x hx => by rw [hl, hr]; exact h.oports x (ho ▸ hx)⟩
  · rw [hq, hi]
    exact List.forall_mem_append.2 ⟨fun t ht => (h.queue t ht).mono hm, List.forall_mem_singleton.2 h0⟩
  · rw [hq, hl, hr]
    exact List.forall_mem_append.2 ⟨h.qports, List.forall_mem_singleton.2 hp0⟩

/-- ISS and SND.NXT untouched, the invariant carried over -/
structure SndKeep (s s' : Tcb) : Prop where
  iss : s'.snd.iss = s.snd.iss
  nxt : s'.snd.nxt = s.snd.nxt
  text : s'.outgoing.text = s.outgoing.text
  below : SndBelow s → SndBelow s'
  lp : s'.localPort = s.localPort
  rp : s'.remotePort = s.remotePort

theorem SndKeep.refl (s : Tcb) : SndKeep s s := ⟨rfl, rfl, rfl, id, rfl, rfl⟩

theorem SndKeep.trans {a b c : Tcb} (h1 : SndKeep a b) (h2 : SndKeep b c) : SndKeep a c :=
  ⟨h2.iss.trans h1.iss, h2.nxt.trans h1.nxt, h2.text.trans h1.text, fun h => h2.below (h1.below h),
    h2.lp.trans h1.lp, h2.rp.trans h1.rp⟩

theorem SndKeep.of_sub {s s' : Tcb} (h1 : s'.snd.iss = s.snd.iss) (h2 : s'.snd.nxt = s.snd.nxt)
    (h3 : ∀ t ∈ s'.outgoing.retransmit, ∃ t0 ∈ s.outgoing.retransmit, t0.segment = t.segment)
    (h4 : s'.outgoing.text = s.outgoing.text) (h5 : ∀ x ∈ s'.outgoing.oneshot, x ∈ s.outgoing.oneshot)
    (h6 : s'.localPort = s.localPort) (h7 : s'.remotePort = s.remotePort) : SndKeep s s' :=
  ⟨h1, h2, h4, fun h => h.congr h1 h2 h3 h5 h6 h7, h6, h7⟩

theorem SndKeep.of_eq {s s' : Tcb} (h1 : s'.snd.iss = s.snd.iss) (h2 : s'.snd.nxt = s.snd.nxt)
    (h3 : s'.outgoing.retransmit = s.outgoing.retransmit) (h4 : s'.outgoing.text = s.outgoing.text)
    (h5 : s'.outgoing.oneshot = s.outgoing.oneshot)
    (h6 : s'.localPort = s.localPort) (h7 : s'.remotePort = s.remotePort) :
    SndKeep s s' :=
  .of_sub h1 h2 (fun t ht => ⟨t, h3 ▸ ht, rfl⟩) h4 (fun _ hx => h5 ▸ hx) h6 h7

theorem sndKeep_enqueue_plain (s : Tcb) (hd : Hdr) (hs : hd.ctl.syn = false) (hf : hd.ctl.fin = false)
    (hp : hd.srcPort = s.localPort ∧ hd.dstPort = s.remotePort) :
    SndKeep s (s.enqueueBuilt hd) := by
  rw [enqueueBuilt_oneshot s hd hs hf]
  exact ⟨rfl, rfl, rfl, fun h => ⟨h.pos, h.queue,
    List.forall_mem_append.2 ⟨h.plain, List.forall_mem_singleton.2 ⟨hs, hf⟩⟩, h.qports,
    List.forall_mem_append.2 ⟨h.oports, List.forall_mem_singleton.2 hp⟩⟩, rfl, rfl⟩

theorem sndKeep_enqueue_syn (s : Tcb) (hd : Hdr) (hs : hd.ctl.syn = true) (hf : hd.ctl.fin = false)
    (hseq : hd.seq = s.snd.iss) (hp : hd.srcPort = s.localPort ∧ hd.dstPort = s.remotePort) :
    SndKeep s (s.enqueueBuilt hd) := by
  rw [enqueueBuilt_retransmit s hd (Or.inl hs)]
  refine ⟨rfl, rfl, rfl, fun h => h.append (Transmit.new ⟨hd, []⟩) rfl (Nat.le_refl _) rfl ⟨fun _ => hseq, fun _ => ?_⟩ hp
    rfl rfl rfl, rfl, rfl⟩
  -- the SYN: at ISS, one sequence number
  have : (Transmit.new ⟨hd, []⟩).segment.segLen = 1 := by
    simp [Transmit.new, Segment.segLen, hs, hf]
  rw [this]
  have h0 : off s.snd.iss (Transmit.new ⟨hd, []⟩).segment.hdr.seq = 0 := by
    simp only [Transmit.new]; rw [hseq]; exact off_self _
  rw [h0]
  exact h.pos

theorem ackHdr_plain (s : Tcb) : s.ackHdr.built.ctl.syn = false ∧ s.ackHdr.built.ctl.fin = false :=
  ⟨rfl, rfl⟩

theorem rstForAck_plain (s : Tcb) (seg : Hdr) :
    (s.rstForAck seg).built.ctl.syn = false ∧ (s.rstForAck seg).built.ctl.fin = false := ⟨rfl, rfl⟩

theorem sndKeep_ackTaken (s : Tcb) (ack : Seq) : SndKeep s (ackTaken s ack) :=
  .of_sub rfl rfl (fun t ht => ⟨t, (List.mem_filter.1 ht).1, rfl⟩) rfl (fun _ hx => hx) rfl rfl

/-- of the elementary changes only the replies and the acknowledgment touch what `SndBelow` reads: a reply carries
    our ports, and its SYN (the SYN,ACK) sits at ISS; an acknowledgment only removes entries -/
theorem Eff.snd {g : Segment} {k : Nat} {s s' : Tcb} (h : Eff g k s s') : SndKeep s s' := by
  cases h with
  | reply hr =>
    rcases hr.hdr with rfl | rfl | rfl
    · exact sndKeep_enqueue_plain _ _ rfl rfl ⟨rfl, rfl⟩
    · exact sndKeep_enqueue_plain _ _ rfl rfl ⟨rfl, rfl⟩
    · exact sndKeep_enqueue_syn _ _ rfl rfl rfl ⟨rfl, rfl⟩
  | ack => exact sndKeep_ackTaken _ _
  | _ => exact SndKeep.of_eq rfl rfl rfl rfl rfl rfl rfl

theorem processSegment_snd (s : Tcb) (segment : Segment) (s' : Tcb) (r : ProcessSegmentResult)
    (e : s.processSegment segment = .ok (s', r)) : SndKeep s s' :=
  processSegment_lift SndKeep.refl SndKeep.trans Eff.snd e

theorem segmentArrives_snd (s : Tcb) (segment : Segment) (s' : Tcb) (r : SegmentArrivesResult)
    (e : s.segmentArrives segment = .ok (s', r)) : SndKeep s s' :=
  segmentArrives_lift SndKeep.refl SndKeep.trans (fun _ _ => SndKeep.of_eq rfl rfl rfl rfl rfl rfl rfl) Eff.snd e

/-! ## `segments()` and `close()` advance SND.NXT by what they append -/

theorem sent_congr {s s' : Tcb} (h1 : s'.snd.iss = s.snd.iss) (h2 : s'.snd.nxt = s.snd.nxt) :
    s'.sent = s.sent := by unfold sent; rw [h1, h2]

/-- ISS and the ports kept; with room, SND.NXT not backwards, the invariant carried over, and at most `k` sequence
    numbers used beyond the queued text (`k = 1`: the FIN) -/
structure SndGrow (k : Nat) (s s' : Tcb) : Prop where
  iss : s'.snd.iss = s.snd.iss
  mono : Room s → s.sent ≤ s'.sent
  below : SndBelow s → Room s → SndBelow s'
  room : Room s → s'.sent + s'.outgoing.text.length ≤ s.sent + s.outgoing.text.length + k
  lp : s'.localPort = s.localPort
  rp : s'.remotePort = s.remotePort

theorem SndKeep.grow {k : Nat} {s s' : Tcb} (h : SndKeep s s') : SndGrow k s s' := by
  have hs : s'.sent = s.sent := sent_congr h.iss h.nxt
  exact ⟨h.iss, fun _ => by rw [hs]; exact Nat.le_refl _, fun hb _ => h.below hb, fun _ => by rw [hs, h.text]; omega,
    h.lp, h.rp⟩

theorem SndGrow.keepRoom {a b : Tcb} (h : SndGrow 0 a b) (hr : Room a) : Room b := by
  have := h.room hr
  unfold Room at hr ⊢
  omega

theorem SndGrow.trans {k : Nat} {a b c : Tcb} (h1 : SndGrow 0 a b) (h2 : SndGrow k b c) : SndGrow k a c := by
  have hr : Room a → Room b := h1.keepRoom
  exact ⟨h2.iss.trans h1.iss, fun h => Nat.le_trans (h1.mono h) (h2.mono (hr h)),
    fun hb h => h2.below (h1.below hb h) (hr h),
    fun h => Nat.le_trans (h2.room (hr h)) (Nat.add_le_add_right (h1.room h) k), h2.lp.trans h1.lp, h2.rp.trans h1.rp⟩

theorem SndGrow.keep {k : Nat} {a b c : Tcb} (h1 : SndGrow k a b) (h2 : SndKeep b c) : SndGrow k a c := by
  have hs : c.sent = b.sent := sent_congr h2.iss h2.nxt
  exact ⟨h2.iss.trans h1.iss, fun h => by rw [hs]; exact h1.mono h, fun hb h => h2.below (h1.below hb h),
    fun h => by rw [hs, h2.text]; exact h1.room h, h2.lp.trans h1.lp, h2.rp.trans h1.rp⟩

theorem cutSegment_snd (s : Tcb) (bytes : Nat) (hle : bytes ≤ s.outgoing.text.length) :
    SndGrow 0 s (cutSegment s bytes) := by
  have hlen : (s.outgoing.text.take bytes).length = bytes := by rw [List.length_take]; omega
  have hsent : Room s → (cutSegment s bytes).sent = s.sent + bytes := fun hr => by
    show off s.snd.iss (s.snd.nxt + BitVec.ofNat 32 (s.outgoing.text.take bytes).length) = _
    rw [hlen]
    exact off_add _ _ _ (by unfold Room sent at hr; omega)
  have hseg : (Transmit.new ⟨s.ackHdr.built, s.outgoing.text.take bytes⟩).segment.segLen = bytes := hlen
  have hdrop : (cutSegment s bytes).outgoing.text.length = s.outgoing.text.length - bytes := List.length_drop
  refine ⟨rfl, fun hr => by rw [hsent hr]; omega, fun hb hr => ?_, fun hr => by rw [hsent hr, hdrop]; omega, rfl, rfl⟩
  exact hb.append _ rfl (by rw [hsent hr]; omega) rfl
    ⟨fun h => (nomatch h), fun _ => by rw [hsent hr, hseg]; exact Nat.le_refl _⟩ ⟨rfl, rfl⟩ rfl rfl rfl

theorem finQueued_snd (s : Tcb) : SndGrow 1 s (finQueued s) := by
  rw [finQueued_eq]
  have hsent : Room s → ({ s with snd.nxt := s.snd.nxt + 1 } : Tcb).sent = s.sent + 1 := fun hroom =>
    off_add_one s.snd.iss s.snd.nxt (by unfold Room sent at hroom; omega)
  refine ⟨rfl, fun hroom => Nat.le.intro (hsent hroom).symm, fun hb hroom => ?_,
    fun hroom => Nat.le_of_eq ((congrArg (· + _) (hsent hroom)).trans (Nat.add_right_comm _ _ _)), rfl, rfl⟩
  exact hb.append _ rfl (Nat.le.intro (hsent hroom).symm) rfl
    ⟨fun h => (nomatch h), fun _ => Nat.le_of_eq (hsent hroom).symm⟩ ⟨rfl, rfl⟩ rfl rfl rfl

theorem finQueued_if_snd (c : Bool) (s : Tcb) : SndGrow 1 s (if c then finQueued s else s) := by
  cases c
  · exact (SndKeep.refl _).grow
  · exact finQueued_snd s

theorem Segs.snd {m : Nat} {p : Bool} {s s' : Tcb} (h : Segs m p s s') : SndGrow 1 s s' := by
  induction h with
  | done _ => exact (SndKeep.refl _).grow
  | fin _ _ _ => exact finQueued_snd _
  | cut b _ _ hl _ _ _ ih => exact (cutSegment_snd _ b hl).trans ih

theorem segments_snd (s s' : Tcb) (out : List Segment) (e : s.segments = .ok (s', out)) :
    SndGrow 1 s s' ∧ (SndBelow s → Room s → ∀ σ ∈ out,
      SegBelow s.snd.iss s'.sent σ ∧ σ.hdr.srcPort = s.localPort ∧ σ.hdr.dstPort = s.remotePort) := by
  obtain ⟨s2, tmo, h, hs'⟩ := segments_segs e
  -- the one-shot queue is handed out, the loop cuts the text, the FIN that waited for it is queued, …
  have k0 : SndKeep s (clearOneshot s) :=
    .of_sub rfl rfl (fun t ht => ⟨t, ht, rfl⟩) rfl (fun _ hx => nomatch hx) rfl rfl
  have k2 : SndGrow 1 s s2 := k0.grow.trans h.snd
  -- … and marking the queue as sent changes neither sequence numbers nor ports
  have k3 : SndKeep s2 s' := by
    rw [hs']
    exact .of_sub rfl rfl (fun t ht => by
      obtain ⟨t0, ht0, rfl⟩ := List.mem_map.1 ht
      exact ⟨t0, ht0, rfl⟩) rfl (fun _ hx => hx) rfl rfl
  have g : SndGrow 1 s s' := k2.keep k3
  refine ⟨g, fun hb hr σ hσ => ?_⟩
  -- what goes out was on the one-shot queue, or stays on the retransmission queue
  rcases segments_out e σ hσ with ⟨hd, hhd, rfl⟩ | ⟨tr, htr, rfl⟩
  · have hp := hb.plain hd hhd
    refine ⟨⟨fun hsyn => (by rw [hp.1] at hsyn; cases hsyn), fun hl => ?_⟩, hb.oports hd hhd⟩
    simp [Segment.segLen, hp.1, hp.2] at hl
  · have b' := g.below hb hr
    rw [← g.iss, ← g.lp, ← g.rp]
    exact ⟨b'.queue tr htr, b'.qports tr htr⟩

theorem close_snd (s s' : Tcb) (r : CloseResult) (e : s.close = .ok (s', r)) : SndGrow 1 s s' := by
  rcases close_cases e with rfl | ⟨st, rfl, -⟩
  · exact (SndKeep.refl _).grow
  · -- nothing here reads the connection state
    exact (SndKeep.of_eq (s := s) (s' := { s with state := st }) rfl rfl rfl rfl rfl rfl rfl).grow.trans
      (finQueued_if_snd _ _)

/-- a TCB that has numbered nothing but its SYN, which is all it has queued: `open` and LISTEN -/
theorem sndBelow_fresh (t : Tcb) (hd : Hdr) (h1 : t.snd.nxt = t.snd.iss + 1)
    (h3 : t.outgoing.retransmit = [Transmit.new ⟨hd, []⟩]) (h4 : t.outgoing.oneshot = [])
    (hs : hd.ctl.syn = true) (hf : hd.ctl.fin = false) (hseq : hd.seq = t.snd.iss)
    (hp1 : hd.srcPort = t.localPort) (hp2 : hd.dstPort = t.remotePort) : SndBelow t ∧ t.sent = 1 := by
  have hsent : t.sent = 1 := by
    unfold sent; rw [h1, off_succ]
  have none : ∀ x ∈ t.outgoing.oneshot, False := fun x hx => by rw [h4] at hx; cases hx
  refine ⟨⟨Nat.le_of_eq hsent.symm, fun x hx => ?_, fun x hx => (none x hx).elim, fun x hx => ?_,
    fun x hx => (none x hx).elim⟩, hsent⟩
  all_goals
    rw [h3] at hx
    cases List.mem_singleton.1 hx
  · -- the SYN: at ISS, one sequence number
    refine ⟨fun _ => hseq, fun _ => ?_⟩
    have hl : (Transmit.new ⟨hd, []⟩).segment.segLen = 1 := by simp [Transmit.new, Segment.segLen, hs, hf]
    have h0 : off t.snd.iss (Transmit.new ⟨hd, []⟩).segment.hdr.seq = 0 := hseq ▸ off_self _
    rw [hl, h0, hsent]
    exact Nat.le_refl 1
  · exact ⟨hp1, hp2⟩

theorem open_snd (lp rp : U16) (iss : Seq) (mtu : U16) (s : Tcb) (e : Tcb.open lp rp iss mtu = .ok s) :
    SndBelow s ∧ s.snd.iss = iss ∧ s.sent = 1 ∧ s.localPort = lp ∧ s.remotePort = rp ∧
      s.state = .SynSent ∧ s.incoming.segments = [] := by
  rw [open_eq] at e
  cases e
  obtain ⟨b, hs⟩ := sndBelow_fresh (openT lp rp iss mtu) _ rfl rfl rfl rfl rfl rfl rfl rfl
  exact ⟨b, rfl, hs, rfl, rfl, rfl, rfl⟩

end Tcb
end Elvis.Tcp
