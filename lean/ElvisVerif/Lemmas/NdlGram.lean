import ElvisVerif.Lemmas.NdlLex
/-!
# NDL: the grammar of the tree builder, stated on the line structure of a text

`LineAt d dt ps s l tail l'` — the text `s` begins with a declaration line: exactly `d` tabs, then
a bracket that the line lexer (started with line counter `l`) reads as type `dt` with arguments
`ps`, leaving `tail` and the counter `l'`.  Nothing else about the spelling of the line is fixed
(letter case of the tag, number of trailing newlines, separators between arguments …).

Every loop of the builder begins the same way (`lexAt`, `entry` of `Lemmas/NdlTotal.lean`): what
that head does is stated once, by what the text begins with (a shallower line, a deeper one, a
line the lexer refuses, a declaration line), and the lemmas per loop are instances.

On top of `LineAt` the block structure is declared inductively (`LeavesAt`, `NetsAt`, `SecsAt`,
`MachsAt`, `BlockAt`, `DocAt`) — no reference to the parser's loops — and every loop of the builder
is shown to compute exactly what the declared structure says (`*_of` lemmas).  These are the
"what precedes parses" halves of the whole-file rejection theorems and the engine of the
any-order round trip.
-/
namespace Elvis.Ndl
open Elvis.Gen.Ndl

def LineAt (d : Nat) (dt : DecType) (ps : Params) (s : Text) (l : Nat) (tail : Text) (l' : Nat) : Prop :=
  countTabs s = d ∧ generalParser (s.drop d) l = .ok ⟨dt, ps, tail, l'⟩

theorem generalParser_nil (l : Nat) : generalParser [] l = .error (.err .section l) := rfl

theorem LineAt.ne_nil {d dt ps s l tail l'} (h : LineAt d dt ps s l tail l') : s ≠ [] := by
  intro hs; subst hs
  have := h.2
  simp [generalParser_nil] at this

theorem LineAt.byteDrop {d dt ps s l tail l'} (h : LineAt d dt ps s l tail l') :
    byteDrop d s = some (s.drop d) := byteDrop_tabs s d (by rw [h.1]; exact Nat.le_refl _)

theorem lexAt_line {β : Type} {d dt ps s l tail l'} (h : LineAt d dt ps s l tail l') (k : LexOk → R β) :
    lexAt d s l k = k ⟨dt, ps, tail, l'⟩ := by
  unfold lexAt; simp only [h.byteDrop, h.2]

theorem lexAt_err {β : Type} {d s l e} (ht : d ≤ countTabs s) (he : generalParser (s.drop d) l = .error e)
    (k : LexOk → R β) : lexAt d s l k = .error e := by
  unfold lexAt; simp only [byteDrop_tabs s d ht, he]

theorem entry_stop {β : Type} {nt : Nat} {s : Text} (h : s = [] ∨ countTabs s < nt) (l : Nat) (stop : R β)
    (k : LexOk → R β) : entry nt s l stop k = stop := by
  unfold entry
  by_cases hs : s = []
  · rw [if_pos hs]
  · rw [if_neg hs]; exact if_pos (h.resolve_left hs)

theorem entry_deep {β : Type} {nt : Nat} {s : Text} (h : nt < countTabs s) (l : Nat) (stop : R β)
    (k : LexOk → R β) : entry nt s l stop k = .error (.err .tabs 0) := by
  unfold entry
  rw [if_neg (fun hs => by rw [hs] at h; exact Nat.not_lt_zero _ h)]
  show (if countTabs s < nt then _ else _) = _
  rw [if_neg (Nat.lt_asymm h), if_pos h]

theorem entry_at {β : Type} {nt : Nat} {s : Text} (hs : s ≠ []) (h : countTabs s = nt) (l : Nat) (stop : R β)
    (k : LexOk → R β) : entry nt s l stop k = lexAt nt s l k := by
  unfold entry
  rw [if_neg hs]
  show (if countTabs s < nt then _ else _) = _
  rw [if_neg (by omega), if_neg (by omega)]

theorem entry_line {β : Type} {d dt ps s l tail l'} (h : LineAt d dt ps s l tail l') (stop : R β)
    (k : LexOk → R β) : entry d s l stop k = k ⟨dt, ps, tail, l'⟩ := by
  rw [entry_at h.ne_nil h.1, lexAt_line h]

theorem entry_err {β : Type} {nt : Nat} {s : Text} {l e} (hs : s ≠ []) (h : countTabs s = nt)
    (he : generalParser (s.drop nt) l = .error e) (stop : R β) (k : LexOk → R β) :
    entry nt s l stop k = .error e := by
  rw [entry_at hs h, lexAt_err (Nat.le_of_eq h.symm) he]

theorem LineAt.length {d dt ps s l tail l'} (h : LineAt d dt ps s l tail l') : tail.length < s.length := by
  have := generalParser_rest_lt _ _ _ h.2
  simp only [List.length_drop] at this
  show tail.length < s.length
  omega

/-- `s` reads as the non-empty list `ls` of `exp` lines at depth `d`, up to `rest` (a shallower
    line or the end of the text) -/
inductive LeavesAt (exp : DecType) (d : Nat) : List Leaf → Text → Nat → Text → Nat → Prop
  | last {ps s l tail l'} : LineAt d exp ps s l tail l' → countTabs tail < d →
      LeavesAt exp d [⟨exp, ps⟩] s l tail l'
  | cons {ps s l tail l' ls rest l''} : LineAt d exp ps s l tail l' →
      LeavesAt exp d ls tail l' rest l'' → LeavesAt exp d (⟨exp, ps⟩ :: ls) s l rest l''

theorem LeavesAt.countTabs {exp d ls s l rest l'} (h : LeavesAt exp d ls s l rest l') : countTabs s = d := by
  cases h with
  | last h _ => exact h.1
  | cons h _ => exact h.1

theorem LeavesAt.length {exp d ls s l rest l'} (h : LeavesAt exp d ls s l rest l') : rest.length < s.length := by
  induction h with
  | last h _ => exact h.length
  | cons h _ ih => have := h.length; omega

theorem LeavesAt.rest {exp d ls s l rest l'} (h : LeavesAt exp d ls s l rest l') : Elvis.Ndl.countTabs rest < d := by
  induction h with
  | last _ h => exact h
  | cons _ _ ih => exact ih

theorem leafLoop_of {exp : DecType} {d : Nat} {ls s l rest l'} (h : LeavesAt exp d ls s l rest l') :
    ∀ fuel, s.length < fuel → leafLoop exp d fuel s l = .ok (ls, rest, l') := by
  induction h with
  | last h ht =>
    intro fuel hf
    obtain ⟨f, rfl⟩ := exists_fuel hf
    rw [leafLoop_step, if_neg h.ne_nil, lexAt_line h]
    simp [ht]
  | @cons ps s l tail l' ls rest l'' h hr ih =>
    intro fuel hf
    obtain ⟨f, rfl⟩ := exists_fuel hf
    rw [leafLoop_step, if_neg h.ne_nil, lexAt_line h]
    have hl := h.length
    have hc := hr.countTabs
    simp [hc, ih f (by omega)]

theorem leafList_of {exp : DecType} {d : Nat} {ls s l rest l'} (h : LeavesAt exp d ls s l rest l')
    (first : ErrKind) : leafList exp first d s l = .ok (ls, rest, l') := by
  unfold leafList
  simp only [h.countTabs, ne_eq, not_true_eq_false, if_false]
  exact leafLoop_of h _ (Nat.lt_succ_self _)

def NetBodyAt (ps : Params) (ips : List Leaf) (s : Text) (l : Nat) (rest : Text) (l' : Nat) : Prop :=
  ∃ tail l1, LineAt 1 .network ps s l tail l1 ∧ LeavesAt .ip 2 ips tail l1 rest l'

theorem NetBodyAt.length {ps ips s l rest l'} (h : NetBodyAt ps ips s l rest l') : rest.length < s.length := by
  obtain ⟨_, _, h1, h2⟩ := h
  have := h1.length; have := h2.length; omega

def NetworkAt (id : Text) (n : Network) (s : Text) (l : Nat) (rest : Text) (l' : Nat) : Prop :=
  n.dectype = .network ∧ n.options.get? ['i', 'd'] = some id ∧ NetBodyAt n.options n.ip s l rest l'

theorem networkParser_of {ps ips s l rest l'} (h : NetBodyAt ps ips s l rest l') :
    ∃ tail l1, LineAt 1 .network ps s l tail l1 ∧
      networkParser ps 2 tail l1 = .ok (⟨.network, ps, ips⟩, rest, l') := by
  obtain ⟨tail, l1, h1, h2⟩ := h
  refine ⟨tail, l1, h1, ?_⟩
  unfold networkParser
  rw [leafList_of h2]

theorem networksLoop_network {id n s l rest l'} (h : NetworkAt id n s l rest l') (fuel : Nat)
    (seen : List (Text × Network)) :
    networksLoop 1 (fuel + 1) s l seen =
      if seen.any (fun e => e.1 == id) then .error (.err .dupId 0)
      else networksLoop 1 fuel rest l' (seen ++ [(id, n)]) := by
  obtain ⟨hdt, hid, hb⟩ := h
  obtain ⟨tail, l2, h1, h2⟩ := networkParser_of hb
  have he : (⟨DecType.network, n.options, n.ip⟩ : Network) = n := by
    cases n; simp at hdt; subst hdt; rfl
  rw [networksLoop_step, entry_line h1, h2]
  simp only [if_true, he, hid]

/-- the body of a `[Networks]` block: its entries, up to a line at depth 0 or the end -/
inductive NetsAt : List (Text × Network) → Text → Nat → Text → Nat → Prop
  | nil {s l} : countTabs s < 1 → NetsAt [] s l s l
  | cons {id n s l mid l1 ns rest l'} : NetworkAt id n s l mid l1 → NetsAt ns mid l1 rest l' →
      NetsAt ((id, n) :: ns) s l rest l'

theorem NetsAt.length {ns s l rest l'} (h : NetsAt ns s l rest l') : rest.length ≤ s.length := by
  induction h with
  | nil _ => exact Nat.le_refl _
  | cons h _ ih => have := h.2.2.length; omega

theorem NetsAt.rest {ns s l rest l'} (h : NetsAt ns s l rest l') : countTabs rest < 1 := by
  induction h with
  | nil h => exact h
  | cons _ _ ih => exact ih

theorem networksLoop_of {ns s l rest l'} (h : NetsAt ns s l rest l') :
    ∀ fuel seen, s.length < fuel → networksLoop 1 fuel s l seen =
      match mergeNets seen ns with
      | .error e => .error e
      | .ok r => .ok (r, rest, l') := by
  induction h with
  | nil h =>
    intro fuel seen hf
    obtain ⟨f, rfl⟩ := exists_fuel hf
    rw [networksLoop_step, entry_stop (.inr h)]; rfl
  | @cons id n s l mid l1 ns rest l' h _ ih =>
    intro fuel seen hf
    obtain ⟨f, rfl⟩ := exists_fuel hf
    have hlen := h.2.2.length
    rw [networksLoop_network h, mergeNets]
    split
    · rfl
    · exact ih f _ (by omega)

theorem networksParser_of {ns s l rest l'} (h : NetsAt ns s l rest l') :
    networksParser 1 s l = if Fresh [] ns then .ok (ns, rest, l') else .error (.err .dupId 0) := by
  rw [networksParser, networksLoop_of h _ _ (Nat.lt_succ_self _), mergeNets_eq]
  simp only [List.map_nil, List.nil_append]
  by_cases hf : Fresh [] ns
  · simp only [if_pos hf]
  · simp only [if_neg hf]

/-- the body of a `[Machine …]`: section headers at depth 2 (their own arguments are ignored by
    the code) each with its entries at depth 3, up to a line at depth < 2 or the end -/
inductive SecsAt : List (DecType × List Leaf) → Text → Nat → Text → Nat → Prop
  | nil {s l} : countTabs s < 2 → SecsAt [] s l s l
  | cons {k ps ls s l tail l1 mid l2 secs rest l'} : IsSec k → LineAt 2 k ps s l tail l1 →
      LeavesAt (secLeaf k) 3 ls tail l1 mid l2 → SecsAt secs mid l2 rest l' →
      SecsAt ((k, ls) :: secs) s l rest l'

theorem SecsAt.length {secs s l rest l'} (h : SecsAt secs s l rest l') : rest.length ≤ s.length := by
  induction h with
  | nil _ => exact Nat.le_refl _
  | cons _ h1 h2 _ ih => have := h1.length; have := h2.length; omega

theorem SecsAt.rest {secs s l rest l'} (h : SecsAt secs s l rest l') : countTabs rest < 2 := by
  induction h with
  | nil h => exact h
  | cons _ _ _ _ ih => exact ih

/-- what `machine_parser`'s loop does with a list of sections; `none` = "Unexpected type"
    (a section twice) -/
def runSecs : MAcc → List (DecType × List Leaf) → Option MAcc
  | a, [] => some a
  | a, (k, ls) :: r =>
    if a.req.contains k then runSecs { a.add k ls with req := reqDrop a.req k } r else none

theorem machineLoop_of {secs s l rest l'} (h : SecsAt secs s l rest l') :
    ∀ fuel a, s.length < fuel → machineLoop 2 fuel s l a =
      match runSecs a secs with
      | none => .error (.err .unexpected 0)
      | some a' => .ok (a', rest, l') := by
  induction h with
  | nil h =>
    intro fuel a hf
    obtain ⟨f, rfl⟩ := exists_fuel hf
    rw [machineLoop_step, entry_stop (.inr h)]; rfl
  | @cons k ps ls s l tail l1 mid l2 secs rest l' hk h1 h2 _ ih =>
    intro fuel a hf
    obtain ⟨f, rfl⟩ := exists_fuel hf
    have := h1.length
    have := h2.length
    rw [machineLoop_step, entry_line h1, leafList_of h2]
    simp only [hk, and_true, runSecs]
    split
    · exact ih f _ (by omega)
    · rfl

theorem machineParser_of {secs s l rest l'} (h : SecsAt secs s l rest l') (args : Params) :
    machineParser args 2 s l =
      match runSecs ⟨requiredSections, [], [], []⟩ secs with
      | none => .error (.err .unexpected 0)
      | some a => if a.req ≠ [] then .error (.err .required 0)
          else .ok (⟨.machine, args, a.nets, a.prots, a.apps⟩, rest, l') := by
  unfold machineParser
  rw [machineLoop_of h _ _ (Nat.lt_succ_self _)]
  cases runSecs ⟨requiredSections, [], [], []⟩ secs <;> rfl

/-- a `[Machine …]` line and a body holding each of the three sections exactly once, in any order -/
def MachineAt (m : Machine) (s : Text) (l : Nat) (rest : Text) (l' : Nat) : Prop :=
  m.dectype = .machine ∧ ∃ secs tail l1, LineAt 1 .machine m.options s l tail l1 ∧
    SecsAt secs tail l1 rest l' ∧
    runSecs ⟨requiredSections, [], [], []⟩ secs = some ⟨[], m.networks, m.protocols, m.applications⟩

theorem MachineAt.length {m s l rest l'} (h : MachineAt m s l rest l') : rest.length < s.length := by
  obtain ⟨_, _, _, _, h1, h2, _⟩ := h
  have := h1.length; have := h2.length; omega

inductive MachsAt : List Machine → Text → Nat → Text → Nat → Prop
  | nil {s l} : countTabs s < 1 → MachsAt [] s l s l
  | cons {m s l mid l1 ms rest l'} : MachineAt m s l mid l1 → MachsAt ms mid l1 rest l' →
      MachsAt (m :: ms) s l rest l'

theorem MachsAt.length {ms s l rest l'} (h : MachsAt ms s l rest l') : rest.length ≤ s.length := by
  induction h with
  | nil _ => exact Nat.le_refl _
  | cons h _ ih => have := h.length; omega

theorem machinesLoop_of {ms s l rest l'} (h : MachsAt ms s l rest l') :
    ∀ fuel, s.length < fuel → machinesLoop 1 fuel s l = .ok (ms, rest, l') := by
  induction h with
  | nil h =>
    intro fuel hf
    obtain ⟨f, rfl⟩ := exists_fuel hf
    rw [machinesLoop_step, entry_stop (.inr h)]
  | @cons m s l mid l1 ms rest l' h _ ih =>
    intro fuel hf
    obtain ⟨f, rfl⟩ := exists_fuel hf
    have hlen := h.length
    obtain ⟨hdt, secs, tail, l2, h1, h2, h3⟩ := h
    have he : (⟨DecType.machine, m.options, m.networks, m.protocols, m.applications⟩ : Machine) = m := by
      cases m; simp at hdt; subst hdt; rfl
    rw [machinesLoop_step, entry_line h1, machineParser_of h2, h3]
    simp [he, ih f (by omega)]

inductive Block
  | template
  | nets (ns : List (Text × Network))
  | machs (ms : List Machine)

/-- `[Template …]` (ignored), `[Networks …]` with its entries, `[Machines …]` with its entries;
    the arguments of the three headers are ignored by the code -/
def BlockAt : Block → Text → Nat → Text → Nat → Prop
  | .template, s, l, rest, l' => ∃ ps, LineAt 0 .template ps s l rest l'
  | .nets ns, s, l, rest, l' => ∃ ps tail l1, LineAt 0 .networks ps s l tail l1 ∧ NetsAt ns tail l1 rest l'
  | .machs ms, s, l, rest, l' => ∃ ps tail l1, LineAt 0 .machines ps s l tail l1 ∧ MachsAt ms tail l1 rest l'

theorem BlockAt.length {b s l rest l'} (h : BlockAt b s l rest l') : rest.length < s.length := by
  cases b with
  | template => obtain ⟨_, h⟩ := h; exact h.length
  | nets ns => obtain ⟨_, _, _, h1, h2⟩ := h; have := h1.length; have := h2.length; omega
  | machs ms => obtain ⟨_, _, _, h1, h2⟩ := h; have := h1.length; have := h2.length; omega

inductive DocAt : List Block → Text → Nat → Text → Nat → Prop
  | nil {s l} : DocAt [] s l s l
  | cons {b s l mid l1 bs rest l'} : BlockAt b s l mid l1 → DocAt bs mid l1 rest l' →
      DocAt (b :: bs) s l rest l'

/-- what `core_parser`'s loop does with one block -/
def stepBlock (nets : List (Text × Network)) (ms : List Machine) : Block → R (List (Text × Network) × List Machine)
  | .template => .ok (nets, ms)
  | .nets ns => if Fresh (nets.map (·.1)) ns then .ok (nets ++ ns, ms) else .error (.err .dupId 0)
  | .machs m => .ok (nets, ms ++ m)

def runDoc : List (Text × Network) → List Machine → List Block → R (List (Text × Network) × List Machine)
  | nets, ms, [] => .ok (nets, ms)
  | nets, ms, b :: bs =>
    match stepBlock nets ms b with
    | .error e => .error e
    | .ok (nets', ms') => runDoc nets' ms' bs

theorem coreLoop_block {b s l rest l'} (h : BlockAt b s l rest l') (fuel : Nat)
    (nets : List (Text × Network)) (ms : List Machine) :
    coreLoop (fuel + 1) s l nets ms =
      match stepBlock nets ms b with
      | .error e => .error e
      | .ok (nets', ms') => coreLoop fuel rest l' nets' ms' := by
  cases b with
  | template =>
    obtain ⟨ps, h⟩ := h
    rw [coreLoop_step, if_neg h.ne_nil, lexAt_line h]; rfl
  | nets ns =>
    obtain ⟨ps, tail, l1, h1, h2⟩ := h
    rw [coreLoop_step, if_neg h1.ne_nil, lexAt_line h1]
    simp only [networksParser_of h2, stepBlock]
    -- the block's own check (`networks_parser`) is part of the merge's: ids fresh after `nets` are fresh
    by_cases hf : Fresh (nets.map (·.1)) ns
    · simp only [mergeNets_eq, if_pos hf, if_pos hf.nil]
    · by_cases h0 : Fresh [] ns
      · simp only [mergeNets_eq, if_pos h0, if_neg hf]
      · simp only [if_neg h0, if_neg hf]
  | machs m =>
    obtain ⟨ps, tail, l1, h1, h2⟩ := h
    rw [coreLoop_step, if_neg h1.ne_nil, lexAt_line h1]
    simp only [machinesParser, machinesLoop_of h2 _ (Nat.lt_succ_self _), stepBlock]

theorem coreLoop_of {bs s l rest l'} (h : DocAt bs s l rest l') :
    ∀ fuel nets ms, s.length < fuel → ∃ fuel', rest.length < fuel' ∧
      coreLoop fuel s l nets ms =
        match runDoc nets ms bs with
        | .error e => .error e
        | .ok (nets', ms') => coreLoop fuel' rest l' nets' ms' := by
  induction h with
  | nil => intro fuel nets ms hf; exact ⟨fuel, hf, rfl⟩
  | @cons b s l mid l1 bs rest l' h _ ih =>
    intro fuel nets ms hf
    obtain ⟨f, rfl⟩ := exists_fuel hf
    have hlen := h.length
    rw [coreLoop_block h]
    simp only [runDoc]
    cases hs : stepBlock nets ms b with
    | error e => exact ⟨rest.length + 1, Nat.lt_succ_self _, rfl⟩
    | ok p =>
      obtain ⟨nets', ms'⟩ := p
      exact ih f nets' ms' (by omega)

theorem build_of {bs s l'} (h : DocAt bs s 1 [] l') :
    build s = match runDoc [] [] bs with
      | .error e => .error e
      | .ok (nets, ms) => .ok ⟨nets, ms⟩ := by
  unfold build
  obtain ⟨fuel', hf, he⟩ := coreLoop_of h (s.length + 1) [] [] (Nat.lt_succ_self _)
  rw [he]
  cases runDoc [] [] bs with
  | error e => rfl
  | ok p =>
    obtain ⟨nets, ms⟩ := p
    obtain ⟨f, rfl⟩ := exists_fuel hf
    simp [coreLoop]

end Elvis.Ndl
