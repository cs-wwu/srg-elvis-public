import ElvisVerif.Lemmas.ArpRun
/-! Agreement in time (helper lemmas for C06): once a resolution of `(machine, address)` has
returned `Ok`, the table keeps an `Ok` entry for the address, so every other resolver waiting for
it is runnable, the clock is frozen until it has run, and it returns in the same instant. -/
namespace Elvis.Arp
open Elvis.Gen.Arp

def HasOk (ms : List Machine) (k : Nat) (x : Ip) : Prop :=
  ∃ (m : Machine) (mac : Mac), ms[k]? = some m ∧ alookup x m.table = some (.ok mac)

theorem HasOk.hit {s : Net} {k : Nat} {x : Ip} (h : HasOk s.machines k x) : ∃ mac, s.hit k x = some (.ok mac) := by
  obtain ⟨m, mac, hm, hx⟩ := h
  exact ⟨mac, by simp [Net.hit, hm, hx, tableHit]⟩

theorem HasOk.of_hit {s : Net} {k : Nat} {x : Ip} {mac : Mac} (h : s.hit k x = some (.ok mac)) :
    HasOk s.machines k x := by
  unfold Net.hit at h
  split at h
  · rename_i m hm
    exact ⟨m, mac, hm, tableHit_ok h⟩
  · cases h

theorem HasOk.set {ms : List Machine} {k k' : Nat} {x : Ip} {m m' : Machine} (hm : ms[k']? = some m)
    (ht : k' = k → ∀ mac, alookup x m.table = some (.ok mac) → ∃ mac', alookup x m'.table = some (.ok mac'))
    (h : HasOk ms k x) : HasOk (ms.set k' m') k x := by
  obtain ⟨o, mac, ho, hx⟩ := h
  by_cases hk : k' = k
  · subst hk
    rw [hm] at ho; cases ho
    obtain ⟨mac', hx'⟩ := ht rfl mac hx
    exact ⟨m', mac', List.getElem?_set_self_of_some hm, hx'⟩
  · exact ⟨o, mac, by rw [List.getElem?_set_ne hk]; exact ho, hx⟩

theorem HasOk.set_same {ms : List Machine} {k k' : Nat} {x : Ip} {m m' : Machine}
    (hm : ms[k']? = some m) (ht : m'.table = m.table) (h : HasOk ms k x) : HasOk (ms.set k' m') k x :=
  h.set hm fun _ mac hx => ⟨mac, ht ▸ hx⟩

theorem HasOk.failMac {s : Net} {k k' : Nat} {x x' : Ip} (h : HasOk s.machines k x) (hmiss : s.hit k' x' = none) :
    HasOk (s.failMac k' x').machines k x := by
  unfold Net.failMac
  split
  · rename_i m hm
    refine h.set hm fun hk mac hx => ?_
    -- the entry that is overwritten was no `Ok` entry: the lookup had missed
    have hne : x ≠ x' := by
      rintro rfl
      subst hk
      obtain ⟨mac', hh⟩ := h.hit
      rw [hh] at hmiss; cases hmiss
    exact ⟨mac, by rw [alookup_ainsert_ne hne]; exact hx⟩
  · exact h

theorem HasOk.roundOrFail {s : Net} {r : Resolver} {k : Nat} {x : Ip} (h : HasOk s.machines k x)
    (hmiss : s.hit r.mach r.dest = none) : HasOk (s.roundOrFail r).1.machines k x := by
  unfold Net.roundOrFail
  split
  · split <;> exact h
  · exact h.failMac hmiss

theorem Net.roundOrFail_not_ok (s : Net) (r : Resolver) (hr : r.result = none) (mac : Mac) (t : Nat) :
    (s.roundOrFail r).2.result ≠ some (.ok mac, t) := by
  unfold Net.roundOrFail
  split
  · split
    · rw [hr]; exact nofun
    · exact nofun
  · exact nofun

def SameKey (a b : Resolver) : Prop := a.mach = b.mach ∧ a.dest = b.dest

structure AInv (s : Net) : Prop where
  stable : ∀ r ∈ s.resolvers, ∀ (mac : Mac) (t : Nat), r.result = some (.ok mac, t) → HasOk s.machines r.mach r.dest
  /-- while somebody still waits for an address already answered, the clock stands still -/
  frozen : ∀ ri ∈ s.resolvers, ∀ rj ∈ s.resolvers, SameKey ri rj → ∀ (mac : Mac) (t : Nat),
    ri.result = some (.ok mac, t) → rj.result = none → s.now = t
  /-- two `Ok` answers for one (machine, address): same instant, or one call began after the other ended -/
  same : ∀ ri ∈ s.resolvers, ∀ rj ∈ s.resolvers, SameKey ri rj → ∀ (m : Mac) (t : Nat) (m' : Mac) (t' : Nat),
    ri.result = some (.ok m, t) → rj.result = some (.ok m', t') → t = t' ∨ t < rj.started ∨ t' < ri.started

theorem AInv.frame {s s' : Net} (h : AInv s) (hr : s'.resolvers = s.resolvers) (hnow : s'.now = s.now)
    (hok : ∀ k x, HasOk s.machines k x → HasOk s'.machines k x) : AInv s' := by
  refine ⟨fun r hmem mac t e => ?_, fun ri hi rj hj hk mac t e1 e2 => ?_, fun ri hi rj hj hk m t m' t' e1 e2 => ?_⟩
  · rw [hr] at hmem; exact hok _ _ (h.stable r hmem mac t e)
  · rw [hr] at hi hj; rw [hnow]; exact h.frozen ri hi rj hj hk mac t e1 e2
  · rw [hr] at hi hj; exact h.same ri hi rj hj hk m t m' t' e1 e2

theorem AInv.update {s s' : Net} {r' : Resolver} (h : AInv s)
    (hmem : ∀ x ∈ s'.resolvers, x ∈ s.resolvers ∨ x = r')
    (hnow : s'.now = s.now)
    (hok : ∀ k x, HasOk s.machines k x → HasOk s'.machines k x)
    (hnew_ok : ∀ (mac : Mac) (t : Nat), r'.result = some (.ok mac, t) → HasOk s'.machines r'.mach r'.dest ∧ t = s.now)
    (hnew_pend : r'.result = none → ∀ ri ∈ s.resolvers, SameKey ri r' → ∀ (mac : Mac) (t : Nat),
      ri.result = some (.ok mac, t) → s.now = t)
    (hnew_same : ∀ (mac : Mac) (t : Nat), r'.result = some (.ok mac, t) → ∀ rj ∈ s.resolvers, SameKey rj r' →
      ∀ (m' : Mac) (t' : Nat), rj.result = some (.ok m', t') → t' = s.now ∨ t' < r'.started) :
    AInv s' := by
  refine ⟨fun r hm mac t e => ?_, fun ri hi rj hj hk mac t e1 e2 => ?_, fun ri hi rj hj hk m t m' t' e1 e2 => ?_⟩
  · rcases hmem r hm with h1 | h1
    · exact hok _ _ (h.stable r h1 mac t e)
    · subst h1; exact (hnew_ok mac t e).1
  · rw [hnow]
    rcases hmem ri hi with h1 | h1 <;> rcases hmem rj hj with h2 | h2
    · exact h.frozen ri h1 rj h2 hk mac t e1 e2
    · subst h2; exact hnew_pend e2 ri h1 hk mac t e1
    · subst h1; exact ((hnew_ok mac t e1).2).symm
    · subst h1; subst h2; rw [e1] at e2; cases e2
  · rcases hmem ri hi with h1 | h1 <;> rcases hmem rj hj with h2 | h2
    · exact h.same ri h1 rj h2 hk m t m' t' e1 e2
    · subst h2
      have ht' := (hnew_ok m' t' e2).2
      rcases hnew_same m' t' e2 ri h1 hk m t e1 with h3 | h3
      · exact Or.inl (by omega)
      · exact Or.inr (Or.inl h3)
    · subst h1
      have ht := (hnew_ok m t e1).2
      rcases hnew_same m t e1 rj h2 ⟨hk.1.symm, hk.2.symm⟩ m' t' e2 with h3 | h3
      · exact Or.inl (by omega)
      · exact Or.inr (Or.inr h3)
    · subst h1; subst h2; rw [e1] at e2; cases e2; exact Or.inl rfl

theorem AInv.listen {s : Net} (h : AInv s) (k : Nat) (ip : Ip) : AInv (s.listen k ip) := by
  unfold Net.listen; split
  · rename_i m hm
    exact h.frame rfl rfl (fun _ _ ho => HasOk.set_same hm (m.listen_table ip) ho)
  · exact h

theorem AInv.setSubnet {s : Net} (h : AInv s) (k : Nat) (ip : Ip) (bits : Nat) (gw : Ip) :
    AInv (s.setSubnet k ip bits gw) := by
  unfold Net.setSubnet; split
  · rename_i m hm
    exact h.frame rfl rfl (fun _ _ ho => HasOk.set_same hm rfl ho)
  · exact h

theorem AInv.lose {s : Net} (h : AInv s) (fi : Nat) : AInv (s.lose fi) := by
  unfold Net.lose; split
  · exact h.frame rfl rfl (fun _ _ ho => ho)
  · exact h

theorem AInv.deliver {s : Net} (h : AInv s) (fi k slot : Nat) : AInv (s.deliver fi k slot) := by
  unfold Net.deliver
  split
  · rename_i f m hf hm
    split
    · split
      · refine h.frame rfl rfl (fun _ _ ho => ?_)
        refine ho.set hm fun _ mac hx => ?_
        rw [Machine.demux_fst, alookup_ainsert]
        split
        · exact ⟨_, rfl⟩
        · exact ⟨mac, hx⟩
      · exact h
    · exact h
  · exact h

theorem AInv.tick {s : Net} (h : AInv s) (dt : Nat) : AInv (s.tick dt) := by
  unfold Net.tick
  split
  · rename_i hc
    refine ⟨h.stable, fun ri hi rj hj hk mac t e1 e2 => ?_, h.same⟩
    -- a waiter for an answered address is runnable: the tick would have been refused
    obtain ⟨mac', hh⟩ := (h.stable ri hi mac t e1).hit
    rw [hk.1, hk.2] at hh
    rw [canTick_waiting (s := s) hj e2 hh dt] at hc
    cases hc
  · exact h

theorem AInv.wake {s : Net} (h : AInv s) (i : Nat) : AInv (s.wake i) := by
  unfold Net.wake
  split
  · rename_i r hr
    split
    · rename_i hres
      split
      · rename_i st hst
        have hrm := List.mem_of_getElem? hr
        refine h.update (r' := { r with result := some (st, s.now) })
          (fun x hx => List.mem_or_eq_of_mem_set hx) rfl (fun _ _ ho => ho) ?_ (fun e => by simp at e) ?_
        · intro mac t e
          simp only [Option.some.injEq, Prod.mk.injEq] at e
          obtain ⟨e1, e2⟩ := e
          subst e1
          exact ⟨HasOk.of_hit hst, e2.symm⟩
        · intro mac t _ rj hj hk m' t' e'
          exact Or.inl (h.frozen rj hj r hrm hk m' t' e' hres).symm
      · exact h
    · exact h
  · exact h

theorem AInv.timeout {s : Net} (h : AInv s) (i : Nat) : AInv (s.timeout i) := by
  unfold Net.timeout
  split
  · rename_i r hr
    split
    · rename_i hc
      have hrm := List.mem_of_getElem? hr
      obtain ⟨f1, _, _, f4, _, _, f7, f8, _, _⟩ := s.roundOrFail_fields r
      refine h.update (s' := { (s.roundOrFail r).1 with resolvers := (s.roundOrFail r).1.resolvers.set i (s.roundOrFail r).2 })
        (r' := (s.roundOrFail r).2) (fun x hx => ?_) f1 (fun _ _ ho => ho.roundOrFail hc.2.2) ?_ ?_ ?_
      · exact List.mem_or_eq_of_mem_set (f4 ▸ hx)
      · exact fun mac t e => absurd e (s.roundOrFail_not_ok r hc.1 mac t)
      · intro _ ri hi hk mac t e
        exact h.frozen ri hi r hrm ⟨hk.1.trans f7, hk.2.trans f8⟩ mac t e hc.1
      · exact fun mac t e => absurd e (s.roundOrFail_not_ok r hc.1 mac t)
    · exact h
  · exact h

theorem AInv.resolve {s : Net} (h : AInv s) (ht : TInv s) (k : Nat) (loc remote : Ip) (slot : Nat) :
    AInv (s.resolve k loc remote slot) := by
  unfold Net.resolve
  split
  · exact h
  · rename_i m0 hm0
    dsimp only
    have hok1 : ∀ k' x, HasOk s.machines k' x → HasOk (s.machines.set k (m0.listen loc)) k' x :=
      fun _ _ ho => HasOk.set_same hm0 (m0.listen_table loc) ho
    have hk : (s.machines.set k (m0.listen loc))[k]? = some (m0.listen loc) :=
      List.getElem?_set_self_of_some hm0
    split
    · rename_i st hst
      refine h.update (r' := ⟨k, 0, loc, destOf (m0.listen loc) loc remote, s.now, 0, s.now, some (st, s.now)⟩)
        (fun x hx => (List.mem_append.1 hx).imp_right List.mem_singleton.1) rfl hok1 ?_ (fun e => by simp at e) ?_
      · intro mac t e
        simp only [Option.some.injEq, Prod.mk.injEq] at e
        obtain ⟨e1, e2⟩ := e
        subst e1
        exact ⟨⟨m0.listen loc, mac, hk, tableHit_ok hst⟩, e2.symm⟩
      · intro mac t _ rj hj _ m' t' e'
        have := ht rj hj
        unfold TimeOk at this
        simp only [e'] at this
        have h2 : t' ≤ s.now := this.2.2.1
        show t' = s.now ∨ t' < s.now
        omega
    · rename_i hmiss
      split
      · exact h.frame rfl rfl hok1
      · rename_i mac hmac
        let s1 : Net := { s with machines := s.machines.set k (m0.listen loc) }
        let r0 : Resolver := ⟨k, mac, loc, destOf (m0.listen loc) loc remote, s.now, 0, s.now, none⟩
        have hmiss1 : s1.hit r0.mach r0.dest = none := by
          show s1.hit k (destOf (m0.listen loc) loc remote) = none
          unfold Net.hit
          simp only [s1, hk]
          exact hmiss
        obtain ⟨f1, _, _, f4, _, _, f7, f8, _, _⟩ := s1.roundOrFail_fields r0
        refine h.update (s' := { (s1.roundOrFail r0).1 with resolvers := (s1.roundOrFail r0).1.resolvers ++ [(s1.roundOrFail r0).2] })
          (r' := (s1.roundOrFail r0).2) (fun x hx => ?_) f1
          (fun _ _ ho => (HasOk.roundOrFail (s := s1) (hok1 _ _ ho) hmiss1)) ?_ ?_ ?_
        · exact (List.mem_append.1 hx).imp (fun h1 => f4 ▸ h1) List.mem_singleton.1
        · exact fun mac' t e => absurd e (s1.roundOrFail_not_ok r0 rfl mac' t)
        · -- a fresh waiter cannot coexist with an earlier `Ok` answer: it would have hit the table
          intro _ ri hi hkey mac' t e
          exfalso
          have ho := hok1 _ _ (h.stable ri hi mac' t e)
          rw [hkey.1, hkey.2, f7, f8] at ho
          obtain ⟨mac'', hh⟩ := HasOk.hit (s := s1) ho
          rw [hmiss1] at hh; cases hh
        · exact fun mac' t e => absurd e (s1.roundOrFail_not_ok r0 rfl mac' t)

theorem AInv.step {s : Net} (h : AInv s) (ht : TInv s) (l : Label) : AInv (step s l) :=
  step_keeps h l h.listen h.setSubnet (h.resolve ht) h.deliver h.lose h.wake h.timeout h.tick

theorem AInv.init (neg : Bool) (slots : List Nat) (mtu : Nat) : AInv (initWith neg slots mtu) :=
  ⟨fun r hr => by simp [initWith] at hr, fun r hr => by simp [initWith] at hr, fun r hr => by simp [initWith] at hr⟩

end Elvis.Arp
