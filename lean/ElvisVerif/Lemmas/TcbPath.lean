import ElvisVerif.Lemmas.TcbEdges
/-!
# `process_segment`, `segment_arrives` and the API calls move along paths of RFC 9293 edges

`process_segment` makes at most two moves (`phase`, `finMoves`: where a move of blocks 1 to 5 leads no later block
moves on from, and block 6 moves once); the loop, `segment_arrives` and the calls follow paths of such edges.
-/
namespace Elvis.Tcp
open Elvis.Rfc9293
namespace Tcb

/-- the one block among 1 … 5 that can move the connection on from a state (0: none): block 4 leaves SYN-SENT,
    block 2 leaves SYN-RECEIVED, FIN-WAIT-1 and CLOSING -/
def phase : State → Nat
  | .SynSent => 4
  | .SynReceived | .FinWait1 | .Closing => 2
  | _ => 0

/-- the states block 6 moves on from -/
def finMoves : State → Bool
  | .SynReceived | .Established | .FinWait1 | .FinWait2 => true
  | _ => false

/-- a change keeps the state; or it is the move of block `k ≤ 5` out of a state of that phase into one of an
    earlier phase; or block 6 moves on from one of its states into one that is not -/
theorem Eff.move {g : Segment} {k : Nat} {a b : Tcb} (h : Eff g k a b) :
    b.state = a.state ∨ (k ≤ 5 ∧ phase a.state = k ∧ phase b.state < k) ∨
      (k = 6 ∧ finMoves a.state = true ∧ finMoves b.state = false) := by
  cases h with
  | reply => exact .inl (state_enqueueBuilt _ _)
  | ack | window | text | fin | rto => exact .inl rfl
  | established _ hst | finWait2 _ hst | timeWaitAcked _ hst =>
    exact .inr (.inl ⟨by decide, by rw [hst]; rfl, (by decide : 0 < 2)⟩)
  | syn _ _ hst =>
    refine .inr (.inl ⟨by decide, by rw [hst]; rfl, ?_⟩)
    rw [(synMoved_frame _ _ _).1]
    split <;> decide
  | closing _ hst => exact .inr (.inr ⟨rfl, by rw [hst]; rfl, rfl⟩)
  | closeWait _ hs => exact .inr (.inr ⟨rfl, by rcases hs with h | h <;> rw [h] <;> rfl, rfl⟩)
  | timeWaitFin _ hs =>
    rcases hs with ⟨h, -⟩ | h | h
    · exact .inr (.inr ⟨rfl, by rw [h]; rfl, rfl⟩)
    · exact .inr (.inr ⟨rfl, by rw [h]; rfl, rfl⟩)
    · exact .inl h.symm

theorem Upto.move {g : Segment} {k : Nat} {s m : Tcb} (h : Upto g k s m) (hk : k ≤ 5) :
    m.state = s.state ∨ (Step (evOf g.hdr.ctl) s.state m.state ∧ phase m.state < k) := by
  induction k generalizing m with
  | zero => cases h; exact .inl rfl
  | succ k ih =>
    obtain ⟨m', h1, h2⟩ := h
    have i := ih h1 (by omega)
    clear ih h1
    induction h2 with
    | refl => exact i.imp_right fun i => ⟨i.1, by omega⟩
    | tail _ e ih =>
      rcases e.move with h | ⟨-, h3, h4⟩ | ⟨h3, -⟩
      · exact h ▸ ih
      · rcases ih with i1 | ⟨-, i2⟩
        · exact .inr ⟨i1 ▸ e.edge.1, h4⟩
        · omega
      · omega

theorem Effs.finMove {g : Segment} {a b : Tcb} (h : Effs g 6 a b) :
    b.state = a.state ∨ (Step (evOf g.hdr.ctl) a.state b.state ∧ finMoves b.state = false) := by
  induction h with
  | refl => exact .inl rfl
  | tail _ e ih =>
    rcases e.move with h | ⟨h3, -⟩ | ⟨-, h3, h4⟩
    · exact h ▸ ih
    · omega
    · rcases ih with i1 | ⟨-, i2⟩
      · exact .inr ⟨i1 ▸ e.edge.1, h4⟩
      · rw [i2] at h3; cases h3

/-- **one segment**: the state after `process_segment` is reached from the state before it by
    at most two steps allowed for the segment's control bits (blocks 2/4, then block 6); a result
    that makes the caller delete the TCB is an edge to CLOSED for these bits; `TwInv` is kept -/
theorem processSegment_edges (s : Tcb) (segment : Segment) (s' : Tcb) (r : ProcessSegmentResult)
    (e : s.processSegment segment = .ok (s', r)) :
    ∃ mid : State, Step (evOf segment.hdr.ctl) s.state mid ∧ Step (evOf segment.hdr.ctl) mid s'.state ∧
      (r.shouldDeleteTcb = true → rfcCause (evOf segment.hdr.ctl) (some s'.state) none = true) ∧
      (TwInv s → TwInv s') := by
  obtain ⟨h, hr⟩ := processSegment_effs e
  have tw : TwInv s → TwInv s' :=
    h.lift (R := fun a b => TwInv a → TwInv b) (fun _ => id) (fun h1 h2 h => h2 (h1 h)) fun e => e.edge.2
  obtain ⟨m, h5, h6⟩ := h
  refine ⟨m.state, ?_, ?_, hr.cause, tw⟩
  · rcases h5.move (Nat.le_refl 5) with h | ⟨h, -⟩
    · exact Step.of_eq h
    · exact h
  · rcases h6.finMove with h | ⟨h, -⟩
    · exact Step.of_eq h
    · exact h

/-- a path of edges of the state diagram, each caused by an event from `S` -/
inductive Path (S : Event → Prop) : Option State → Option State → Prop
  | refl (a : Option State) : Path S a a
  | tail {a b c : Option State} {ev : Event} : Path S a b → S ev → rfcCause ev b c = true → Path S a c

theorem Path.mono {S T : Event → Prop} (h : ∀ ev, S ev → T ev) {a b : Option State} (p : Path S a b) :
    Path T a b := by
  induction p with
  | refl => exact .refl _
  | tail _ hs hc ih => exact .tail ih (h _ hs) hc

theorem Path.trans {S : Event → Prop} {a b c : Option State} (p : Path S a b) (q : Path S b c) :
    Path S a c := by
  induction q with
  | refl => exact p
  | tail _ hs hc ih => exact .tail ih hs hc

theorem Path.of_step {S : Event → Prop} {ev : Event} (hs : S ev) {a b : State} (h : Step ev a b) :
    Path S (some a) (some b) := by
  unfold Step rfcStepBy at h
  by_cases hab : (some a : Option State) = some b
  · rw [hab]; exact .refl _
  · have : rfcCause ev (some a) (some b) = true := by
      rcases Bool.or_eq_true _ _ ▸ h with h1 | h1
      · exact absurd (by simpa using h1) hab
      · exact h1
    exact .tail (.refl _) hs this

/-- where `segment_arrives` leaves the connection: the new state, or no TCB -/
def endState (r : SegmentArrivesResult) (s' : Tcb) : Option State :=
  match r with
  | .Ok => some s'.state
  | .Close => none

theorem Drains.path {s s' : Tcb} {r : SegmentArrivesResult} (d : Drains s r s') :
    Path (fun ev => ∃ seg ∈ s.incoming.segments, ev = evOf seg.hdr.ctl) (some s.state)
      (endState r s') ∧
    (TwInv s → r = .Ok → TwInv s') := by
  -- the popped segment moves the TCB along at most two edges for its control bits
  have pop : ∀ {s s1 : Tcb} {g : Segment} {rest : List Segment} {r1 : ProcessSegmentResult}, Pops s g rest s1 r1 →
      (∃ seg ∈ s.incoming.segments, evOf g.hdr.ctl = evOf seg.hdr.ctl) ∧
      Path (fun ev => ∃ seg ∈ s.incoming.segments, ev = evOf seg.hdr.ctl) (some s.state) (some s1.state) ∧
      (r1.shouldDeleteTcb = true → rfcCause (evOf g.hdr.ctl) (some s1.state) none = true) ∧ (TwInv s → TwInv s1) := by
    intro s s1 g rest r1 P
    obtain ⟨mid, st1, st2, del, tw⟩ := processSegment_edges _ _ _ _ P.proc
    have hS : ∃ seg ∈ s.incoming.segments, evOf g.hdr.ctl = evOf seg.hdr.ctl := ⟨g, (P.mem g).2 (Or.inl rfl), rfl⟩
    exact ⟨hS, (Path.of_step hS st1).trans (Path.of_step hS st2), del, tw⟩
  induction d with
  | stop _ => exact ⟨.refl _, fun h _ => h⟩
  | close P hd =>
    obtain ⟨hS, p, del, -⟩ := pop P
    exact ⟨.tail p hS (del hd), fun _ h => nomatch h⟩
  | step P _ _ ih =>
    obtain ⟨q, twq⟩ := ih
    obtain ⟨-, p, -, tw⟩ := pop P
    refine ⟨p.trans (q.mono ?_), fun ht hr => twq (tw ht) hr⟩
    intro ev ⟨seg, hseg, hev⟩
    exact ⟨seg, (P.mem seg).2 (Or.inr hseg), hev⟩

/-- **`segment_arrives`**: the TCB moves along a path of edges, each allowed for the control
    bits of the arriving segment or of a segment that waited in the reorder heap -/
theorem segmentArrives_path (s : Tcb) (segment : Segment) (s' : Tcb) (r : SegmentArrivesResult)
    (e : s.segmentArrives segment = .ok (s', r)) :
    Path (fun ev => ∃ seg ∈ segment :: s.incoming.segments, ev = evOf seg.hdr.ctl) (some s.state)
      (endState r s') ∧
    (TwInv s → r = .Ok → TwInv s') := by
  rcases segmentArrives_iff.1 e with ⟨-, -, rfl, rfl⟩ | ⟨-, d⟩
  · unfold endState
    dsimp only
    rw [state_enqueueBuilt]
    exact ⟨.refl _, fun h _ => (keep_enqueueBuilt _ _).twInv h⟩
  · obtain ⟨p, tw⟩ := d.path
    refine ⟨p.mono ?_, tw⟩
    intro ev ⟨seg, hseg, hev⟩
    refine ⟨seg, ?_, hev⟩
    rcases LHeap.mem_push.1 hseg with rfl | h
    · exact List.mem_cons_self
    · exact List.mem_cons_of_mem _ h

theorem keep_finQueued (s : Tcb) : Keep s (finQueued s) := by
  rw [finQueued_eq]
  exact ⟨rfl, rfl⟩

theorem keep_finQueued_if (c : Bool) (s : Tcb) : Keep s (if c then finQueued s else s) := by
  cases c
  · exact Keep.refl _
  · exact keep_finQueued s

theorem close_edges (s s' : Tcb) (r : CloseResult) (e : s.close = .ok (s', r)) :
    Step .userClose s.state s'.state ∧ (TwInv s → TwInv s') := by
  rcases close_cases e with rfl | ⟨st, rfl, hst⟩
  · exact ⟨Step.refl _ _, id⟩
  · have k := keep_finQueued_if s.outgoing.text.isEmpty { s with state := st }
    have hne : s.state ≠ .TimeWait := by
      rcases hst with ⟨h | h, -⟩ | ⟨h, -⟩ <;> rw [h] <;> exact State.noConfusion
    refine ⟨?_, fun ht => twInv_of_not_tw ht hne k.tw⟩
    rw [k.state]
    rcases hst with ⟨h | h, rfl⟩ | ⟨h, rfl⟩ <;> rw [h] <;> exact rfl

theorem abort_keep (s s' : Tcb) (e : s.abort = .ok s') : Keep s s' := by
  obtain ⟨u, e', c⟩ := abort_cases s
  cases Except.ok.inj (e'.symm.trans e)
  rcases c with rfl | rfl
  · exact Keep.refl _
  · exact ⟨by rw [state_enqueueBuilt], by rw [(enqueueBuilt_frame _ _).timeouts]⟩

theorem send_keep (s : Tcb) (m : List UInt8) : Keep s (s.send m) := by
  rw [send_eq]; split <;> exact ⟨rfl, rfl⟩

theorem receive_keep (s : Tcb) : Keep s s.receive.1 := by
  rw [receive_eq]; split <;> exact ⟨rfl, rfl⟩

theorem segments_keep (s s' : Tcb) (out : List Segment) (e : s.segments = .ok (s', out)) : Keep s s' := by
  obtain ⟨s1, s2, tmo, h1, rfl, -, rfl, -⟩ := segments_ok e
  have f := segmentizeIfOpen_frame h1
  have k1 : Keep s s1 := ⟨f.state, congrArg Timeouts.timeWait f.timeouts⟩
  exact (k1.trans (keep_finQueued_if _ s1)).trans ⟨rfl, rfl⟩

theorem keep_timerRun (s : Tcb) (dt : Nat) : Keep s (timerRun s dt) :=
  ⟨(timerRun_frame s dt).1, (timerRun_frame s dt).2.2.2.2.1⟩

theorem advanceTime_edges (s : Tcb) (dt : Nat) (s' : Tcb) (r : AdvanceTimeResult)
    (e : s.advanceTime dt = .ok (s', r)) :
    s'.state = s.state ∧ (TwInv s → TwInv s') ∧
      (r = .CloseConnection → TwInv s → rfcCause .timeWaitTimeout (some s.state) none = true) := by
  have k1 := keep_timerRun s dt
  rcases advanceTime_ok e with ⟨-, rfl, rfl⟩ | ⟨tw, htw, ⟨-, rfl, rfl⟩ | ⟨-, rfl, rfl⟩⟩
  · exact ⟨k1.state, k1.twInv, nofun⟩
  -- the timer runs: with `TwInv` the state is TIME-WAIT
  · exact ⟨k1.state, k1.twInv, fun _ ht => by rw [ht (by rw [htw]; rfl)]; rfl⟩
  · exact ⟨k1.state, fun ht _ => k1.state.trans (ht (by rw [htw]; rfl)), nofun⟩

end Tcb
end Elvis.Tcp
