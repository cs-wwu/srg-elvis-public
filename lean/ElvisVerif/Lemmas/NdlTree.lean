import ElvisVerif.Lemmas.NdlGram
import ElvisVerif.Lemmas.NdlNorm
/-!
# NDL tree builder: well-formed descriptions, and the pieces of their tab layout

Well-formedness of a description (`SimOk`).  A written line (`RLine` of `Lemmas/NdlNorm.lean`: any
spelling of the tag, any number of blank lines) reads as a line of `Lemmas/NdlGram.lean`
(`lineAt_rline`); a line of the tab layout is the plain one among them (`tabLine_eq`).  The leaf
lists, networks and machine sections that `render` writes in the tab layout have the block
structure of `Lemmas/NdlGram.lean` (`leavesAt_tabs`, `networkAt_tabs`, `netsAt_tabs`,
`section_tabs`): the rejection theorems of `Props/C19.lean` are stated on these pieces.  The round
trip for whole descriptions is in `Lemmas/NdlDoc.lean`.
-/
namespace Elvis.Ndl
open Elvis.Gen.Ndl

def LeafOk (exp : DecType) (l : Leaf) : Prop := l.dectype = exp ∧ LineOk l.options

/-- a `[Network]` entry: arguments in the grammar's classes, an `id` (its key in the map), at
    least one `[IP]` line -/
def NetworkOk (id : Text) (n : Network) : Prop :=
  n.dectype = .network ∧ LineOk n.options ∧ n.options.get? ['i', 'd'] = some id ∧
  n.ip ≠ [] ∧ ∀ l ∈ n.ip, LeafOk .ip l

def MachineOk (m : Machine) : Prop :=
  m.dectype = .machine ∧ LineOk m.options ∧
  m.networks ≠ [] ∧ (∀ l ∈ m.networks, LeafOk .network l) ∧
  m.protocols ≠ [] ∧ (∀ l ∈ m.protocols, LeafOk .protocol l) ∧
  m.applications ≠ [] ∧ (∀ l ∈ m.applications, LeafOk .application l)

def Network.lines (n : Network) : Nat := 1 + n.ip.length
def Machine.lines (m : Machine) : Nat :=
  4 + m.networks.length + m.protocols.length + m.applications.length
def Sim.lines (s : Sim) : Nat :=
  2 + (s.networks.map (·.2.lines)).sum + (s.machines.map (·.lines)).sum

/-- a well-formed description: what `render` can write and `parse` must read back -/
def SimOk (s : Sim) : Prop :=
  (∀ e ∈ s.networks, NetworkOk e.1 e.2) ∧ (s.networks.map (·.1)).Nodup ∧
  (∀ m ∈ s.machines, MachineOk m) ∧ s.lines < i32Max

/-- `line .tabs d dt ps ++ tail`, re-associated -/
def tabLine (d : Nat) (dt : DecType) (ps : Params) (tail : Text) : Text :=
  List.replicate d '\t' ++ (renderLine dt ps ++ '\n' :: tail)

theorem line_tabs_append (d : Nat) (dt : DecType) (ps : Params) (tail : Text) :
    line .tabs d dt ps ++ tail = tabLine d dt ps tail := by
  simp [line, indent, eol, tabLine]

/-- what follows a block at depth `d`: a shallower line, or the end of the text -/
def After (d : Nat) (rest : Text) : Prop := countTabs rest < d ∧ ∀ r, rest ≠ '\n' :: r

def RLine.Ok (x : RLine) : Prop := SameCase x.deco.tag x.dt.name ∧ LineOk x.ps

theorem rline_tabs (x : RLine) (tail : Text) :
    x.text .tabs ++ tail = List.replicate x.depth '\t' ++
      (('[' :: (x.deco.tag ++ (renderArgs x.ps ++ [']']))) ++ (List.replicate (x.deco.blank + 1) '\n' ++ tail)) := by
  simp [RLine.text, indent, eols_tabs]

theorem countTabs_rline (x : RLine) (tail : Text) : countTabs (x.text .tabs ++ tail) = x.depth := by
  rw [rline_tabs]
  apply countTabs_replicate
  intro r h
  simp at h

theorem rline_noNl (x : RLine) (tail : Text) : NoNl (x.text .tabs ++ tail) := by
  intro r h
  rw [rline_tabs] at h
  cases hd : x.depth with
  | zero => rw [hd] at h; simp at h
  | succ n => rw [hd] at h; simp [List.replicate_succ] at h

theorem lineAt_rline (x : RLine) (hx : x.Ok) (tail : Text) (htail : NoNl tail) (l l' : Nat)
    (hl : l + (x.deco.blank + 1) = l') (hb : l' ≤ i32Max) :
    LineAt x.depth x.dt x.ps (x.text .tabs ++ tail) l tail l' := by
  subst hl
  refine ⟨countTabs_rline x tail, ?_⟩
  rw [rline_tabs, List.drop_left' (by simp)]
  exact generalParser_spelled x.dt x.deco.tag hx.1 x.ps hx.2 _ tail htail l hb

theorem tabLine_eq (d : Nat) (dt : DecType) (ps : Params) (tail : Text) :
    tabLine d dt ps tail = (RLine.plain (d, dt, ps)).text .tabs ++ tail := by
  rw [plain_text, line_tabs_append]

theorem countTabs_tabLine (d : Nat) (dt : DecType) (ps : Params) (tail : Text) :
    countTabs (tabLine d dt ps tail) = d := by
  rw [tabLine_eq]; exact countTabs_rline _ _

theorem tabLine_not_nl (d : Nat) (dt : DecType) (ps : Params) (tail : Text) :
    ∀ r, tabLine d dt ps tail ≠ '\n' :: r := by
  rw [tabLine_eq]; exact rline_noNl _ _

theorem lineAt_tabLine (d : Nat) (dt : DecType) (ps : Params) (hps : LineOk ps) (tail : Text)
    (htail : ∀ r, tail ≠ '\n' :: r) (line : Nat) (hb : line + 1 ≤ i32Max) :
    LineAt d dt ps (tabLine d dt ps tail) line tail (line + 1) := by
  rw [tabLine_eq]; exact lineAt_rline (.plain (d, dt, ps)) ⟨rfl, hps⟩ tail htail line _ rfl hb

theorem renderLeaves_cons (d : Nat) (l : Leaf) (ls : List Leaf) (rest : Text) :
    renderLeaves .tabs d (l :: ls) ++ rest =
      tabLine d l.dectype l.options (renderLeaves .tabs d ls ++ rest) := by
  simp [renderLeaves, ← line_tabs_append]

theorem leaves_not_nl (d : Nat) (ls : List Leaf) (rest : Text) (hne : ls ≠ []) :
    ∀ r, renderLeaves .tabs d ls ++ rest ≠ '\n' :: r := by
  cases ls with
  | nil => exact absurd rfl hne
  | cons l ls => rw [renderLeaves_cons]; exact tabLine_not_nl _ _ _ _

theorem leavesAt_tabs (exp : DecType) (d : Nat) : ∀ (ls : List Leaf) (rest : Text) (line : Nat), ls ≠ [] →
    (∀ l ∈ ls, LeafOk exp l) → After d rest → line + ls.length ≤ i32Max →
    LeavesAt exp d ls (renderLeaves .tabs d ls ++ rest) line rest (line + ls.length)
  | [], _, _, h, _, _, _ => absurd rfl h
  | ⟨dt, o⟩ :: ls, rest, line, _, hok, haft, hb => by
    obtain ⟨rfl, ho⟩ := hok _ List.mem_cons_self
    rw [renderLeaves_cons]
    simp only [List.length_cons] at hb ⊢
    cases ls with
    | nil =>
      have ht : renderLeaves .tabs d [] ++ rest = rest := by simp [renderLeaves]
      rw [ht]
      exact LeavesAt.last (lineAt_tabLine d dt o ho rest haft.2 line (by omega)) haft.1
    | cons l2 ls' =>
      have ih := leavesAt_tabs dt d (l2 :: ls') rest (line + 1) (by simp)
        (fun x hx => hok x (List.mem_cons_of_mem _ hx)) haft (by simp only [List.length_cons] at hb ⊢; omega)
      rw [show line + ((l2 :: ls').length + 1) = line + 1 + (l2 :: ls').length by omega]
      exact LeavesAt.cons (lineAt_tabLine d dt o ho _ (leaves_not_nl d _ rest (by simp)) line (by omega)) ih

theorem renderNetwork_append (n : Network) (rest : Text) :
    renderNetwork .tabs n ++ rest = tabLine 1 .network n.options (renderLeaves .tabs 2 n.ip ++ rest) := by
  simp [renderNetwork, ← line_tabs_append]

theorem after_mono {d e : Nat} (h : d ≤ e) {rest : Text} (ha : After d rest) : After e rest :=
  ⟨Nat.lt_of_lt_of_le ha.1 h, ha.2⟩

theorem networkAt_tabs (id : Text) (n : Network) (hn : NetworkOk id n) (rest : Text) (haft : After 2 rest)
    (line : Nat) (hb : line + n.lines ≤ i32Max) :
    NetworkAt id n (renderNetwork .tabs n ++ rest) line rest (line + n.lines) := by
  obtain ⟨hdt, hopt, hid, hne, hips⟩ := hn
  unfold Network.lines at hb ⊢
  rw [renderNetwork_append, ← Nat.add_assoc]
  exact ⟨hdt, hid, _, _, lineAt_tabLine 1 .network n.options hopt _ (leaves_not_nl 2 n.ip rest hne) line (by omega),
    leavesAt_tabs .ip 2 n.ip rest (line + 1) hne hips haft (by omega)⟩

def netsText (nets : List (Text × Network)) : Text := nets.flatMap fun e => renderNetwork .tabs e.2

theorem netsText_cons (e : Text × Network) (nets : List (Text × Network)) (rest : Text) :
    netsText (e :: nets) ++ rest = renderNetwork .tabs e.2 ++ (netsText nets ++ rest) := by
  simp [netsText]

theorem netsText_after (nets : List (Text × Network)) (rest : Text) (haft : After 1 rest) :
    After 2 (netsText nets ++ rest) := by
  cases nets with
  | nil => simpa [netsText] using after_mono (by omega) haft
  | cons e nets =>
    rw [netsText_cons, renderNetwork_append]
    exact ⟨by rw [countTabs_tabLine]; omega, tabLine_not_nl _ _ _ _⟩

theorem netsAt_tabs : ∀ (nets : List (Text × Network)) (rest : Text) (line : Nat),
    (∀ e ∈ nets, NetworkOk e.1 e.2) → After 1 rest → line + (nets.map (·.2.lines)).sum ≤ i32Max →
    NetsAt nets (netsText nets ++ rest) line rest (line + (nets.map (·.2.lines)).sum)
  | [], rest, line, _, haft, _ => by simpa [netsText] using NetsAt.nil (l := line) haft.1
  | e :: nets, rest, line, hok, haft, hb => by
    have hok' : ∀ x ∈ nets, NetworkOk x.1 x.2 := fun x hx => hok x (List.mem_cons_of_mem _ hx)
    simp only [List.map_cons, List.sum_cons] at hb ⊢
    rw [netsText_cons, ← Nat.add_assoc]
    exact NetsAt.cons
      (networkAt_tabs e.1 e.2 (hok e List.mem_cons_self) _ (netsText_after nets rest haft) line (by omega))
      (netsAt_tabs nets rest _ hok' haft (by omega))

theorem lineOk_nil : LineOk [] := ⟨by simp, by simp⟩

theorem requiredSections_eq : requiredSections = [.networks, .protocols, .applications] := by decide

theorem section_tabs (k : DecType) (ls : List Leaf) (hne : ls ≠ []) (hok : ∀ l ∈ ls, LeafOk (secLeaf k) l)
    (tail : Text) (haft : After 3 tail) (l : Nat) (hb : l + 1 + ls.length ≤ i32Max) :
    LineAt 2 k [] (tabLine 2 k [] (renderLeaves .tabs 3 ls ++ tail)) l (renderLeaves .tabs 3 ls ++ tail) (l + 1) ∧
      LeavesAt (secLeaf k) 3 ls (renderLeaves .tabs 3 ls ++ tail) (l + 1) tail (l + 1 + ls.length) :=
  ⟨lineAt_tabLine 2 k [] lineOk_nil _ (leaves_not_nl 3 ls tail hne) l (by omega),
    leavesAt_tabs (secLeaf k) 3 ls tail (l + 1) hne hok haft hb⟩

end Elvis.Ndl
