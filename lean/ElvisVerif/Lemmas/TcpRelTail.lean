import ElvisVerif.Lemmas.TcpRelSys
import ElvisVerif.Lemmas.TcpRelSeq
/-!
# The second half of a sequential close, from ANY quiet FIN-WAIT-2 / CLOSE-WAIT pair

`release_tail`: A is in FIN-WAIT-2 (its FIN acknowledged), B in CLOSE-WAIT, nothing queued, unsent, buffered or parked
on either side, sequence numbers synchronised.  `releaseTail` = `close B` (LAST-ACK), two exchange phases (A: TIME-WAIT;
B's TCB deleted by A's ACK of its FIN), `2·MSL + 1` ms on A's side (A's TCB deleted).  Whatever led to the pair (a close
from a quiet state, `Lemmas/TcpRelSeqSys.lean`; a close issued with text still queued, `Lemmas/TcpRelData2.lean`) can be
continued with it.  `release_tail_x` is the same with the sides named `y` (in CLOSE-WAIT) and `y.peer`, stated on views
(`Lemmas/TcpView.lean`) so that it continues a longer execution.  `Front c sa sb da`: the state a close by A alone ends
in; `Front.tail` continues it with `releaseTail`.
-/
namespace Elvis.Tcp
open Elvis.ModCmp Elvis.Tcp.Fin
namespace Tcb

/-- FIN-WAIT-2 after the peer's FIN: TIME-WAIT -/
def tailA2 (t : Tcb) : Tcb :=
  ({ emitT t with state := .TimeWait, rcv.nxt := (emitT t).rcv.nxt + 1, outgoing.oneshot := (emitT t).outgoing.oneshot ++ [(emitT t).finAckHdr], timeouts := { timeWait := some TIME_WAIT, retransmission := RTO } } : Tcb)

/-- CLOSE-WAIT after `close()`: LAST-ACK -/
def tailB1 (t : Tcb) : Tcb :=
  ({ t with state := .LastAck, snd.nxt := t.snd.nxt + 1, outgoing.retransmit := t.outgoing.retransmit ++ [Transmit.new ⟨({ t with state := .LastAck } : Tcb).finHdr.built, []⟩] } : Tcb)

def tailFin (t : Tcb) : Segment := ⟨({ t with state := .LastAck } : Tcb).finHdr.built, []⟩

theorem tail_fw2 (x : SideId) (t u : Tcb) (hst : t.state = .FinWait2) (q : RestX x t u) (gF : Segment)
    (hF : IsFin gF t.rcv.nxt t.snd.nxt) :
    t.segments = .ok (emitT t, []) ∧ (emitT t).arriveList [gF] = .ok (tailA2 t) ∧
      (tailA2 t).receive = (tailA2 t, []) ∧
      (tailA2 t).segments = .ok (emitT (tailA2 t), [⟨(emitT t).finAckHdr, []⟩]) ∧
      IsAck ⟨(emitT t).finAckHdr, []⟩ t.snd.nxt (t.rcv.nxt + 1) ∧
      (emitT t).finAckHdr.srcPort = t.localPort ∧ (emitT t).finAckHdr.dstPort = t.remotePort ∧
      (emitT (tailA2 t)).receive = (emitT (tailA2 t), []) ∧ (emitT (tailA2 t)).timeouts.timeWait = some TIME_WAIT := by
  have e0 := segments_notext_eq t q.text q.mtu
  rw [emitOut_quiet t q.one q.rtx] at e0
  have e := arrive_fin_fw2 (emitT t) hst q.wnd q.heap hF
    (by show modLeq t.snd.nxt t.snd.una = true; rw [q.una]; exact modLeq_self _)
  refine ⟨e0, by simp only [arriveList, e]; rfl, receive_quiet _ (Or.inr (Or.inl rfl)), ?_,
    ⟨rfl, rfl, rfl, rfl, rfl, rfl, rfl⟩, rfl, rfl, receive_quiet _ (Or.inr (Or.inl rfl)), rfl⟩
  have := segments_notext_eq (tailA2 t) q.text q.mtu
  rw [emitOut_oneshot (tailA2 t) [(emitT t).finAckHdr] rfl (filter_unflag _)] at this
  exact this

theorem tail_cw (x : SideId) (t u : Tcb) (hst : t.state = .CloseWait) (q : RestX x t u) (gA : Segment)
    (hA : IsAck gA t.rcv.nxt (t.snd.nxt + 1)) :
    t.close = .ok (tailB1 t, .Ok) ∧ (tailB1 t).segments = .ok (emitT (tailB1 t), [tailFin t]) ∧
      IsFin (tailFin t) t.snd.nxt t.rcv.nxt ∧
      (tailFin t).hdr.srcPort = t.localPort ∧ (tailFin t).hdr.dstPort = t.remotePort ∧
      (emitT (tailB1 t)).receive = (emitT (tailB1 t), []) ∧
      (emitT (tailB1 t)).segments = .ok (emitT (emitT (tailB1 t)), []) ∧
      ∃ t', (emitT (emitT (tailB1 t))).segmentArrives gA = .ok (t', .Close) := by
  refine ⟨close_fwd_cw t hst q.text, ?_, ⟨rfl, rfl, rfl, rfl, rfl, rfl, rfl⟩, rfl, rfl,
    receive_quiet _ (Or.inr (Or.inr rfl)), ?_, ?_⟩
  · have := segments_notext_eq (tailB1 t) q.text q.mtu
    have hout : emitOut (tailB1 t) = [tailFin t] := by
      unfold emitOut tailB1
      simp only [q.one, q.rtx, List.map_nil, List.nil_append]
      rfl
    rw [hout] at this
    exact this
  · have := segments_notext_eq (emitT (tailB1 t)) q.text q.mtu
    rw [show emitOut (emitT (tailB1 t)) = [] from emitOut_emitT _] at this
    exact this
  · have hd : ((emitT (emitT (tailB1 t))).snd.nxt - (emitT (emitT (tailB1 t))).snd.una).toNat = 1 := by
      show (t.snd.nxt + 1 - t.snd.una).toNat = 1
      rw [q.una]
      exact succ_sub _
    exact arrive_ack_lastack (emitT (emitT (tailB1 t))) rfl q.wnd q.heap q.text hA hd

end Tcb
open Tcb

def releaseTailX (y : SideId) (s : Sys) : Except String Sys :=
  match s.step (.close y) with
  | .error e => .error e
  | .ok (s1, _) =>
  match phase s1 with
  | .error e => .error e
  | .ok s2 =>
  match phase s2 with
  | .error e => .error e
  | .ok s3 =>
  match s3.step (.tick y.peer (TIME_WAIT + 1)) with
  | .error e => .error e
  | .ok (s4, _) => .ok s4

theorem release_tail_x {y : SideId} {s : Sys} {tx ty : Tcb} {st su dt du : List UInt8} {n : Nat}
    (v : View y s ⟨some ty, some tx, st, su, dt, du, n⟩)
    (sx : tx.state = .FinWait2) (sy : ty.state = .CloseWait) (qx : RestX y.peer tx ty) (qy : RestX y ty tx) :
    ∃ s', releaseTailX y s = .ok s' ∧ FinRun s s' ∧ View y s' ⟨none, none, st, su, dt, du, n + 2⟩ := by
  have qxrp : tx.remotePort = y.port := by rw [qx.rp, SideId.peer_peer]
  have hF : IsFin (tailFin ty) tx.rcv.nxt tx.snd.nxt := by
    have : IsFin (tailFin ty) ty.snd.nxt ty.rcv.nxt := ⟨rfl, rfl, rfl, rfl, rfl, rfl, rfl⟩
    rw [qy.sync, ← qx.sync]; exact this
  obtain ⟨a1, a2, a3, a4, a5, a6, a7, a8, a9⟩ := tail_fw2 y.peer tx ty sx qx (tailFin ty) hF
  have hA : IsAck ⟨(emitT tx).finAckHdr, []⟩ ty.rcv.nxt (ty.snd.nxt + 1) := by
    rw [qx.sync, ← qy.sync]; exact a5
  obtain ⟨c1, c2, c3, c4, c5, c6, c7, c8⟩ := tail_cw y ty tx sy qy _ hA
  obtain ⟨s1, st1, r1, v1⟩ := v.close c1
  -- phase 1: `y`'s FIN
  obtain ⟨s2, ph1, r2, v2⟩ := v1.phase c2 a1 a2 rfl c6 a3
    (List.forall_mem_singleton.2 ⟨c4.trans qy.lp, c5.trans qy.rp⟩)
    (fun g hg => by cases hg)
  -- phase 2: the peer's ACK deletes `y`'s TCB
  obtain ⟨s3, ph2, r3, v3⟩ := v2.phaseClose c7 a4 c8 a8 ⟨a6.trans qx.lp, a7.trans qxrp⟩
  obtain ⟨s4, st4, r4, v4⟩ :=
    v3.swap.expire ((advanceTime_timeWait (emitT (tailA2 tx)) (TIME_WAIT + 1) TIME_WAIT a9).1 (by omega))
  have v5 := v4.unswap
  simp only [List.append_nil] at v5
  refine ⟨s4, ?_, r1.trans (FinRun.of_plain (((r2.trans r3)).trans r4)), v5⟩
  unfold releaseTailX
  rw [st1]
  dsimp only
  rw [ph1]
  dsimp only
  rw [ph2]
  dsimp only
  rw [st4]

def releaseTail (s : Sys) : Except String Sys :=
  match s.step (.close .B) with
  | .error e => .error e
  | .ok (s1, _) =>
  match phase s1 with
  | .error e => .error e
  | .ok s2 =>
  match phase s2 with
  | .error e => .error e
  | .ok s3 =>
  match s3.step (.tick .A (TIME_WAIT + 1)) with
  | .error e => .error e
  | .ok (s4, _) => .ok s4

theorem release_tail (s : Sys) (ta tb : Tcb) (ha : (s.side .A).tcb = some ta) (hb : (s.side .B).tcb = some tb)
    (sa : ta.state = .FinWait2) (sb : tb.state = .CloseWait) (qa : RestX .A ta tb) (qb : RestX .B tb ta) :
    ∃ s', releaseTail s = .ok s' ∧ FinRun s s' ∧ (s'.side .A).tcb = none ∧ (s'.side .B).tcb = none ∧
      (s'.side .A).submitted = (s.side .A).submitted ∧ (s'.side .B).submitted = (s.side .B).submitted ∧
      (s'.side .A).delivered = (s.side .A).delivered ∧ (s'.side .B).delivered = (s.side .B).delivered ∧
      s'.historyLen = s.historyLen + 2 := by
  obtain ⟨s', e, r, v⟩ := release_tail_x (View.start s .B tb ta hb ha) sa sb qa qb
  exact ⟨s', e, r, v.u, v.t, v.su, v.st, v.du, v.dt, v.n⟩

/-! ## the state after the first closer's front -/

structure HalfClosed (ta tb : Tcb) : Prop where
  sa : ta.state = .FinWait2
  sb : tb.state = .CloseWait
  qa : RestX .A ta tb
  qb : RestX .B tb ta

/-- `c` is half-closed at rest and shows the logs `sa`, `sb` (submitted) and `da` (delivered to A) -/
def Front (c : Sys) (sa sb da : List UInt8) : Prop :=
  ∃ ta tb db n, View .A c ⟨some ta, some tb, sa, sb, da, db, n⟩ ∧ HalfClosed ta tb

theorem Front.tail {c : Sys} {sa sb da : List UInt8} (f : Front c sa sb da) :
    ∃ s2, releaseTail c = .ok s2 ∧ FinRun c s2 ∧ (s2.side .A).tcb = none ∧ (s2.side .B).tcb = none ∧
      (s2.side .A).submitted = sa ∧ (s2.side .B).submitted = sb ∧ (s2.side .A).delivered = da ∧
      (s2.side .B).delivered = (c.side .B).delivered := by
  obtain ⟨ta, tb, db, n, v, h⟩ := f
  obtain ⟨s2, e, r, v'⟩ := release_tail_x v.swap h.sa h.sb h.qa h.qb
  exact ⟨s2, e, r, v'.u, v'.t, v'.su, v'.st, v'.du, v'.dt.trans v.du.symm⟩

theorem Front.unpack {c : Sys} {sa sb da : List UInt8} (f : Front c sa sb da) :
    ∃ ta tb, (c.side .A).tcb = some ta ∧ (c.side .B).tcb = some tb ∧
      ta.state = .FinWait2 ∧ tb.state = .CloseWait ∧ RestX .A ta tb ∧ RestX .B tb ta ∧
      (c.side .A).submitted = sa ∧ (c.side .B).submitted = sb ∧ (c.side .A).delivered = da := by
  obtain ⟨ta, tb, _, _, v, h⟩ := f
  exact ⟨ta, tb, v.t, v.u, h.sa, h.sb, h.qa, h.qb, v.st, v.su, v.dt⟩

/-- a front followed by `releaseTail`, with everything the two halves say -/
theorem Front.tuple {s : Sys} {front round : Except String Sys}
    (h : ∃ s1, front = .ok s1 ∧ FinRun s s1 ∧ Front s1 (s.side .A).submitted (s.side .B).submitted (s.side .A).delivered)
    (hr : ∀ s1, front = .ok s1 → round = releaseTail s1) :
    ∃ s1 ta1 tb1 s2, front = .ok s1 ∧ FinRun s s1 ∧
      (s1.side .A).tcb = some ta1 ∧ (s1.side .B).tcb = some tb1 ∧
      ta1.state = .FinWait2 ∧ tb1.state = .CloseWait ∧ RestX .A ta1 tb1 ∧ RestX .B tb1 ta1 ∧
      (s1.side .A).submitted = (s.side .A).submitted ∧ (s1.side .B).submitted = (s.side .B).submitted ∧
      (s1.side .A).delivered = (s.side .A).delivered ∧
      round = .ok s2 ∧ releaseTail s1 = .ok s2 ∧ FinRun s1 s2 ∧
      (s2.side .A).tcb = none ∧ (s2.side .B).tcb = none ∧
      (s2.side .A).submitted = (s.side .A).submitted ∧ (s2.side .B).submitted = (s.side .B).submitted ∧
      (s2.side .A).delivered = (s.side .A).delivered ∧ (s2.side .B).delivered = (s1.side .B).delivered := by
  obtain ⟨s1, e1, r1, f⟩ := h
  obtain ⟨s2, e2, r2, k⟩ := f.tail
  obtain ⟨ta1, tb1, u⟩ := f.unpack
  exact ⟨s1, ta1, tb1, s2, e1, r1, u.1, u.2.1, u.2.2.1, u.2.2.2.1, u.2.2.2.2.1, u.2.2.2.2.2.1, u.2.2.2.2.2.2.1,
    u.2.2.2.2.2.2.2.1, u.2.2.2.2.2.2.2.2, (hr s1 e1).trans e2, e2, r2, k⟩

end Elvis.Tcp
