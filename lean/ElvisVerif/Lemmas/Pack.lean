import ElvisVerif.Lemmas.Codec
import ElvisVerif.Spec.Rfc
/-!
The RFC bit packer in closed form: `pack fs` is the big-endian bytes of the number whose binary
digits are the fields of `fs` one after the other (`value fs`).  Consequence used by C08: a group
of fields filling whole bytes packs to the bytes of its own value, independently of what follows.
-/
namespace Elvis.Rfc
open Elvis.Codec

def value : List Field → Nat
  | [] => 0
  | (w, v) :: fs => v % 2 ^ w * 2 ^ totalWidth fs + value fs

theorem totalWidth_nil : totalWidth [] = 0 := rfl

theorem totalWidth_cons (w v : Nat) (fs : List Field) :
    totalWidth ((w, v) :: fs) = w + totalWidth fs := by
  simp only [totalWidth, List.map_cons, List.sum_cons]

theorem totalWidth_append (g fs : List Field) :
    totalWidth (g ++ fs) = totalWidth g + totalWidth fs := by
  simp only [totalWidth, List.map_append, List.sum_append]

theorem value_nil : value [] = 0 := rfl

theorem value_cons (w v : Nat) (fs : List Field) :
    value ((w, v) :: fs) = v % 2 ^ w * 2 ^ totalWidth fs + value fs := rfl

theorem shift_add_lt {a b A B : Nat} (ha : a < A) (hb : b < B) : a * B + b < A * B :=
  calc a * B + b < a * B + B := Nat.add_lt_add_left hb _
    _ = (a + 1) * B := (Nat.succ_mul a B).symm
    _ ≤ A * B := Nat.mul_le_mul_right B ha

theorem value_lt (fs : List Field) : value fs < 2 ^ totalWidth fs := by
  induction fs with
  | nil => exact Nat.one_pos
  | cons f fs ih =>
    rw [value_cons, totalWidth_cons, Nat.pow_add]
    exact shift_add_lt (Nat.mod_lt _ (Nat.two_pow_pos _)) ih

theorem value_append (g fs : List Field) :
    value (g ++ fs) = value g * 2 ^ totalWidth fs + value fs := by
  induction g with
  | nil => simp only [List.nil_append, value_nil, Nat.zero_mul, Nat.zero_add]
  | cons f g ih =>
    rw [List.cons_append, value_cons, value_cons, ih, totalWidth_append, Nat.pow_add, Nat.add_mul,
      Nat.mul_assoc, Nat.add_assoc]

theorem shift_add_div {hi lo : Nat} (c t : Nat) (h : lo < 2 ^ t) :
    (hi * 2 ^ t + lo) / 2 ^ (c + t) = hi / 2 ^ c := by
  rw [Nat.pow_add, Nat.mul_comm (2 ^ c), ← Nat.div_div_eq_div_mul, Nat.mul_comm hi,
    Nat.mul_add_div (Nat.two_pow_pos t), Nat.div_eq_of_lt h, Nat.add_zero]

theorem shift_add_mod {hi lo : Nat} (c t : Nat) (h : lo < 2 ^ t) :
    (hi * 2 ^ t + lo) % 2 ^ (c + t) = hi % 2 ^ c * 2 ^ t + lo := by
  rw [Nat.pow_add, Nat.mul_comm (2 ^ c), Nat.mod_mul, Nat.mul_comm hi, Nat.mul_add_mod,
    Nat.mod_eq_of_lt h, Nat.mul_add_div (Nat.two_pow_pos t), Nat.div_eq_of_lt h, Nat.add_zero,
    Nat.add_comm, Nat.mul_comm]

/-- the first `j` bytes of `m` digits `hi` followed by `t` digits `lo` are the first `j` bytes of
    `hi`; the next bytes are those of what is left of `hi`, followed by `lo` -/
theorem emit_append {hi lo : Nat} (m t j k : Nat) (hm : 8 * j ≤ m) (hh : hi < 2 ^ m)
    (hl : lo < 2 ^ t) :
    emit (hi * 2 ^ t + lo) (m + t) (j + k) =
      emit hi m j ++ emit (hi % 2 ^ (m - 8 * j) * 2 ^ t + lo) (m - 8 * j + t) k := by
  induction j generalizing hi m with
  | zero => simp only [Nat.zero_add, emit, List.nil_append, Nat.mul_zero, Nat.sub_zero,
      Nat.mod_eq_of_lt hh]
  | succ j ih =>
    have e1 : m + t - 8 = m - 8 + t := by omega
    have e2 : m - 8 - 8 * j = m - 8 * (j + 1) := by omega
    have hd : 2 ^ (m - 8 * (j + 1)) ∣ 2 ^ (m - 8) := Nat.pow_dvd_pow 2 (by omega)
    rw [Nat.add_right_comm, emit, emit, e1, shift_add_div _ _ hl, shift_add_mod _ _ hl,
      ih (m - 8) (by omega) (Nat.mod_lt _ (Nat.two_pow_pos _)), e2, Nat.mod_mod_of_dvd _ hd,
      List.cons_append]

/-- **the packer in closed form**: with `n < 8` pending digits `acc`, the output is the whole
    bytes of `acc` followed by the fields -/
theorem packFrom_eq {acc n : Nat} (fs : List Field) (hn : n < 8) (ha : acc < 2 ^ n) :
    packFrom acc n fs =
      emit (acc * 2 ^ totalWidth fs + value fs) (n + totalWidth fs) ((n + totalWidth fs) / 8) := by
  induction fs generalizing acc n with
  | nil => simp only [packFrom, totalWidth_nil, Nat.add_zero, Nat.div_eq_of_lt hn, emit]
  | cons f fs ih =>
    obtain ⟨w, v⟩ := f
    have hv : v % 2 ^ w < 2 ^ w := Nat.mod_lt _ (Nat.two_pow_pos _)
    have ha' : acc * 2 ^ w + v % 2 ^ w < 2 ^ (n + w) := by
      rw [Nat.pow_add]; exact shift_add_lt ha hv
    have e : (n + w) - 8 * ((n + w) / 8) = (n + w) % 8 := by omega
    have := emit_append (n + w) (totalWidth fs) ((n + w) / 8) (((n + w) % 8 + totalWidth fs) / 8)
      (by omega) ha' (value_lt fs)
    rw [e] at this
    rw [packFrom, ih (Nat.mod_lt _ (by decide)) (Nat.mod_lt _ (Nat.two_pow_pos _)), ← this,
      totalWidth_cons, value_cons, Nat.pow_add, Nat.add_mul, Nat.mul_assoc, Nat.add_assoc,
      Nat.add_assoc]
    congr 1
    omega

theorem pack_eq (fs : List Field) : pack fs = emit (value fs) (totalWidth fs) (totalWidth fs / 8) := by
  rw [pack, packFrom_eq fs (by decide) Nat.one_pos, Nat.zero_mul, Nat.zero_add, Nat.zero_add]

theorem pack_append (g fs : List Field) (k : Nat) (h : totalWidth g = 8 * k) :
    pack (g ++ fs) = emit (value g) (8 * k) k ++ pack fs := by
  have := emit_append (totalWidth g) (totalWidth fs) k (totalWidth fs / 8) (by omega)
    (value_lt g) (value_lt fs)
  rw [h, Nat.sub_self, Nat.pow_zero, Nat.mod_one, Nat.zero_mul, Nat.zero_add, Nat.zero_add] at this
  rw [pack_eq, pack_eq, value_append, totalWidth_append, h, ← this]
  congr 1
  omega

theorem pack_flatten (gs : List (List Field)) (h : ∀ g ∈ gs, totalWidth g % 8 = 0) :
    pack gs.flatten = (gs.map fun g => emit (value g) (totalWidth g) (totalWidth g / 8)).flatten := by
  induction gs with
  | nil => rfl
  | cons g gs ih =>
    have hg : totalWidth g = 8 * (totalWidth g / 8) := by have := h g (List.mem_cons_self ..); omega
    rw [List.flatten_cons, pack_append g _ _ hg, ih fun g' hg' => h g' (List.mem_cons_of_mem _ hg'),
      List.map_cons, List.flatten_cons, ← hg]

/-! The bytes `emit` produces, one at a time from the top; `n2b`, `be16`, `be32` are the cases of
one, two and four bytes. -/

theorem emit_mod (x n k : Nat) (h : 8 * (k + 1) ≤ n) :
    emit (x % 2 ^ n) n (k + 1) = emit x n (k + 1) := by
  have e : n = n - 8 + 8 := by omega
  have hd : 2 ^ (n - 8) ∣ 2 ^ n := Nat.pow_dvd_pow 2 (by omega)
  rw [emit, emit, Nat.mod_mod_of_dvd _ hd]
  congr 2
  rw [e, Nat.pow_add, Nat.add_sub_cancel, Nat.mod_mul_right_div_self, Nat.mod_mod]

theorem emit_succ (x k : Nat) :
    emit x (8 * (k + 1)) (k + 1) = n2b (x / 2 ^ (8 * k)) :: emit x (8 * k) k := by
  cases k with
  | zero => exact congrArg (· :: _) (n2b_congr (Nat.mod_mod ..))
  | succ k =>
    rw [emit, Nat.mul_succ, Nat.add_sub_cancel, emit_mod _ _ _ (Nat.le_refl _)]
    exact congrArg (· :: _) (n2b_congr (Nat.mod_mod ..))

theorem emit_u8 (x : Nat) : emit x 8 1 = [n2b x] := by
  rw [emit_succ x 0, Nat.mul_zero, Nat.pow_zero, Nat.div_one]; rfl

theorem emit_u16 (x : Nat) : emit x 16 2 = be16 x := by rw [emit_succ x 1, emit_u8]; rfl

theorem emit_u32 (x : Nat) : emit x 32 4 = be32 x := by
  rw [emit_succ x 3, emit_succ x 2, emit_u16]; rfl

theorem be16_mod (v : Nat) : be16 (v % 65536) = be16 v := by
  rw [← emit_u16, ← emit_u16]; exact emit_mod v 16 1 (by decide)

theorem be32_mod (v : Nat) : be32 (v % 4294967296) = be32 v := by
  rw [← emit_u32, ← emit_u32]; exact emit_mod v 32 3 (by decide)

/-! Bit fields of a byte or word: the RFC lists them one by one, the code writes the byte. -/

/-- the fields of widths `ws` cut out of the low digits of `t`, most significant first -/
def cut (t : Nat) : List Nat → List Field
  | [] => []
  | w :: ws => (w, t / 2 ^ ws.sum) :: cut t ws

theorem totalWidth_cut (t : Nat) (ws : List Nat) : totalWidth (cut t ws) = ws.sum := by
  induction ws with
  | nil => rfl
  | cons w ws ih => rw [cut, totalWidth_cons, ih, List.sum_cons]

theorem value_cut (t : Nat) (ws : List Nat) : value (cut t ws) = t % 2 ^ ws.sum := by
  induction ws with
  | nil => rw [cut, value_nil, List.sum_nil, Nat.pow_zero, Nat.mod_one]
  | cons w ws ih =>
    rw [cut, value_cons, ih, totalWidth_cut, List.sum_cons, Nat.add_comm w, Nat.pow_add, Nat.mod_mul,
      Nat.add_comm, Nat.mul_comm]

end Elvis.Rfc
