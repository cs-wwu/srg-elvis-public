import ElvisVerif.Lemmas.Codec
import ElvisVerif.Lemmas.Checksum
/-!
Bit corruption and the plain word sum (C18): flipping bit `k` of byte `i` moves the sum of the
big-endian 16-bit words by exactly `±2^k · (256 or 1)`; which single and double moves vanish
modulo 65535 is a finite table.
-/
namespace Elvis.Ck
open Elvis.Codec Elvis.Rfc1071

def wsum (bs : List UInt8) : Nat := (wordsOf bs).sum

def weight (i : Nat) : Nat := if i % 2 = 0 then 256 else 1

/-- bit `k` (0 = least significant) of byte `i`; `false` out of range -/
def bitAt (bs : List UInt8) (i k : Nat) : Bool :=
  match bs[i]? with
  | some b => b.toNat / 2 ^ k % 2 == 1
  | none => false

/-- flip bit `k` of byte `i` (xor with `1 << k`); out of range = unchanged -/
def flipAt (bs : List UInt8) (i k : Nat) : List UInt8 :=
  match bs[i]? with
  | some b => bs.set i (b ^^^ ((1 : UInt8) <<< (UInt8.ofNat k)))
  | none => bs

/-- how far one flipped bit moves the word sum -/
def delta (i k : Nat) : Nat := weight i * 2 ^ k

theorem one_shl_table : ∀ k, k < 8 → ((1 : UInt8) <<< (UInt8.ofNat k)).toNat = 2 ^ k := by decide

theorem flip_toNat (b : UInt8) (k : Nat) (hk : k < 8) :
    (b ^^^ ((1 : UInt8) <<< (UInt8.ofNat k))).toNat =
      if b.toNat / 2 ^ k % 2 = 1 then b.toNat - 2 ^ k else b.toNat + 2 ^ k := by
  rw [UInt8.toNat_xor, one_shl_table k hk, xor_two_pow]

theorem wsum_cons2 (a b : UInt8) (r : List UInt8) :
    wsum (a :: b :: r) = a.toNat * 256 + b.toNat + wsum r := by
  simp [wsum, wordsOf]

theorem wsum_set (bs : List UInt8) (i : Nat) (b' : UInt8) (hi : i < bs.length) :
    wsum (bs.set i b') + weight i * (bs[i]).toNat = wsum bs + weight i * b'.toNat := by
  induction bs using wordsOf.induct generalizing i with
  | case1 a b rest ih =>
    match i, hi with
    | 0, _ => simp [wsum_cons2, weight]; omega
    | 1, _ => simp [wsum_cons2, weight]; omega
    | j + 2, hj =>
      have hj' : j < rest.length := by simpa using hj
      have := ih j hj'
      have hw : weight (j + 2) = weight j := by simp [weight]
      simp only [List.set_cons_succ, wsum_cons2, List.getElem_cons_succ, hw]
      omega
  | case2 a =>
    have : i = 0 := by simpa using hi
    subst this
    simp [wsum, wordsOf, weight]; omega
  | case3 => simp at hi

theorem wsum_flipAt (bs : List UInt8) (i k : Nat) (hi : i < bs.length) (hk : k < 8) :
    if bitAt bs i k then wsum (flipAt bs i k) + delta i k = wsum bs
    else wsum (flipAt bs i k) = wsum bs + delta i k := by
  have hget : bs[i]? = some bs[i] := List.getElem?_eq_getElem hi
  have hs := wsum_set bs i (bs[i] ^^^ ((1 : UInt8) <<< (UInt8.ofNat k))) hi
  rw [flip_toNat _ k hk] at hs
  simp only [bitAt, flipAt, hget, delta, beq_iff_eq]
  by_cases hb : bs[i].toNat / 2 ^ k % 2 = 1
  · have hle := le_of_bit_set hb
    simp only [hb, if_true] at hs ⊢
    rw [Nat.mul_sub] at hs
    have : weight i * 2 ^ k ≤ weight i * bs[i].toNat := Nat.mul_le_mul_left _ hle
    omega
  · simp only [hb, if_false] at hs ⊢
    rw [Nat.mul_add] at hs
    omega

theorem flipAt_length (bs : List UInt8) (i k : Nat) : (flipAt bs i k).length = bs.length := by
  unfold flipAt; split <;> simp

theorem delta_eq (i k : Nat) : delta i k = (if i % 2 = 0 then 256 else 1) * 2 ^ k := rfl

/-- the 16 possible moves, `2^k` times 256 (even byte index) or 1 (odd): none is a multiple
    of 65535 -/
theorem single_table : ∀ p, p < 2 → ∀ k, k < 8 → delta p k % 65535 ≠ 0 ∧ delta p k < 65536 := by
  decide

/-- two of them: their sum is never a multiple of 65535; their difference only when they are
    equal -/
theorem double_table : ∀ p, p < 2 → ∀ k, k < 8 → ∀ q, q < 2 → ∀ l, l < 8 →
    (delta p k + delta q l) % 65535 ≠ 0 ∧
      (delta p k = delta q l ∨ (delta p k + 65535 - delta q l) % 65535 ≠ 0) := by
  decide +kernel

/-- only the parity of the byte index matters -/
theorem delta_mod (i k : Nat) : delta (i % 2) k = delta i k := by
  unfold delta weight; rw [Nat.mod_mod]

theorem delta_facts (i k : Nat) (hk : k < 8) : delta i k % 65535 ≠ 0 ∧ delta i k < 65536 :=
  delta_mod i k ▸ single_table (i % 2) (Nat.mod_lt _ (by omega)) k hk

/-- two moves the same way: the sum goes from `x` to `y` by `d + e` -/
theorem arith_apart (x a y d e : Nat) (h1 : a = x + d) (h2 : y = a + e)
    (t : (d + e) % 65535 ≠ 0) : y % 65535 ≠ x % 65535 := by omega

/-- two moves opposite ways: `x` up by `d` is `y` up by `e` -/
theorem arith_cancel (x y d e : Nat) (h : x + d = y + e) (_hd : d < 65536) (_he : e < 65536)
    (t : d = e ∨ (d + 65535 - e) % 65535 ≠ 0) : y % 65535 = x % 65535 ↔ d = e := by
  constructor
  · intro h; omega
  · intro hde; omega

end Elvis.Ck
