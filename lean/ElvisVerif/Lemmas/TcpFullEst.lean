import ElvisVerif.Lemmas.TcpConvCalm
import ElvisVerif.Lemmas.TcpHeapInv
/-!
# An ESTABLISHED endpoint with ANY reorder heap takes segments: progress through the heap

Single endpoint `t` (own ISS `iss`, `N = SND.NXT − ISS`), receiving from a peer whose ISS is `base` and who
has numbered `Np` sequence numbers so far.  `Nice g`: what every segment of the peer looks like once both
sides are ESTABLISHED (no RST / SYN / FIN, an ACK field — if any — in `[ISS + 1, SND.NXT]`, text of at most
65535 bytes that ends at or before `base + Np`, sequence number at most `base + Np`).

`drain_est` is the progress lemma: the processing loop of `segment_arrives` over a non-empty heap consumes every
parked text-bearing segment that is not ahead of `RCV.NXT` (the root is the least: the loop cannot stop while such
a segment is parked); what stays parked is strictly ahead of the final `RCV.NXT`, the heap stays a heap.
`arriveList_est`: a contiguous run of data segments starting at or before `RCV.NXT` moves `RCV.NXT` to the end of
the run whatever the heap held.
-/
namespace Elvis.Tcp.Full
open Elvis.ModCmp Elvis.Tcp.Tcb

structure Nice (iss : Seq) (N : Nat) (base : Seq) (Np : Nat) (g : Segment) : Prop where
  rst : g.hdr.ctl.rst = false
  syn : g.hdr.ctl.syn = false
  fin : g.hdr.ctl.fin = false
  ack : g.hdr.ctl.ack = true → 1 ≤ off iss g.hdr.ack ∧ off iss g.hdr.ack ≤ N
  len : g.text.length ≤ 65535
  seq : off base g.hdr.seq ≤ Np
  below : g.text ≠ [] → off base g.hdr.seq + g.text.length ≤ Np

/-- the ESTABLISHED endpoint as far as `process_segment` reads it -/
structure EL (iss : Seq) (N : Nat) (base : Seq) (Np : Nat) (t : Tcb) : Prop where
  st : t.state = .Established
  wnd : t.rcv.wnd = 65535#16
  siss : t.snd.iss = iss
  sent : t.sent = N
  una : off iss t.snd.una ≤ N
  q : off base t.rcv.nxt ≤ Np
  room : t.incoming.text.length + (Np - off base t.rcv.nxt) ≤ 65535

/-- what processing leaves alone / moves monotonically -/
structure EK (iss base : Seq) (t t' : Tcb) : Prop where
  snxt : t'.snd.nxt = t.snd.nxt
  otext : t'.outgoing.text = t.outgoing.text
  mtu : t'.mtu = t.mtu
  rtx : ∀ tr ∈ t'.outgoing.retransmit, tr ∈ t.outgoing.retransmit
  umono : off iss t.snd.una ≤ off iss t'.snd.una
  qmono : off base t.rcv.nxt ≤ off base t'.rcv.nxt
  bufq : t'.incoming.text.length + off base t.rcv.nxt = t.incoming.text.length + off base t'.rcv.nxt
  oneApp : ∃ L, t'.outgoing.oneshot = t.outgoing.oneshot ++ L
  last : LastAck t → LastAck t'

variable {iss : Seq} {N : Nat} {base : Seq} {Np : Nat}

theorem EK.refl (t : Tcb) : EK iss base t t :=
  ⟨rfl, rfl, rfl, fun _ h => h, Nat.le_refl _, Nat.le_refl _, rfl, ⟨[], by simp⟩, id⟩

theorem EK.trans {a b c : Tcb} (h1 : EK iss base a b) (h2 : EK iss base b c) : EK iss base a c := by
  refine ⟨h2.snxt.trans h1.snxt, h2.otext.trans h1.otext, h2.mtu.trans h1.mtu, fun tr h => h1.rtx tr (h2.rtx tr h),
    Nat.le_trans h1.umono h2.umono, Nat.le_trans h1.qmono h2.qmono, ?_, ?_, fun h => h2.last (h1.last h)⟩
  · have := h1.bufq
    have := h2.bufq
    omega
  · obtain ⟨L1, e1⟩ := h1.oneApp
    obtain ⟨L2, e2⟩ := h2.oneApp
    exact ⟨L1 ++ L2, by rw [e2, e1, List.append_assoc]⟩

theorem isSeqOk_total (t : Tcb) (len : Nat) (seq : Seq) :
    ∃ b, t.isSeqOk (BitVec.ofNat 32 len) seq false false = .ok b := by
  rw [isSeqOk_eq, if_neg (Nat.not_le.2 (BitVec.ofNat 32 len).isLt :
    ¬ (BitVec.ofNat 32 len).toNat + false.toNat + false.toNat ≥ 4294967296)]
  exact ⟨_, rfl⟩

theorem toNat_sub_of_add (x y : Seq) (k : Nat) (hk0 : 0 < k) (hk : k < 4294967296)
    (h : x + BitVec.ofNat 32 k = y) : (x - y).toNat = 4294967296 - k := by
  have e : x = y + BitVec.ofNat 32 (4294967296 - k) := by
    rw [← h, BitVec.add_assoc, ← BitVec.ofNat_add, show k + (4294967296 - k) = 4294967296 by omega]
    exact (BitVec.add_zero x).symm
  show off y x = _
  rw [e, off_add _ _ _ (by rw [off_self]; omega), off_self]
  omega

theorem old_arith {d len : Nat} (hd : len < d) (hd31 : d < 2147483648) (hpos : 0 < len) :
    ¬ (4294967296 - d < 65535 ∨ 4294967296 - d = 4294967295) ∧
    ¬ (4294967296 - (d - len + 1) < 65535 ∨ 4294967296 - (d - len + 1) = 4294967295) := by
  omega

theorem isSeqOk_old (t : Tcb) (seq : Seq) (len d : Nat) (hw : t.rcv.wnd = 65535#16)
    (hseq : seq + BitVec.ofNat 32 d = t.rcv.nxt) (hd : len < d) (hd31 : d < 2147483648) (hpos : 0 < len) :
    t.isSeqOk (BitVec.ofNat 32 len) seq false false = .ok false := by
  have h16 : (65535#16 : BitVec 16).toNat = 65535 := rfl
  have hlen : len < 4294967296 := Nat.lt_trans hd (Nat.lt_trans hd31 (by decide))
  have htl : (BitVec.ofNat 32 len).toNat = len := C01.ofNat_toNat_lt _ hlen
  have hw0 : ¬ t.rcv.wnd = 0 := by rw [hw]; decide
  obtain ⟨a1, a2⟩ := old_arith hd hd31 hpos
  -- both ends of the text lie `d`, resp. `d - len + 1`, below `RCV.NXT`
  have h1 : (seq - t.rcv.nxt).toNat = 4294967296 - d :=
    toNat_sub_of_add _ _ d (Nat.lt_trans hpos hd) (Nat.lt_trans hd31 (by decide)) hseq
  have h2 : (seq + BitVec.ofNat 32 len - 1 - t.rcv.nxt).toNat = 4294967296 - (d - len + 1) := by
    refine toNat_sub_of_add _ _ (d - len + 1) (Nat.succ_pos _)
      (Nat.lt_of_le_of_lt (Nat.succ_le_succ (Nat.sub_le _ _)) (Nat.lt_trans (Nat.succ_lt_succ hd31) (by decide))) ?_
    rw [Nat.add_comm, BitVec.ofNat_add, ← BitVec.add_assoc]
    show seq + BitVec.ofNat 32 len - 1 + 1 + BitVec.ofNat 32 (d - len) = t.rcv.nxt
    rw [BitVec.sub_add_cancel, BitVec.add_assoc, ← BitVec.ofNat_add, Nat.add_sub_cancel' (Nat.le_of_lt hd)]
    exact hseq
  have w1 : t.isInRcvWindow seq = false := by
    rw [← Bool.not_eq_true, isInRcvWindow_iff, h1, hw, h16]
    exact a1
  have w2 : t.isInRcvWindow (seq + BitVec.ofNat 32 len - 1) = false := by
    rw [← Bool.not_eq_true, isInRcvWindow_iff, h2, hw, h16]
    exact a2
  rw [isSeqOk_eq, htl, Bool.toNat_false, Nat.add_zero, if_neg (Nat.not_le.2 hlen)]
  rw [acceptable_pos (Nat.ne_of_gt hpos) hw0, w1, w2]
  rfl

theorem gap_of_le {seq nxt : Seq} (hle : off base seq ≤ off base nxt) (hq : off base nxt < 2147483648) :
    ∃ d, off base nxt = off base seq + d ∧ seq + BitVec.ofNat 32 d = nxt := by
  obtain ⟨d, hd⟩ : ∃ d, off base nxt = off base seq + d := ⟨_, (Nat.add_sub_cancel' hle).symm⟩
  refine ⟨d, hd, off_inj (base := base) ?_⟩
  rw [off_add _ _ _ (by omega)]
  omega

theorem ends_before (t : Tcb) (g : Segment) (hw : t.rcv.wnd = 65535#16) (hq : off base t.rcv.nxt < 2147483648)
    (hlen : g.text.length ≤ 65535)
    (hb : t.isSeqOk (BitVec.ofNat 32 g.text.length) g.hdr.seq false false = .ok false) (hne : g.text ≠ [])
    (hle : off base g.hdr.seq ≤ off base t.rcv.nxt) : off base g.hdr.seq + g.text.length ≤ off base t.rcv.nxt := by
  obtain ⟨d, hd, hseq⟩ := gap_of_le hle hq
  have hdl : g.text.length < d := by
    rcases Nat.lt_or_ge g.text.length d with h | h
    · exact h
    · have := isSeqOk_catch t g.hdr.seq g.text.length d hw hseq (List.length_pos_iff.2 hne) h hlen
      rw [this] at hb; cases hb
  omega

/-- what `ack_established_processing` does for an ACK field in `[ISS + 1, SND.NXT]` -/
structure AckK (iss : Seq) (N : Nat) (t t1 : Tcb) : Prop where
  rcv : t1.rcv = t.rcv
  inc : t1.incoming = t.incoming
  st : t1.state = t.state
  otext : t1.outgoing.text = t.outgoing.text
  one : t1.outgoing.oneshot = t.outgoing.oneshot
  nxt : t1.snd.nxt = t.snd.nxt
  siss : t1.snd.iss = t.snd.iss
  mtu : t1.mtu = t.mtu
  rtx : ∀ tr ∈ t1.outgoing.retransmit, tr ∈ t.outgoing.retransmit
  ulo : off iss t.snd.una ≤ off iss t1.snd.una
  uhi : off iss t1.snd.una ≤ N

theorem AckK.refl (t : Tcb) (hu : off iss t.snd.una ≤ N) : AckK iss N t t :=
  ⟨rfl, rfl, rfl, rfl, rfl, rfl, rfl, rfl, fun _ h => h, Nat.le_refl _, hu⟩

theorem ackEst_k (hN : N < 2147483648) (t : Tcb) (seg : Hdr) (hiss : t.snd.iss = iss) (hsent : t.sent = N)
    (hu : off iss t.snd.una ≤ N) (ha : 1 ≤ off iss seg.ack ∧ off iss seg.ack ≤ N) :
    ∃ t1, t.ackEstablishedProcessing seg = .ok (t1, .Success) ∧ AckK iss N t t1 := by
  have hsentN : off iss t.snd.nxt = N := by rw [← hsent, ← hiss]; rfl
  -- the ACK field is old, or in `(SND.UNA, SND.NXT]`
  have hcase : modLeq seg.ack t.snd.una = true ∨
      (modLeq seg.ack t.snd.una = false ∧ off iss t.snd.una < off iss seg.ack) := by
    cases h1 : modLeq seg.ack t.snd.una with
    | true => exact Or.inl rfl
    | false =>
      refine Or.inr ⟨rfl, Nat.lt_of_not_le fun h => ?_⟩
      rw [(modLeq_iff_off iss seg.ack t.snd.una (by omega) (by omega)).2 h] at h1
      cases h1
  obtain ⟨t1, e1, fx⟩ := ackEst_fwd t seg (hcase.imp id fun h =>
    bounded_of_off iss _ _ _ (by omega) h.2 (by omega))
  have key : (∀ tr ∈ t1.outgoing.retransmit, tr ∈ t.outgoing.retransmit) ∧ off iss t.snd.una ≤ off iss t1.snd.una ∧
      off iss t1.snd.una ≤ N := by
    rw [fx.rtx, fx.una]
    rcases hcase with h1 | ⟨h1, hlt⟩
    · rw [h1, if_pos rfl, if_pos rfl]
      exact ⟨fun _ h => h, Nat.le_refl _, hu⟩
    · rw [h1, if_neg Bool.false_ne_true, if_neg Bool.false_ne_true]
      exact ⟨fun tr h => (List.mem_filter.1 h).1, Nat.le_of_lt hlt, ha.2⟩
  exact ⟨t1, e1, fx.rcv, fx.inc, fx.st, fx.otext, fx.one, fx.nxt, fx.iss, fx.mtu, key.1, key.2.1, key.2.2⟩

theorem ackBlock_k (hN : N < 2147483648) (t : Tcb) (seg : Hdr) (hst : t.state = .Established) (hiss : t.snd.iss = iss)
    (hsent : t.sent = N) (hu : off iss t.snd.una ≤ N) (hab : seg.ctl.ack = true)
    (ha : 1 ≤ off iss seg.ack ∧ off iss seg.ack ≤ N) : ∃ t1, ackBlock t seg = .ok (t1, none) ∧ AckK iss N t t1 := by
  obtain ⟨t1, e1, fx⟩ := ackEst_k hN t seg hiss hsent hu ha
  exact ⟨t1, (ackBlock_success t t1 seg hab e1).1 (Or.inl hst), fx⟩

theorem block2_k (hN : N < 2147483648) (t : Tcb) (g : Segment) (el : EL iss N base Np t)
    (ng : Nice iss N base Np g) : ∃ t1, ackBlock t g.hdr = .ok (t1, none) ∧ AckK iss N t t1 := by
  cases hab : g.hdr.ctl.ack with
  | false => exact ⟨t, ackBlock_noAck hab, AckK.refl t el.una⟩
  | true => exact ackBlock_k hN t g.hdr el.st el.siss el.sent el.una hab (ng.ack hab)

theorem lastAck_snoc (t : Tcb) (h : Hdr) (l : List Hdr) (e : t.outgoing.oneshot = l ++ [h]) (ha : h.ack = t.rcv.nxt) :
    LastAck t := ⟨h, by rw [e]; simp, ha⟩

/-- a text of `len` bytes at `s`, `d` of them below `RCV.NXT = q`, all of it at most `Np`: the rest fits the buffer
    (`buf` bytes in it, room up to `Np`), and `RCV.NXT` ends past the text, at most at `Np`, with the room still there -/
theorem catch_arith {q s d len Np buf : Nat} (hd : q = s + d) (hdl : d ≤ len) (hbel : s + len ≤ Np)
    (hroom : buf + (Np - q) ≤ 65535) :
    buf + (len - d) ≤ 65535 ∧ s + len ≤ q + (len - d) ∧ q + (len - d) ≤ Np ∧
      buf + (len - d) + (Np - (q + (len - d))) ≤ 65535 := by
  omega

theorem procEst (hN : N < 2147483648) (hNp : Np < 2147483648) (t : Tcb) (g : Segment)
    (el : EL iss N base Np t) (ng : Nice iss N base Np g) (hgate : off base g.hdr.seq ≤ off base t.rcv.nxt) :
    ∃ t' r, t.processSegment g = .ok (t', r) ∧ r.shouldDeleteTcb = false ∧ EK iss base t t' ∧
      t'.incoming.segments = t.incoming.segments ∧ EL iss N base Np t' ∧
      (g.text ≠ [] → off base g.hdr.seq + g.text.length ≤ off base t'.rcv.nxt ∧ LastAck t') := by
  obtain ⟨b, hb⟩ := isSeqOk_total t g.text.length g.hdr.seq
  have hq := el.q
  obtain ⟨d, hd, hseq⟩ := gap_of_le hgate (Nat.lt_of_le_of_lt hq hNp)
  cases b with
  | false =>
    have hps : t.processSegment g = .ok (t.enqueueBuilt t.ackHdr.built, .DiscardSegment) :=
      processSegment_stop1 (seqCheck_reject (by rw [el.st]; nofun) (by rw [ng.syn, ng.fin]; exact hb))
    have he := enqueueBuilt_oneshot t t.ackHdr.built rfl rfl
    refine ⟨_, _, hps, rfl, ?_, ?_, ?_, fun hne => ?_⟩
    · rw [he]
      exact ⟨rfl, rfl, rfl, fun _ h => h, Nat.le_refl _, Nat.le_refl _, rfl, ⟨[_], rfl⟩,
        fun _ => ⟨t.ackHdr.built, by simp, rfl⟩⟩
    · rw [he]
    · rw [he]
      exact ⟨el.st, el.wnd, el.siss, el.sent, el.una, el.q, el.room⟩
    · rw [he]
      exact ⟨ends_before t g el.wnd (by omega) ng.len hb hne hgate, ⟨t.ackHdr.built, by simp, rfl⟩⟩
  | true =>
    obtain ⟨t1, ca, fx⟩ := block2_k hN t g el ng
    have cs : seqCheck t g.hdr (BitVec.ofNat 32 g.text.length) = .ok (t, none) :=
      seqCheck_pass (by rw [el.st]; nofun) (by rw [ng.syn, ng.fin]; exact hb)
    have hns1 : t1.state ≠ .SynSent := by rw [fx.st, el.st]; nofun
    by_cases htxt : g.text = []
    · have hps : t.processSegment g = .ok (t1, .Success) :=
        processSegment_plain cs ca hns1 ng.rst ng.syn (by rw [htxt]; exact textBlock_pass _ _ _) (finBlock_pass ng.fin)
      refine ⟨t1, _, hps, rfl, ?_, by rw [fx.inc], ?_, fun hne => absurd htxt hne⟩
      · refine ⟨fx.nxt, fx.otext, fx.mtu, fx.rtx, fx.ulo, by rw [fx.rcv]; exact Nat.le_refl _, by rw [fx.rcv, fx.inc],
          ⟨[], by rw [fx.one]; simp⟩, fun ⟨h, h1, h2⟩ => ⟨h, by rw [fx.one]; exact h1, by rw [fx.rcv]; exact h2⟩⟩
      · exact ⟨by rw [fx.st]; exact el.st, by rw [fx.rcv]; exact el.wnd, by rw [fx.siss]; exact el.siss,
          by rw [sent_congr fx.siss fx.nxt]; exact el.sent, fx.uhi, by rw [fx.rcv]; exact el.q,
          by rw [fx.rcv, fx.inc]; exact el.room⟩
    · have hpos : 0 < g.text.length := List.length_pos_iff.2 htxt
      have hbel := ng.below htxt
      have hdl : d ≤ g.text.length := by
        rcases Nat.lt_or_ge g.text.length d with h | h
        · have := isSeqOk_old t g.hdr.seq g.text.length d el.wnd hseq h (by omega) hpos
          rw [this] at hb; cases hb
        · exact h
      obtain ⟨c1, c2, c3, c4⟩ := catch_arith hd hdl hbel el.room
      obtain ⟨t', e5, tx⟩ := textBlock_catch t1 g.hdr g.text d (by rw [fx.st]; exact el.st)
        (by rw [fx.rcv]; exact el.wnd) ng.syn (by rw [fx.rcv]; exact hseq) htxt hdl ng.len
        (by rw [fx.inc]; exact c1)
      have hps : t.processSegment g = .ok (t', .Success) :=
        processSegment_plain cs ca hns1 ng.rst ng.syn e5 (finBlock_pass ng.fin)
      have hoff : off base t'.rcv.nxt = off base t.rcv.nxt + (g.text.length - d) := by
        rw [tx.nxt, fx.rcv, off_add _ _ _ (Nat.lt_of_le_of_lt c3 (Nat.lt_trans hNp (by decide)))]
      have hlen' : t'.incoming.text.length = t.incoming.text.length + (g.text.length - d) := by
        rw [tx.text, fx.inc, List.length_append, List.length_drop]
      obtain ⟨h, hone, hack⟩ := tx.one
      have hla : LastAck t' := lastAck_snoc t' h _ hone hack
      refine ⟨t', _, hps, rfl, ?_, by rw [tx.heap, fx.inc], ?_, fun _ => ⟨by rw [hoff]; exact c2, hla⟩⟩
      · refine ⟨by rw [tx.snd, fx.nxt], by rw [tx.otext, fx.otext], by rw [tx.mtu, fx.mtu],
          fun tr htr => fx.rtx tr (by rw [tx.rtx] at htr; exact htr), by rw [tx.snd]; exact fx.ulo,
          by rw [hoff]; exact Nat.le_add_right _ _, by rw [hlen', hoff, Nat.add_right_comm, Nat.add_assoc],
          ⟨[h], by rw [hone, fx.one]⟩, fun _ => hla⟩
      · refine ⟨by rw [tx.st, fx.st]; exact el.st, by rw [tx.rwnd, fx.rcv]; exact el.wnd, by rw [tx.snd, fx.siss]; exact el.siss,
          ?_, by rw [tx.snd]; exact fx.uhi, by rw [hoff]; exact c3, by rw [hlen', hoff]; exact c4⟩
        have e1 : t'.snd.iss = t.snd.iss := by rw [tx.snd, fx.siss]
        have e2 : t'.snd.nxt = t.snd.nxt := by rw [tx.snd, fx.nxt]
        rw [sent_congr e1 e2]; exact el.sent

theorem mem_pop_iff {l : List Segment} {top : Segment} {rest : List Segment}
    (h : LHeap.pop segLe l = (some top, rest)) (g : Segment) : g ∈ l ↔ g = top ∨ g ∈ rest := by
  rw [← (LHeap.pop_perm segLe l top rest h).mem_iff]
  simp

/-- the root is the least: the loop cannot stop while a text-bearing segment that is not ahead of `RCV.NXT` is parked,
    and what it leaves is ahead -/
theorem drain_est (hN : N < 2147483648) (hNp : Np < 2147483648) (fuel : Nat) : ∀ t : Tcb, EL iss N base Np t →
    HeapOk base t → (∀ g ∈ t.incoming.segments, Nice iss N base Np g) → t.incoming.segments.length < fuel →
    ∃ t', drain fuel t = .ok (t', .Ok) ∧ EL iss N base Np t' ∧ HeapOk base t' ∧ EK iss base t t' ∧
      (∀ g ∈ t'.incoming.segments, g ∈ t.incoming.segments) ∧
      (∀ g ∈ t'.incoming.segments, off base t'.rcv.nxt < off base g.hdr.seq) ∧
      (∀ g ∈ t.incoming.segments, g.text ≠ [] → off base g.hdr.seq ≤ off base t.rcv.nxt →
        off base g.hdr.seq + g.text.length ≤ off base t'.rcv.nxt ∧ LastAck t') := by
  induction fuel with
  | zero => intro t _ _ _ hf; omega
  | succ n ih =>
    intro t el hk hnice hf
    have hq := el.q
    by_cases hs : Stops t
    · -- the heap is empty or the root is ahead: everything is ahead
      refine ⟨t, (drain_iff _ hf).2 (.stop hs), el, hk, EK.refl t, fun _ h => h,
        fun g hg => hk.ahead_of_stops hs (by omega) hg, fun g hg _ hle => ?_⟩
      have := hk.ahead_of_stops hs (by omega) hg
      omega
    · obtain ⟨top, hpeek⟩ : ∃ top, LHeap.peek t.incoming.segments = some top := by
        cases hl : LHeap.peek t.incoming.segments with
        | none => exact absurd (fun top h => by rw [hl] at h; cases h) hs
        | some a => exact ⟨a, rfl⟩
      obtain ⟨rest, hpop⟩ := LHeap.pop_of_peek (le := segLe) hpeek
      have htop : top ∈ t.incoming.segments := (LHeap.mem_of_mem_pop hpop).1
      have hts := (hnice top htop).seq
      have hle : off base top.hdr.seq ≤ off base t.rcv.nxt := by
        rcases Nat.lt_or_ge (off base t.rcv.nxt) (off base top.hdr.seq) with h | h
        · refine absurd (fun top' h' => ?_) hs
          rw [hpeek] at h'
          cases h'
          exact ⟨by rw [el.st]; nofun, (modGt_iff_off base top.hdr.seq t.rcv.nxt (by omega) (by omega)).2 h⟩
        · exact h
      have el0 : EL iss N base Np { t with incoming.segments := rest } :=
        ⟨el.st, el.wnd, el.siss, el.sent, el.una, el.q, el.room⟩
      obtain ⟨t1, r1, hp, hnd, k1, -, el1, prog1⟩ :=
        procEst hN hNp { t with incoming.segments := rest } top el0 (hnice top htop) hle
      have P : Pops t top rest t1 r1 :=
        ⟨hpop, fun _ => Bool.eq_false_iff.2 fun h =>
          absurd ((modGt_iff_off base top.hdr.seq t.rcv.nxt (by omega) (by omega)).1 h) (Nat.not_lt.2 hle), hp⟩
      have hf1 : t1.incoming.segments.length < n := by have := P.length; omega
      obtain ⟨t', e', el', hk', k', hsub', hahead', prog'⟩ := ih t1 el1 (hk.pops P)
        (fun g hg => hnice g ((P.mem g).2 (Or.inr hg))) hf1
      have kt1 : EK iss base t t1 :=
        ⟨k1.snxt, k1.otext, k1.mtu, k1.rtx, k1.umono, k1.qmono, k1.bufq, k1.oneApp, k1.last⟩
      refine ⟨t', (drain_iff _ hf).2 (.step P hnd ((drain_iff _ hf1).1 e')), el', hk', kt1.trans k',
        fun g hg => (P.mem g).2 (Or.inr (hsub' g hg)), hahead', fun g hg hne hgq => ?_⟩
      rcases (P.mem g).1 hg with rfl | hr
      · obtain ⟨p1, p2⟩ := prog1 hne
        exact ⟨Nat.le_trans p1 k'.qmono, k'.last p2⟩
      · exact prog' g hr hne (Nat.le_trans hgq k1.qmono)

/-- the endpoint between two arrivals -/
structure ER (iss : Seq) (N : Nat) (base : Seq) (Np : Nat) (t : Tcb) : Prop where
  el : EL iss N base Np t
  hk : HeapOk base t
  nice : ∀ g ∈ t.incoming.segments, Nice iss N base Np g
  ahead : ∀ g ∈ t.incoming.segments, off base t.rcv.nxt < off base g.hdr.seq

theorem Nice.mono {N N1 Np Np1 : Nat} {g : Segment} (n : Nice iss N base Np g) (hN : N ≤ N1) (hNp : Np ≤ Np1) :
    Nice iss N1 base Np1 g :=
  ⟨n.rst, n.syn, n.fin, fun h => ⟨(n.ack h).1, Nat.le_trans (n.ack h).2 hN⟩, n.len, Nat.le_trans n.seq hNp,
    fun h => Nat.le_trans (n.below h) hNp⟩

theorem ER.mono {N N1 Np Np1 : Nat} {t t1 : Tcb} (er : ER iss N base Np t) (hst : t1.state = t.state)
    (hrcv : t1.rcv = t.rcv) (hinc : t1.incoming = t.incoming) (hiss : t1.snd.iss = iss) (hsent : t1.sent = N1)
    (hN : N ≤ N1) (huna : off iss t1.snd.una ≤ N1) (hNp : Np ≤ Np1)
    (hroom : t1.incoming.text.length + (Np1 - off base t1.rcv.nxt) ≤ 65535) : ER iss N1 base Np1 t1 := by
  refine ⟨⟨by rw [hst]; exact er.el.st, by rw [hrcv]; exact er.el.wnd, hiss, hsent, huna,
    by rw [hrcv]; exact Nat.le_trans er.el.q hNp, hroom⟩, ⟨?_, ?_⟩, ?_, ?_⟩
  · rw [hinc]; exact er.hk.win
  · rw [hinc]; exact er.hk.heap
  · rw [hinc]; exact fun g hg => (er.nice g hg).mono hN hNp
  · rw [hinc, hrcv]; exact er.ahead

theorem arrive_est (hN : N < 2147483648) (hNp : Np < 2147483648) (t : Tcb) (g : Segment)
    (er : ER iss N base Np t) (ng : Nice iss N base Np g) :
    ∃ t', t.segmentArrives g = .ok (t', .Ok) ∧ ER iss N base Np t' ∧ EK iss base t t' ∧
      (∀ x ∈ t'.incoming.segments, x = g ∨ x ∈ t.incoming.segments) ∧
      (g.text ≠ [] → off base g.hdr.seq ≤ off base t.rcv.nxt →
        off base g.hdr.seq + g.text.length ≤ off base t'.rcv.nxt ∧ LastAck t') := by
  obtain ⟨b, hb⟩ := isSeqOk_total t g.text.length g.hdr.seq
  have hq := er.el.q
  have hns : t.state ≠ .SynSent := by rw [er.el.st]; nofun
  have hb' : t.isSeqOk (BitVec.ofNat 32 g.text.length) g.hdr.seq g.hdr.ctl.syn g.hdr.ctl.fin = .ok b := by
    rw [ng.syn, ng.fin]; exact hb
  cases b with
  | false =>
    refine ⟨_, segmentArrives_iff.2 (Or.inl ⟨hns, hb', rfl, rfl⟩), ?_⟩
    rw [enqueueBuilt_oneshot t t.ackHdr.built rfl rfl]
    refine ⟨⟨⟨er.el.st, er.el.wnd, er.el.siss, er.el.sent, er.el.una, er.el.q, er.el.room⟩,
      ⟨er.hk.win, er.hk.heap⟩, er.nice, er.ahead⟩, ?_, fun x hx => Or.inr hx, fun hne hgq => ?_⟩
    · exact ⟨rfl, rfl, rfl, fun _ h => h, Nat.le_refl _, Nat.le_refl _, rfl, ⟨[_], rfl⟩,
        fun _ => ⟨t.ackHdr.built, by simp, rfl⟩⟩
    · exact ⟨ends_before t g er.el.wnd (by omega) ng.len hb hne hgq, ⟨t.ackHdr.built, by simp, rfl⟩⟩
  | true =>
    have hk0 := er.hk.push (g := g) (by have := ng.seq; unfold InWin; omega)
    have el0 : EL iss N base Np { t with incoming.segments := LHeap.push segLe t.incoming.segments g } :=
      ⟨er.el.st, er.el.wnd, er.el.siss, er.el.sent, er.el.una, er.el.q, er.el.room⟩
    have hn0 : ∀ x ∈ LHeap.push segLe t.incoming.segments g, Nice iss N base Np x := LHeap.forall_mem_push ng er.nice
    obtain ⟨t', e', el', hk', k', hsub', hahead', prog'⟩ := drain_est hN hNp _ _ el0 hk0 hn0 (Nat.lt_succ_self _)
    refine ⟨t', segmentArrives_iff.2 (Or.inr ⟨Or.inr hb', (drain_iff _ (Nat.lt_succ_self _)).1 e'⟩), ⟨el', hk', fun x hx => hn0 x (hsub' x hx), hahead'⟩,
      ⟨k'.snxt, k'.otext, k'.mtu, k'.rtx, k'.umono, k'.qmono, k'.bufq, k'.oneApp, k'.last⟩,
      fun x hx => LHeap.mem_push.1 (hsub' x hx), fun hne hgq => ?_⟩
    exact prog' g (LHeap.mem_push.2 (Or.inl rfl)) hne hgq

theorem arriveList_est (hN : N < 2147483648) (hNp : Np < 2147483648) (gs : List Segment) : ∀ t : Tcb,
    ER iss N base Np t → (∀ g ∈ gs, Nice iss N base Np g) →
    ∃ t', t.arriveList gs = .ok t' ∧ ER iss N base Np t' ∧ EK iss base t t' ∧
      (∀ x ∈ t'.incoming.segments, x ∈ gs ∨ x ∈ t.incoming.segments) ∧
      (∀ (pre run : List Segment) (seq : Seq), gs = pre ++ run → CatchRun seq run → run ≠ [] →
        off base seq ≤ off base t.rcv.nxt →
        off base seq + segBytes run ≤ off base t'.rcv.nxt ∧ LastAck t') := by
  induction gs with
  | nil =>
    intro t er _
    refine ⟨t, rfl, er, EK.refl t, fun x hx => Or.inr hx, fun pre run seq he _ hne _ => ?_⟩
    have : run = [] := (List.append_eq_nil_iff.1 he.symm).2
    exact absurd this hne
  | cons g rest ih =>
    intro t er hnice
    obtain ⟨t1, e1, er1, k1, hs1, prog1⟩ := arrive_est hN hNp t g er (hnice g List.mem_cons_self)
    obtain ⟨t', e', er', k', hs', prog'⟩ := ih t1 er1 (fun x hx => hnice x (List.mem_cons_of_mem _ hx))
    refine ⟨t', by simp only [arriveList, e1]; exact e', er', k1.trans k', fun x hx => ?_, ?_⟩
    · rcases hs' x hx with h | h
      · exact Or.inl (List.mem_cons_of_mem _ h)
      · rcases hs1 x h with rfl | h
        · exact Or.inl List.mem_cons_self
        · exact Or.inr h
    · intro pre run seq he hrun hne hle
      cases pre with
      | cons p pre' =>
        -- the run lies in `rest`
        simp only [List.cons_append, List.cons.injEq] at he
        exact prog' pre' run seq he.2 hrun hne (Nat.le_trans hle k1.qmono)
      | nil =>
        -- the run starts with `g`
        simp only [List.nil_append] at he
        cases run with
        | nil => exact absurd rfl hne
        | cons g0 run' =>
          simp only [List.cons.injEq] at he
          obtain ⟨hg0, hrest⟩ := he
          subst hg0
          subst hrest
          obtain ⟨hs, _, _, _, _, htxt, _, hrunR⟩ := hrun
          obtain ⟨p1, p2⟩ := prog1 htxt (by rw [hs]; exact hle)
          rw [hs] at p1
          have hb := (hnice g List.mem_cons_self).below htxt
          rw [hs] at hb
          have hoffn : off base (seq + BitVec.ofNat 32 g.text.length) = off base seq + g.text.length :=
            off_add _ _ _ (by omega)
          rw [segBytes_cons]
          by_cases hr : rest = []
          · subst hr
            simp only [arriveList, Except.ok.injEq] at e'
            subst e'
            simp only [segBytes_nil, Nat.add_zero]
            exact ⟨p1, p2⟩
          · obtain ⟨q1, q2⟩ := prog' [] rest _ rfl hrunR hr (by rw [hoffn]; exact p1)
            rw [hoffn] at q1
            exact ⟨by omega, q2⟩

end Elvis.Tcp.Full
