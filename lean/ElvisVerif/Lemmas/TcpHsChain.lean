import ElvisVerif.Lemmas.TcpHsFwd
import ElvisVerif.Lemmas.TcpConvSteady
/-!
# The two endpoints of an active / passive open, step by step

All TCBs of the first two exchange phases are explicit terms of the parameters (ports, ISNs, MTUs, the
text A's application wrote while in SYN-SENT): `hsA0 … hsA3` (A: SYN-SENT → ESTABLISHED), `hsB1 … hsB4`
(B: created by LISTEN in SYN-RECEIVED → ESTABLISHED).
-/
namespace Elvis.Tcp
open Elvis.ModCmp
namespace Tcb

section
variable (lp rp : U16) (ia ib : Seq) (ma mb : U16) (da : List UInt8)

def synSeg : Segment := ⟨synHdr lp rp ia, []⟩
/-- A after `open` and `send da` in SYN-SENT -/
def hsA0 : Tcb := ({ openT lp rp ia ma with outgoing.text := da } : Tcb)
def hsA1 : Tcb := emitT (hsA0 lp rp ia ma da)
def hsA2 : Tcb := emitT (hsA1 lp rp ia ma da)
/-- B, created by the LISTEN handler -/
def hsB1 : Tcb := listenT (synSeg lp rp ia) ib mb
def hsB2 : Tcb := emitT (hsB1 lp rp ia ib mb)
def hsB3 : Tcb := emitT (hsB2 lp rp ia ib mb)
def synAckSeg : Segment := ⟨lsnSynAck (synSeg lp rp ia) ib, []⟩
/-- A after the SYN-ACK: ESTABLISHED -/
def hsA3 : Tcb := synAckT (hsA2 lp rp ia ma da) (synAckSeg lp rp ia ib)
/-- A's ACK of the SYN-ACK -/
def hsAckSeg : Segment := ⟨(synAckT0 (hsA2 lp rp ia ma da) (synAckSeg lp rp ia ib)).ackHdr.built, []⟩
/-- B after A's ACK: ESTABLISHED -/
def hsB4 : Tcb := estT (hsB3 lp rp ia ib mb) (hsAckSeg lp rp ia ib ma da)

theorem hsA_emit1 (hm : ¬ ma.toNat < SPACE_FOR_HEADERS) :
    (hsA0 lp rp ia ma da).segments = .ok (hsA1 lp rp ia ma da, [synSeg lp rp ia]) ∧
    (hsA1 lp rp ia ma da).receive = (hsA1 lp rp ia ma da, []) ∧
    (hsA1 lp rp ia ma da).segments = .ok (hsA2 lp rp ia ma da, []) ∧
    (hsA2 lp rp ia ma da).receive = (hsA2 lp rp ia ma da, []) := by
  refine ⟨?_, receive_empty _ rfl, ?_, receive_empty _ rfl⟩
  · exact segments_synsent_eq (hsA0 lp rp ia ma da) rfl rfl hm
  · have := segments_synsent_eq (hsA1 lp rp ia ma da) rfl rfl hm
    rw [show emitOut (hsA1 lp rp ia ma da) = [] from emitOut_emitT _] at this
    exact this

theorem hsB_create (hm : ¬ mb.toNat < SPACE_FOR_HEADERS) :
    segmentArrivesListen (synSeg lp rp ia) ib mb = .ok (some (.Tcb (hsB1 lp rp ia ib mb))) ∧
    (hsB1 lp rp ia ib mb).receive = (hsB1 lp rp ia ib mb, []) ∧
    (hsB1 lp rp ia ib mb).segments = .ok (hsB2 lp rp ia ib mb, [synAckSeg lp rp ia ib]) ∧
    (hsB2 lp rp ia ib mb).receive = (hsB2 lp rp ia ib mb, []) ∧
    (hsB2 lp rp ia ib mb).segments = .ok (hsB3 lp rp ia ib mb, []) ∧
    (hsB3 lp rp ia ib mb).receive = (hsB3 lp rp ia ib mb, []) := by
  refine ⟨listen_eq _ ib mb rfl rfl rfl, receive_empty _ rfl, ?_, receive_empty _ rfl, ?_, receive_empty _ rfl⟩
  · exact segments_notext_eq (hsB1 lp rp ia ib mb) rfl hm
  · have := segments_notext_eq (hsB2 lp rp ia ib mb) rfl hm
    rw [show emitOut (hsB2 lp rp ia ib mb) = [] from emitOut_emitT _] at this
    exact this

theorem hsA_synack :
    (hsA2 lp rp ia ma da).arriveList [synAckSeg lp rp ia ib] = .ok (hsA3 lp rp ia ib ma da) ∧
    (hsA3 lp rp ia ib ma da).receive = (hsA3 lp rp ia ib ma da, []) := by
  have e := arrive_synack_synsent (hsA2 lp rp ia ma da) (synAckSeg lp rp ia ib) rfl rfl rfl rfl rfl rfl rfl
    (not_bounded_self _ _) (ack_of_nxt ia (ia + 1) (by rw [succ_sub]; omega) (by rw [succ_sub]; omega)).2
    (modGt_succ ia)
  exact ⟨by simp only [arriveList, e]; rfl, receive_empty _ rfl⟩

theorem filter_acked_one (tr : Transmit) (a : Seq) (h : tr.segment.hdr.seq + BitVec.ofNat 32 tr.segment.segLen = a) :
    ([tr].filter fun t => modLt a (t.segment.hdr.seq + BitVec.ofNat 32 t.segment.segLen)) = [] := by
  rw [List.filter_cons, if_neg (by rw [h, modLt_self]; exact Bool.false_ne_true), List.filter_nil]

theorem hsA3_rtx : (hsA3 lp rp ia ib ma da).outgoing.retransmit = [] :=
  filter_acked_one ⟨synSeg lp rp ia, false⟩ (ia + 1) rfl

theorem hsB4_rtx : (hsB4 lp rp ia ib ma mb da).outgoing.retransmit = [] :=
  filter_acked_one ⟨synAckSeg lp rp ia ib, false⟩ (ib + 1) rfl

theorem hsB_ack :
    (hsB3 lp rp ia ib mb).segmentArrives (hsAckSeg lp rp ia ib ma da) = .ok (hsB4 lp rp ia ib ma mb da, .Ok) := by
  have k := ack_of_nxt ib (ib + 1) (by rw [succ_sub]; omega) (by rw [succ_sub]; omega)
  exact arrive_ack_synrcvd (hsB3 lp rp ia ib mb) (parkedSyn (synSeg lp rp ia)) (hsAckSeg lp rp ia ib ma da) rfl rfl rfl
    rfl rfl rfl rfl rfl rfl rfl rfl rfl rfl rfl rfl k.1 k.2

/-- the third exchange phase: A emits its ACK and the first window of data; B takes the ACK
    (ESTABLISHED) and then the data, in order -/
theorem hs_phase3 (hmA : SPACE_FOR_HEADERS < ma.toNat) :
    ∃ new tA4 outA tB5, (hsA3 lp rp ia ib ma da).segments = .ok (tA4, outA) ∧
      EmitFx (hsA3 lp rp ia ib ma da) new tA4 outA ∧
      outA = hsAckSeg lp rp ia ib ma da :: new.map (·.segment) ∧
      (hsB3 lp rp ia ib mb).arriveList outA = .ok tB5 ∧
      BatchFx ib (hsB4 lp rp ia ib ma mb da) (new.map (·.segment)) tB5 := by
  obtain ⟨new, tA4, outA, eA, fx⟩ := segments_fwd (hsA3 lp rp ia ib ma da) trivial hmA
  have hout : outA = hsAckSeg lp rp ia ib ma da :: new.map (·.segment) := by
    rw [fx.out, hsA3_rtx, List.nil_append, List.filter_eq_self.2 fx.flagged]
    rfl
  have hΔ := emitAmount_le (hsA3 lp rp ia ib ma da)
  have o1 : off ib (ib + 1) = 1 := off_succ ib
  obtain ⟨tB5, eB, bf⟩ := arriveList_fwd ib 1 1 (by omega) (Nat.le_refl _) (new.map (·.segment))
    (hsB4 lp rp ia ib ma mb da) rfl rfl rfl rfl o1 (by show off ib (ib + 1) ≤ 1; omega)
    (inRun_of_dataRun _ _ _ _ _ _ fx.run)
    (ackLe_dataRun ib 1 _ _ _ _ (by show 1 ≤ off ib (ib + 1); omega) (by show off ib (ib + 1) ≤ 1; omega) _ _ fx.run)
    (by
      show ([] : List UInt8).length + _ ≤ 65535
      rw [fx.bytes]; simp only [List.length_nil]; omega)
    (by rw [hsB4_rtx]; intro tr htr; cases htr)
  refine ⟨new, tA4, outA, tB5, eA, fx, hout, ?_, bf⟩
  rw [hout]
  simp only [arriveList, hsB_ack]
  exact eB

end
end Tcb
end Elvis.Tcp
