import ElvisVerif.Lemmas.TcpConvEmit
/-!
# Forward evaluation of the three-way handshake (active / passive open)

Each step of `Tcb::open`, the LISTEN handler and `segment_arrives` during the handshake is an explicit TCB
(`openT`, `listenT` of `Lemmas/TcbBlocks.lean`; `synAckT`, `estT`).  The LISTEN handler parks the SYN in the reorder heap without its SYN
bit; when the ACK of the SYN-ACK arrives in SYN-RECEIVED the parked segment is processed first and changes
nothing (`process_parked`), then the ACK makes the state ESTABLISHED.
-/
namespace Elvis.Tcp
open Elvis.ModCmp
namespace Tcb
open Elvis.Tcp.Fin

/-- in SYN-SENT the peer's window is still unknown (0): nothing is segmentized -/
theorem segments_synsent_eq (t : Tcb) (hst : t.state = .SynSent) (hw : t.snd.wnd = 0)
    (hm : ¬ t.mtu.toNat < SPACE_FOR_HEADERS) : t.segments = .ok (emitT t, emitOut t) := by
  refine segments_quiet_eq t ?_ ?_
  · exact segmentizeIfOpen_synSent ({ t with outgoing.oneshot := [] } : Tcb) hst hw hm
  · rw [finPending_eq, hst]; rfl

/-- the TCB after the SYN-ACK, before the ACK is queued -/
def synAckT0 (t : Tcb) (g : Segment) : Tcb :=
  let s1 : Tcb := (({ t with snd.una := g.hdr.ack } : Tcb).removeAckedFromRetransmission g.hdr.ack)
  ({ s1 with rcv.irs := g.hdr.seq, rcv.nxt := g.hdr.seq + 1, snd.wnd := g.hdr.wnd, snd.wl1 := g.hdr.seq, snd.wl2 := g.hdr.ack, state := .Established } : Tcb)

/-- the TCB after the SYN-ACK -/
def synAckT (t : Tcb) (g : Segment) : Tcb :=
  ({ synAckT0 t g with outgoing.oneshot := (synAckT0 t g).outgoing.oneshot ++ [(synAckT0 t g).ackHdr.built] } : Tcb)

theorem arrive_synack_synsent (t : Tcb) (g : Segment) (hst : t.state = .SynSent) (hheap : t.incoming.segments = [])
    (hrst : g.hdr.ctl.rst = false) (hsyn : g.hdr.ctl.syn = true) (hfin : g.hdr.ctl.fin = false)
    (hack : g.hdr.ctl.ack = true) (htext : g.text = [])
    (h1 : modBounded t.snd.nxt .Lt g.hdr.ack .Leq t.snd.iss = false)
    (h2 : modBounded t.snd.una .Lt g.hdr.ack .Leq t.snd.nxt = true)
    (h3 : modGt g.hdr.ack t.snd.iss = true) :
    t.segmentArrives g = .ok (synAckT t g, .Ok) := by
  have c1 : seqCheck t g.hdr (BitVec.ofNat 32 g.text.length) = .ok (t, none) := seqCheck_synSent hst
  have c2 : ackBlock t g.hdr = .ok (ackTaken t g.hdr.ack, none) := by
    rw [ackBlock_eq, ackOut_synSent hack hst]
    unfold ackSynSent
    rw [if_neg (by simp [h1]), if_pos h2, if_pos hsyn]
  have c4 : synBlock (ackTaken t g.hdr.ack) g.hdr = .ok (synAckT t g, none) := by
    rw [synBlock_established hsyn (s := ackTaken t g.hdr.ack) hst (by exact h3), enqueueBuilt_ack]
    unfold synMoved synTaken
    simp only [hack, if_true]
    rfl
  have hps : t.processSegment g = .ok (synAckT t g, .Success) :=
    processSegment_blocks (s4 := synAckT t g) c1 c2 (rstBlock_pass hrst) c4
      (by rw [htext]; exact textBlock_pass _ _ _) (finBlock_pass hfin)
  exact arrive_one t g hheap (fun h => absurd hst h) _ _ hps

theorem push_two (p g : Segment) (h : segLe g p = true) : LHeap.push segLe [p] g = [p, g] := by
  unfold LHeap.push LHeap.siftUp LHeap.siftUpAux
  simp [h]

theorem pop_two (p g : Segment) : LHeap.pop segLe [p, g] = (some p, [g]) := by
  simp [LHeap.pop, LHeap.siftDownToBottom, LHeap.siftDownAux, LHeap.siftUp, LHeap.siftUpAux]

theorem modLt_succ (a : Seq) : modLt (a + 1) a = false := by
  unfold modLt
  rw [succ_sub_self]
  decide

theorem process_parked (t : Tcb) (p : Segment) (hns : t.state ≠ .SynSent) (hw : t.rcv.wnd = 65535#16)
    (hack : p.hdr.ctl.ack = false) (hrst : p.hdr.ctl.rst = false) (hsyn : p.hdr.ctl.syn = false)
    (hfin : p.hdr.ctl.fin = false) (htext : p.text = []) (hseq : p.hdr.seq + 1 = t.rcv.nxt) :
    t.processSegment p = .ok (t, .Success) := by
  have hw0 : ¬ t.rcv.wnd = 0 := by rw [hw]; decide
  have hok : t.isSeqOk (BitVec.ofNat 32 p.text.length) p.hdr.seq p.hdr.ctl.syn p.hdr.ctl.fin = .ok true := by
    rw [htext, hsyn, hfin]
    exact isSeqOk_pred hw0 hseq
  exact process_pure hns hns hok hrst hsyn htext (ackBlock_noAck hack) (finBlock_pass hfin)

/-- the TCB after `ack_established_processing` took a new acknowledgment -/
def aepT (t : Tcb) (seg : Hdr) : Tcb :=
  ({ t with snd := { iss := t.snd.iss, una := seg.ack, nxt := t.snd.nxt, wnd := if (modLt t.snd.wl1 seg.seq || (t.snd.wl1 == seg.seq && modLeq t.snd.wl2 seg.ack)) then seg.wnd else t.snd.wnd, wl1 := if (modLt t.snd.wl1 seg.seq || (t.snd.wl1 == seg.seq && modLeq t.snd.wl2 seg.ack)) then seg.seq else t.snd.wl1, wl2 := if (modLt t.snd.wl1 seg.seq || (t.snd.wl1 == seg.seq && modLeq t.snd.wl2 seg.ack)) then seg.ack else t.snd.wl2 }, outgoing := { text := t.outgoing.text, oneshot := t.outgoing.oneshot, retransmit := t.outgoing.retransmit.filter fun tr => modLt seg.ack (tr.segment.hdr.seq + BitVec.ofNat 32 tr.segment.segLen) } } : Tcb)

theorem aepT_new (t : Tcb) (seg : Hdr) (h1 : modLeq seg.ack t.snd.una = false)
    (h2 : modBounded t.snd.una .Lt seg.ack .Leq t.snd.nxt = true) :
    t.ackEstablishedProcessing seg = .ok (aepT t seg, .Success) := by
  rw [ackEstablishedProcessing_eq, aep_new h1 h2]
  unfold aepT wndTaken
  rw [ackTaken_eq]
  split <;> simp only <;> rfl

theorem ackBlock_synrcvd (t : Tcb) (g : Hdr) (hst : t.state = .SynReceived) (hack : g.ctl.ack = true)
    (hnew : modLeq g.ack t.snd.una = false) (hb : modBounded t.snd.una .Lt g.ack .Leq t.snd.nxt = true) :
    ackBlock t g = .ok (aepT ({ t with state := .Established, snd.wnd := g.wnd, snd.wl1 := g.seq, snd.wl2 := g.ack } : Tcb) g, none) := by
  have e := aepT_new (synAcked t g) g hnew hb
  rw [ackEstablishedProcessing_eq] at e
  rw [ackBlock_eq, ackOut_synReceived hack hst, if_pos hb, Except.ok.inj e]
  rfl

/-- the TCB after the ACK of the SYN-ACK: ESTABLISHED -/
def estT (t : Tcb) (g : Segment) : Tcb :=
  aepT ({ t with incoming := { segments := [], text := t.incoming.text }, state := .Established, snd.wnd := g.hdr.wnd, snd.wl1 := g.hdr.seq, snd.wl2 := g.hdr.ack } : Tcb) g.hdr

theorem arrive_ack_synrcvd (t : Tcb) (p g : Segment) (hst : t.state = .SynReceived) (hw : t.rcv.wnd = 65535#16)
    (hheap : t.incoming.segments = [p])
    (pack : p.hdr.ctl.ack = false) (prst : p.hdr.ctl.rst = false) (psyn : p.hdr.ctl.syn = false)
    (pfin : p.hdr.ctl.fin = false) (ptext : p.text = []) (pseq : p.hdr.seq + 1 = t.rcv.nxt)
    (hrst : g.hdr.ctl.rst = false) (hsyn : g.hdr.ctl.syn = false) (hfin : g.hdr.ctl.fin = false)
    (hack : g.hdr.ctl.ack = true) (htext : g.text = []) (hseq : g.hdr.seq = t.rcv.nxt)
    (hnew : modLeq g.hdr.ack t.snd.una = false)
    (hb : modBounded t.snd.una .Lt g.hdr.ack .Leq t.snd.nxt = true) :
    t.segmentArrives g = .ok (estT t g, .Ok) := by
  have hns : t.state ≠ .SynSent := by rw [hst]; simp
  have hok := C01.isSeqOk_ack hw htext hsyn hfin hseq
  have hle : segLe g p = true := by
    unfold segLe
    rw [hseq, ← pseq, modLt_succ]
    simp
  refine segmentArrives_iff.2 (Or.inr ⟨Or.inr hok, ?_⟩)
  rw [hheap, push_two p g hle]
  -- the parked SYN first
  refine .step (g := p) (rest := [g]) (s1 := { t with incoming.segments := [g] }) (r1 := .Success)
    ⟨pop_two p g, fun _ => C01.gate_pass _ _ 1 (by decide) pseq, ?_⟩ rfl ?_
  · exact process_parked ({ t with incoming.segments := [g] } : Tcb) p hns hw pack prst psyn pfin ptext pseq
  -- then the ACK
  refine .step (g := g) (rest := []) (s1 := estT t g) (r1 := .Success)
    ⟨C01.pop_single g, fun _ => by rw [hseq]; exact modGt_self _, ?_⟩ rfl (.stop fun top h => by cases h)
  exact process_pure (t := ({ t with incoming.segments := [] } : Tcb)) hns (by intro h; cases h) hok hrst hsyn htext
    (ackBlock_synrcvd ({ t with incoming.segments := [] } : Tcb) g.hdr hst hack hnew hb) (finBlock_pass hfin)

end Tcb
end Elvis.Tcp
