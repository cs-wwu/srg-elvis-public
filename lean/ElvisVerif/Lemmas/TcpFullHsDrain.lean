import ElvisVerif.Lemmas.TcpFullHsTcb
import ElvisVerif.Lemmas.TcpFullClean
/-!
# The handshake states through the reorder heap (`Drains`, `segment_arrives`)

`Arr`: what an arrival in the closed system brings (the stream invariant, H31, validity, ACK fields in range and no RST
for the arriving and every parked segment); it is built from the invariants by `Good.arr` (`Lemmas/TcpFullGap.lean`)
and, for a delivery step, by `deliver_arr` (`Lemmas/TcpFullHsProg.lean`).

The rows of `Lemmas/TcpFullHsTcb.lean` carried through the processing loop, by induction on `Drains`: while the TCB
stays in SYN-SENT / SYN-RECEIVED the queue is kept, and in SYN-RECEIVED the receive side (`Drains.sup_rcv`); a parked or
arriving acceptable segment with an ACK field in range that is not ahead of `RCV.NXT` moves SYN-RECEIVED to ESTABLISHED
whatever else is parked (`Drains.trig`: the root is the least, so the loop cannot stop before it is popped); an
ESTABLISHED TCB answers a SYN-bearing segment with an ACK (`segmentArrives_es_syn`: it is the root).
-/
namespace Elvis.Tcp.Full
open Elvis.ModCmp Elvis.Tcp.Tcb Elvis.Rfc9293

structure SegOk (iss : Seq) (N : Nat) (g : Segment) : Prop where
  rst : g.hdr.ctl.rst = false
  ack : g.hdr.ctl.ack = true → 1 ≤ off iss g.hdr.ack ∧ off iss g.hdr.ack ≤ N
  ta : g.text ≠ [] → g.hdr.ctl.ack = true

section
variable {port : U16} {issX issY : Seq} {subX subY delX : List UInt8} {N : Nat}

/-- What the invariants of the closed system nobody closes say when a segment `g` of the peer arrives at the TCB `t`: H31
    on both sides, the invariants of `t`, `g` is valid, and no ACK field — arriving or parked — lies outside
    `[ISS + 1, SND.NXT]`, nor is there a RST.  (That text comes with the ACK bit is a later invariant: `hta` below.) -/
structure Arr (port : U16) (issX issY : Seq) (subX subY delX : List UInt8) (t : Tcb) (g : Segment) : Prop where
  lt : t.sent < 2147483648
  ti : C01.TInv port issX issY subX subY delX t
  h31 : subY.length + 1 < 2147483648
  val : C01.Valid issY subY g
  early : Early t
  una : off issX t.snd.una ≤ t.sent
  ack : ∀ x ∈ g :: t.incoming.segments,
    (x.hdr.ctl.ack = true → 1 ≤ off issX x.hdr.ack ∧ off issX x.hdr.ack ≤ t.sent) ∧ x.hdr.ctl.rst = false

theorem Arr.segOk {t : Tcb} {g : Segment} (c : Arr port issX issY subX subY delX t g)
    (hta : ∀ x ∈ g :: t.incoming.segments, x.text ≠ [] → x.hdr.ctl.ack = true) :
    ∀ x ∈ g :: t.incoming.segments, SegOk issX t.sent x :=
  fun x hx => ⟨(c.ack x hx).2, (c.ack x hx).1, hta x hx⟩

theorem forall_push_of_cons {t : Tcb} {g : Segment} {P : Segment → Prop} (h : ∀ x ∈ g :: t.incoming.segments, P x) :
    ∀ x ∈ LHeap.push segLe t.incoming.segments g, P x :=
  LHeap.forall_mem_push (h g List.mem_cons_self) fun x hx => h x (List.mem_cons_of_mem _ hx)

/-- the common part of one round of the loop -/
theorem loop_step {t : Tcb} {top : Segment} {rest : List Segment} {s1 : Tcb} {r1 : ProcessSegmentResult}
    (ti : C01.TInv port issX issY subX subY delX t) (h31 : subY.length < 2147483648)
    (hpop : LHeap.pop segLe t.incoming.segments = (some top, rest))
    (hg : t.state ≠ .SynSent → modGt top.hdr.seq t.rcv.nxt = false)
    (hp : processSegment { t with incoming.segments := rest } top = .ok (s1, r1)) (he : Early t)
    (hsent : t.sent = N) {P : Segment → Prop} (hh : ∀ g ∈ t.incoming.segments, P g) :
    C01.TInv port issX issY subX subY delX s1 ∧ s1.incoming.segments = rest ∧ Early s1 ∧ s1.sent = N ∧
      top ∈ t.incoming.segments ∧ (∀ g ∈ rest, g ∈ t.incoming.segments) ∧
      (t.state ≠ .SynSent → s1.state ≠ .SynSent) ∧ ∀ g ∈ s1.incoming.segments, P g := by
  have hmem := LHeap.mem_of_mem_pop hpop
  have i1 := C01.processSegment_inv (ti.pop hpop).1 (ti.pop hpop).2 h31 hg hp
  have k := processSegment_snd _ _ _ _ hp
  have e1 : Early s1 := processSegment_early _ _ _ _ hp ⟨he.synSent, he.synRcvd⟩
  have hheap : s1.incoming.segments = rest := processSegment_heap _ _ _ _ hp
  exact ⟨i1, hheap, e1, (sent_congr k.iss k.nxt).trans hsent, hmem.1, hmem.2, fun h hx => h ((processSegment_rx hp).synsent hx),
    fun g hg' => hh g (hmem.2 g (by rw [hheap] at hg'; exact hg'))⟩

theorem _root_.Elvis.Tcp.Tcb.Drains.keeps_est {t t' : Tcb} (d : Drains t .Ok t')
    (ti : C01.TInv port issX issY subX subY delX t) (hh : ∀ g ∈ t.incoming.segments, SegOk issX N g)
    (hst : t.state = .Established) : t'.state = .Established :=
  Option.some.inj (path_est_segs (fun g hg => ⟨(hh g hg).rst, (ti.heap g hg).fin⟩)
    d.path.1 (by rw [hst]))

theorem _root_.Elvis.Tcp.Tcb.Drains.sup_rcv (hN : N < 2147483648) {t t' : Tcb} (d : Drains t .Ok t')
    (ti : C01.TInv port issX issY subX subY delX t) (h31 : subY.length < 2147483648) (he : Early t)
    (hsent : t.sent = N) (hh : ∀ g ∈ t.incoming.segments, SegOk issX N g)
    (hst' : t'.state = .SynSent ∨ t'.state = .SynReceived) :
    Sup t t' ∧ (t.state = .SynReceived → t'.rcv = t.rcv ∧ t'.incoming.text = t.incoming.text) := by
  generalize hr : SegmentArrivesResult.Ok = r at d
  induction d with
  | stop _ => exact ⟨Sup.refl _, fun _ => ⟨rfl, rfl⟩⟩
  | close _ _ => cases hr
  | @step s s1 s' g rest r1 r P hd d1 ih =>
    subst hr
    obtain ⟨i1, -, e1', hsent1, htop, -, hback, hh1⟩ := loop_step ti h31 P.pop P.gate P.proc he hsent hh
    -- the intermediate state is still SYN-SENT / SYN-RECEIVED: ESTABLISHED would stay
    have hs1 : s1.state = .SynSent ∨ s1.state = .SynReceived := by
      rcases i1.st.cases with h | h | h
      · exact Or.inl h
      · exact Or.inr h
      · exfalso
        have := d1.keeps_est i1 hh1 h
        rcases hst' with h' | h' <;> (rw [this] at h'; cases h')
    have hs0 : s.state = .SynSent ∨ s.state = .SynReceived := by
      rcases ti.st.cases with h | h | h
      · exact Or.inl h
      · exact Or.inr h
      · exfalso
        have := (Drains.step P hd d1).keeps_est ti hh h
        rcases hst' with h' | h' <;> (rw [this] at h'; cases h')
    have so := hh g htop
    obtain ⟨u1, k1⟩ := proc_stays hN P.proc hs0 ti.iss hsent he.synRcvd so.ack so.ta so.rst
      (ti.heap g htop).fin hs1
    obtain ⟨u2, k2⟩ := ih i1 e1' hsent1 hh1 hst' rfl
    refine ⟨u1.trans u2, fun hsr => ?_⟩
    have hsr1 : s1.state = .SynReceived := hs1.resolve_left (hback (by rw [hsr]; nofun))
    exact ⟨(k2 hsr1).1.trans (k1 hsr).1, by rw [(k2 hsr1).2, (k1 hsr).2]⟩

theorem arrive_unfold (t : Tcb) (g : Segment) (t' : Tcb) (e : t.segmentArrives g = .ok (t', .Ok)) :
    (t.state ≠ .SynSent ∧ t' = t.enqueueBuilt t.ackHdr.built ∧
      t.isSeqOk (BitVec.ofNat 32 g.text.length) g.hdr.seq g.hdr.ctl.syn g.hdr.ctl.fin = .ok false) ∨
    ((t.state = .SynSent ∨
      t.isSeqOk (BitVec.ofNat 32 g.text.length) g.hdr.seq g.hdr.ctl.syn g.hdr.ctl.fin = .ok true) ∧
      drain ((LHeap.push segLe t.incoming.segments g).length + 1)
        { t with incoming.segments := LHeap.push segLe t.incoming.segments g } = .ok (t', .Ok)) := by
  rcases Tcb.segmentArrives_ok e with ⟨hst, hno, rfl, -⟩ | h
  · exact Or.inl ⟨hst, rfl, hno⟩
  · exact Or.inr h

theorem segmentArrives_sup_rcv {t t' : Tcb} {g : Segment} (c : Arr port issX issY subX subY delX t g)
    (e : t.segmentArrives g = .ok (t', .Ok))
    (hta : ∀ x ∈ g :: t.incoming.segments, x.text ≠ [] → x.hdr.ctl.ack = true)
    (hst' : t'.state = .SynSent ∨ t'.state = .SynReceived) :
    Sup t t' ∧ (t.state = .SynReceived → t'.rcv = t.rcv ∧ t'.incoming.text = t.incoming.text) := by
  rcases segmentArrives_iff.1 e with ⟨-, -, rfl, -⟩ | ⟨-, d⟩
  · exact ⟨sup_enq _ _, fun _ => ⟨(enqueueBuilt_frame _ _).rcv, by rw [(enqueueBuilt_frame _ _).incoming]⟩⟩
  · exact d.sup_rcv c.lt (c.ti.push c.val) (Nat.lt_of_succ_lt c.h31) ⟨c.early.synSent, c.early.synRcvd⟩ rfl
      (forall_push_of_cons (c.segOk hta)) hst'

theorem segmentArrives_sup {t t' : Tcb} {g : Segment} (c : Arr port issX issY subX subY delX t g)
    (e : t.segmentArrives g = .ok (t', .Ok))
    (hta : ∀ x ∈ g :: t.incoming.segments, x.text ≠ [] → x.hdr.ctl.ack = true)
    (hst' : t'.state = .SynSent ∨ t'.state = .SynReceived) : Sup t t' :=
  (segmentArrives_sup_rcv c e hta hst').1

theorem segmentArrives_srkeep {t t' : Tcb} {g : Segment} (c : Arr port issX issY subX subY delX t g)
    (e : t.segmentArrives g = .ok (t', .Ok))
    (hta : ∀ x ∈ g :: t.incoming.segments, x.text ≠ [] → x.hdr.ctl.ack = true)
    (hst : t.state = .SynReceived) (hst' : t'.state = .SynReceived) :
    t'.rcv = t.rcv ∧ t'.incoming.text = t.incoming.text :=
  (segmentArrives_sup_rcv c e hta (Or.inr hst')).2 hst

theorem _root_.Elvis.Tcp.Tcb.Drains.xu (hN : N < 2147483648) {t t' : Tcb} (d : Drains t .Ok t')
    (ti : C01.TInv port issX issY subX subY delX t) (h31 : subY.length < 2147483648) (he : Early t)
    (hsent : t.sent = N)
    (hh : ∀ g ∈ t.incoming.segments, (g.hdr.ctl.ack = true → 1 ≤ off issX g.hdr.ack ∧ off issX g.hdr.ack ≤ N) ∧
      g.hdr.ctl.rst = false) (hx : XU issX N t) : XU issX N t' := by
  generalize hr : SegmentArrivesResult.Ok = r at d
  induction d with
  | stop _ => exact hx
  | close _ _ => cases hr
  | @step s s1 s' g rest r1 r P hd d1 ih =>
    obtain ⟨i1, -, e1', hsent1, htop, -, -, hh1⟩ := loop_step ti h31 P.pop P.gate P.proc he hsent hh
    exact ih i1 e1' hsent1 hh1 (proc_xu hN P.proc ti.st ti.iss hsent he.synRcvd (hh g htop).1 (hh g htop).2
      (ti.heap g htop).fin ⟨hx.le, hx.est⟩) hr

theorem segmentArrives_xu {t t' : Tcb} {g : Segment} (c : Arr port issX issY subX subY delX t g)
    (e : t.segmentArrives g = .ok (t', .Ok)) (hx : t.state = .Established → 1 ≤ off issX t.snd.una) :
    XU issX t.sent t' := by
  rcases segmentArrives_iff.1 e with ⟨-, -, rfl, -⟩ | ⟨-, d⟩
  · exact xu_enq ⟨c.una, hx⟩ _
  · exact d.xu c.lt (c.ti.push c.val) (Nat.lt_of_succ_lt c.h31) ⟨c.early.synSent, c.early.synRcvd⟩ rfl
      (forall_push_of_cons c.ack) ⟨c.una, hx⟩

theorem _root_.Elvis.Tcp.Tcb.Drains.trig (hN : N < 2147483648) {t t' : Tcb} (d : Drains t .Ok t')
    (ti : C01.TInv port issX issY subX subY delX t) (h31 : subY.length < 2147483648) (he : Early t)
    (hsent : t.sent = N) (hh : ∀ x ∈ t.incoming.segments, SegOk issX N x) (hk : HeapOk issY t)
    (hst : t.state = .Established ∨ (t.state = .SynReceived ∧ off issY t.rcv.nxt = 1))
    {g : Segment} (hgm : g ∈ t.incoming.segments) (hab : g.hdr.ctl.ack = true) (hoff : off issY g.hdr.seq ≤ 1)
    (hok : t.isSeqOk (BitVec.ofNat 32 g.text.length) g.hdr.seq g.hdr.ctl.syn g.hdr.ctl.fin = .ok true) :
    t'.state = .Established := by
  rcases hst with hst | ⟨hst, hq⟩
  · exact d.keeps_est ti hh hst
  generalize hr : SegmentArrivesResult.Ok = r at d
  induction d with
  | stop hs =>
    -- the loop cannot stop while `g` is parked
    have := hk.ahead_of_stops hs (by omega) hgm
    omega
  | close _ _ => cases hr
  | @step s s1 s' top rest r1 r P hd d1 ih =>
    subst hr
    have hns : s.state ≠ .SynSent := by rw [hst]; nofun
    obtain ⟨i1, -, e1', hsent1, htop, -, hback, hh1⟩ := loop_step ti h31 P.pop P.gate P.proc he hsent hh
    have so := hh top htop
    have row := proc_sr hN P.proc hst ti.iss hsent (he.synRcvd hst) so.ack (ti.heap top htop).fin
    rcases (P.mem g).1 hgm with rfl | hgr
    · -- the trigger itself
      rcases row with ⟨hno, -⟩ | ⟨-, ⟨h, -⟩ | ⟨-, h, -⟩⟩
      · rw [show ({ s with incoming.segments := rest } : Tcb).isSeqOk (BitVec.ofNat 32 g.text.length) g.hdr.seq
          g.hdr.ctl.syn g.hdr.ctl.fin = .ok true from hok] at hno
        cases hno
      · rw [hab] at h; cases h
      · exact d1.keeps_est i1 hh1 h
    · -- something else was popped first
      rcases i1.st.cases with h | h | h
      · exact absurd h (hback hns)
      · obtain ⟨-, k1⟩ := proc_stays hN P.proc (Or.inr hst) ti.iss hsent he.synRcvd so.ack so.ta so.rst
          (ti.heap top htop).fin (Or.inr h)
        have k1 := (k1 hst).1
        exact ih i1 e1' hsent1 hh1 (hk.pops P) hgr ((isSeqOk_congr (u := s1) (t := s) k1 _ _ _ _).trans hok) h
          (by rw [k1]; exact hq) rfl
      · exact d1.keeps_est i1 hh1 h

theorem drain_trig (hN : N < 2147483648) (fuel : Nat) : ∀ (t t' : Tcb), drain fuel t = .ok (t', .Ok) →
    C01.TInv port issX issY subX subY delX t → subY.length < 2147483648 → Early t → t.sent = N →
    (∀ x ∈ t.incoming.segments, SegOk issX N x) → HeapOk issY t → t.incoming.segments.length < fuel →
    (t.state = .Established ∨ (t.state = .SynReceived ∧ off issY t.rcv.nxt = 1)) →
    ∀ g ∈ t.incoming.segments, g.hdr.ctl.ack = true → off issY g.hdr.seq ≤ 1 →
      t.isSeqOk (BitVec.ofNat 32 g.text.length) g.hdr.seq g.hdr.ctl.syn g.hdr.ctl.fin = .ok true →
      t'.state = .Established := by
  intro t t' e ti h31 he hsent hh hk hf hst g hgm hab hoff hok
  exact ((drain_iff fuel hf).1 e).trig hN ti h31 he hsent hh hk hst hgm hab hoff hok

theorem segmentArrives_trig {t t' : Tcb} {g : Segment} (c : Arr port issX issY subX subY delX t g)
    (e : t.segmentArrives g = .ok (t', .Ok))
    (hta : ∀ x ∈ g :: t.incoming.segments, x.text ≠ [] → x.hdr.ctl.ack = true)
    (hk : HeapOk issY t) (hst : t.state = .SynReceived) (hq : off issY t.rcv.nxt = 1)
    (hab : g.hdr.ctl.ack = true) (hoff : off issY g.hdr.seq ≤ 1)
    (hok : t.isSeqOk (BitVec.ofNat 32 g.text.length) g.hdr.seq g.hdr.ctl.syn g.hdr.ctl.fin = .ok true) :
    t'.state = .Established := by
  rcases segmentArrives_iff.1 e with ⟨-, hno, -⟩ | ⟨-, d⟩
  · rw [hok] at hno; cases hno
  · exact d.trig c.lt (c.ti.push c.val) (Nat.lt_of_succ_lt c.h31) ⟨c.early.synSent, c.early.synRcvd⟩ rfl
      (forall_push_of_cons (c.segOk hta)) (hk.push (by unfold InWin; omega)) (Or.inr ⟨hst, hq⟩)
      (LHeap.mem_push.2 (Or.inl rfl)) hab hoff hok

/-- `proc_ss` for an arrival: in SYN-SENT the heap is idle -/
theorem segmentArrives_ss {t t' : Tcb} {g : Segment} (c : Arr port issX issY subX subY delX t g)
    (e : t.segmentArrives g = .ok (t', .Ok)) (hst : t.state = .SynSent) (hheap : t.incoming.segments = []) :
    (t'.state = .SynSent ∧ Sup t t' ∧ (g.hdr.ctl.syn = true → ∃ h ∈ t'.outgoing.oneshot, h.ctl.rst = true)) ∨
    (t'.state = .SynReceived ∧ Sup t t' ∧ t'.rcv.nxt = t'.rcv.irs + 1 ∧ t'.incoming.text = t.incoming.text ∧
      ∃ σ ∈ t'.outgoing.retransmit.map (·.segment), σ.hdr.ctl.syn = true ∧ σ.hdr.ctl.ack = true) ∨
    t'.state = .Established := by
  obtain ⟨r1, hp, -⟩ := (segmentArrives_idle hheap fun h => absurd hst h).1 e
  obtain ⟨ha, hrst⟩ := c.ack g List.mem_cons_self
  rcases proc_ss c.lt hp hst c.ti.iss ha hrst c.val.fin with ⟨h, -, k, -, k2⟩ | ⟨h, -, k, k1, k2, k3⟩ | ⟨h, -⟩
  · exact Or.inl ⟨h, k, k2⟩
  · exact Or.inr (Or.inl ⟨h, k, k1, by rw [k2], k3⟩)
  · exact Or.inr (Or.inr h)

theorem oneshot_grows_of_pre {α : Type} (f : Tcb → Except String (Tcb × α))
    (hf : ∀ p s, f (pre p s) = mapT (pre p) (f s)) (t t' : Tcb) (r : α) (e : f t = .ok (t', r)) :
    ∃ L, t'.outgoing.oneshot = t.outgoing.oneshot ++ L := by
  have ht : t = pre t.outgoing.oneshot { t with outgoing.oneshot := [] } := by
    unfold pre
    simp
  rw [ht, hf] at e
  cases h0 : f { t with outgoing.oneshot := [] } with
  | error x => rw [h0] at e; cases e
  | ok p =>
    obtain ⟨t0, r0⟩ := p
    rw [h0] at e
    simp only [mapT_ok, Except.ok.injEq, Prod.mk.injEq] at e
    rw [← e.1]
    exact ⟨t0.outgoing.oneshot, rfl⟩

theorem oneshot_grows (t : Tcb) (g : Segment) (t' : Tcb) (r : SegmentArrivesResult)
    (e : t.segmentArrives g = .ok (t', r)) : ∃ L, t'.outgoing.oneshot = t.outgoing.oneshot ++ L :=
  oneshot_grows_of_pre (fun s => s.segmentArrives g) (fun p s => pre_segmentArrives p s g) t t' r e

theorem drain_oneshot_grows (fuel : Nat) (t t' : Tcb) (r : SegmentArrivesResult)
    (e : drain fuel t = .ok (t', r)) : ∃ L, t'.outgoing.oneshot = t.outgoing.oneshot ++ L :=
  oneshot_grows_of_pre (drain fuel) (fun p s => pre_drain p fuel s) t t' r e

/-- ESTABLISHED answers a SYN: the SYN-bearing segment sits at the peer's ISS, before `RCV.NXT` and everything parked, so
    (when acceptable) it is the root and is popped at once; block 1 or block 4 queues an ACK for it, which stays queued -/
theorem segmentArrives_es_syn {t t' : Tcb} {g : Segment} (c : Arr port issX issY subX subY delX t g)
    (e : t.segmentArrives g = .ok (t', .Ok)) (hk : HeapOk issY t) (hah : Ahead issY t)
    (hst : t.state = .Established) (hsyn : g.hdr.ctl.syn = true) : t'.outgoing.oneshot ≠ [] := by
  have hv := c.val
  have h31 := c.h31
  rcases segmentArrives_iff.1 e with ⟨-, -, rfl, -⟩ | ⟨-, d⟩
  · rw [enqueueBuilt_oneshot _ _ rfl rfl]; simp
  · have hseq0 : off issY g.hdr.seq = 0 := by rw [(hv.syn hsyn).1, off_self]
    obtain ⟨hq, _⟩ := tinv_rcv_off c.ti (by rw [hst]; nofun) h31
    have hk' := hk.push (g := g) (by unfold InWin; omega)
    have hgm : g ∈ LHeap.push segLe t.incoming.segments g := LHeap.mem_push.2 (Or.inl rfl)
    cases d with
    | stop hs =>
      have : off issY t.rcv.nxt < off issY g.hdr.seq :=
        hk'.ahead_of_stops hs (by show off issY t.rcv.nxt < _; omega) hgm
      omega
    | @step _ s1 _ top rest r1 _ P hd d1 =>
      have hle : off issY top.hdr.seq ≤ off issY g.hdr.seq := hk'.root_le P.peek hgm
      have htop : top = g := by
        rcases LHeap.mem_push.1 (LHeap.mem_of_mem_pop P.pop).1 with h | h
        · exact h
        · have := hah hst top h
          omega
      subst htop
      obtain ⟨ha, hrst⟩ := c.ack top List.mem_cons_self
      obtain ⟨-, -, -, hne⟩ := proc_es c.lt P.proc hst c.ti.iss rfl c.una ha hrst hv.fin
      obtain ⟨L, hL⟩ := drain_oneshot_grows _ s1 t' .Ok (drain_of_drains d1 _ (Nat.lt_succ_self _))
      rw [hL]
      exact fun h0 => hne hsyn (List.append_eq_nil_iff.1 h0).1

end
end Elvis.Tcp.Full
