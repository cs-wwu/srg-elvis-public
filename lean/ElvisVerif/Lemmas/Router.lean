import ElvisVerif.Model.Router
import ElvisVerif.Lemmas.ListSet
/-! Helper lemmas for C16: the extracted TTL kernel, `routerDemux` and the demultiplexer; the step
    of the token system as a set of rewriting rules (`Rule`, `step_spec`); potentials over such
    rules (`run_potential`) with the measures of the bounded-life, silence and no-multiplication
    arguments; properties of everything a run carries (`step_forall`, `run_invariant`). -/
namespace Elvis.Router

theorem sum_map_eraseIdx {α : Type} (f : α → Nat) (l : List α) (i : Nat) (x : α) (h : l[i]? = some x) :
    (l.map f).sum = f x + ((l.eraseIdx i).map f).sum :=
  ((List.perm_cons_eraseIdx h).map f).sum_nat

theorem sum_map_one {α : Type} (l : List α) : (l.map fun _ => 1).sum = l.length := by
  simp only [List.map_const', List.sum_replicate_nat, Nat.mul_one]

theorem sum_map_pos_eq_zero {α : Type} {f : α → Nat} (hpos : ∀ x, 0 < f x) {l : List α}
    (h : (l.map f).sum = 0) : l = [] := by
  cases l with
  | nil => rfl
  | cons a l =>
    have := hpos a
    simp only [List.map_cons, List.sum_cons] at h
    omega

theorem ttlKernel_eq (t : Nat) :
    Elvis.Gen.routerTtlKernel t = if t ≤ 1 then .ok none else .ok (some (t - 1)) := by
  unfold Elvis.Gen.routerTtlKernel
  by_cases h : t ≤ 1
  · simp [h]
  · have : ¬ t < 1 := by omega
    simp [*]

theorem ttlKernel_some {t v : Nat} (h : Elvis.Gen.routerTtlKernel t = .ok (some v)) : v + 1 = t ∧ 1 ≤ v := by
  rw [ttlKernel_eq] at h
  split at h
  · cases h
  · simp only [Except.ok.injEq, Option.some.injEq] at h
    omega

theorem ttlKernel_ge2 {t : Nat} (h : 2 ≤ t) : Elvis.Gen.routerTtlKernel t = .ok (some (t - 1)) := by
  rw [ttlKernel_eq, if_neg (by omega)]

theorem routerDemux_some {n : Nat} {nd : Node} {pkt : Pkt} {p : Pending}
    (h : routerDemux n nd pkt = .ok (some p)) :
    ∃ v, p.pkt = pkt.withTtl v ∧ v + 1 = pkt.hdr.ttl ∧ 1 ≤ v ∧ p.viaRouter = true ∧ p.node = n ∧
      ∃ e, lookup nd.table pkt.hdr.dst = some e ∧ p.slot = e.slot ∧
        nd.localIps[e.slot]? = some p.loc ∧ p.nextHop = arpTarget nd p.loc (e.gw.getD pkt.hdr.dst) := by
  unfold routerDemux at h
  split at h
  · cases h
  · cases h
  · rename_i ttl hk
    split at h
    · cases h
    · split at h
      · cases h
      · split at h
        · cases h
        · rename_i e he
          split at h
          · cases h
          · rename_i loc hl
            simp only [Except.ok.injEq, Option.some.injEq] at h
            subst h
            obtain ⟨h1, h2⟩ := ttlKernel_some hk
            exact ⟨ttl, rfl, h1, h2, rfl, rfl, e, he, rfl, hl, rfl⟩

theorem ipv4DemuxParsed_routed {n : Nat} {nd : Node} {pkt : Pkt} {r : Option Pending}
    (h : ipv4DemuxParsed n nd pkt = .ok (.routed r)) : routerDemux n nd pkt = .ok r := by
  unfold ipv4DemuxParsed at h
  split at h
  · cases h
  · split at h
    · split at h
      · simp only [Except.ok.injEq] at h
        unfold udpDemux at h
        split at h
        · simp only [] at h
          split at h <;> cases h
        · cases h
      · split at h
        · cases h
        · rename_i r' hr
          simp only [Except.ok.injEq, Demuxed.routed.injEq] at h
          subst h; exact hr
    · cases h

theorem ipv4Demux_parsed {n : Nat} {nd : Node} {pkt : Pkt} {d : Demuxed} (hd : d ≠ .dropped)
    (h : ipv4Demux n nd pkt = .ok d) : headerRejected pkt.hdr = false ∧ ipv4DemuxParsed n nd pkt = .ok d := by
  unfold ipv4Demux at h
  split at h
  · simp only [Except.ok.injEq] at h; exact absurd h.symm hd
  · rename_i hr
    exact ⟨by simpa using hr, h⟩

theorem ipv4Demux_routed {n : Nat} {nd : Node} {pkt : Pkt} {r : Option Pending}
    (h : ipv4Demux n nd pkt = .ok (.routed r)) : routerDemux n nd pkt = .ok r :=
  ipv4DemuxParsed_routed (ipv4Demux_parsed (by intro h; cases h) h).2

theorem emit_some {topo : Topo} {p : Pending} {mac : Mac} {f : Frame} (h : emit topo p mac = .ok (some f)) :
    f.pkt = p.pkt ∧ f.dmac = mac ∧
      ∃ nd, topo.nodes[p.node]? = some nd ∧ nd.slots[p.slot]? = some (f.net, f.smac) ∧
        frameLen p.pkt ≤ topo.mtu f.net := by
  unfold emit at h
  split at h
  · cases h
  · rename_i nd hn
    split at h
    · cases h
    · rename_i net smac hs
      split at h
      · split at h <;> cases h
      · rename_i hm
        simp only [Except.ok.injEq, Option.some.injEq] at h
        subst h
        exact ⟨rfl, rfl, nd, hn, hs, by simp only; omega⟩

theorem sendCore_spec (topo : Topo) (h : Nat) (pkt : Pkt) :
    sendCore topo h pkt = [] ∨ ∃ p nd, sendCore topo h pkt = [p] ∧ topo.nodes[h]? = some nd ∧
      nd.localIps[p.slot]? = some p.loc ∧ p.pkt = pkt ∧ p.node = h ∧ p.viaRouter = false := by
  unfold sendCore
  split
  · exact .inl rfl
  · rename_i nd hn
    split
    · exact .inl rfl
    · rename_i p hp
      refine .inr ⟨p, nd, rfl, hn, ?_⟩
      unfold hostSend at hp
      split at hp
      · cases hp
      · rename_i loc hl
        simp only [Option.some.injEq] at hp
        subst hp; exact ⟨hl, rfl, rfl, rfl⟩

theorem sendCore_pkt {topo : Topo} {h : Nat} {pkt : Pkt} {p : Pending} (hs : sendCore topo h pkt = [p]) :
    p.pkt = pkt := by
  rcases sendCore_spec topo h pkt with e | ⟨q, _, e, _, _, hq, _⟩
  · rw [e] at hs; cases hs
  · rw [e] at hs; cases hs; exact hq

/-! ### the step as a rewriting rule

Every `step` takes at most one frame or one waiting forward out of the state and puts frames,
forwards and events in.  `Rule` lists the ways this can happen; everything proved about `step`
below is a check of these rules. -/

def Choice.enabled (s : State) : Choice → Bool
  | .deliver i => i < s.flight.length
  | .resolved j _ => j < s.pend.length
  | .unresolved j => j < s.pend.length
  | _ => true

def Demuxed.pend : Demuxed → List Pending
  | .routed (some p) => [p]
  | _ => []

def Demuxed.evs (n : Nat) (pkt : Pkt) : Demuxed → List Ev
  | .dropped => []
  | .app port data => [.app n pkt port data]
  | .routed _ => [.hop n pkt]

/-- `Rule topo s c cf cp fs ps evs`: in state `s` the choice `c` consumes the frames `cf` and the
    waiting forwards `cp`, and produces the frames `fs`, the forwards `ps` and the events `evs` -/
inductive Rule (topo : Topo) (s : State) :
    Choice → List Frame → List Pending → List Frame → List Pending → List Ev → Prop
  | idle (c : Choice) : c.enabled s = false → Rule topo s c [] [] [] [] []
  | noTap (i : Nat) (f : Frame) : s.flight[i]? = some f → tapOwner topo f.net f.dmac = none →
      Rule topo s (.deliver i) [f] [] [] [] []
  | tap (i : Nat) (f : Frame) (n : Nat) (nd : Node) (σ : Slot) (d : Demuxed) : s.flight[i]? = some f →
      tapOwner topo f.net f.dmac = some (n, nd, σ) → ipv4Demux n nd f.pkt = .ok d →
      Rule topo s (.deliver i) [f] [] [] d.pend (d.evs n f.pkt)
  | unsent (j : Nat) (mac : Mac) (p : Pending) : s.pend[j]? = some p → emit topo p mac = .ok none →
      Rule topo s (.resolved j mac) [] [p] [] [] []
  | emit (j : Nat) (mac : Mac) (p : Pending) (f : Frame) : s.pend[j]? = some p →
      emit topo p mac = .ok (some f) → Rule topo s (.resolved j mac) [] [p] [f] [] [.wire f]
  | giveUp (j : Nat) (p : Pending) : s.pend[j]? = some p → Rule topo s (.unresolved j) [] [p] [] [] []
  | noSend (h : Nat) (pkt : Pkt) : Rule topo s (.send h pkt) [] [] [] [] []
  | send (h : Nat) (pkt : Pkt) (p : Pending) : sendCore topo h pkt = [p] → p.pkt = pkt →
      Rule topo s (.send h pkt) [] [] [] [p] []
  | inject (f : Frame) : Rule topo s (.inject f) [] [] [f] [] [.wire f]

def State.without (s : State) : Choice → State
  | .deliver i => { s with flight := s.flight.eraseIdx i }
  | .resolved j _ => { s with pend := s.pend.eraseIdx j }
  | .unresolved j => { s with pend := s.pend.eraseIdx j }
  | _ => s

theorem without_of_not_enabled {s : State} {c : Choice} (h : c.enabled s = false) : s.without c = s := by
  cases c <;> simp only [Choice.enabled, decide_eq_false_iff_not, Nat.not_lt, reduceCtorEq] at h <;>
    simp only [State.without, List.eraseIdx_of_length_le h]

theorem without_subset (s : State) (c : Choice) :
    (∀ f ∈ (s.without c).flight, f ∈ s.flight) ∧ (∀ p ∈ (s.without c).pend, p ∈ s.pend) := by
  cases c with
  | deliver i => exact ⟨fun _ h => List.mem_of_mem_eraseIdx h, fun _ h => h⟩
  | resolved j _ => exact ⟨fun _ h => h, fun _ h => List.mem_of_mem_eraseIdx h⟩
  | unresolved j => exact ⟨fun _ h => h, fun _ h => List.mem_of_mem_eraseIdx h⟩
  | send _ _ => exact ⟨fun _ h => h, fun _ h => h⟩
  | inject _ => exact ⟨fun _ h => h, fun _ h => h⟩

theorem deliverCore_rule {topo : Topo} {s : State} {i : Nat} {fl : List Frame} {ps : List Pending}
    {evs : List Ev} (h : deliverCore topo s.flight i = .ok (fl, ps, evs)) :
    fl = s.flight.eraseIdx i ∧ ∃ cf, Rule topo s (.deliver i) cf [] [] ps evs := by
  unfold deliverCore at h
  split at h
  · rename_i hn
    simp only [Except.ok.injEq, Prod.mk.injEq] at h
    obtain ⟨rfl, rfl, rfl⟩ := h
    have hl : s.flight.length ≤ i := List.getElem?_eq_none_iff.1 hn
    exact ⟨(List.eraseIdx_of_length_le hl).symm, [], .idle _ (by simpa [Choice.enabled] using hl)⟩
  · rename_i f hf
    simp only [] at h
    split at h
    · rename_i ho
      simp only [Except.ok.injEq, Prod.mk.injEq] at h
      obtain ⟨rfl, rfl, rfl⟩ := h
      exact ⟨rfl, [f], .noTap i f hf ho⟩
    · rename_i n nd σ ho
      split at h
      · cases h
      all_goals
        rename_i hd
        simp only [Except.ok.injEq, Prod.mk.injEq] at h
        obtain ⟨rfl, rfl, rfl⟩ := h
        exact ⟨rfl, [f], .tap i f n nd σ _ hf ho hd⟩

theorem resolveCore_rule {topo : Topo} {s : State} {j : Nat} {p : Pending} {mac : Mac} {fs : List Frame}
    {evs : List Ev} (hp : s.pend[j]? = some p) (h : resolveCore topo p mac = .ok (fs, evs)) :
    Rule topo s (.resolved j mac) [] [p] fs [] evs := by
  unfold resolveCore at h
  split at h
  · cases h
  · simp only [Except.ok.injEq, Prod.mk.injEq] at h
    obtain ⟨rfl, rfl⟩ := h
    rename_i he
    exact .unsent j mac p hp he
  · rename_i f hf
    simp only [Except.ok.injEq, Prod.mk.injEq] at h
    obtain ⟨rfl, rfl⟩ := h
    exact .emit j mac p f hp hf

theorem step_spec {topo : Topo} {s s' : State} {c : Choice} (h : step topo s c = .ok s') :
    ∃ cf cp fs ps evs, Rule topo s c cf cp fs ps evs ∧
      s' = { flight := (s.without c).flight ++ fs, pend := (s.without c).pend ++ ps, log := s.log ++ evs } := by
  cases c with
  | deliver i =>
    simp only [step] at h
    split at h
    · cases h
    · rename_i fl ps evs hc
      simp only [Except.ok.injEq] at h
      obtain ⟨rfl, cf, r⟩ := deliverCore_rule hc
      exact ⟨cf, [], [], ps, evs, r, by simp [← h, State.without]⟩
  | resolved j mac =>
    simp only [step] at h
    split at h
    · rename_i hn
      simp only [Except.ok.injEq] at h
      have hl : s.pend.length ≤ j := List.getElem?_eq_none_iff.1 hn
      have he : (Choice.resolved j mac).enabled s = false := by simpa [Choice.enabled] using hl
      exact ⟨[], [], [], [], [], .idle _ he, by simp [← h, without_of_not_enabled he]⟩
    · rename_i p hp
      split at h
      · cases h
      · rename_i fs evs hc
        simp only [Except.ok.injEq] at h
        exact ⟨[], [p], fs, [], evs, resolveCore_rule hp hc, by simp [← h, State.without]⟩
  | unresolved j =>
    simp only [step, Except.ok.injEq] at h
    cases hp : s.pend[j]? with
    | none =>
      have hl : s.pend.length ≤ j := List.getElem?_eq_none_iff.1 hp
      exact ⟨[], [], [], [], [], .idle _ (by simpa [Choice.enabled] using hl), by simp [← h, State.without]⟩
    | some p => exact ⟨[], [p], [], [], [], .giveUp j p hp, by simp [← h, State.without]⟩
  | send hh pkt =>
    simp only [step, Except.ok.injEq] at h
    rcases sendCore_spec topo hh pkt with e | ⟨p, nd, e, _, _, hp, _⟩
    · exact ⟨[], [], [], [], [], .noSend hh pkt, by simp [← h, e, State.without]⟩
    · exact ⟨[], [], [], [p], [], .send hh pkt p e hp, by simp [← h, e, State.without]⟩
  | inject f =>
    simp only [step, Except.ok.injEq] at h
    exact ⟨[], [], [f], [], [.wire f], .inject f, by simp [← h, State.without]⟩

theorem lt_of_getElem? {α : Type} {l : List α} {i : Nat} {x : α} (h : l[i]? = some x) : i < l.length :=
  List.lt_length_of_getElem? h

theorem rule_active {topo : Topo} {s : State} {c : Choice} {cf : List Frame} {cp : List Pending}
    {fs : List Frame} {ps : List Pending} {evs : List Ev} (r : Rule topo s c cf cp fs ps evs) :
    (c.enabled s && !c.isInput).toNat = cf.length + cp.length := by
  cases r with
  | idle c h => simp [h]
  | noTap i f hf _ | tap i f n nd σ d hf _ _ => simp [Choice.enabled, Choice.isInput, lt_of_getElem? hf]
  | unsent j mac p hp _ | emit j mac p f hp _ | giveUp j p hp =>
    simp [Choice.enabled, Choice.isInput, lt_of_getElem? hp]
  | noSend h pkt | send h pkt p _ _ | inject f => simp [Choice.isInput]

theorem rule_sum_without {topo : Topo} {s : State} {c : Choice} {cf : List Frame} {cp : List Pending}
    {fs : List Frame} {ps : List Pending} {evs : List Ev} (r : Rule topo s c cf cp fs ps evs)
    (μF : Frame → Nat) (μP : Pending → Nat) :
    (s.flight.map μF).sum = (cf.map μF).sum + ((s.without c).flight.map μF).sum ∧
    (s.pend.map μP).sum = (cp.map μP).sum + ((s.without c).pend.map μP).sum := by
  have eF := fun i f (hf : s.flight[i]? = some f) => sum_map_eraseIdx μF s.flight i f hf
  have eP := fun j p (hp : s.pend[j]? = some p) => sum_map_eraseIdx μP s.pend j p hp
  cases r with
  | idle c h => simp [without_of_not_enabled h]
  | noTap i f hf _ | tap i f n nd σ d hf _ _ => simpa [State.without] using eF i f hf
  | unsent j mac p hp _ | emit j mac p f hp _ | giveUp j p hp => simpa [State.without] using eP j p hp
  | noSend h pkt | send h pkt p _ _ | inject f => simp [State.without]

/-! ### potentials

The bounded-life, silence and no-multiplication arguments are all of one kind: a potential (a
number per frame in flight, per waiting forward, and an additive count of logged events) that no
rule increases by more than the choice hands in, and that every rule which consumes something
lowers by `δ`. -/

def potential (μF : Frame → Nat) (μP : Pending → Nat) (G : List Ev → Nat) (s : State) : Nat :=
  (s.flight.map μF).sum + (s.pend.map μP).sum + G s.log

def activeSteps (topo : Topo) : State → List Choice → Nat
  | _, [] => 0
  | s, c :: cs =>
    (c.enabled s && !c.isInput).toNat +
      match step topo s c with
      | .ok s' => activeSteps topo s' cs
      | .error _ => 0

def RuleBound (topo : Topo) (μF : Frame → Nat) (μP : Pending → Nat) (G : List Ev → Nat) (δ : Nat)
    (inp : Choice → Nat) : Prop :=
  ∀ (s : State) (c : Choice) (cf : List Frame) (cp : List Pending) (fs : List Frame) (ps : List Pending)
    (evs : List Ev), Rule topo s c cf cp fs ps evs →
    (fs.map μF).sum + (ps.map μP).sum + G evs + δ * (cf.length + cp.length) ≤
      (cf.map μF).sum + (cp.map μP).sum + inp c

theorem step_potential {topo : Topo} {μF : Frame → Nat} {μP : Pending → Nat} {G : List Ev → Nat} {δ : Nat}
    {inp : Choice → Nat} (hG : ∀ a b, G (a ++ b) = G a + G b) (hb : RuleBound topo μF μP G δ inp)
    {s s' : State} {c : Choice} (h : step topo s c = .ok s') :
    potential μF μP G s' + δ * (c.enabled s && !c.isInput).toNat ≤ potential μF μP G s + inp c := by
  obtain ⟨cf, cp, fs, ps, evs, r, rfl⟩ := step_spec h
  have b := hb s c cf cp fs ps evs r
  obtain ⟨eF, eP⟩ := rule_sum_without r μF μP
  rw [rule_active r]
  simp only [potential, List.map_append, List.sum_append, hG]
  omega

theorem run_potential {topo : Topo} {μF : Frame → Nat} {μP : Pending → Nat} {G : List Ev → Nat} {δ : Nat}
    {inp : Choice → Nat} (hG : ∀ a b, G (a ++ b) = G a + G b) (hb : RuleBound topo μF μP G δ inp) :
    ∀ (sched : List Choice) (s s' : State), run topo s sched = .ok s' →
      potential μF μP G s' + δ * activeSteps topo s sched ≤ potential μF μP G s + (sched.map inp).sum
  | [], s, s', h => by simp [run] at h; subst h; simp [activeSteps]
  | c :: cs, s, s', h => by
    simp only [run] at h
    split at h
    · cases h
    · rename_i s1 h1
      have a := step_potential hG hb h1
      have b := run_potential hG hb cs s1 s' h
      simp only [activeSteps, h1, List.map_cons, List.sum_cons, Nat.mul_add] at *
      omega

/-- remaining life of a datagram with this TTL: the number of `ArpRouter::demux` calls it can
    still cause (a TTL of 0 still reaches one router, which drops it) -/
def lifeOf (ttl : Nat) : Nat := max ttl 1

def lifeF (k : Nat) (f : Frame) : Nat := if f.pkt.tok = k then lifeOf f.pkt.hdr.ttl else 0
def lifeP (k : Nat) (p : Pending) : Nat := if p.pkt.tok = k then lifeOf p.pkt.hdr.ttl else 0

def life (k : Nat) (s : State) : Nat := (s.flight.map (lifeF k)).sum + (s.pend.map (lifeP k)).sum

def Ev.isHopOf (k : Nat) : Ev → Bool
  | .hop _ pkt => pkt.tok == k
  | _ => false

def hops (k : Nat) (log : List Ev) : Nat := (log.filter (Ev.isHopOf k)).length

def inputLife (k : Nat) : Choice → Nat
  | .send _ pkt => if pkt.tok = k then lifeOf pkt.hdr.ttl else 0
  | .inject f => if f.pkt.tok = k then lifeOf f.pkt.hdr.ttl else 0
  | _ => 0

def budget (k : Nat) (sched : List Choice) : Nat := (sched.map (inputLife k)).sum

def weightF (f : Frame) : Nat := 2 * lifeOf f.pkt.hdr.ttl
def weightP (p : Pending) : Nat := 2 * lifeOf p.pkt.hdr.ttl + 1
/-- weight of the whole state for the silence argument: every enabled non-input step removes at
    least one unit -/
def weight (s : State) : Nat := (s.flight.map weightF).sum + (s.pend.map weightP).sum

def inputWeight : Choice → Nat
  | .send _ pkt => 2 * lifeOf pkt.hdr.ttl + 1
  | .inject f => 2 * lifeOf f.pkt.hdr.ttl
  | _ => 0

theorem hops_append (k : Nat) (a b : List Ev) : hops k (a ++ b) = hops k a + hops k b := by
  simp [hops, List.filter_append]

theorem lifeOf_pos (t : Nat) : 1 ≤ lifeOf t := by simp [lifeOf]; omega

theorem lifeOf_hop {n : Nat} {nd : Node} {pkt : Pkt} {p : Pending} (h : routerDemux n nd pkt = .ok (some p)) :
    p.pkt.tok = pkt.tok ∧ lifeOf p.pkt.hdr.ttl + 1 = lifeOf pkt.hdr.ttl := by
  obtain ⟨v, hp, h1, h2, _⟩ := routerDemux_some h
  rw [hp]
  exact ⟨rfl, by simp only [Pkt.withTtl, lifeOf]; omega⟩

theorem hops_life_bound (topo : Topo) (k : Nat) :
    RuleBound topo (lifeF k) (lifeP k) (hops k) 0 (inputLife k) := by
  intro s c cf cp fs ps evs r
  cases r with
  | tap i f n nd σ d _ _ hd =>
    have := lifeOf_pos f.pkt.hdr.ttl
    rcases d with _ | ⟨port, data⟩ | ⟨_ | p⟩
    · simp [Demuxed.pend, Demuxed.evs, hops]
    · simp [Demuxed.pend, Demuxed.evs, hops, Ev.isHopOf]
    · by_cases hk : f.pkt.tok = k <;> simp [Demuxed.pend, Demuxed.evs, hops, Ev.isHopOf, lifeF, hk] <;> omega
    · obtain ⟨ht, hl⟩ := lifeOf_hop (ipv4Demux_routed hd)
      by_cases hk : f.pkt.tok = k <;>
        simp [Demuxed.pend, Demuxed.evs, hops, Ev.isHopOf, lifeF, lifeP, ht, hk] <;> omega
  | emit j mac p f _ he => simp [hops, Ev.isHopOf, lifeF, lifeP, (emit_some he).1]
  | send h pkt p _ hp => simp [hops, lifeP, inputLife, hp]
  | inject f => simp [hops, Ev.isHopOf, lifeF, inputLife]
  | _ => simp [hops]

theorem run_hops_life (topo : Topo) (k : Nat) (sched : List Choice) (s s' : State)
    (h : run topo s sched = .ok s') : hops k s'.log + life k s' ≤ hops k s.log + life k s + budget k sched := by
  have := run_potential (hops_append k) (hops_life_bound topo k) sched s s' h
  simp only [potential, life, budget] at *
  omega

theorem weight_bound (topo : Topo) : RuleBound topo weightF weightP (fun _ => 0) 1 inputWeight := by
  intro s c cf cp fs ps evs r
  cases r with
  | idle c _ => simp
  | noTap i f _ _ => have := lifeOf_pos f.pkt.hdr.ttl; simp [weightF]; omega
  | tap i f n nd σ d _ _ hd =>
    have := lifeOf_pos f.pkt.hdr.ttl
    rcases d with _ | ⟨port, data⟩ | ⟨_ | p⟩
    · simp [Demuxed.pend, weightF]; omega
    · simp [Demuxed.pend, weightF]; omega
    · simp [Demuxed.pend, weightF]; omega
    · obtain ⟨_, hl⟩ := lifeOf_hop (ipv4Demux_routed hd)
      simp [Demuxed.pend, weightF, weightP]; omega
  | unsent j mac p _ _ => simp [weightP, inputWeight]
  | emit j mac p f _ he => simp [weightF, weightP, (emit_some he).1]
  | giveUp j p _ => simp [weightP, inputWeight]
  | noSend h pkt => simp
  | send h pkt p _ hp => simp [weightP, inputWeight, hp]
  | inject f => simp [weightF, inputWeight]

def inputBudget (sched : List Choice) : Nat := (sched.map inputWeight).sum

def Ev.isWireOf (k v : Nat) : Ev → Bool
  | .wire f => f.pkt.tok == k && f.pkt.hdr.ttl == v
  | _ => false

def wires (k v : Nat) (log : List Ev) : Nat := (log.filter (Ev.isWireOf k v)).length

def potF (k v : Nat) (f : Frame) : Nat := if f.pkt.tok = k ∧ v < f.pkt.hdr.ttl then 1 else 0
def potP (k v : Nat) (p : Pending) : Nat := if p.pkt.tok = k ∧ v ≤ p.pkt.hdr.ttl then 1 else 0
/-- entities that can still put a (k, v) frame on a network -/
def pot (k v : Nat) (s : State) : Nat := (s.flight.map (potF k v)).sum + (s.pend.map (potP k v)).sum

def inputCount (k : Nat) : Choice → Nat
  | .send _ pkt => if pkt.tok = k then 1 else 0
  | .inject f => if f.pkt.tok = k then 1 else 0
  | _ => 0

def inputs (k : Nat) (sched : List Choice) : Nat := (sched.map (inputCount k)).sum

theorem wires_append (k v : Nat) (a b : List Ev) : wires k v (a ++ b) = wires k v a + wires k v b := by
  simp [wires, List.filter_append]

/-- a frame on the wire counts now if its TTL is `v`, later if it is larger -/
theorem wires_potF (k v : Nat) (f : Frame) :
    wires k v [Ev.wire f] + potF k v f = if f.pkt.tok = k ∧ v ≤ f.pkt.hdr.ttl then 1 else 0 := by
  have e : wires k v [Ev.wire f] = if f.pkt.tok = k ∧ f.pkt.hdr.ttl = v then 1 else 0 := by
    by_cases h1 : f.pkt.tok = k <;> by_cases h2 : f.pkt.hdr.ttl = v <;> simp [wires, Ev.isWireOf, h1, h2]
  rw [e]; simp only [potF]
  split <;> split <;> split <;> omega

theorem wires_pot_bound (topo : Topo) (k v : Nat) :
    RuleBound topo (potF k v) (potP k v) (wires k v) 0 (inputCount k) := by
  intro s c cf cp fs ps evs r
  cases r with
  | tap i f n nd σ d _ _ hd =>
    rcases d with _ | ⟨port, data⟩ | ⟨_ | p⟩
    · simp [Demuxed.pend, Demuxed.evs, wires]
    · simp [Demuxed.pend, Demuxed.evs, wires, Ev.isWireOf]
    · simp [Demuxed.pend, Demuxed.evs, wires, Ev.isWireOf]
    · obtain ⟨u, hp, h1, h2, _⟩ := routerDemux_some (ipv4Demux_routed hd)
      have : potP k v p ≤ potF k v f := by
        simp only [potP, potF, hp, Pkt.withTtl]
        split <;> split <;> omega
      simp [Demuxed.pend, Demuxed.evs, wires, Ev.isWireOf]; omega
  | emit j mac p f _ he =>
    have := wires_potF k v f
    simp only [(emit_some he).1] at this
    simp [potP]; omega
  | send h pkt p _ hp =>
    have : potP k v p ≤ inputCount k (.send h pkt) := by
      simp only [potP, hp, inputCount]
      split <;> split <;> omega
    simp [wires]; omega
  | inject f =>
    have := wires_potF k v f
    simp only [inputCount, List.map_cons, List.map_nil, List.sum_cons, List.sum_nil, List.length_nil]
    split at this <;> split <;> omega
  | _ => simp [wires]

theorem run_wires_pot (topo : Topo) (k v : Nat) (sched : List Choice) (s s' : State)
    (h : run topo s sched = .ok s') :
    wires k v s'.log + pot k v s' ≤ wires k v s.log + pot k v s + inputs k sched := by
  have := run_potential (wires_append k v) (wires_pot_bound topo k v) sched s s' h
  simp only [potential, pot, inputs] at *
  omega

theorem step_forall {topo : Topo} {QF : Frame → Prop} {QP : Pending → Prop} {QE : Ev → Prop} {s s' : State}
    {c : Choice} (h : step topo s c = .ok s') (hF : ∀ f ∈ s.flight, QF f) (hP : ∀ p ∈ s.pend, QP p)
    (hE : ∀ e ∈ s.log, QE e)
    (hr : ∀ cf cp fs ps evs, Rule topo s c cf cp fs ps evs →
      (∀ f ∈ fs, QF f) ∧ (∀ p ∈ ps, QP p) ∧ ∀ e ∈ evs, QE e) :
    (∀ f ∈ s'.flight, QF f) ∧ (∀ p ∈ s'.pend, QP p) ∧ ∀ e ∈ s'.log, QE e := by
  obtain ⟨cf, cp, fs, ps, evs, r, rfl⟩ := step_spec h
  obtain ⟨h1, h2, h3⟩ := hr cf cp fs ps evs r
  obtain ⟨sF, sP⟩ := without_subset s c
  refine ⟨fun f hf => ?_, fun p hp => ?_, fun e he => ?_⟩
  · exact (List.mem_append.1 hf).elim (fun hf => hF f (sF f hf)) (h1 f)
  · exact (List.mem_append.1 hp).elim (fun hp => hP p (sP p hp)) (h2 p)
  · exact (List.mem_append.1 he).elim (hE e) (h3 e)

theorem run_invariant {topo : Topo} {I : State → Prop} {C : Choice → Prop}
    (hstep : ∀ s c s', C c → step topo s c = .ok s' → I s → I s') :
    ∀ (sched : List Choice) (s s' : State), run topo s sched = .ok s' → (∀ c ∈ sched, C c) → I s → I s'
  | [], s, s', h, _, inv => by simp [run] at h; subst h; exact inv
  | c :: cs, s, s', h, hC, inv => by
    simp only [run] at h
    split at h
    · cases h
    · rename_i s1 h1
      exact run_invariant hstep cs s1 s' h (fun c' hc' => hC c' (by simp [hc']))
        (hstep s c s1 (hC c (by simp)) h1 inv)

def Ev.pkt : Ev → Pkt
  | .hop _ p => p
  | .wire f => f.pkt
  | .app _ p _ _ => p

structure Carries (P : Pkt → Prop) (s : State) : Prop where
  flight : ∀ f ∈ s.flight, P f.pkt
  pend : ∀ p ∈ s.pend, P p.pkt
  log : ∀ e ∈ s.log, P e.pkt

def Choice.InputOk (P : Pkt → Prop) : Choice → Prop
  | .send _ pkt => P pkt
  | .inject f => P f.pkt
  | _ => True

theorem step_carries {topo : Topo} {P : Pkt → Prop} (hP : ∀ pkt v, P pkt → P (pkt.withTtl v))
    {s s' : State} {c : Choice} (h : step topo s c = .ok s') (inv : Carries P s) (hc : c.InputOk P) :
    Carries P s' := by
  suffices hr : ∀ cf cp fs ps evs, Rule topo s c cf cp fs ps evs →
      (∀ f ∈ fs, P f.pkt) ∧ (∀ p ∈ ps, P p.pkt) ∧ ∀ e ∈ evs, P e.pkt by
    obtain ⟨a, b, d⟩ := step_forall h inv.flight inv.pend inv.log hr
    exact ⟨a, b, d⟩
  intro cf cp fs ps evs r
  cases r with
  | tap i f n nd σ d hf _ hd =>
    have hPf := inv.flight f (List.mem_of_getElem? hf)
    rcases d with _ | ⟨port, data⟩ | ⟨_ | p⟩
    · simp [Demuxed.pend, Demuxed.evs]
    · simpa [Demuxed.pend, Demuxed.evs, Ev.pkt] using hPf
    · simpa [Demuxed.pend, Demuxed.evs, Ev.pkt] using hPf
    · obtain ⟨v, hp, _⟩ := routerDemux_some (ipv4Demux_routed hd)
      simpa [Demuxed.pend, Demuxed.evs, Ev.pkt, hp, hPf] using hP _ v hPf
  | emit j mac p f hp he => simpa [Ev.pkt, (emit_some he).1] using inv.pend p (List.mem_of_getElem? hp)
  | send hh pkt p _ hp => simpa [hp, Choice.InputOk] using hc
  | inject f => simpa [Ev.pkt, Choice.InputOk] using hc
  | _ => simp

theorem run_carries {topo : Topo} {P : Pkt → Prop} (hP : ∀ pkt v, P pkt → P (pkt.withTtl v))
    (sched : List Choice) (s s' : State) (h : run topo s sched = .ok s') (inv : Carries P s)
    (hin : ∀ c ∈ sched, c.InputOk P) : Carries P s' :=
  run_invariant (fun _ _ _ hc hs inv => step_carries hP hs inv hc) sched s s' h hin inv

theorem carries_empty (P : Pkt → Prop) : Carries P State.empty :=
  ⟨fun _ hf => by simp [State.empty] at hf, fun _ hf => by simp [State.empty] at hf,
   fun _ hf => by simp [State.empty] at hf⟩

theorem tapOwnerFrom_eq (net : NetId) (mac : Mac) : ∀ (nodes : List Node) (i : Nat),
    tapOwnerFrom i nodes net mac =
      (nodes.zipIdx i).findSome? fun x => (slotOf x.1 net mac).map fun σ => (x.2, x.1, σ)
  | [], _ => rfl
  | nd :: rest, i => by
    simp only [tapOwnerFrom, List.zipIdx_cons, List.findSome?_cons, tapOwnerFrom_eq net mac rest (i + 1)]
    cases slotOf nd net mac <;> rfl

theorem tapOwner_spec {topo : Topo} {net : NetId} {mac : Mac} {n : Nat} {nd : Node} {σ : Slot}
    (h : tapOwner topo net mac = some (n, nd, σ)) : topo.nodes[n]? = some nd ∧ slotOf nd net mac = some σ := by
  rw [tapOwner, tapOwnerFrom_eq] at h
  obtain ⟨⟨nd', n'⟩, hm, hf⟩ := List.exists_of_findSome?_eq_some h
  cases hs : slotOf nd' net mac <;> rw [hs] at hf <;> cases hf
  exact ⟨List.mem_zipIdx_iff_getElem?.1 hm, hs⟩

def AppFact (topo : Topo) : Ev → Prop
  | .app n pkt port data => ∃ nd, topo.nodes[n]? = some nd ∧ ipv4Demux n nd pkt = .ok (.app port data)
  | _ => True

theorem step_appFact {topo : Topo} {s s' : State} {c : Choice} (h : step topo s c = .ok s')
    (inv : ∀ e ∈ s.log, AppFact topo e) : ∀ e ∈ s'.log, AppFact topo e := by
  refine (step_forall (QF := fun _ => True) (QP := fun _ => True) h (fun _ _ => trivial)
    (fun _ _ => trivial) inv ?_).2.2
  intro cf cp fs ps evs r
  refine ⟨fun _ _ => trivial, fun _ _ => trivial, ?_⟩
  intro e he
  cases r with
  | tap i f n nd σ d hf ho hd =>
    rcases d with _ | ⟨port, data⟩ | _
    · cases he
    · obtain rfl := List.mem_singleton.1 he
      exact ⟨nd, (tapOwner_spec ho).1, hd⟩
    · obtain rfl := List.mem_singleton.1 he
      trivial
  | emit j mac p f _ _ => obtain rfl := List.mem_singleton.1 he; trivial
  | inject f => obtain rfl := List.mem_singleton.1 he; trivial
  | _ => cases he

theorem run_appFact {topo : Topo} (sched : List Choice) (s s' : State) (h : run topo s sched = .ok s')
    (inv : ∀ e ∈ s.log, AppFact topo e) : ∀ e ∈ s'.log, AppFact topo e :=
  run_invariant (C := fun _ => True) (fun _ _ _ _ hs inv => step_appFact hs inv) sched s s' h
    (fun _ _ => trivial) inv

theorem ipv4Demux_app {n : Nat} {nd : Node} {pkt : Pkt} {port : Nat} {data : List UInt8}
    (h : ipv4Demux n nd pkt = .ok (.app port data)) :
    findBind nd.binds pkt.hdr.dst (protoClass pkt.hdr.proto) = some .udp ∧ isWhole pkt.hdr = true ∧
      data = pkt.payload.drop 8 ∧
      (nd.udpPorts.contains (pkt.hdr.dst, port) || nd.udpPorts.contains (0, port)) = true := by
  replace h := (ipv4Demux_parsed (by intro h; cases h) h).2
  unfold ipv4DemuxParsed at h
  split at h
  · cases h
  · rename_i up hb
    split at h
    · rename_i hw
      split at h
      · simp only [Except.ok.injEq] at h
        unfold udpDemux at h
        split at h
        · rename_i a b c d e f g hh data' hpay
          simp only [] at h
          split at h
          · rename_i hport
            simp only [Demuxed.app.injEq] at h
            obtain ⟨rfl, rfl⟩ := h
            exact ⟨hb, hw, by simp [hpay], hport⟩
          · cases h
        · cases h
      · split at h
        · cases h
        · simp only [Except.ok.injEq] at h; cases h
    · cases h

end Elvis.Router
