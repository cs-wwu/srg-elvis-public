import ElvisVerif.Lemmas.TcbArrive
import ElvisVerif.Lemmas.TcpSys
import ElvisVerif.Lemmas.C01Seq
/-!
# The closed two-endpoint system: RCV.NXT of one side never passes SND.NXT of the other

Invariant `Inv` over `Sys.step` for a single incarnation without forged segments (`Op.Clean`):
for each side `x` with TCB `t` — `SndBelow t`; every history element sent from `x`'s port lies
below `t`'s SND.NXT; when the peer has a TCB `u`, `u`'s RCV.NXT and everything in `u`'s reorder
heap lie below it too.  Before the passive side's TCB exists nothing it has sent occupies
sequence space and the active side is still in SYN-SENT (`fresh`).
-/
namespace Elvis.Tcp
open Tcb

/-- `x` as sender, its peer as receiver -/
structure Link (sys : Sys) (x : SideId) : Prop where
  snd : ∀ t, (sys.side x).tcb = some t → SndBelow t ∧ t.localPort = x.port ∧ t.remotePort = x.peer.port
  hist : ∀ t, (sys.side x).tcb = some t → ∀ σ ∈ sys.history, σ.hdr.srcPort = x.port →
    SegBelow t.snd.iss t.sent σ
  rcv : ∀ t u, (sys.side x).tcb = some t → (sys.side x.peer).tcb = some u →
    RcvBelow t.snd.iss t.sent u ∧ ∀ σ ∈ u.incoming.segments, SegBelow t.snd.iss t.sent σ
  fresh : (sys.side x).tcb = none → (sys.side x).listen.isSome = true →
    (∀ σ ∈ sys.history, σ.hdr.srcPort = x.port → σ.segLen = 0 ∧ σ.hdr.ctl.syn = false) ∧
    (∀ u, (sys.side x.peer).tcb = some u → u.state = .SynSent ∧
      ∀ σ ∈ u.incoming.segments, σ.segLen = 0 ∧ σ.hdr.ctl.syn = false)

structure Inv (sys : Sys) : Prop where
  link : ∀ x, Link sys x
  ports : ∀ σ ∈ sys.history, (σ.hdr.srcPort = SideId.A.port ∧ σ.hdr.dstPort = SideId.B.port) ∨
    (σ.hdr.srcPort = SideId.B.port ∧ σ.hdr.dstPort = SideId.A.port)
  /-- only the passive side B ever listens -/
  noListenA : sys.a.listen = none

theorem Inv.peer_noListen {sys : Sys} (hi : Inv sys) {z : SideId} (h : (sys.side z).listen.isSome = true) :
    (sys.side z.peer).listen = none := by
  cases z with
  | A => rw [show (sys.side .A).listen = none from hi.noListenA] at h; cases h
  | B => exact hi.noListenA

/-- fewer than 2^31 sequence numbers used and queued, on both sides -/
def RoomOk (sys : Sys) : Prop := ∀ x t, (sys.side x).tcb = some t → Room t

theorem RoomOk.sent_lt {sys : Sys} (h : RoomOk sys) {x : SideId} {t : Tcb} (ht : (sys.side x).tcb = some t) :
    t.sent < 2147483648 := by
  have := h x t ht
  unfold Room at this
  omega

theorem segBelow_of_empty (base : Seq) (N : Nat) (σ : Segment) (h : σ.segLen = 0 ∧ σ.hdr.ctl.syn = false) :
    SegBelow base N σ :=
  ⟨fun hs => by rw [h.2] at hs; simp at hs, fun hl => by rw [h.1] at hl; simp at hl⟩

/-- what a local operation (`send`, `receive`, `advance_time`, `segments`, `close`) on `t` leaves
    alone -/
structure Frame (t t' : Tcb) : Prop where
  lp : t'.localPort = t.localPort
  rp : t'.remotePort = t.remotePort
  iss : t'.snd.iss = t.snd.iss
  synsent : t'.state = .SynSent ↔ t.state = .SynSent
  rcv : t'.rcv = t.rcv
  heap : t'.incoming.segments = t.incoming.segments

/-! Side `z` is replaced by `sd'` and the segments `new`, sent by `z`, are recorded.  The link with `z` as sender
    needs what the caller shows of the new TCB; the link with the peer as sender keeps all that concerns the sender,
    and the caller shows that the new TCB of `z` is still a receiver below it. -/

theorem link_sender {sys : Sys} {z : SideId} (sd' : Side) (new : List Segment) (t' : Tcb) (hsd : sd'.tcb = some t')
    (hsnd : SndBelow t' ∧ t'.localPort = z.port ∧ t'.remotePort = z.peer.port)
    (hnew : ∀ σ ∈ new, SegBelow t'.snd.iss t'.sent σ)
    (hold : ∀ σ ∈ sys.history, σ.hdr.srcPort = z.port → SegBelow t'.snd.iss t'.sent σ)
    (hrcv : ∀ w, (sys.side z.peer).tcb = some w →
      RcvBelow t'.snd.iss t'.sent w ∧ ∀ σ ∈ w.incoming.segments, SegBelow t'.snd.iss t'.sent σ) :
    Link ((sys.setSide z sd').record new) z := by
  refine ⟨fun t ht => ?_, fun t ht σ hσ hsrc => ?_, fun t w ht hw => ?_, fun ht _ => ?_⟩
  -- in every clause the TCB of `z` is `t'`
  all_goals rw [side_touched, hsd] at ht; cases ht
  · exact hsnd
  · rw [mem_history_touched] at hσ
    exact hσ.elim (hnew σ) fun h => hold σ h hsrc
  · rw [side_untouched] at hw
    exact hrcv w hw

theorem link_receiver {sys : Sys} {z : SideId} (L : Link sys z.peer) (sd' : Side) (new : List Segment)
    (hnew : ∀ σ ∈ new, σ.hdr.srcPort = z.port)
    (hrcv : ∀ t u, (sys.side z.peer).tcb = some t → sd'.tcb = some u →
      RcvBelow t.snd.iss t.sent u ∧ ∀ σ ∈ u.incoming.segments, SegBelow t.snd.iss t.sent σ)
    (hfresh : (sys.side z.peer).tcb = none → (sys.side z.peer).listen.isSome = true → ∀ u, sd'.tcb = some u →
      u.state = .SynSent ∧ ∀ σ ∈ u.incoming.segments, σ.segLen = 0 ∧ σ.hdr.ctl.syn = false) :
    Link ((sys.setSide z sd').record new) z.peer := by
  have hp := side_untouched sys z sd' new
  have hz : ((sys.setSide z sd').record new).side z.peer.peer = sd' := by rw [SideId.peer_peer, side_touched]
  -- what `z` has sent does not come from the peer's port
  have old : ∀ σ ∈ ((sys.setSide z sd').record new).history, σ.hdr.srcPort = z.peer.port → σ ∈ sys.history := by
    intro σ hσ hsrc
    rw [mem_history_touched] at hσ
    rcases hσ with h | h
    · exact absurd ((hnew σ h).symm.trans hsrc) (fun hp => SideId.port_ne z hp.symm)
    · exact h
  refine ⟨?_, ?_, ?_, ?_⟩
  · intro t ht
    rw [hp] at ht
    exact L.snd t ht
  · intro t ht σ hσ hsrc
    rw [hp] at ht
    exact L.hist t ht σ (old σ hσ hsrc) hsrc
  · intro t u ht hu
    rw [hp] at ht
    rw [hz] at hu
    exact hrcv t u ht hu
  · intro ht hlis
    rw [hp] at ht hlis
    exact ⟨fun σ hσ hsrc => (L.fresh ht hlis).1 σ (old σ hσ hsrc) hsrc,
      fun u hu => hfresh ht hlis u (hz ▸ hu)⟩

theorem inv_of_links (sys : Sys) (hi : Inv sys) (z : SideId) (sd' : Side) (new : List Segment)
    (hz : Link ((sys.setSide z sd').record new) z) (hp : Link ((sys.setSide z sd').record new) z.peer)
    (hnew : ∀ σ ∈ new, σ.hdr.srcPort = z.port ∧ σ.hdr.dstPort = z.peer.port)
    (hl : sd'.listen = (sys.side z).listen ∨ sd'.listen = none) : Inv ((sys.setSide z sd').record new) := by
  refine ⟨z.both hz hp, fun σ hσ => ?_, ?_⟩
  · rw [mem_history_touched] at hσ
    rcases hσ with h | h
    · cases z
      · exact Or.inl (hnew σ h)
      · exact Or.inr (hnew σ h)
    · exact hi.ports σ h
  · show (((sys.setSide z sd').record new).side .A).listen = none
    rw [side_record, side_setSide]
    split
    · rename_i hA
      rcases hl with hl | hl
      · rw [hl, ← hA]; exact hi.noListenA
      · exact hl
    · exact hi.noListenA

theorem inv_update (sys : Sys) (hi : Inv sys) (z : SideId) (t t' : Tcb) (sd' : Side) (new : List Segment)
    (ht : (sys.side z).tcb = some t) (hsd : sd'.tcb = some t') (hl : sd'.listen = (sys.side z).listen)
    (fr : Frame t t') (hmono : t.sent ≤ t'.sent) (hb : SndBelow t')
    (hnew : ∀ σ ∈ new, σ.hdr.srcPort = z.port ∧ σ.hdr.dstPort = z.peer.port ∧ SegBelow t.snd.iss t'.sent σ) :
    Inv ((sys.setSide z sd').record new) := by
  have Lz := hi.link z
  have Lp := hi.link z.peer
  refine inv_of_links sys hi z sd' new ?_ ?_ (fun σ h => ⟨(hnew σ h).1, (hnew σ h).2.1⟩) (Or.inl hl)
  · obtain ⟨_, p1, p2⟩ := Lz.snd t ht
    refine link_sender sd' new t' hsd ⟨hb, by rw [fr.lp, p1], by rw [fr.rp, p2]⟩ (fun σ h => ?_) (fun σ h hsrc => ?_)
      (fun w hw => ?_)
    · rw [fr.iss]
      exact (hnew σ h).2.2
    · rw [fr.iss]
      exact (Lz.hist t ht σ h hsrc).mono hmono
    · obtain ⟨r1, r2⟩ := Lz.rcv t w ht hw
      rw [fr.iss]
      exact ⟨fun hne => Nat.le_trans (r1 hne) hmono, fun σ hσ => (r2 σ hσ).mono hmono⟩
  · -- as a receiver the new TCB is the old one
    have ht' : (sys.side z.peer.peer).tcb = some t := by rw [SideId.peer_peer]; exact ht
    refine link_receiver Lp sd' new (fun σ h => (hnew σ h).1) (fun w u hw hu => ?_) (fun hw hlis u hu => ?_)
    · rw [hsd] at hu
      cases hu
      have := Lp.rcv w t hw ht'
      refine ⟨fun hne => ?_, fun σ hσ => this.2 σ (by rw [fr.heap] at hσ; exact hσ)⟩
      rw [fr.rcv]
      exact this.1 (fun hx => hne (fr.synsent.2 hx))
    · rw [hsd] at hu
      cases hu
      have := (Lp.fresh hw hlis).2 t ht'
      exact ⟨fr.synsent.2 this.1, fun σ hσ => this.2 σ (by rw [fr.heap] at hσ; exact hσ)⟩

theorem inv_empty_link (sys : Sys) (x : SideId) (hx : (sys.side x).tcb = none)
    (hl : (sys.side x).listen = none) : Link sys x :=
  ⟨fun t ht => by rw [hx] at ht; simp at ht, fun t ht => by rw [hx] at ht; simp at ht,
   fun t u ht => by rw [hx] at ht; simp at ht, fun _ h => by rw [hl] at h; simp at h⟩

theorem inv_delete (sys : Sys) (hi : Inv sys) (z : SideId) (sd' : Side) (hsd : sd'.tcb = none)
    (hl : sd'.listen = none) : Inv (sys.setSide z sd') := by
  rw [← record_nil (sys.setSide z sd')]
  refine inv_of_links sys hi z sd' [] (inv_empty_link _ z (by rw [side_touched, hsd]) (by rw [side_touched, hl])) ?_
    (fun _ h => nomatch h) (Or.inr hl)
  exact link_receiver (hi.link z.peer) sd' [] (fun _ h => nomatch h) (fun _ u _ hu => by rw [hsd] at hu; cases hu)
      (fun _ _ u hu => by rw [hsd] at hu; cases hu)

theorem inv_respond (sys : Sys) (hi : Inv sys) (z : SideId) (hz : (sys.side z).tcb = none) (new : List Segment)
    (hnew : ∀ σ ∈ new, σ.hdr.srcPort = z.port ∧ σ.hdr.dstPort = z.peer.port ∧ σ.segLen = 0 ∧
      σ.hdr.ctl.syn = false) : Inv (sys.record new) := by
  rw [← sys.setSide_side z]
  have hz' := side_touched sys z (sys.side z) new
  refine inv_of_links sys hi z (sys.side z) new ⟨?_, ?_, ?_, ?_⟩ ?_ (fun σ h => ⟨(hnew σ h).1, (hnew σ h).2.1⟩)
    (Or.inl rfl)
  · intro u hu; rw [hz', hz] at hu; cases hu
  · intro u hu; rw [hz', hz] at hu; cases hu
  · intro u w hu; rw [hz', hz] at hu; cases hu
  · -- what is sent without a TCB occupies no sequence space
    intro _ hlis
    rw [hz'] at hlis
    obtain ⟨f1, f2⟩ := (hi.link z).fresh hz hlis
    refine ⟨fun σ hσ hsrc => ?_, fun w hw => f2 w (by rwa [side_untouched] at hw)⟩
    rw [mem_history_touched] at hσ
    exact hσ.elim (fun h => (hnew σ h).2.2) fun h => f1 σ h hsrc
  · exact link_receiver (hi.link z.peer) (sys.side z) new (fun σ h => (hnew σ h).1)
      (fun _ u _ hu => by rw [hz] at hu; cases hu) (fun _ _ u hu => by rw [hz] at hu; cases hu)

theorem inv_arrive_tcb (sys : Sys) (hi : Inv sys) (hroom : RoomOk sys) (z : SideId) (u u' : Tcb) (σ : Segment)
    (hu : (sys.side z).tcb = some u) (hσ : σ ∈ sys.history) (hsrc : σ.hdr.srcPort = z.peer.port)
    (e : u.segmentArrives σ = .ok (u', .Ok)) (sd' : Side) (hsd : sd'.tcb = some u')
    (hl : sd'.listen = (sys.side z).listen) : Inv (sys.setSide z sd') := by
  have k := segmentArrives_snd u σ u' .Ok e
  have hsent : u'.sent = u.sent := sent_congr k.iss k.nxt
  have Lz := hi.link z
  have Lp := hi.link z.peer
  have hu' : (sys.side z.peer.peer).tcb = some u := by rw [SideId.peer_peer]; exact hu
  rw [← record_nil (sys.setSide z sd')]
  refine inv_of_links sys hi z sd' [] ?_ ?_ (fun _ h => nomatch h) (Or.inl hl)
  · -- the receiving side as sender: nothing it has sent changes
    obtain ⟨b, p1, p2⟩ := Lz.snd u hu
    refine link_sender sd' [] u' hsd ⟨k.below b, by rw [k.lp, p1], by rw [k.rp, p2]⟩ (fun _ h => nomatch h)
      (fun τ hτ hs => ?_) (fun w hw => ?_)
    · rw [k.iss, hsent]
      exact Lz.hist u hu τ hτ hs
    · rw [k.iss, hsent]
      exact Lz.rcv u w hu hw
  · refine link_receiver Lp sd' [] (fun _ h => nomatch h) (fun t w ht hw => ?_) (fun ht hlis w hw => ?_)
    · rw [hsd] at hw
      cases hw
      obtain ⟨r1, r2⟩ := Lp.rcv t u ht hu'
      obtain ⟨st, hh'⟩ := segmentArrives_rcv u σ u' e t.snd.iss t.sent (hroom.sent_lt ht) r1 (Lp.hist t ht σ hσ hsrc) r2
      exact ⟨st.below, hh'⟩
    · rw [hsd] at hw
      cases hw
      obtain ⟨f1, f2⟩ := Lp.fresh ht hlis
      obtain ⟨g1, g2⟩ := f2 u hu'
      have hσ0 := f1 σ hσ hsrc
      exact ⟨segmentArrives_synsent_stays u σ u' e g1 hσ0.2 (fun x hx => (g2 x hx).2), segmentArrives_parked e hσ0 g2⟩

theorem inv_create (sys : Sys) (hi : Inv sys) (z : SideId) (iss : Seq) (mtu : U16) (σ : Segment) (tcb : Tcb)
    (hz : (sys.side z).tcb = none) (hlis : (sys.side z).listen = some (iss, mtu))
    (hσ : σ ∈ sys.history) (hsrc : σ.hdr.srcPort = z.peer.port) (hdst : σ.hdr.dstPort = z.port)
    (e : segmentArrivesListen σ iss mtu = .ok (some (.Tcb tcb))) (sd' : Side) (hsd : sd'.tcb = some tcb)
    (hl : sd'.listen = (sys.side z).listen) : Inv (sys.setSide z sd') := by
  obtain ⟨cb, -, -, clp, crp, -⟩ := listen_create σ iss mtu tcb e
  have hlis1 : (sys.side z).listen.isSome = true := by rw [hlis]; rfl
  obtain ⟨f1, f2⟩ := (hi.link z).fresh hz hlis1
  have L := hi.link z.peer
  rw [← record_nil (sys.setSide z sd')]
  refine inv_of_links sys hi z sd' [] ?_ ?_ (fun _ h => nomatch h) (Or.inl hl)
  · -- nothing the passive side has sent so far occupies sequence space, and the peer is still in SYN-SENT
    refine link_sender sd' [] tcb hsd ⟨cb, by rw [clp, hdst], by rw [crp, hsrc]⟩ (fun _ h => nomatch h)
      (fun τ hτ hs => segBelow_of_empty _ _ _ (f1 τ hτ hs)) (fun w hw => ?_)
    obtain ⟨g1, g2⟩ := f2 w hw
    exact ⟨fun hne => absurd g1 hne, fun x hx => segBelow_of_empty _ _ _ (g2 x hx)⟩
  · refine link_receiver L sd' [] (fun _ h => nomatch h) (fun t w ht hw => ?_) (fun ht hlis' => ?_)
    · rw [hsd] at hw
      cases hw
      obtain ⟨o1, hN, hh⟩ := listen_create_rcv σ iss mtu tcb e t.snd.iss t.sent (L.hist t ht σ hσ hsrc)
      exact ⟨fun _ => by rw [o1]; exact hN, hh⟩
    · rw [hi.peer_noListen hlis1] at hlis'
      cases hlis'

theorem send_local (t : Tcb) (m : List UInt8) :
    Frame t (t.send m) ∧ (t.send m).sent = t.sent ∧ (SndBelow t → SndBelow (t.send m)) := by
  rw [send_eq]
  split <;> exact ⟨⟨rfl, rfl, rfl, Iff.rfl, rfl, rfl⟩, rfl,
    fun h => h.congr rfl rfl (fun x hx => ⟨x, hx, rfl⟩) (fun _ hx => hx) rfl rfl⟩

theorem receive_local (t : Tcb) :
    Frame t t.receive.1 ∧ t.receive.1.sent = t.sent ∧ (SndBelow t → SndBelow t.receive.1) := by
  rcases receive_cases t with h | h <;> rw [h] <;> exact ⟨⟨rfl, rfl, rfl, Iff.rfl, rfl, rfl⟩, rfl,
    fun h => h.congr rfl rfl (fun x hx => ⟨x, hx, rfl⟩) (fun _ hx => hx) rfl rfl⟩

theorem advanceTime_local (t : Tcb) (dt : Nat) (t' : Tcb) (e : t.advanceTime dt = .ok (t', .Ignore)) :
    Frame t t' ∧ t'.sent = t.sent ∧ (SndBelow t → SndBelow t') := by
  -- the timers are not read; a queue flagged for retransmission holds the same segments
  obtain ⟨tmo, rfl | rfl⟩ := advanceTime_flags e
  · exact ⟨⟨rfl, rfl, rfl, Iff.rfl, rfl, rfl⟩, rfl,
      fun h => h.congr rfl rfl (fun x hx => ⟨x, hx, rfl⟩) (fun _ hx => hx) rfl rfl⟩
  · refine ⟨⟨rfl, rfl, rfl, Iff.rfl, rfl, rfl⟩, rfl, fun h => h.congr rfl rfl (fun x hx => ?_) (fun _ hx => hx) rfl rfl⟩
    obtain ⟨y, hy, rfl⟩ := List.mem_map.1 hx
    exact ⟨y, hy, rfl⟩

theorem close_synsent (s s' : Tcb) (r : CloseResult) (e : s.close = .ok (s', r)) :
    s'.state = .SynSent ↔ s.state = .SynSent := by
  rcases close_cases e with rfl | ⟨st, rfl, hst⟩
  · exact Iff.rfl
  · -- FIN-WAIT-1 or LAST-ACK, out of a state that is not SYN-SENT
    rw [(keep_finQueued_if _ _).state]
    rcases hst with ⟨h | h, rfl⟩ | ⟨h, rfl⟩ <;> rw [h] <;> exact ⟨fun hx => (nomatch hx), fun hx => (nomatch hx)⟩

theorem segments_rx (s s' : Tcb) (out : List Segment) (e : s.segments = .ok (s', out)) :
    s'.rcv = s.rcv ∧ s'.incoming = s.incoming :=
  ⟨(segments_same e).1.rcv, (segments_same e).1.incoming⟩

/-- ops of a single incarnation without forged segments: deliveries hand a history element to
    the side it is addressed to (as `Tcp::demux` routes by the endpoint pair) -/
def Op.Clean (sys : Sys) : Op → Prop
  | .deliver x i => ∀ σ, sys.nth i = some σ → σ.hdr.srcPort = x.peer.port ∧ σ.hdr.dstPort = x.port
  | .write .. => True
  | .read _ => True
  | .tick .. => True
  | .emit _ => True
  | .close _ => True
  | _ => False

theorem inv_local (sys : Sys) (hi : Inv sys) (z : SideId) (t t' : Tcb) (sd' : Side)
    (ht : (sys.side z).tcb = some t) (hsd : sd'.tcb = some t') (hl : sd'.listen = (sys.side z).listen)
    (h : Frame t t' ∧ t'.sent = t.sent ∧ (SndBelow t → SndBelow t')) : Inv (sys.setSide z sd') :=
  inv_update sys hi z t t' sd' [] ht hsd hl h.1 (Nat.le_of_eq h.2.1.symm) (h.2.2 ((hi.link z).snd t ht).1)
    fun _ h => nomatch h

theorem inv_arrive {s s' : Sys} {x : SideId} {σ : Segment} {r : Res} (hi : Inv s) (a : s.Arrive x σ s' r)
    (hroom : RoomOk s) (hσ : σ ∈ s.history) (hp : σ.hdr.srcPort = x.peer.port ∧ σ.hdr.dstPort = x.port) : Inv s' := by
  cases a with
  | tcb ht h => exact inv_arrive_tcb s hi hroom x _ _ σ ht hσ hp.1 h _ rfl rfl
  | close => exact inv_delete s hi x _ rfl rfl
  | ignore | closed => exact hi
  | create ht hl h => exact inv_create s hi x _ _ σ _ ht hl hσ hp.1 hp.2 h _ rfl rfl
  | refuse ht _ h =>
    refine inv_respond s hi x ht _ (List.forall_mem_singleton.2 ?_)
    -- the reply of LISTEN to an ACK-bearing segment: RST at SEG.ACK, ports swapped
    rw [(segmentArrivesListen_response h).2.2]
    exact ⟨hp.2, hp.1, rfl, rfl⟩
  | reset ht _ h =>
    refine inv_respond s hi x ht _ (List.forall_mem_singleton.2 ?_)
    -- with or without ACK the reply is a RST with the ports swapped
    rcases (segmentArrivesClosed_ok h).2 with ⟨-, rfl⟩ | ⟨-, rfl⟩ <;> exact ⟨hp.2, hp.1, rfl, rfl⟩

theorem inv_step (s : Sys) (hi : Inv s) (hroom : RoomOk s) (op : Op) (hc : Op.Clean s op)
    (s' : Sys) (r : Res) (e : s.step op = .ok (s', r)) : Inv s' := by
  cases step_iff.1 e with
  | «open» | listen | inject | abort | drop => exact hc.elim
  | noSeg | noTcb => exact hi
  | deliver hn a => exact inv_arrive hi a hroom (nth_mem s _ _ hn) (hc _ hn)
  | write ht => exact inv_local s hi _ _ _ _ ht rfl rfl (send_local _ _)
  | read ht => exact inv_local s hi _ _ _ _ ht rfl rfl (receive_local _)
  | tick ht h => exact inv_local s hi _ _ _ _ ht rfl rfl (advanceTime_local _ _ _ h)
  | expire => exact inv_delete s hi _ _ rfl rfl
  | @emit x tcb tcb' segs ht h =>
    obtain ⟨b0, p1, p2⟩ := (hi.link x).snd tcb ht
    obtain ⟨g, o1⟩ := segments_snd tcb tcb' segs h
    have o1 := o1 b0 (hroom x tcb ht)
    obtain ⟨rx, st⟩ := segments_same h
    exact inv_update s hi x tcb tcb' _ segs ht rfl rfl
      ⟨g.lp, g.rp, g.iss, by rw [st], rx.rcv, by rw [rx.incoming]⟩ (g.mono (hroom x tcb ht))
      (g.below b0 (hroom x tcb ht))
      (fun σ hσ => ⟨by rw [(o1 σ hσ).2.1, p1], by rw [(o1 σ hσ).2.2, p2], (o1 σ hσ).1⟩)
  | @close x tcb tcb' r' ht h =>
    obtain ⟨b0, p1, p2⟩ := (hi.link x).snd tcb ht
    have g := close_snd tcb tcb' r' h
    obtain ⟨s1, r1, e1, same1, _⟩ := close_spec tcb
    rw [e1] at h
    cases h
    exact inv_update s hi x tcb tcb' _ [] ht rfl rfl
      ⟨g.lp, g.rp, g.iss, close_synsent tcb tcb' r' e1, same1.rcv, by rw [same1.incoming]⟩
      (g.mono (hroom x tcb ht)) (g.below b0 (hroom x tcb ht)) (fun _ h => nomatch h)

/-- a run of clean ops; before every step both endpoints have room below 2^31 sequence numbers -/
inductive CleanRun : Sys → Sys → Prop
  | refl (s : Sys) : CleanRun s s
  | step {s s1 s2 : Sys} {op : Op} {r : Res} : CleanRun s s1 → RoomOk s1 → Op.Clean s1 op →
      s1.step op = .ok (s2, r) → CleanRun s s2

theorem inv_run {s s' : Sys} (h : Inv s) (r : CleanRun s s') : Inv s' := by
  induction r with
  | refl => exact h
  | step _ hroom hc e ih => exact inv_step _ ih hroom _ hc _ _ e

theorem CleanRun.head {s s1 s2 : Sys} {op : Op} {r : Res} (hroom : RoomOk s) (hc : Op.Clean s op)
    (e : s.step op = .ok (s1, r)) (h : CleanRun s1 s2) : CleanRun s s2 := by
  induction h with
  | refl => exact .step (.refl _) hroom hc e
  | step _ hr hcl he ih => exact .step ih hr hcl he

def roomB (sys : Sys) : Bool :=
  [SideId.A, SideId.B].all fun x =>
    match (sys.side x).tcb with
    | none => true
    | some t => decide (t.sent + t.outgoing.text.length + 1 < 2147483648)

def cleanB (sys : Sys) : Op → Bool
  | .deliver x i =>
    match sys.nth i with
    | none => true
    | some σ => σ.hdr.srcPort == x.peer.port && σ.hdr.dstPort == x.port
  | .write .. => true
  | .read _ => true
  | .tick .. => true
  | .emit _ => true
  | .close _ => true
  | _ => false

def cleanRunB : Sys → List Op → Option Sys
  | s, [] => some s
  | s, op :: ops =>
    if roomB s && cleanB s op then
      match s.step op with
      | .ok (s', _) => cleanRunB s' ops
      | .error _ => none
    else none

theorem roomB_sound (sys : Sys) (h : roomB sys = true) : RoomOk sys := by
  intro x t ht
  unfold roomB at h
  simp only [List.all_cons, List.all_nil, Bool.and_true, Bool.and_eq_true] at h
  unfold Room
  cases x with
  | A => have := h.1; rw [ht] at this; simpa using this
  | B => have := h.2; rw [ht] at this; simpa using this

theorem cleanB_sound (sys : Sys) (op : Op) (h : cleanB sys op = true) : Op.Clean sys op := by
  cases op <;> simp only [cleanB, Op.Clean] at h ⊢ <;> try trivial
  · intro σ hσ
    rw [hσ] at h
    simpa using h
  all_goals exact absurd h (by simp)

theorem cleanRunB_sound (s s' : Sys) (ops : List Op) (h : cleanRunB s ops = some s') : CleanRun s s' := by
  induction ops generalizing s with
  | nil => simp only [cleanRunB, Option.some.injEq] at h; subst h; exact .refl _
  | cons op ops ih =>
    unfold cleanRunB at h
    split at h
    · rename_i hc
      simp only [Bool.and_eq_true] at hc
      split at h
      · rename_i s1 r e
        exact CleanRun.head (roomB_sound s hc.1) (cleanB_sound s op hc.2) e (ih s1 h)
      · simp at h
    · simp at h

theorem inv_of_no_history (sys : Sys) (hh : sys.history = []) (hA : sys.a.listen = none)
    (hsnd : ∀ x t, (sys.side x).tcb = some t → (SndBelow t ∧ t.localPort = x.port ∧ t.remotePort = x.peer.port) ∧
      t.state = .SynSent ∧ t.incoming.segments = []) : Inv sys := by
  have empty : ∀ u : Tcb, u.incoming.segments = [] → ∀ σ ∈ u.incoming.segments, False :=
    fun u hu σ hσ => by rw [hu] at hσ; cases hσ
  refine ⟨fun x => ⟨fun t ht => (hsnd x t ht).1, fun t _ σ hσ => ?_, fun t u _ hu => ?_, fun _ _ => ⟨fun σ hσ => ?_, fun u hu => ?_⟩⟩,
    fun σ hσ => ?_, hA⟩
  · rw [hh] at hσ; cases hσ
  · obtain ⟨-, st, hp⟩ := hsnd x.peer u hu
    exact ⟨fun hne => absurd st hne, fun σ hσ => (empty u hp σ hσ).elim⟩
  · rw [hh] at hσ; cases hσ
  · obtain ⟨-, st, hp⟩ := hsnd x.peer u hu
    exact ⟨st, fun σ hσ => (empty u hp σ hσ).elim⟩
  · rw [hh] at hσ; cases hσ

theorem init_cases {ia ib : Seq} {ma mb : U16} {simultaneous : Bool} {sys : Sys} {rs : List Res}
    (e : Sys.run {} [.open .A ia ma, if simultaneous then .open .B ib mb else .listen .B ib mb] = .ok (sys, rs)) :
    ∃ ta, Tcb.open SideId.A.port SideId.A.peer.port ia ma = .ok ta ∧
      ((simultaneous = false ∧ sys = { a := { tcb := some ta }, b := { listen := some (ib, mb) } }) ∨
       (simultaneous = true ∧ ∃ tb, Tcb.open SideId.B.port SideId.B.peer.port ib mb = .ok tb ∧
          sys = { a := { tcb := some ta }, b := { tcb := some tb } })) := by
  obtain ⟨s1, r1, r2, e1, e2⟩ := run_two e
  cases step_iff.1 e1 with
  | noTcb ho => exact ho.elim
  | «open» h1 =>
    refine ⟨_, h1, ?_⟩
    cases simultaneous with
    | false =>
      cases step_iff.1 e2 with
      | noTcb ho => exact ho.elim
      | listen => exact Or.inl ⟨rfl, rfl⟩
    | true =>
      cases step_iff.1 e2 with
      | noTcb ho => exact ho.elim
      | «open» h2 => exact Or.inr ⟨rfl, _, h2, rfl⟩

/-- `init_cases` in the form the invariants ask for: nothing emitted yet, A does not listen, every TCB is as `open`
    made it -/
theorem start_state {ia ib : Seq} {ma mb : U16} {simultaneous : Bool} {sys : Sys} {rs : List Res}
    (e : Sys.run {} [.open .A ia ma, if simultaneous then .open .B ib mb else .listen .B ib mb] = .ok (sys, rs)) :
    sys.history = [] ∧ sys.a.listen = none ∧
      ∀ x t, (sys.side x).tcb = some t → ∃ iss mtu, Tcb.open x.port x.peer.port iss mtu = .ok t := by
  obtain ⟨ta, h1, ⟨-, rfl⟩ | ⟨-, tb, h2, rfl⟩⟩ := init_cases e
  · refine ⟨rfl, rfl, fun x t ht => ?_⟩
    cases x <;> cases ht
    exact ⟨_, _, h1⟩
  · refine ⟨rfl, rfl, fun x t ht => ?_⟩
    cases x <;> cases ht
    · exact ⟨_, _, h1⟩
    · exact ⟨_, _, h2⟩

theorem inv_init {ia ib : Seq} {ma mb : U16} {simultaneous : Bool} {sys : Sys} {rs : List Res}
    (e : Sys.run {} [.open .A ia ma, if simultaneous then .open .B ib mb else .listen .B ib mb] = .ok (sys, rs)) :
    Inv sys := by
  obtain ⟨hh, hA, ho⟩ := start_state e
  refine inv_of_no_history _ hh hA fun x t ht => ?_
  obtain ⟨iss, mtu, h⟩ := ho x t ht
  obtain ⟨b, _, _, lp, rp, st, hp⟩ := open_snd _ _ _ _ _ h
  exact ⟨⟨b, lp, rp⟩, st, hp⟩

theorem inv_init_active_passive (ia ib : Seq) (ma mb : U16) (sys : Sys) (rs : List Res)
    (e : Sys.run {} [.open .A ia ma, .listen .B ib mb] = .ok (sys, rs)) : Inv sys :=
  inv_init (simultaneous := false) e

theorem inv_init_simultaneous (ia ib : Seq) (ma mb : U16) (sys : Sys) (rs : List Res)
    (e : Sys.run {} [.open .A ia ma, .open .B ib mb] = .ok (sys, rs)) : Inv sys :=
  inv_init (simultaneous := true) e

theorem inv_rcv_le_snd (sys : Sys) (hi : Inv sys) (hroom : RoomOk sys) (x : SideId) (t u : Tcb)
    (ht : (sys.side x).tcb = some t) (hu : (sys.side x.peer).tcb = some u) (hs : u.state ≠ .SynSent) :
    off t.snd.iss u.rcv.nxt ≤ off t.snd.iss t.snd.nxt ∧ off t.snd.iss t.snd.nxt < 2147483648 ∧
      ModCmp.modGt u.rcv.nxt t.snd.nxt = false := by
  have h1 := ((hi.link x).rcv t u ht hu).1 hs
  have h2 : t.sent < 2147483648 := hroom.sent_lt ht
  refine ⟨h1, h2, ?_⟩
  cases hm : ModCmp.modGt u.rcv.nxt t.snd.nxt with
  | false => rfl
  | true =>
    have := (modGt_iff_off t.snd.iss u.rcv.nxt t.snd.nxt (by unfold sent at h1 h2; omega) h2).1 hm
    unfold sent at h1
    omega

end Elvis.Tcp
