import ElvisVerif.Lemmas.TcpAckBlocks
/-!
# Every ACK number an endpoint issues lies in `[ISS_peer + 1, RCV.NXT]`

Single endpoint, `base` = the peer's ISS, `N` = how many sequence numbers the peer has consumed
(as in `Lemmas/TcbSeq.lean`).  `top base s` is the upper bound for ACK numbers issued by `s`:
`RCV.NXT − base` outside SYN-SENT, `0` (= no ACK bit at all) in SYN-SENT.

`AStep base N bad A s s'` — what `process_segment` / `segment_arrives` do: the receive side moves
as `RcvStep` says, `RCV.NXT` is past the peer's SYN outside SYN-SENT, every header newly queued
acknowledges at most `top base s'` and is a RST only if `bad`, `SND.UNA` moved only to a value
satisfying `A`.
-/
namespace Elvis.Tcp
open Elvis.ModCmp
namespace Tcb

/-- bound for the ACK numbers `s` has issued so far, as an offset from the peer's ISS -/
def top (base : Seq) (s : Tcb) : Nat := if s.state = .SynSent then 0 else off base s.rcv.nxt

/-- the header's ACK number (if it has the ACK bit) lies in `[base + 1, base + R]` -/
def AckLe (base : Seq) (R : Nat) (h : Hdr) : Prop :=
  h.ctl.ack = true → 1 ≤ off base h.ack ∧ off base h.ack ≤ R

theorem AckLe.mono {base : Seq} {R R' : Nat} {h : Hdr} (a : AckLe base R h) (hr : R ≤ R') : AckLe base R' h :=
  fun hf => ⟨(a hf).1, Nat.le_trans (a hf).2 hr⟩

theorem ackLe_of_noack {base : Seq} {R : Nat} {h : Hdr} (hf : h.ctl.ack = false) : AckLe base R h :=
  fun h' => by rw [hf] at h'; cases h'

theorem AckLe.zero {base : Seq} {h : Hdr} (a : AckLe base 0 h) : h.ctl.ack = false := by
  cases hf : h.ctl.ack with
  | false => rfl
  | true => have := a hf; omega

theorem top_of_synSent {base : Seq} {s : Tcb} (h : s.state = .SynSent) : top base s = 0 := by
  unfold top; rw [if_pos h]

theorem top_of_ne {base : Seq} {s : Tcb} (h : s.state ≠ .SynSent) : top base s = off base s.rcv.nxt := by
  unfold top; rw [if_neg h]

theorem top_mono {base : Seq} {N : Nat} {a b : Tcb} (h : RcvStep base N a b) : top base a ≤ top base b := by
  by_cases ha : a.state = .SynSent
  · rw [top_of_synSent ha]; exact Nat.zero_le _
  · rw [top_of_ne ha, top_of_ne (h.notBack ha)]
    exact h.mono ha

theorem top_le {base : Seq} {N : Nat} {s : Tcb} (h : RcvBelow base N s) : top base s ≤ N := by
  by_cases hs : s.state = .SynSent
  · rw [top_of_synSent hs]; exact Nat.zero_le _
  · rw [top_of_ne hs]; exact h hs

def AckP (base : Seq) (bad : Prop) (c : Tcb) (h : Hdr) : Prop :=
  AckLe base (top base c) h ∧ (h.ctl.rst = true → bad)

theorem ackP_new {base : Seq} {bad : Prop} {c : Tcb} {h : Hdr} (hn : NewHdr c h)
    (hpos : c.state ≠ .SynSent → 1 ≤ off base c.rcv.nxt) : AckP base bad c h := by
  refine ⟨fun hf => ?_, fun hr => by rw [hn.1] at hr; cases hr⟩
  obtain ⟨e, hs⟩ := hn.2.2.1 hf
  rw [top_of_ne hs, e]
  exact ⟨hpos hs, Nat.le_refl _⟩

structure AStep (base : Seq) (N : Nat) (bad : Prop) (A : Seq → Prop) (s s' : Tcb) : Prop where
  rcv : RcvStep base N s s'
  pos : s'.state ≠ .SynSent → 1 ≤ off base s'.rcv.nxt
  q : QStep (AckP base bad s') A s s'

theorem AStep.trans {base : Seq} {N : Nat} {bad : Prop} {A : Seq → Prop} {a b c : Tcb}
    (h1 : AStep base N bad A a b) (h2 : AStep base N bad A b c) : AStep base N bad A a c :=
  ⟨h1.rcv.trans h2.rcv, h2.pos,
    (h1.q.mono (fun _ hx => ⟨hx.1.mono (top_mono h2.rcv), hx.2⟩) (fun _ hx => hx)).trans h2.q⟩

theorem AStep.of_same {base : Seq} {N : Nat} {bad : Prop} {A : Seq → Prop} {s s' : Tcb}
    (hb : RcvBelow base N s) (hpos : s.state ≠ .SynSent → 1 ≤ off base s.rcv.nxt)
    (hr : s'.rcv = s.rcv) (hs : s'.state = .SynSent ↔ s.state = .SynSent)
    (q : QStep (AckP base bad s') A s s') : AStep base N bad A s s' :=
  ⟨RcvStep.of_same hb hr hs, fun h => by rw [hr]; exact hpos (fun hx => h (hs.2 hx)), q⟩

theorem AStep.refl {base : Seq} {N : Nat} {bad : Prop} {A : Seq → Prop} {s : Tcb}
    (hb : RcvBelow base N s) (hpos : s.state ≠ .SynSent → 1 ≤ off base s.rcv.nxt) : AStep base N bad A s s :=
  AStep.of_same hb hpos rfl Iff.rfl (QStep.refl _)

theorem AStep.imp {base : Seq} {N : Nat} {bad bad' : Prop} {A : Seq → Prop} {s s' : Tcb}
    (h : AStep base N bad A s s') (hb : bad → bad') : AStep base N bad' A s s' :=
  ⟨h.rcv, h.pos, h.q.mono (fun _ hx => ⟨hx.1, fun hr => hb (hx.2 hr)⟩) (fun _ hx => hx)⟩

theorem QStep.and {P P' : Hdr → Prop} {A A' : Seq → Prop} {s s' : Tcb} (h : QStep P A s s') (h' : QStep P' A' s s') :
    QStep (fun x => P x ∧ P' x) A s s' :=
  ⟨fun x hx => (h.one x hx).elim Or.inl fun p => (h'.one x hx).elim Or.inl fun p' => Or.inr ⟨p, p'⟩,
    fun tr hx => (h.rtx tr hx).elim Or.inl fun p => (h'.rtx tr hx).elim Or.inl fun p' => Or.inr ⟨p, p'⟩, h.una⟩

/-- **every elementary change**: a header queued acknowledges `RCV.NXT` (the ACK, the SYN,ACK) or nothing (the RST),
    and `SND.UNA` moves only to the segment's ACK field -/
theorem Eff.queued {g : Segment} {k : Nat} {a b : Tcb} (e : Eff g k a b) (base : Seq)
    (hpos : a.state ≠ .SynSent → 1 ≤ off base a.rcv.nxt) (A : Seq → Prop) (hA : g.hdr.ctl.ack = true → A g.hdr.ack) :
    QStep (AckP base True b) A a b := by
  cases e with
  | @reply _ _ hd hr =>
    refine qstep_enqueue _ _ ⟨?_, fun _ => trivial⟩
    have htop : top base (a.enqueueBuilt hd.built) = top base a := by
      unfold top; rw [state_enqueueBuilt, (same_enqueueBuilt _ _).rcv]
    rw [htop]
    rcases hr with ⟨hns, rfl⟩ | ⟨rfl, -⟩ | ⟨hst, rfl⟩
    · exact fun _ => by rw [top_of_ne hns]; exact ⟨hpos hns, Nat.le_refl _⟩
    · exact ackLe_of_noack rfl
    · have hns : a.state ≠ .SynSent := by rw [hst]; nofun
      exact fun _ => by rw [top_of_ne hns]; exact ⟨hpos hns, Nat.le_refl _⟩
  | ack ha => exact qstep_ackTaken a (hA ha)
  | _ => exact QStep.of_eq rfl rfl rfl

/-- **one segment.**  Hypotheses as in `processSegment_rcv` (the segment lies below `base + N`
    and passed the reorder gate) plus: RCV.NXT is past the peer's SYN.  Then every header queued
    meanwhile acknowledges a number in `[base + 1, RCV.NXT']`, a RST is queued only for an ACK
    field that fails `GoodAck`, and SND.UNA moves only to the segment's ACK field.  What is acknowledged is read
    change by change (`Eff.rcv`, `Eff.queued`); that only block 2 forms a RST, and only for an ACK field that fails its
    test, needs the blocks as wholes (`processSegment_rst`). -/
theorem processSegment_ack (s : Tcb) (segment : Segment) (s' : Tcb) (r : ProcessSegmentResult)
    (e : s.processSegment segment = .ok (s', r))
    (base : Seq) (N : Nat) (hN : N < 2147483648) (hb : RcvBelow base N s)
    (hpos : s.state ≠ .SynSent → 1 ≤ off base s.rcv.nxt) (hσ : SegBelow base N segment)
    (hgate : s.state ≠ .SynSent → modGt segment.hdr.seq s.rcv.nxt = false)
    (A : Seq → Prop) (hA : segment.hdr.ctl.ack = true → A segment.hdr.ack) :
    AStep base N (¬ GoodAck s segment.hdr) A s s' := by
  have le := (processSegment_lift
    (R := fun a b => RcvBelow base N a → (a.state ≠ .SynSent → 1 ≤ off base a.rcv.nxt) → Gate base segment a →
      AStep base N True A a b ∧ Gate base segment b)
    (fun a hb hpos hg => ⟨AStep.refl hb hpos, hg⟩)
    (fun h1 h2 hb hpos hg => by
      obtain ⟨a1, g1⟩ := h1 hb hpos hg
      obtain ⟨a2, g2⟩ := h2 a1.rcv.below a1.pos g1
      exact ⟨a1.trans a2, g2⟩)
    (fun x hb hpos hg => by
      obtain ⟨rs, hg'⟩ := x.rcv base N hN hσ hb hg
      exact ⟨⟨rs, rs.pos hpos, x.queued base hpos A hA⟩, hg'⟩) e hb hpos (gate_of_modGt hN hb hσ hgate)).1
  exact ⟨le.rcv, le.pos, (le.q.and (processSegment_rst e)).mono (fun _ hx => ⟨hx.1.1, hx.2⟩) (fun _ hx => hx)⟩

end Tcb
end Elvis.Tcp
