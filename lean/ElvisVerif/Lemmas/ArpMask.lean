import ElvisVerif.Model.Arp
import ElvisVerif.Lemmas.Subnet
/-! Arithmetic meaning of the subnet mask kernel (helper lemmas for C06). -/
namespace Elvis.Arp
open Elvis.Gen.Arp

theorem maskFromBitcount_eq (b : Nat) (hb : b ≤ 32) : maskFromBitcount b = (2 ^ b - 1) <<< (32 - b) := by
  unfold maskFromBitcount clamp
  have h1 : ¬ b < 0 := Nat.not_lt_zero b
  have h2 : ¬ b > 32 := by omega
  simp only [h1, h2, if_false]
  by_cases h0 : b = 0
  · subst h0; simp
  · by_cases h32 : b = 32
    · subst h32; decide
    · simp [h0, h32, Nat.one_shiftLeft]

theorem netId_mask (x b : Nat) (hx : x < 2 ^ 32) (hb : b ≤ 32) :
    netId x (maskFromBitcount b) = x / 2 ^ (32 - b) * 2 ^ (32 - b) := by
  rw [maskFromBitcount_eq b hb, Nat.shiftLeft_eq]
  exact Elvis.Subnet.and_prefix_nat x b hx hb

end Elvis.Arp
