import ElvisVerif.Lemmas.TcpFullHsInv
/-!
# Progress of the handshake, one delivery at a time

`All`: all invariants of the development.  For a delivery of history element `σ` of the peer to side `y`:
* `deliver_listen` — `y` only listens, `σ` is a SYN: the TCB is created (rank 2);
* `deliver_ss` — `y` is in SYN-SENT, `σ` carries a SYN: `y` leaves SYN-SENT;
* `deliver_sr` — `y` is in SYN-RECEIVED, `σ` is a trigger (`Trig`: ACK bit, and either no SYN and `SEG.SEQ = ISS_peer + 1`,
  or a SYN-ACK): `y` becomes ESTABLISHED, whatever its reorder heap holds;
* `deliver_es_syn` — `y` is ESTABLISHED, `σ` carries a SYN (a retransmitted SYN-ACK): an ACK is queued.
-/
namespace Elvis.Tcp.Full
open Elvis.ModCmp Elvis.Tcp.Tcb

structure All (iss : SideId → Seq) (mt : SideId → U16) (s : Sys) : Prop where
  good : Good iss s
  f : FInv iss mt s
  u : UInv iss s
  h : HsInv s

variable {iss : SideId → Seq} {mt : SideId → U16}

theorem all_step {s s' : Sys} (a : All iss mt s) (l : LiveStep s s') (hg' : Good iss s') : All iss mt s' :=
  ⟨hg', finv_step a.good a.f l hg', uinv_step a.good a.u l, hsinv_step a.good a.f a.h l hg'⟩

theorem all_run {s s' : Sys} (a : All iss mt s) (r : PlainRun s s') (hb : RoomH s') : All iss mt s' :=
  good_run (fun _ _ _ a l hg' => all_step a l hg') a.good.conv a.good.ext a r hb

def Trig (base : Seq) (σ : Segment) : Prop :=
  σ.hdr.ctl.ack = true ∧ ((σ.hdr.ctl.syn = false ∧ off base σ.hdr.seq = 1) ∨
    (σ.hdr.ctl.syn = true ∧ off base σ.hdr.seq = 0))

theorem sr_rcv_nxt {s : Sys} (a : All iss mt s) (y : SideId) (t : Tcb) (ht : (s.side y).tcb = some t)
    (hst : t.state = .SynReceived) : t.rcv.nxt = iss y.peer + 1 ∧ off (iss y.peer) t.rcv.nxt = 1 := by
  have hnx : t.rcv.nxt = iss y.peer + 1 := by
    rw [((a.h.tcb y t ht).r hst).1, (a.good.tinv y t ht).irs (by rw [hst]; nofun)]
  exact ⟨hnx, by rw [hnx, off_add_one _ _ (by rw [off_self]; omega), off_self]⟩

theorem deliver_tcb {s sb : Sys} {r : Res} (y : SideId) (i : Nat) (σ : Segment) (t : Tcb)
    (ht : (s.side y).tcb = some t) (hn : s.nth i = some σ) (e : s.step (.deliver y i) = .ok (sb, r))
    (gb : Good iss sb) :
    ∃ t', t.segmentArrives σ = .ok (t', .Ok) ∧ sb = s.setSide y { s.side y with tcb := some t' } := by
  cases step_iff.1 e with
  | noSeg h => rw [hn] at h; cases h
  | noTcb ho => exact ho.elim
  | deliver hn' a =>
    cases hn.symm.trans hn'
    cases a with
    | tcb ht' h => cases ht.symm.trans ht'; exact ⟨_, h, rfl⟩
    | close => exact (noRst_not_gone gb.conv.nr).elim
    | ignore ht' | create ht' | refuse ht' | closed ht' | reset ht' => rw [ht] at ht'; cases ht'

theorem deliver_arr {s sb : Sys} {r : Res} (a : All iss mt s) {y : SideId} {i : Nat} {σ : Segment} {t : Tcb}
    (hty : (s.side y).tcb = some t) (hn : s.nth i = some σ) (hsrc : σ.hdr.srcPort = y.peer.port)
    (e : s.step (.deliver y i) = .ok (sb, r)) (gb : Good iss sb) :
    ∃ t', t.segmentArrives σ = .ok (t', .Ok) ∧ sb = s.withTcb y t' ∧ σ ∈ s.history ∧
      Arr y.port (iss y) (iss y.peer) (s.side y).submitted (s.side y.peer).submitted (s.side y).delivered t σ := by
  have hmem : σ ∈ s.history := nth_mem s i σ hn
  obtain ⟨tp, htp⟩ := a.f.sender hmem hsrc
  obtain ⟨t', e1, rfl⟩ := deliver_tcb y i σ t hty hn e gb
  exact ⟨t', e1, rfl, hmem, a.good.arr hty htp hmem hsrc⟩

theorem deliver_listen {s sb : Sys} {r : Res} (a : All iss mt s) (y : SideId) (i : Nat) (σ : Segment)
    (hty : (s.side y).tcb = none) (hn : s.nth i = some σ) (hsrc : σ.hdr.srcPort = y.peer.port)
    (hsyn : σ.hdr.ctl.syn = true) (e : s.step (.deliver y i) = .ok (sb, r)) : rk sb y = 2 := by
  have hg := a.good
  have hmem : σ ∈ s.history := nth_mem s i σ hn
  obtain ⟨lis, hlis⟩ : ∃ l, (s.side y).listen = some l := by
    rcases hg.conv.nr.alive y with ha | ha
    · rw [hty] at ha; cases ha
    · exact Option.isSome_iff_exists.1 ha
  obtain ⟨issl, mtu⟩ := lis
  have hlis' : (s.side y).listen.isSome = true := by rw [hlis]; rfl
  -- the peer is in SYN-SENT: nothing it sent has the ACK bit
  obtain ⟨tp, htp⟩ := a.f.sender hmem hsrc
  have hnoack : σ.hdr.ctl.ack = false := by
    have hA := hg.conv.full.ack.peer y
    rw [hty, hlis', htp] at hA
    exact (hA.fresh tp rfl rfl rfl).1 σ hmem
  have hl := listen_eq σ issl mtu (hg.conv.nr.hist σ hmem) hnoack hsyn
  cases (step_iff.2 (.deliver hn (.create hty hlis hl))).symm.trans e
  rw [rk_some (t := listenT σ issl mtu) (by rw [side_setSide_same])]
  rfl

theorem deliver_ss {s sb : Sys} {r : Res} (a : All iss mt s) (y : SideId) (i : Nat) (σ : Segment) (t : Tcb)
    (hty : (s.side y).tcb = some t) (hst : t.state = .SynSent) (hn : s.nth i = some σ)
    (hsrc : σ.hdr.srcPort = y.peer.port) (hsyn : σ.hdr.ctl.syn = true)
    (e : s.step (.deliver y i) = .ok (sb, r)) (gb : Good iss sb) : 2 ≤ rk sb y := by
  obtain ⟨t', e1, rfl, -, c⟩ := deliver_arr a hty hn hsrc e gb
  have hidle := ((a.good.ext.wf.side y).1 t hty).2.1
  have hsb : ((s.withTcb y t').side y).tcb = some t' := by rw [side_setSide_same]
  rw [rk_some hsb]
  rcases segmentArrives_ss c e1 hst (hidle hst) with ⟨-, -, h⟩ | ⟨h, -⟩ | h
  · -- no RST is ever queued
    obtain ⟨hd, hh, hr⟩ := h hsyn
    have := (gb.conv.nr.tcb y t' hsb).one hd hh
    rw [hr] at this; cases this
  · rw [h]; decide
  · rw [h]; decide

theorem deliver_sr {s sb : Sys} {r : Res} (a : All iss mt s) (y : SideId) (i : Nat) (σ : Segment) (t : Tcb)
    (hty : (s.side y).tcb = some t) (hst : t.state = .SynReceived) (hn : s.nth i = some σ)
    (hsrc : σ.hdr.srcPort = y.peer.port) (htr : Trig (iss y.peer) σ)
    (e : s.step (.deliver y i) = .ok (sb, r)) (gb : Good iss sb) : rk sb y = 3 := by
  have hg := a.good
  obtain ⟨t', e1, rfl, hmem, c⟩ := deliver_arr a hty hn hsrc e gb
  have hval := c.val
  obtain ⟨hnx, hq⟩ := sr_rcv_nxt a y t hty hst
  have hw := hg.wnd y t hty
  obtain ⟨hab, hshape⟩ := htr
  have hpay : σ.text.length ≤ 65535 := by
    have := hg.ext.wf.hist σ hmem
    have : MAX_PAYLOAD = 65515 := rfl
    omega
  have hok : t.isSeqOk (BitVec.ofNat 32 σ.text.length) σ.hdr.seq σ.hdr.ctl.syn σ.hdr.ctl.fin = .ok true := by
    rw [hval.fin]
    rcases hshape with ⟨hsyn, ho⟩ | ⟨hsyn, ho⟩
    · rw [hsyn]
      rw [show σ.hdr.seq = t.rcv.nxt from off_inj (base := iss y.peer) (by rw [ho, hq])]
      exact isSeqOk_nxt (by rw [hw]; decide) (by simp only [BitVec.toNat_ofNat, Bool.toNat_false]; omega)
    · rw [hsyn, (hval.syn hsyn).2]
      have hseq : σ.hdr.seq = iss y.peer := (hval.syn hsyn).1
      exact isSeqOk_pred (by rw [hw]; decide) (by rw [hseq, hnx])
  have hoff : off (iss y.peer) σ.hdr.seq ≤ 1 := by
    rcases hshape with ⟨_, ho⟩ | ⟨_, ho⟩ <;> omega
  have hes := segmentArrives_trig c e1 (a.h.hta hty hmem) (a.f.tcb y t hty).hk hst hq hab hoff hok
  rw [rk_some (t := t') (by rw [side_setSide_same]), hes]
  rfl

def NE (s : Sys) (x : SideId) : Prop := ∃ t, (s.side x).tcb = some t ∧ t.outgoing.oneshot ≠ []

theorem deliver_es_syn {s sb : Sys} {r : Res} (a : All iss mt s) (y : SideId) (i : Nat) (σ : Segment) (t : Tcb)
    (hty : (s.side y).tcb = some t) (hst : t.state = .Established) (hn : s.nth i = some σ)
    (hsrc : σ.hdr.srcPort = y.peer.port) (hsyn : σ.hdr.ctl.syn = true)
    (e : s.step (.deliver y i) = .ok (sb, r)) (gb : Good iss sb) : NE sb y := by
  obtain ⟨t', e1, rfl, -, c⟩ := deliver_arr a hty hn hsrc e gb
  have ft := a.f.tcb y t hty
  exact ⟨t', by rw [side_setSide_same], segmentArrives_es_syn c e1 ft.hk ft.ahead hst hsyn⟩

end Elvis.Tcp.Full
