import ElvisVerif.Lemmas.ListHeap
/-!
# The heap invariant of the list model of `BinaryHeap`, also under a comparison that is a total
preorder only on the elements present

`push` / `pop` of the list model under `le` are `push` / `pop` of the array model under `le'` whenever `le` and
`le'` agree on the elements involved (`Lemmas/ListHeap.lean`).  With `le'` a total preorder this transports
`IsHeap` and "the root is a maximum" (`Lemmas/Heap.lean`) to the list model under a comparison such as the TCB's
circular sequence order, which is a total preorder only on a window of 2^31 sequence numbers.
-/
namespace Elvis.LHeap
variable {α : Type}

open Heap in
theorem push_isHeap {le le' : α → α → Bool} (tp : TotalPreorder le') (l : List α) (x : α)
    (ha : Agree le le' (l ++ [x])) (hh : IsHeap le' l.toArray) : IsHeap le' (push le l x).toArray := by
  rw [push_toArray le le' l x ha]
  exact push_heap tp _ x hh

open Heap in
theorem pop_isHeap {le le' : α → α → Bool} (tp : TotalPreorder le') (l : List α) (t : α) (r : List α)
    (h : pop le l = (some t, r)) (ha : Agree le le' l) (hh : IsHeap le' l.toArray) :
    IsHeap le' r.toArray ∧ ∀ y ∈ l, le' y t = true := by
  obtain ⟨e1, e2⟩ := pop_toArray le le' l ha
  rw [h] at e1 e2
  have hpos : 0 < l.toArray.size := by
    cases l with
    | nil => simp [pop] at h
    | cons a u => simp
  obtain ⟨x, d', ep, _, hd', hmax, _⟩ := pop_spec tp l.toArray hh hpos
  rw [ep] at e1 e2
  simp only at e1 e2
  cases e1
  refine ⟨by rw [e2]; exact hd', fun y hy => hmax y (by simpa using hy)⟩

open Heap in
theorem peek_max {le' : α → α → Bool} (tp : TotalPreorder le') (l : List α) (t : α) (h : peek l = some t)
    (hh : IsHeap le' l.toArray) : ∀ y ∈ l, le' y t = true := by
  intro y hy
  obtain ⟨i, hi, rfl⟩ := List.getElem_of_mem hy
  have := root_max tp l.toArray hh i (by simpa using hi)
  cases l with
  | nil => simp [peek] at h
  | cons a u =>
    simp only [peek, List.head?_cons, Option.some.injEq] at h
    subst h
    simpa using this

open Heap in
theorem isHeap_nil (le' : α → α → Bool) : IsHeap le' ([] : List α).toArray := by
  intro i hi; simp at hi

open Heap in
theorem isHeap_single (le' : α → α → Bool) (a : α) : IsHeap le' [a].toArray := by
  intro i hi hpos
  simp at hi
  omega

end Elvis.LHeap
