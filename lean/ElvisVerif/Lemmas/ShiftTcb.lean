import ElvisVerif.Model.TcbShift
import ElvisVerif.Lemmas.TcbBlocks
import ElvisVerif.Lemmas.ShiftCmp
import ElvisVerif.Lemmas.ShiftHeap
/-!
# Shift lemmas for the small pieces of the TCB (C12)

Projections of `Tcb.shift`, headers, `enqueue`, the receive-window tests, the reorder heap.
Everything the per-block proofs of `Lemmas/ShiftBlocks.lean` rewrite with; the projections, `enqueueBuilt` and the
results (`M.shift`, `shiftE`) are in the set `shift_simps`.  `Tcb.shift` looks at the state only to leave `RCV.*`,
`SND.WL1`, `SND.WL2` alone in SYN-SENT: outside SYN-SENT it is `Tcb.shiftU` (`Tcb.shift_late`), and that is how the
lemmas about those fields are proved.
-/
namespace Elvis.Tcp
open Elvis.ModCmp

@[simp] theorem Hdr.shift_ctl (k1 k2 : Seq) (h : Hdr) : (h.shift k1 k2).ctl = h.ctl := rfl
@[simp] theorem Hdr.shift_seq (k1 k2 : Seq) (h : Hdr) : (h.shift k1 k2).seq = h.seq + k1 := rfl
@[simp] theorem Hdr.shift_wnd (k1 k2 : Seq) (h : Hdr) : (h.shift k1 k2).wnd = h.wnd := rfl
@[simp] theorem Hdr.shift_srcPort (k1 k2 : Seq) (h : Hdr) : (h.shift k1 k2).srcPort = h.srcPort := rfl
@[simp] theorem Hdr.shift_dstPort (k1 k2 : Seq) (h : Hdr) : (h.shift k1 k2).dstPort = h.dstPort := rfl
theorem Hdr.shift_ack (k1 k2 : Seq) (h : Hdr) :
    (h.shift k1 k2).ack = if h.ctl.ack then h.ack + k2 else h.ack := rfl
theorem Hdr.shift_ack_of (k1 k2 : Seq) (h : Hdr) (ha : h.ctl.ack = true) :
    (h.shift k1 k2).ack = h.ack + k2 := by rw [Hdr.shift_ack, if_pos ha]
theorem Hdr.shift_ack_of_not (k1 k2 : Seq) (h : Hdr) (ha : h.ctl.ack = false) :
    (h.shift k1 k2).ack = h.ack := by rw [Hdr.shift_ack, ha]; rfl

@[simp] theorem Segment.shift_text (k1 k2 : Seq) (s : Segment) : (s.shift k1 k2).text = s.text := rfl
@[simp] theorem Segment.shift_hdr (k1 k2 : Seq) (s : Segment) : (s.shift k1 k2).hdr = s.hdr.shift k1 k2 := rfl
@[simp] theorem Segment.shift_segLen (k1 k2 : Seq) (s : Segment) : (s.shift k1 k2).segLen = s.segLen := rfl

theorem Hdr.shift_built (k1 k2 : Seq) (h : Hdr) : (h.shift k1 k2).built = h.built.shift k1 k2 := rfl

theorem Hdr.shift_ackStyle (lp rp : U16) (seq ack : Seq) (w : U16) (k1 k2 : Seq) :
    (((Hdr.builder lp rp (seq + k1)).withAck (ack + k2)).withWnd w) =
      (((Hdr.builder lp rp seq).withAck ack).withWnd w).shift k1 k2 := rfl

theorem Hdr.shift_rstStyle (lp rp : U16) (seq : Seq) (w : U16) (k1 k2 : Seq) :
    (((Hdr.builder lp rp (seq + k1)).withRst).withWnd w) =
      (((Hdr.builder lp rp seq).withRst).withWnd w).shift k1 k2 := rfl

/-- `Tcb.shift` outside SYN-SENT, where every sequence number of the TCB moves: the same record without the look at
    the state, so that it commutes with every record update by `rfl` -/
def Tcb.shiftU (ka kb : Seq) (s : Tcb) : Tcb :=
  { s with
    snd := { s.snd with una := s.snd.una + ka, nxt := s.snd.nxt + ka, iss := s.snd.iss + ka,
                        wl1 := s.snd.wl1 + kb, wl2 := s.snd.wl2 + ka },
    rcv := { s.rcv with irs := s.rcv.irs + kb, nxt := s.rcv.nxt + kb },
    outgoing := { s.outgoing with retransmit := s.outgoing.retransmit.map (Transmit.shift ka kb),
                                  oneshot := s.outgoing.oneshot.map (Hdr.shift ka kb) },
    incoming := { s.incoming with segments := s.incoming.segments.map (Segment.shift kb ka) } }

theorem Tcb.shift_late (ka kb : Seq) (s : Tcb) (h : s.state ≠ .SynSent) : s.shift ka kb = s.shiftU ka kb := by
  unfold Tcb.shift Tcb.shiftU Snd.shift Rcv.shift
  cases hs : s.state <;> first | exact absurd hs h | rfl

section proj
variable (ka kb : Seq) (s : Tcb)

@[simp] theorem Tcb.shift_state : (s.shift ka kb).state = s.state := rfl
@[simp] theorem Tcb.shift_mtu : (s.shift ka kb).mtu = s.mtu := rfl
@[simp] theorem Tcb.shift_localPort : (s.shift ka kb).localPort = s.localPort := rfl
@[simp] theorem Tcb.shift_remotePort : (s.shift ka kb).remotePort = s.remotePort := rfl
@[simp] theorem Tcb.shift_initiation : (s.shift ka kb).initiation = s.initiation := rfl
@[simp] theorem Tcb.shift_timeouts : (s.shift ka kb).timeouts = s.timeouts := rfl
@[simp] theorem Tcb.shift_una : (s.shift ka kb).snd.una = s.snd.una + ka := rfl
@[simp] theorem Tcb.shift_nxt : (s.shift ka kb).snd.nxt = s.snd.nxt + ka := rfl
@[simp] theorem Tcb.shift_iss : (s.shift ka kb).snd.iss = s.snd.iss + ka := rfl
@[simp] theorem Tcb.shift_sndwnd : (s.shift ka kb).snd.wnd = s.snd.wnd := rfl
@[simp] theorem Tcb.shift_otext : (s.shift ka kb).outgoing.text = s.outgoing.text := rfl
@[simp] theorem Tcb.shift_itext : (s.shift ka kb).incoming.text = s.incoming.text := rfl
@[simp] theorem Tcb.shift_retransmit :
    (s.shift ka kb).outgoing.retransmit = s.outgoing.retransmit.map (Transmit.shift ka kb) := rfl
@[simp] theorem Tcb.shift_oneshot :
    (s.shift ka kb).outgoing.oneshot = s.outgoing.oneshot.map (Hdr.shift ka kb) := rfl
@[simp] theorem Tcb.shift_heap :
    (s.shift ka kb).incoming.segments = s.incoming.segments.map (Segment.shift kb ka) := rfl

@[simp] theorem Tcb.shift_rcvwnd : (s.shift ka kb).rcv.wnd = s.rcv.wnd := by
  show (Rcv.shift kb s.state s.rcv).wnd = s.rcv.wnd
  cases s.state <;> rfl

theorem Tcb.shift_rcvnxt (h : s.state ≠ .SynSent) : (s.shift ka kb).rcv.nxt = s.rcv.nxt + kb := by
  rw [Tcb.shift_late ka kb s h]
  rfl

theorem Tcb.shift_rcvirs (h : s.state ≠ .SynSent) : (s.shift ka kb).rcv.irs = s.rcv.irs + kb := by
  rw [Tcb.shift_late ka kb s h]
  rfl

theorem Tcb.shift_rcv_synSent (h : s.state = .SynSent) : (s.shift ka kb).rcv = s.rcv := by
  show Rcv.shift kb s.state s.rcv = s.rcv
  rw [h]; rfl

theorem Tcb.shift_wl1 (h : s.state ≠ .SynSent) : (s.shift ka kb).snd.wl1 = s.snd.wl1 + kb := by
  rw [Tcb.shift_late ka kb s h]
  rfl

theorem Tcb.shift_wl2 (h : s.state ≠ .SynSent) : (s.shift ka kb).snd.wl2 = s.snd.wl2 + ka := by
  rw [Tcb.shift_late ka kb s h]
  rfl

@[simp] theorem Tcb.shift_queuedBytes : (s.shift ka kb).outgoing.queuedBytes = s.outgoing.queuedBytes := by
  unfold Outgoing.queuedBytes
  rw [Tcb.shift_retransmit, List.map_map]
  rfl

@[simp] theorem Tcb.shift_headerBuilder (q : Seq) :
    (s.shift ka kb).headerBuilder q = s.headerBuilder q := rfl

@[simp] theorem Tcb.shift_finPending : (s.shift ka kb).finPending = s.finPending := rfl

@[simp] theorem Tcb.shift_isFinAcked : (s.shift ka kb).isFinAcked = s.isFinAcked := by
  rw [Tcb.isFinAcked_eq, Tcb.isFinAcked_eq, Tcb.shift_finPending, Tcb.shift_nxt, Tcb.shift_una, beq_shift]

end proj

section emit
variable (ka kb : Seq) (s : Tcb)

theorem Tcb.shift_ackHdr (h : s.state ≠ .SynSent) :
    (s.shift ka kb).ackHdr = s.ackHdr.shift ka kb := by
  unfold Tcb.ackHdr
  rw [Tcb.shift_headerBuilder, Tcb.shift_nxt, Tcb.shift_rcvnxt ka kb s h, Tcb.shift_rcvwnd]
  rfl

theorem Tcb.shift_finHdr (h : s.state ≠ .SynSent) :
    (s.shift ka kb).finHdr = s.finHdr.shift ka kb := by
  unfold Tcb.finHdr
  rw [Tcb.shift_headerBuilder, Tcb.shift_nxt, Tcb.shift_rcvnxt ka kb s h, Tcb.shift_rcvwnd]
  rfl

/-- the RST for an unacceptable ACK takes its SEQ from the ACK field of the offending segment -/
theorem Tcb.shift_rstForAck (seg : Hdr) (ha : seg.ctl.ack = true) :
    (s.shift ka kb).rstForAck (seg.shift kb ka) = (s.rstForAck seg).shift ka kb := by
  unfold Tcb.rstForAck
  rw [Tcb.shift_headerBuilder, Hdr.shift_ack_of kb ka seg ha, Tcb.shift_rcvwnd]
  rfl

theorem Tcb.shift_enqueueBuilt (h : Hdr) :
    (s.shift ka kb).enqueueBuilt (h.shift ka kb) = (s.enqueueBuilt h).shift ka kb := by
  -- the shifted header has the same flags, so it goes to the same queue
  rcases Tcb.enqueueBuilt_cases s h with ⟨hc, e⟩ | ⟨h1, h2, e⟩
  · rw [e, Tcb.enqueueBuilt_retransmit _ (h.shift ka kb) hc]
    simp only [Tcb.shift, List.map_append, List.map_cons, List.map_nil]
    rfl
  · rw [e, Tcb.enqueueBuilt_oneshot _ (h.shift ka kb) h1 h2]
    simp only [Tcb.shift, List.map_append, List.map_cons, List.map_nil]

theorem Tcb.shift_enqueue (hb hb' : Hdr) (hh : hb' = hb.shift ka kb) :
    (s.shift ka kb).enqueue hb' = shiftE ka kb (s.enqueue hb) := by
  subst hh
  rw [Tcb.enqueue_eq, Tcb.enqueue_eq, Hdr.shift_built, Tcb.shift_enqueueBuilt]
  rfl

end emit

@[simp] theorem M.shift_ok {α : Type} (ka kb : Seq) (s : Tcb) (a : α) :
    M.shift ka kb (.ok (s, a)) = .ok (s.shift ka kb, a) := rfl
@[simp] theorem M.shift_error {α : Type} (ka kb : Seq) (e : String) :
    M.shift ka kb (.error e : M α) = .error e := rfl
@[simp] theorem shiftE_ok (ka kb : Seq) (s : Tcb) : shiftE ka kb (.ok s) = .ok (s.shift ka kb) := rfl
@[simp] theorem shiftE_error (ka kb : Seq) (e : String) : shiftE ka kb (.error e) = .error e := rfl

section window
variable (ka kb : Seq) (s : Tcb)

theorem Tcb.shift_isInRcvWindow (h : s.state ≠ .SynSent) (n : Seq) :
    (s.shift ka kb).isInRcvWindow (n + kb) = s.isInRcvWindow n := by
  unfold Tcb.isInRcvWindow
  rw [Tcb.shift_rcvnxt ka kb s h, Tcb.shift_rcvwnd, sub_add_comm', add_add_comm', modBounded_shift]

theorem Tcb.shift_acceptable (h : s.state ≠ .SynSent) (n : Nat) (seq : Seq) :
    Tcb.acceptable (s.shift ka kb) n (seq + kb) = Tcb.acceptable s n seq := by
  unfold Tcb.acceptable
  rw [Tcb.shift_rcvwnd, Tcb.shift_isInRcvWindow ka kb s h, Tcb.shift_rcvnxt ka kb s h, sub_add_comm', modBounded_shift,
    add_add_comm' seq _ kb, sub_add_comm', Tcb.shift_isInRcvWindow ka kb s h]

theorem Tcb.shift_isSeqOk (h : s.state ≠ .SynSent) (dl seq : Seq) (syn fin : Bool) :
    (s.shift ka kb).isSeqOk dl (seq + kb) syn fin = s.isSeqOk dl seq syn fin := by
  rw [Tcb.isSeqOk_eq, Tcb.isSeqOk_eq, Tcb.shift_acceptable ka kb s h]

end window

theorem segLe_shift (k1 k2 : Seq) (a b : Segment) :
    segLe (a.shift k1 k2) (b.shift k1 k2) = segLe a b := by
  unfold segLe
  simp only [Segment.shift_hdr, Hdr.shift_seq, beq_shift, modLt_shift]

theorem push_shift (k1 k2 : Seq) (l : List Segment) (x : Segment) :
    LHeap.push segLe (l.map (Segment.shift k1 k2)) (x.shift k1 k2) =
      (LHeap.push segLe l x).map (Segment.shift k1 k2) :=
  LHeap.push_map _ segLe segLe (segLe_shift k1 k2) l x

theorem pop_shift (k1 k2 : Seq) (l : List Segment) :
    LHeap.pop segLe (l.map (Segment.shift k1 k2)) =
      ((LHeap.pop segLe l).1.map (Segment.shift k1 k2), (LHeap.pop segLe l).2.map (Segment.shift k1 k2)) :=
  LHeap.pop_map _ segLe segLe (segLe_shift k1 k2) l

theorem peek_shift (k1 k2 : Seq) (l : List Segment) :
    LHeap.peek (l.map (Segment.shift k1 k2)) = (LHeap.peek l).map (Segment.shift k1 k2) :=
  LHeap.peek_map _ l

@[shift_simps] theorem M.shift_ite {α : Type} (ka kb : Seq) (c : Prop) [Decidable c] (x y : M α) :
    M.shift ka kb (if c then x else y) = if c then M.shift ka kb x else M.shift ka kb y := apply_ite _ _ _ _

/-- every `enqueueThen` of the model continues with a fixed answer -/
@[shift_simps] theorem Tcb.shift_enqueueThen_ok (ka kb : Seq) (s : Tcb) (hb : Hdr) (c : Option ProcessSegmentResult) :
    Tcb.enqueueThen (s.shift ka kb) (hb.shift ka kb) (fun s => .ok (s, c)) =
      M.shift ka kb (Tcb.enqueueThen s hb fun s => .ok (s, c)) := by
  rw [Tcb.enqueueThen_eq, Tcb.enqueueThen_eq, Hdr.shift_built, Tcb.shift_enqueueBuilt]
  rfl

/-- the shape in which `Tcb.ackOut` and its pieces return a TCB with an answer -/
@[shift_simps] theorem shift_pair {α : Type} (ka kb : Seq) (s : Tcb) (a : α) :
    Prod.map (Tcb.shift ka kb) id (s, a) = (s.shift ka kb, a) := rfl

@[shift_simps] theorem shift_pair_ite {α : Type} (ka kb : Seq) (c : Prop) [Decidable c] (x y : Tcb × α) :
    Prod.map (Tcb.shift ka kb) id (if c then x else y) =
      if c then Prod.map (Tcb.shift ka kb) id x else Prod.map (Tcb.shift ka kb) id y := apply_ite _ _ _ _

attribute [shift_simps] Hdr.shift_ctl Hdr.shift_seq Hdr.shift_wnd Hdr.shift_srcPort Hdr.shift_dstPort Hdr.shift_built
  Segment.shift_text Segment.shift_hdr Segment.shift_segLen
  Tcb.shift_state Tcb.shift_mtu Tcb.shift_localPort Tcb.shift_remotePort Tcb.shift_initiation Tcb.shift_timeouts
  Tcb.shift_una Tcb.shift_nxt Tcb.shift_iss Tcb.shift_sndwnd Tcb.shift_otext Tcb.shift_itext Tcb.shift_retransmit
  Tcb.shift_oneshot Tcb.shift_heap Tcb.shift_rcvwnd Tcb.shift_queuedBytes Tcb.shift_headerBuilder
  Tcb.shift_finPending Tcb.shift_isFinAcked Tcb.shift_enqueueBuilt M.shift_ok M.shift_error shiftE_ok shiftE_error

end Elvis.Tcp
