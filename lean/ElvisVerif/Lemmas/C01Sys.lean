import ElvisVerif.Lemmas.C01Inv
import ElvisVerif.Lemmas.TcpSys
/-!
# C01 — the stream invariant of the closed two-endpoint system: definitions, and the ghost logs along a run

`Inv iss s`: both sides satisfy `SideInv` (the TCB, if any, satisfies `TInv` against the ghost
logs of the two sides; a side that only listens has empty logs and the configured ISS; the
delivered log is a prefix of the peer's submitted log) and every history element that carries
side X's source port is `Valid` for X (monotone history: validity survives later writes).

`OpOk iss s op`: the ops the C01 statement quantifies over — `write`, `read`, `tick`, `emit`,
`deliver` of any history element *to the endpoint it is addressed to* (the real `Tcp::demux` routes
by the port pair; the model's `deliver` does not check it, so the hypothesis is explicit), `drop`,
and `open` / `listen` with the configured ISS on a side that has never been used.  No `close`,
`abort`, raw `inject`.

The submitted logs only grow along any step (so a bound on the final logs bounds every intermediate state: H31 —
fewer than 2^31 bytes submitted per direction — can be stated once, for the whole run).  That one step keeps `Inv`
is `step_inv` of `Lemmas/C01Run.lean`.
-/
namespace Elvis.Tcp.C01
open Elvis.ModCmp Elvis.Tcp.Tcb

attribute [simp] side_setSide_same side_setSide_peer history_setSide side_record
@[simp] theorem history_record (s : Sys) (segs : List Segment) :
    (s.record segs).history = segs.reverse ++ s.history := rfl

/-- the segment is addressed to endpoint `x` by its peer (what `Tcp::demux` matches on) -/
def Addressed (x : SideId) (g : Segment) : Prop := g.hdr.srcPort = x.peer.port ∧ g.hdr.dstPort = x.port

def addressedB (x : SideId) (g : Segment) : Bool := g.hdr.srcPort == x.peer.port && g.hdr.dstPort == x.port

def Pristine (sd : Side) : Prop := sd.tcb = none ∧ sd.listen = none ∧ sd.submitted = [] ∧ sd.delivered = []

/-- invariant of one side `sd` (port `port`, ISS `ix`) against its peer `pd` (ISS `iy`) -/
structure SideInv (port : U16) (ix iy : Seq) (sd pd : Side) : Prop where
  tcb : ∀ t, sd.tcb = some t → TInv port ix iy sd.submitted pd.submitted sd.delivered t
  fresh : ∀ i m, sd.tcb = none → sd.listen = some (i, m) → i = ix ∧ sd.submitted = [] ∧ sd.delivered = []
  pre : sd.delivered <+: pd.submitted

structure Inv (iss : SideId → Seq) (s : Sys) : Prop where
  side : ∀ x, SideInv x.port (iss x) (iss x.peer) (s.side x) (s.side x.peer)
  hist : ∀ g ∈ s.history, ∀ x : SideId, g.hdr.srcPort = x.port → Valid (iss x) (s.side x).submitted g

theorem Inv.init (iss : SideId → Seq) : Inv iss {} := by
  refine ⟨fun x => ?_, fun g hg => by cases hg⟩
  cases x <;>
    exact ⟨(fun _ ht => by cases ht), (fun _ _ _ hl => by cases hl), List.prefix_refl _⟩

def OpOk (iss : SideId → Seq) (s : Sys) : Op → Prop
  | .open x i _ => i = iss x ∧ Pristine (s.side x)
  | .listen x i _ => i = iss x ∧ Pristine (s.side x)
  | .write _ _ | .read _ | .tick _ _ | .emit _ | .drop _ => True
  | .deliver x i => ∀ g, s.nth i = some g → Addressed x g
  | .inject _ _ | .close _ | .abort _ => False

/-- H31: fewer than 2^31 bytes submitted in each direction -/
def Lt31 (s : Sys) : Prop := s.a.submitted.length < 2147483648 ∧ s.b.submitted.length < 2147483648

theorem Lt31.side {s : Sys} (h : Lt31 s) (x : SideId) : (s.side x).submitted.length < 2147483648 := by
  cases x
  · exact h.1
  · exact h.2

def writeBytes (x : SideId) : List Op → Nat
  | [] => 0
  | .write y b :: ops => (if y = x then b.length else 0) + writeBytes x ops
  | _ :: ops => writeBytes x ops

theorem step_sub_eq {s s' : Sys} {op : Op} {r : Res} (hnw : ∀ x b, op ≠ .write x b)
    (e : s.step op = .ok (s', r)) (y : SideId) : (s'.side y).submitted = (s.side y).submitted := by
  obtain ⟨sd, segs, rfl, h | ⟨x, b, _, rfl, -⟩⟩ := (step_iff.1 e).shape
  · rw [side_record, side_setSide]
    split
    · rename_i hy; rw [h, hy]
    · rfl
  · exact absurd rfl (hnw x b)

theorem step_more {s s' : Sys} {op : Op} {r : Res} (e : s.step op = .ok (s', r)) (y : SideId) :
    ∃ more, (s'.side y).submitted = (s.side y).submitted ++ more ∧ more.length ≤ writeBytes y [op] := by
  obtain ⟨sd, segs, rfl, h⟩ := (step_iff.1 e).shape
  rw [side_record, side_setSide]
  split
  · rename_i hy
    subst hy
    rcases h with h | ⟨x, b, t, rfl, -, h⟩
    · exact ⟨[], by rw [h, List.append_nil], Nat.zero_le _⟩
    · refine ⟨_, h, ?_⟩
      simp only [writeBytes, Op.side, if_true, Nat.add_zero]
      split
      · exact Nat.le_refl _
      · exact Nat.zero_le _
  · exact ⟨[], (List.append_nil _).symm, Nat.zero_le _⟩

theorem step_sub {s s' : Sys} {op : Op} {r : Res} (e : s.step op = .ok (s', r)) (y : SideId) :
    (s.side y).submitted <+: (s'.side y).submitted := by
  obtain ⟨more, h, -⟩ := step_more e y
  rw [h]
  exact List.prefix_append _ _

theorem run_sub {s s' : Sys} {ops : List Op} {rs : List Res} (e : s.run ops = .ok (s', rs)) (y : SideId) :
    (s.side y).submitted <+: (s'.side y).submitted := by
  induction ops generalizing s rs with
  | nil => rw [Sys.run_nil] at e; cases e; exact List.prefix_refl _
  | cons op ops ih =>
    obtain ⟨s1, r1, rs1, h1, h2, -⟩ := run_cons e
    exact (step_sub h1 y).trans (ih h2)

theorem Lt31.of_run {s s' : Sys} {ops : List Op} {rs : List Res} (e : s.run ops = .ok (s', rs)) (h : Lt31 s') :
    Lt31 s :=
  ⟨Nat.lt_of_le_of_lt (run_sub e .A).length_le h.1, Nat.lt_of_le_of_lt (run_sub e .B).length_le h.2⟩

theorem writeBytes_cons (y : SideId) (op : Op) (ops : List Op) :
    writeBytes y (op :: ops) = writeBytes y [op] + writeBytes y ops := by
  cases op <;> simp [writeBytes]

theorem run_len {s s' : Sys} {ops : List Op} {rs : List Res} (e : s.run ops = .ok (s', rs)) (y : SideId) :
    (s'.side y).submitted.length ≤ (s.side y).submitted.length + writeBytes y ops := by
  induction ops generalizing s rs with
  | nil => rw [Sys.run_nil] at e; cases e; exact Nat.le_add_right _ _
  | cons op ops ih =>
    obtain ⟨s1, r1, rs1, h1, h2, -⟩ := run_cons e
    obtain ⟨more, a, hl⟩ := step_more h1 y
    have b := ih h2
    rw [a, List.length_append] at b
    rw [writeBytes_cons]
    omega

theorem Lt31.of_writes {s' : Sys} {ops : List Op} {rs : List Res} (e : Sys.run {} ops = .ok (s', rs))
    (ha : writeBytes .A ops < 2147483648) (hb : writeBytes .B ops < 2147483648) : Lt31 s' := by
  have a := run_len e .A
  have b := run_len e .B
  simp only [Sys.side, List.length_nil, Nat.zero_add] at a b
  exact ⟨by omega, by omega⟩

end Elvis.Tcp.C01
