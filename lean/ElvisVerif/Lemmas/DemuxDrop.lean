import ElvisVerif.Model.RecvPath
import ElvisVerif.Lemmas.Ipv4
import ElvisVerif.Lemmas.Udp
import ElvisVerif.Lemmas.Tcp
import ElvisVerif.Lemmas.Reasm
/-!
# Lemmas for the composed receive path (`Model/RecvPath.lean`)

* what an accepting decoder says about the length of its input (the `remove_front`
  preconditions);
* the fresh reassembler of `Ipv4::demux` cannot panic behind the fragment guard.
-/
namespace Elvis.Recv
open Elvis.Codec Elvis.Demux

theorem error_is_err {ε α : Type} {x : Res ε α} (hx : x.isPanic = false) {e : Fail ε} (h : x = .error e) :
    ∃ k, e = .err k := by
  cases e with
  | err k => exact ⟨k, rfl⟩
  | panic s => rw [h] at hx; cases hx

theorem ipv4_ok_facts {ck : Bool} {bs : Bytes} {h : Ipv4.Header} (e : Ipv4.fromBytes ck bs = .ok h) :
    h.ihl = 5 ∧ 20 ≤ bs.length ∧ 20 ≤ h.totalLength ∧ h.totalLength < 65536 := by
  obtain ⟨b0, b1, b2, b3, b4, b5, b6, b7, b8, b9, b10, b11, b12, b13, b14, b15, b16, b17, b18, b19,
    rest, rfl, _, _, h20, _, _, rfl⟩ := Ipv4.fromBytes_ok_inv e
  exact ⟨rfl, by simp, h20, Codec.W_lt b2 b3⟩

/-- behind an accepting decoder: the checked subtraction of `Ipv4::demux` succeeds, the header strip
    is 20 octets, and the fragment guard (`fragmentBeyondMax`) reads in RFC 791 terms -/
theorem ipv4_ok_guards {ck : Bool} {bs : Bytes} {h : Ipv4.Header} (e : Ipv4.fromBytes ck bs = .ok h) :
    ¬ h.totalLength < h.ihl * guardWord ∧ h.ihl * ipStripFactor = 20 ∧
    fragmentBeyondMax h = decide (h.fragmentOffset * 8 + (h.totalLength - 20) > 65515) := by
  obtain ⟨hihl, _, htl, _⟩ := ipv4_ok_facts e
  unfold fragmentBeyondMax
  rw [hihl]
  exact ⟨Nat.not_lt.2 htl, rfl, rfl⟩

theorem udp_ok_len {ck : Bool} {bs : Bytes} {n a b : Nat} {h : Udp.Header}
    (e : Udp.fromBytes ck bs n a b = .ok h) : 8 ≤ bs.length := by
  obtain ⟨b0, b1, b2, b3, b4, b5, b6, b7, rest, rfl, _⟩ := Udp.fromBytes_ok_inv e
  simp

theorem tcp_ok_len {ck : Bool} {bs : Bytes} {n a b : Nat} {h : Codec.Tcp.Header}
    (e : Codec.Tcp.fromBytes ck bs n a b = .ok h) : 20 ≤ bs.length := by
  obtain ⟨b0, b1, b2, b3, b4, b5, b6, b7, b8, b9, b10, b11, b12, b13, b14, b15, b16, b17, b18, b19,
    rest, rfl, _⟩ := Codec.Tcp.fromBytes_ok_inv e
  simp

open Elvis.Reasm in
/-- a lone fragment that starts beyond block 0 leaves block 0 unset: the buffer cannot be complete -/
theorem not_complete_of_offset_pos (fo e n : Nat) (hfo : 0 < fo) (hn : 0 < n) :
    complete (setRange 0 fo e) n = false := by
  cases hc : complete (setRange 0 fo e) n with
  | false => rfl
  | true =>
    have := (complete_iff _ _).1 hc 0 hn
    rw [bitGet_setRange, bitGet_zero] at this
    simp at this
    omega

open Elvis.Reasm Elvis.Frag in
/-- `Reassembly::receive_packet` on the reassembler `Ipv4::demux` has just created, for a header
    the decoder accepted (`IHL = 5`, `20 ≤ TL`) and the guard `fragmentBeyondMax` let through:
    no checked operation of `reassembly/segment.rs` overflows, no `unwrap` fails -/
theorem fresh_receive_ok (h : Elvis.Frag.Hdr) (body : Bytes) (hihl : h.ihl = 5) (htl : 20 ≤ h.totalLength)
    (hguard : h.fragOffset * 8 + (h.totalLength - 20) ≤ 65515) :
    ∃ r res, Reassembly.receive Cfg.fixed Reassembly.new h body = .ok (r, res) := by
  unfold Reassembly.receive
  dsimp only
  split
  · exact ⟨_, _, rfl⟩
  · rename_i hnw
    have hb : Reassembly.bufferFor Cfg.fixed Reassembly.new (BufId.ofHdr h) = Segment.newAt 0 := by
      simp [Reassembly.bufferFor, Reassembly.new, Elvis.Reasm.lookup, Cfg.fixed]
    rw [hb]
    unfold Reassembly.receiveInto
    have key : ∃ s' o, Segment.receive Cfg.fixed (Segment.newAt 0) h body = .ok (s', o) := by
      rw [Segment.receive_guarded Cfg.fixed _ body (by omega) (by omega)]
      have htd : ((Segment.newAt 0).file h body).tdl ≤ 65515 := by
        show (if isLast h.flags = true then h.totalLength - h.ihl * 4 + h.fragOffset * 8 else 0) ≤ 65515
        split <;> omega
      obtain ⟨hopen, hfull⟩ := Segment.settle_fixed (Segment.newAt 0) htd
      cases hc : ((Segment.newAt 0).file h body).full with
      | false => exact ⟨_, _, hopen hc⟩
      | true =>
        -- complete: only possible with offset 0, then the header is there
        by_cases hfo : h.fragOffset = 0
        · exact ⟨_, _, hfull h hc (if_pos hfo) hihl⟩
        · simp only [Segment.full, Bool.and_eq_true, decide_eq_true_eq, ne_eq] at hc
          have := not_complete_of_offset_pos h.fragOffset (h.fragOffset + (h.totalLength - h.ihl * 4 + 7) / 8)
            ((((Segment.newAt 0).file h body).tdl + 7) / 8) (Nat.pos_of_ne_zero hfo) (by omega)
          exact absurd (this ▸ hc.2 : false = true) Bool.false_ne_true
    obtain ⟨s', o, hk⟩ := key
    rw [hk]
    cases o with
    | none => exact ⟨_, _, rfl⟩
    | some v => obtain ⟨hd, msg⟩ := v; exact ⟨_, _, rfl⟩

open Elvis.Reasm Elvis.Frag in
theorem fresh_receive_whole (h : Elvis.Frag.Hdr) (body : Bytes)
    (hw : (isLast h.flags && h.fragOffset == 0) = true) :
    ∃ r, Reassembly.receive Cfg.fixed Reassembly.new h body = .ok (r, .complete h body) := by
  have hw' : isLast h.flags = true ∧ h.fragOffset = 0 := by simpa using hw
  unfold Reassembly.receive
  dsimp only
  rw [if_pos (by simp [hw'.1, hw'.2])]
  exact ⟨_, rfl⟩

end Elvis.Recv
