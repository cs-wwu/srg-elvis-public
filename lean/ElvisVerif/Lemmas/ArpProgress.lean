import ElvisVerif.Lemmas.ArpAgree
/-! No time-lock (helper lemmas for C06): serving the runnable waiters and the due time-outs, with
no time passing, always leads to a state in which the clock may advance. -/
namespace Elvis.Arp
open Elvis.Gen.Arp

theorem Net.failMac_hit {s : Net} (hn : s.negCache = false) {k : Nat} {x : Ip} (hmiss : s.hit k x = none)
    (k' : Nat) (x' : Ip) : (s.failMac k x).hit k' x' = s.hit k' x' := by
  unfold Net.failMac
  split
  · rename_i m hm
    unfold Net.hit at hmiss ⊢
    simp only [hm] at hmiss
    by_cases hk : k = k'
    · subst hk
      simp only [List.getElem?_set_self_of_some hm, hm, hn] at hmiss ⊢
      by_cases hx : x' = x
      · subst hx
        rw [alookup_ainsert_same, hmiss]; rfl
      · rw [alookup_ainsert_ne hx]
    · simp only [List.getElem?_set_ne hk]
  · rfl

theorem Net.roundOrFail_hit {s : Net} (hn : s.negCache = false) {r : Resolver} (hmiss : s.hit r.mach r.dest = none)
    (k' : Nat) (x' : Ip) : (s.roundOrFail r).1.hit k' x' = s.hit k' x' := by
  unfold Net.roundOrFail
  split
  · split <;> rfl
  · exact Net.failMac_hit hn hmiss k' x'

structure Served (s s' : Net) (i : Nat) : Prop where
  now : s'.now = s.now
  neg : s'.negCache = s.negCache
  panic : s'.panic = s.panic
  len : s'.resolvers.length = s.resolvers.length
  hit : ∀ k x, s'.hit k x = s.hit k x
  others : ∀ j, j ≠ i → s'.resolvers[j]? = s.resolvers[j]?

theorem Served.refl (s : Net) (i : Nat) : Served s s i := ⟨rfl, rfl, rfl, rfl, fun _ _ => rfl, fun _ _ => rfl⟩

theorem Served.trans {a b c : Net} {i : Nat} (h1 : Served a b i) (h2 : Served b c i) : Served a c i :=
  ⟨h2.now.trans h1.now, h2.neg.trans h1.neg, h2.panic.trans h1.panic, h2.len.trans h1.len,
   fun k x => (h2.hit k x).trans (h1.hit k x), fun j hj => (h2.others j hj).trans (h1.others j hj)⟩

theorem Served.wake (s : Net) (i : Nat) : Served s (s.wake i) i := by
  unfold Net.wake
  split
  · split
    · split
      · exact ⟨rfl, rfl, rfl, by simp, fun _ _ => rfl, fun j hj => by
          show (s.resolvers.set i _)[j]? = _
          rw [List.getElem?_set_ne (Ne.symm hj)]⟩
      · exact Served.refl s i
    · exact Served.refl s i
  · exact Served.refl s i

theorem Served.timeout (s : Net) (hn : s.negCache = false) (i : Nat) : Served s (s.timeout i) i := by
  unfold Net.timeout
  split
  · rename_i r hr
    split
    · rename_i hc
      obtain ⟨f1, _, f3, f4, f5, _⟩ := s.roundOrFail_fields r
      refine ⟨f1, f3, f5, ?_, fun k x => Net.roundOrFail_hit hn hc.2.2 k x, fun j hj => ?_⟩
      · show ((s.roundOrFail r).1.resolvers.set i _).length = _
        rw [List.length_set, f4]
      · show ((s.roundOrFail r).1.resolvers.set i _)[j]? = _
        rw [List.getElem?_set_ne (Ne.symm hj), f4]
    · exact Served.refl s i
  · exact Served.refl s i

/-- serve resolver `i`: let it read the table if it is runnable, else serve its time-out if due -/
def serve (s : Net) (i : Nat) : Net := step (step s (.wake i)) (.timeout i)

theorem serve_eq {s : Net} (hp : s.panic = none) (i : Nat) : serve s i = (s.wake i).timeout i := by
  have h1 : s.panic.isSome = false := by rw [hp]; rfl
  have h2 : (s.wake i).panic.isSome = false := by rw [(Served.wake s i).panic, hp]; rfl
  unfold serve Elvis.Arp.step
  simp only [h1, Bool.false_eq_true, if_false, h2]

theorem serve_served {s : Net} (hp : s.panic = none) (hn : s.negCache = false) (i : Nat) : Served s (serve s i) i := by
  rw [serve_eq hp]
  exact (Served.wake s i).trans (Served.timeout _ (by rw [(Served.wake s i).neg]; exact hn) i)

theorem wake_done {s : Net} {i : Nat} {r : Resolver} (hr : (s.wake i).resolvers[i]? = some r)
    (hres : r.result = none) : (s.wake i).hit r.mach r.dest = none := by
  rw [(Served.wake s i).hit]
  unfold Net.wake at hr
  split at hr
  · rename_i r0 hr0
    split at hr
    · split at hr
      · rw [List.getElem?_set_self_of_some hr0] at hr
        cases hr; cases hres
      · rename_i hh
        rw [hr0] at hr; cases hr
        exact hh
    · rename_i h0
      rw [hr0] at hr; cases hr
      exact absurd hres h0
  · rename_i hn
    rw [hn] at hr; cases hr

theorem serve_unblocks {s : Net} (hp : s.panic = none) (hn : s.negCache = false) (ht : TInv s)
    (hd : 1 ≤ resendDelayUs) (i : Nat) (r' : Resolver)
    (hr' : (serve s i).resolvers[i]? = some r') : Unblocked (serve s i) 1 r' := by
  rw [serve_eq hp] at hr' ⊢
  have hsv := Served.timeout (s.wake i) (by rw [(Served.wake s i).neg]; exact hn) i
  have hdone := fun r => wake_done (s := s) (i := i) (r := r)
  have htw := ht.wake i
  generalize s.wake i = w at hr' hsv hdone htw ⊢
  cases hri : w.resolvers[i]? with
  | none =>
    have h1 := List.lt_length_of_getElem? hr'
    rw [hsv.len] at h1
    rw [List.getElem?_eq_none_iff] at hri
    omega
  | some r =>
    by_cases hc : r.result = none ∧ w.now = r.deadline ∧ w.hit r.mach r.dest = none
    · -- the time-out is due and is served: the three outcomes of the iteration
      obtain ⟨_, _, _, f4, _, _, f7, f8, _, _⟩ := w.roundOrFail_fields r
      have hget : (w.timeout i).resolvers[i]? = some (w.roundOrFail r).2 := by
        simp only [Net.timeout, hri, hc, and_self, if_true]
        rw [f4]; exact List.getElem?_set_self_of_some hri
      rw [hget] at hr'; cases hr'
      unfold Unblocked
      rw [hsv.hit, hsv.now, f7, f8]
      unfold Net.roundOrFail
      split
      · split
        · right; exact ⟨hc.2.2, by show w.now + 1 ≤ w.now + resendDelayUs; omega⟩
        · left; simp
      · left; simp
    · have hto : w.timeout i = w := by simp only [Net.timeout, hri, hc, if_false]
      rw [hto] at hr' ⊢
      rw [hri] at hr'; cases hr'
      by_cases hres : r'.result = none
      · -- still waiting, nothing to read, and the time-out is not due yet
        have hh := hdone r' hri hres
        have htr := htw r' (List.mem_of_getElem? hri)
        unfold TimeOk at htr
        simp only [hres] at htr
        have : w.now ≠ r'.deadline := fun e => hc ⟨hres, e, hh⟩
        exact .inr ⟨hh, by omega⟩
      · exact .inl hres

def serveAll (n : Nat) : List Label := (List.range n).flatMap fun i => [Label.wake i, Label.timeout i]

theorem run_append (s : Net) (a b : List Label) : run s (a ++ b) = run (run s a) b := by
  simp [run, List.foldl_append]

theorem run_serveAll_succ (s : Net) (n : Nat) : run s (serveAll (n + 1)) = serve (run s (serveAll n)) n := by
  unfold serveAll
  rw [List.range_succ, List.flatMap_append, run_append]
  simp [run, serve]

theorem serveAll_spec {s : Net} (hp : s.panic = none) (hn : s.negCache = false) (ht : TInv s)
    (hd : 1 ≤ resendDelayUs) (n : Nat) :
    let s' := run s (serveAll n)
    s'.now = s.now ∧ s'.negCache = false ∧ s'.panic = none ∧ s'.resolvers.length = s.resolvers.length ∧ TInv s' ∧
    ∀ j, j < n → ∀ r, s'.resolvers[j]? = some r → Unblocked s' 1 r := by
  induction n with
  | zero => exact ⟨rfl, hn, hp, rfl, ht, fun j hj => absurd hj (Nat.not_lt_zero j)⟩
  | succ n ih =>
    obtain ⟨i1, i2, i3, i4, i5, i6⟩ := ih
    have hsv := serve_served i3 i2 n
    show (run s (serveAll (n + 1))).now = s.now ∧ _
    rw [run_serveAll_succ]
    refine ⟨hsv.now.trans i1, hsv.neg.trans i2, hsv.panic.trans i3, hsv.len.trans i4, (i5.step _).step _, ?_⟩
    intro j hj r hr
    by_cases hjn : j = n
    · subst hjn
      exact serve_unblocks i3 i2 i5 hd j r hr
    · rw [hsv.others j hjn] at hr
      have := i6 j (by omega) r hr
      unfold Unblocked at this ⊢
      rw [hsv.hit, hsv.now]
      exact this

end Elvis.Arp
