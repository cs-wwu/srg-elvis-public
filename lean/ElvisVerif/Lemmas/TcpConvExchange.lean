import ElvisVerif.Lemmas.TcpView
/-!
# One exchange phase from a steady state

What the invariants give a forward evaluation (`Good.*`); what one side gets out of a phase (`side_outcome`, `Took`); the
course of a phase once each side is known to take the other's batch (`Takes`, `Takes.phase`); steady states are such
(`Steady.takes`), whence `phase_steady`.
-/
namespace Elvis.Tcp
open Tcb Elvis.ModCmp

section
variable {iss : SideId → Seq} {s : Sys}

theorem Good.tinv (hg : Good iss s) (x : SideId) (t : Tcb) (ht : (s.side x).tcb = some t) :
    C01.TInv x.port (iss x) (iss x.peer) (s.side x).submitted (s.side x.peer).submitted (s.side x).delivered t :=
  (hg.conv.c01.side x).tcb t ht

theorem Good.iss_eq (hg : Good iss s) (x : SideId) (t : Tcb) (ht : (s.side x).tcb = some t) : t.snd.iss = iss x :=
  (hg.tinv x t ht).iss

theorem Good.sent_eq (hg : Good iss s) (x : SideId) (t : Tcb) (ht : (s.side x).tcb = some t) :
    off (iss x) t.snd.nxt = t.sent := by
  unfold sent; rw [hg.iss_eq x t ht]

theorem Good.sent_lt (hg : Good iss s) (x : SideId) (t : Tcb) (ht : (s.side x).tcb = some t) :
    t.sent < 2147483648 := by
  have := room_of_inv hg.conv.c01 hg.room x t ht
  unfold Room at this; omega

theorem Good.una_le (hg : Good iss s) (x : SideId) (t : Tcb) (ht : (s.side x).tcb = some t) :
    off (iss x) t.snd.una ≤ t.sent :=
  hg.iss_eq x t ht ▸ una_le_sent_of_conv hg.conv x t ht

theorem Good.valid (hg : Good iss s) {σ : Segment} {x : SideId} (hmem : σ ∈ s.history)
    (hsrc : σ.hdr.srcPort = x.port) : C01.Valid (iss x) (s.side x).submitted σ :=
  hg.conv.c01.hist σ hmem x hsrc

theorem Good.wnd (hg : Good iss s) (x : SideId) (t : Tcb) (ht : (s.side x).tcb = some t) : t.rcv.wnd = 65535#16 :=
  (wf_of_sysWf hg.ext.wf x t ht).rcv_wnd

theorem Good.timeWait_none (hg : Good iss s) (x : SideId) (t : Tcb) (ht : (s.side x).tcb = some t)
    (hst : t.state ≠ .TimeWait) : t.timeouts.timeWait = none := by
  cases h : t.timeouts.timeWait with
  | none => rfl
  | some v => exact absurd ((hg.conv.nr.tcb x t ht).tw (by rw [h]; rfl)) hst

theorem Good.below (hg : Good iss s) (x : SideId) (t : Tcb) (ht : (s.side x).tcb = some t) : SndBelow t :=
  ((hg.conv.full.inv.link x).snd t ht).1

theorem Good.ports (hg : Good iss s) (x : SideId) (t : Tcb) (ht : (s.side x).tcb = some t) :
    t.localPort = x.port ∧ t.remotePort = x.peer.port :=
  ((hg.conv.full.inv.link x).snd t ht).2

theorem Good.swnd (hg : Good iss s) (x : SideId) (t : Tcb) (ht : (s.side x).tcb = some t)
    (hst : t.state = .Established) : t.snd.wnd = 65535#16 :=
  (hg.ext.tcb x t ht).swnd (by rw [hst]; nofun)

theorem Good.sndInv (hg : Good iss s) (x : SideId) (t : Tcb) (ht : (s.side x).tcb = some t)
    (hst : t.state = .Established) : SndInv t :=
  (hg.ext.tcb x t ht).snd (seg_of_established hst)

theorem Good.acked_empty (hg : Good iss s) (x : SideId) (t : Tcb) (ht : (s.side x).tcb = some t)
    (h : t.snd.una = t.snd.nxt) : t.outgoing.retransmit = [] :=
  keepOk_empty t (hg.ext.tcb x t ht).keep (hg.below x t ht) (hg.sent_lt x t ht) h

theorem Good.emitted (hg : Good iss s) (x : SideId) (t : Tcb) (ht : (s.side x).tcb = some t) {t' : Tcb}
    {out : List Segment} (e : t.segments = .ok (t', out)) :
    ∀ σ ∈ out, SegBelow (iss x) t'.sent σ ∧
      (σ.hdr ∈ t.outgoing.oneshot ∨ ∃ tr ∈ t'.outgoing.retransmit, tr.segment = σ) ∧
      σ.hdr.srcPort = x.port ∧ σ.hdr.dstPort = x.peer.port := by
  obtain ⟨lp, rp⟩ := hg.ports x t ht
  have h := (segments_snd t t' out e).2 (hg.below x t ht) (room_of_inv hg.conv.c01 hg.room x t ht)
  have hq := (segments_l t t' out e (hg.conv.full.fresh x t ht).fresh).2
  exact fun σ hσ => ⟨hg.iss_eq x t ht ▸ (h σ hσ).1, hq σ hσ, (h σ hσ).2.1.trans lp, (h σ hσ).2.2.trans rp⟩

/-- the queue condition of `arriveList_fwd` -/
theorem Good.queue (hg : Good iss s) (x : SideId) (t : Tcb) (ht : (s.side x).tcb = some t) :
    ∀ tr ∈ t.outgoing.retransmit, keepFor t.snd.una tr = true ∧ off (iss x) (txEnd tr) ≤ t.sent := by
  intro tr htr
  obtain ⟨hp, hk⟩ := (hg.ext.tcb x t ht).keep tr htr
  have hb := ((hg.below x t ht).queue tr htr).len hp
  have hN := hg.sent_lt x t ht
  refine ⟨hk, ?_⟩
  unfold txEnd
  rw [← hg.iss_eq x t ht, off_add _ _ _ (by omega)]
  exact hb

end

/-- `segments()` advances `SND.NXT` by what it cuts, and a `Good` side is less than 2^31 from its ISS: no wrap -/
theorem sent_emit {iss : SideId → Seq} {s : Sys} (hg : Good iss s) (x : SideId) (t t1 : Tcb) (new : List Transmit)
    (out : List Segment) (ht : (s.side x).tcb = some t) (f : EmitFx t new t1 out) (hiss : t1.snd.iss = iss x) :
    t1.sent = t.sent + emitAmount t :=
  f.sent (hiss.trans (hg.iss_eq x t ht).symm) (hg.sent_lt x t ht)

theorem ackLink_tcbs {iss : SideId → Seq} {s : Sys} (hg : Good iss s) {x : SideId} {t u : Tcb}
    (ht : (s.side x).tcb = some t) (hu : (s.side x.peer).tcb = some u) :
    AckCore (some t) (some u) (s.side x.peer).listen.isSome s.history x.peer.port :=
  hg.conv.full.ack.tcbs ht hu

/-- everything `arriveList_fwd` asks for, from the invariants: side `y` (ESTABLISHED, empty heap and
    buffer) receives pure ACKs `hs` numbered `RCV.NXT` followed by a data run starting at `RCV.NXT` -/
theorem recv_ready {iss : SideId → Seq} {σ : Sys} (hg : Good iss σ) (y : SideId) (ty : Tcb)
    (hty : (σ.side y).tcb = some ty) (hst : ty.state = .Established) (hheap : ty.incoming.segments = [])
    (hbuf : ty.incoming.text = []) (R : Nat) (hu : off (iss y) ty.snd.una ≤ R) (hR : R ≤ ty.sent)
    (hs : List Hdr) (new : List Segment) (lp rp : U16) (ack : Seq) (wnd : U16)
    (hhs : AcksFor (iss y) ty.rcv.nxt R (hs.map fun x => (⟨x, []⟩ : Segment)))
    (hrun : DataRun lp rp ack wnd ty.rcv.nxt new) (hack : 1 ≤ off (iss y) ack ∧ off (iss y) ack ≤ R)
    (hfit : segBytes new ≤ 65535) :
    ∃ ty', ty.arriveList ((hs.map fun x => (⟨x, []⟩ : Segment)) ++ new) = .ok ty' ∧
      BatchFx (iss y) ty ((hs.map fun x => (⟨x, []⟩ : Segment)) ++ new) ty' ∧
      maxAck (iss y) ((hs.map fun x => (⟨x, []⟩ : Segment)) ++ new) ≤ R := by
  have hacks : ∀ g ∈ (hs.map fun x => (⟨x, []⟩ : Segment)) ++ new, 1 ≤ off (iss y) g.hdr.ack ∧ off (iss y) g.hdr.ack ≤ R := by
    intro g hg'
    rcases List.mem_append.1 hg' with h | h
    · exact (hhs g h).2.2
    · exact ackLe_dataRun (iss y) R lp rp ack wnd hack.1 hack.2 new _ hrun g h
  obtain ⟨ty', e, bf⟩ := arriveList_fwd (iss y) R ty.sent (hg.sent_lt y ty hty) hR _ ty hst (hg.wnd y ty hty) hheap
    (hg.iss_eq y ty hty) rfl hu (inRun_acks _ _ hhs (inRun_of_dataRun _ _ _ _ _ _ hrun)) hacks
    (by
      rw [hbuf, segBytes_append, segBytes_acks]
      simp only [List.length_nil, Nat.zero_add]
      exact hfit) (hg.queue y ty hty)
  exact ⟨ty', e, bf, maxAck_le _ _ _ (fun g hg' => (hacks g hg').2)⟩

/-- per-side outcome of a phase (`t`, `u` = this side's and the peer's TCB before, `t'` after) -/
structure PhaseX (t u t' : Tcb) : Prop where
  text : t'.outgoing.text = t.outgoing.text.drop (emitAmount t)
  una : t'.snd.una = t.snd.nxt
  bytes : rtxBytes t'.outgoing.retransmit ≤ emitAmount t
  one : emitAmount u = 0 → t'.outgoing.oneshot = []

/-- the pure ACKs `y`'s ESTABLISHED peer `tx` has waiting, as `y` will take them: numbered `SND.NXT`, acknowledging
    nothing beyond what `tx` has received -/
theorem oneshot_facts {iss : SideId → Seq} {s : Sys} (hg : Good iss s) (y : SideId) (ty tx : Tcb)
    (hty : (s.side y).tcb = some ty) (htx : (s.side y.peer).tcb = some tx) (hst : tx.state = .Established) :
    (1 ≤ off (iss y) tx.rcv.nxt) ∧
    AcksFor (iss y) tx.snd.nxt (off (iss y) tx.rcv.nxt) (tx.outgoing.oneshot.map fun h => (⟨h, []⟩ : Segment)) := by
  have q := (ackLink_tcbs hg hty htx).q ty tx rfl rfl
  rw [hg.iss_eq y ty hty] at q
  have hns : tx.state ≠ .SynSent := by rw [hst]; simp
  refine ⟨q.pos hns, fun g hg' => ?_⟩
  obtain ⟨h, hh, rfl⟩ := List.mem_map.1 hg'
  obtain ⟨e1, e2, e3, e4⟩ := (hg.ext.tcb y.peer tx htx).one h hh
  have := q.one h hh e2
  rw [top_of_ne hns] at this
  exact ⟨⟨(hg.conv.nr.tcb y.peer tx htx).one h hh, e3, e4, e2, rfl⟩, e1, this.1, this.2⟩

theorem squeeze_facts {iss : SideId → Seq} {s : Sys} (hg : Good iss s) (x : SideId) (t u : Tcb)
    (ht : (s.side x).tcb = some t) (hu : (s.side x.peer).tcb = some u) (hst : u.state = .Established) :
    off (iss x) t.snd.una ≤ off (iss x) u.rcv.nxt ∧ off (iss x) u.rcv.nxt ≤ t.sent := by
  have hns : u.state ≠ .SynSent := by rw [hst]; simp
  have h1 := (ackLink_tcbs hg ht hu).una t u rfl rfl
  rw [top_of_ne hns, hg.iss_eq x t ht] at h1
  have h2 := (inv_rcv_le_snd s hg.conv.full.inv (room_of_inv hg.conv.c01 hg.room) x t u ht hu hns).1
  rw [hg.iss_eq x t ht] at h2
  exact ⟨h1, hg.sent_eq x t ht ▸ h2⟩

theorem maxAck_ge (iss : Seq) (gs : List Segment) (g : Segment) (hg : g ∈ gs) : off iss g.hdr.ack ≤ maxAck iss gs := by
  induction gs with
  | nil => cases hg
  | cons x xs ih =>
    simp only [maxAck]
    rcases List.mem_cons.1 hg with rfl | h
    · omega
    · have := ih h; omega

/-- nothing on a steady side's queue is flagged: it emits its waiting pure ACKs and what it cuts now -/
theorem SteadyX.out {t u t1 : Tcb} {new : List Transmit} {out : List Segment} (S : SteadyX t u) (f : EmitFx t new t1 out) :
    out = (t.outgoing.oneshot.map fun h => (⟨h, []⟩ : Segment)) ++ new.map (·.segment) := by
  rw [f.out, filter_flag_new _ _ S.unflag f.flagged]

/-- side `y` after the arrivals of a phase: `ty` before its own emission, `ty1` after it, `tx1` the peer after its
    emission, `ty2` once `ty1` has taken the peer's batch -/
structure Took (ty ty1 tx1 ty2 : Tcb) : Prop where
  st : ty2.state = .Established
  heap : ty2.incoming.segments = []
  rcv : ty2.rcv.nxt = tx1.snd.nxt
  nxt : ty2.snd.nxt = ty1.snd.nxt
  mtu : ty2.mtu = ty.mtu
  unflag : ∀ tr ∈ ty2.outgoing.retransmit, tr.needsTransmit = false
  text : ty2.outgoing.text = ty.outgoing.text.drop (emitAmount ty)

theorem Took.steady {ty ty1 ty2 tx tx1 tx2 : Tcb} (kY : Took ty ty1 tx1 ty2) (kX : Took tx tx1 ty1 tx2)
    (hm : SPACE_FOR_HEADERS < ty.mtu.toNat)
    (hl : ty2.snd.una = ty2.snd.nxt ∨ Full.LastAck tx2) :
    SteadyX { ty2 with incoming.text := [] } { tx2 with incoming.text := [] } :=
  ⟨kY.st, kY.heap, rfl, kX.rcv.trans kY.nxt.symm, kY.unflag, hl, by show _ < ty2.mtu.toNat; rw [kY.mtu]; exact hm⟩

/-- **what one side gets out of a phase.**  `ty` (peer `tx`) is steady; it emits (`ty1`, new entries
    `newY`), the peer emits `outX` = its pure ACKs + its new data `newX`; `ty1` then takes `outX`. -/
theorem side_outcome {iss : SideId → Seq} {s s2 : Sys} (hg : Good iss s) (hg2 : Good iss s2) (y : SideId)
    (ty ty1 tx tx1 : Tcb) (newY newX : List Transmit) (outY outX : List Segment)
    (hty : (s.side y).tcb = some ty) (htx : (s.side y.peer).tcb = some tx) (hty1 : (s2.side y).tcb = some ty1)
    (fY : EmitFx ty newY ty1 outY) (fX : EmitFx tx newX tx1 outX) (SY : SteadyX ty tx) (SX : SteadyX tx ty) :
    ∃ ty2, ty1.arriveList outX = .ok ty2 ∧ Took ty ty1 tx1 ty2 ∧ ty2.snd.una = ty.snd.nxt ∧
      rtxBytes ty2.outgoing.retransmit ≤ emitAmount ty ∧ (emitAmount tx = 0 → ty2.outgoing.oneshot = []) ∧
      (0 < emitAmount tx → Full.LastAck ty2) := by
  -- what the invariants say of the state before the emissions
  have hone := oneshot_facts hg y ty tx hty htx SX.st
  have hsq := squeeze_facts hg y ty tx hty htx SX.st
  have hsentY := hg.sent_lt y ty hty
  have hbelowY : ∀ tr ∈ ty.outgoing.retransmit, off (iss y) (txEnd tr) ≤ ty.sent := fun tr htr => (hg.queue y ty hty tr htr).2
  have houtX := SX.out fX
  have hrcv1 : ty1.rcv.nxt = tx.snd.nxt := by rw [fY.rcv]; exact SX.sync
  have hΔX := emitAmount_le tx
  have hsent1 := sent_emit hg y ty ty1 newY outY hty fY (hg2.iss_eq y ty1 hty1)
  obtain ⟨ty2, e2, bf, hmax⟩ := recv_ready hg2 y ty1 hty1 (by rw [fY.st]; exact SY.st) (by rw [fY.inc]; exact SY.heap)
    (by rw [fY.inc]; exact SY.buf) (off (iss y) tx.rcv.nxt) (by rw [fY.una]; exact hsq.1) (by rw [hsent1]; omega)
    tx.outgoing.oneshot (newX.map (·.segment)) tx.localPort tx.remotePort tx.rcv.nxt tx.rcv.wnd
    (by rw [hrcv1]; exact hone.2) (by rw [hrcv1]; exact fX.run) ⟨hone.1, Nat.le_refl _⟩ (by rw [fX.bytes]; exact hΔX)
  rw [← houtX] at e2 bf hmax
  have hsb : segBytes outX = emitAmount tx := by
    rw [houtX, segBytes_append, segBytes_acks, fX.bytes]; omega
  have hsync : off (iss y) tx.rcv.nxt = ty.sent := by rw [SY.sync]; exact hg.sent_eq y ty hty
  rw [hsync] at hmax
  have huna : off (iss y) ty2.snd.una = ty.sent := by
    rw [bf.una, fY.una]
    rcases SY.lastack with h | ⟨h, hl, hack⟩
    · rw [h, hg.sent_eq y ty hty]
      exact Nat.max_eq_left hmax
    · have hm : h ∈ tx.outgoing.oneshot := List.mem_of_getLast? hl
      have : off (iss y) h.ack ≤ maxAck (iss y) outX :=
        maxAck_ge (iss y) outX ⟨h, []⟩ (by rw [houtX]; exact List.mem_append_left _ (List.mem_map.2 ⟨h, hm, rfl⟩))
      rw [hack, hsync] at this
      exact Nat.le_antisymm (Nat.max_le.2 ⟨hsync ▸ hsq.1, hmax⟩) (Nat.le_trans this (Nat.le_max_right _ _))
  have huna' : ty2.snd.una = ty.snd.nxt := by
    apply off_inj (base := iss y)
    rw [huna, hg.sent_eq y ty hty]
  refine ⟨ty2, e2, ⟨bf.st, bf.heap, ?_, bf.snxt, by rw [bf.mtu, fY.mtu], ?_, by rw [bf.otext, fY.text]⟩, huna', ?_, ?_, ?_⟩
  · rw [bf.nxt, hrcv1, hsb, fX.nxt]
  · intro tr htr
    rw [bf.rtx] at htr
    exact fY.unflagged tr (List.mem_filter.1 htr).1
  · -- only the new entries survive the cumulative ACK of the old SND.NXT
    rw [bf.rtx, fY.rtx, List.map_append, List.filter_append, rtxBytes_append]
    have hold : (ty.outgoing.retransmit.map fun x => { x with needsTransmit := false }).filter (keepFor ty2.snd.una) = [] := by
      apply List.filter_eq_nil_iff.2
      intro tr htr
      obtain ⟨t0, h0, rfl⟩ := List.mem_map.1 htr
      have hend : txEnd ({ t0 with needsTransmit := false } : Transmit) = txEnd t0 := rfl
      have hk := keepFor_iff (iss y) ty2.snd.una { t0 with needsTransmit := false } ty.sent hsentY (Nat.le_of_eq huna)
        (by rw [hend]; exact hbelowY t0 h0)
      intro hkeep
      have := hk.1 hkeep
      rw [hend, huna] at this
      exact Nat.lt_irrefl _ (Nat.lt_of_lt_of_le this (hbelowY t0 h0))
    rw [hold]
    simp only [rtxBytes_nil, Nat.zero_add]
    refine Nat.le_trans (rtxBytes_filter_le _ _) ?_
    rw [rtxBytes_map_flag, rtxBytes_eq_segBytes, fY.bytes]
    exact Nat.le_refl _
  · intro h0
    rw [bf.oneSame (by rw [hsb]; exact h0), fY.one]
  · intro hpos
    exact bf.oneLast (by rw [hsb]; exact hpos)

/-- **each side takes the other's batch.**  Whatever the two `segments()` calls of a phase make of `ta` and `tb` (`EmitFx`),
    in a state `s2` that satisfies the invariants and holds the TCBs after the emissions, `arriveList` takes both batches;
    the sides end as `Took` says, each fully acknowledged or with its ACK waiting at the peer, and `P` holds of them once the
    applications have read.  Steady states (`Steady.takes`) and rough states whose queues the ticks have flagged
    (`Full.Rough.takes`, `Lemmas/TcpFullRound.lean`) are the instances. -/
def Takes (iss : SideId → Seq) (ta tb : Tcb) (P : Tcb → Tcb → Prop) : Prop :=
  ∀ s2 newA ta1 outA newB tb1 outB, Good iss s2 → (s2.side .A).tcb = some ta1 → (s2.side .B).tcb = some tb1 →
    EmitFx ta newA ta1 outA → EmitFx tb newB tb1 outB →
    ∃ ta2 tb2, ta1.arriveList outB = .ok ta2 ∧ tb1.arriveList outA = .ok tb2 ∧
      Took ta ta1 tb1 ta2 ∧ Took tb tb1 ta1 tb2 ∧
      (ta2.snd.una = ta2.snd.nxt ∨ Full.LastAck tb2) ∧
      (tb2.snd.una = tb2.snd.nxt ∨ Full.LastAck ta2) ∧
      P { ta2 with incoming.text := [] } { tb2 with incoming.text := [] }

/-- **the course of a phase**: both sides emit, each takes the other's batch (`Takes`), both applications read; the
    state is steady afterwards -/
theorem Takes.phase {iss : SideId → Seq} {ta tb : Tcb} {P : Tcb → Tcb → Prop} (T : Takes iss ta tb P) (s : Sys)
    (hg : Good iss s) (hsa : (s.side .A).tcb = some ta) (hsb : (s.side .B).tcb = some tb)
    (sta : ta.state = .Established) (stb : tb.state = .Established)
    (ma : SPACE_FOR_HEADERS < ta.mtu.toNat) (mb : SPACE_FOR_HEADERS < tb.mtu.toNat) :
    ∃ s' ta' tb', phase s = .ok s' ∧ PlainRun s s' ∧ Good iss s' ∧ Steady s' ta' tb' ∧ P ta' tb' ∧
      ta'.outgoing.text = ta.outgoing.text.drop (emitAmount ta) ∧
      tb'.outgoing.text = tb.outgoing.text.drop (emitAmount tb) := by
  obtain ⟨newA, ta1, outA, eA, fA⟩ := segments_fwd ta (by rw [sta]; trivial) ma
  obtain ⟨newB, tb1, outB, eB, fB⟩ := segments_fwd tb (by rw [stb]; trivial) mb
  obtain ⟨s2, _, hg2, h2a, h2b, _⟩ := emit_both hg ta tb ta1 tb1 outA outB hsa hsb eA eB
  obtain ⟨ta2, tb2, ea2, eb2, kA, kB, la, lb, hP⟩ := T s2 newA ta1 outA newB tb1 outB hg2 h2a h2b fA fB
  have v0 := View.start s .A ta tb hsa hsb
  obtain ⟨s6, ph, r, v⟩ := v0.phase eA eB eb2 ea2 (receive_established ta2 kA.st) (receive_established tb2 kB.st)
    (fun g h => (hg.emitted .A ta hsa eA g h).2.2) (fun g h => (hg.emitted .B tb hsb eB g h).2.2)
  exact ⟨s6, _, _, ph, r, View.good hg r v0 v rfl rfl, ⟨v.t, v.u, kA.steady kB ma la, kB.steady kA mb lb⟩, hP, kA.text,
    kB.text⟩

theorem Steady.takes {iss : SideId → Seq} {s : Sys} {ta tb : Tcb} (hg : Good iss s) (hs : Steady s ta tb) :
    Takes iss ta tb fun ta' tb' => PhaseX ta tb ta' ∧ PhaseX tb ta tb' := by
  intro s2 newA ta1 outA newB tb1 outB hg2 h2a h2b fA fB
  have hsa : (s.side .A).tcb = some ta := hs.ha
  have hsb : (s.side .B).tcb = some tb := hs.hb
  obtain ⟨tb2, eb2, kB, b_una, b_bytes, b_one0, b_one1⟩ :=
    side_outcome hg hg2 .B tb tb1 ta ta1 newB newA outB outA hsb hsa h2b fB fA hs.b hs.a
  obtain ⟨ta2, ea2, kA, a_una, a_bytes, a_one0, a_one1⟩ :=
    side_outcome hg hg2 .A ta ta1 tb tb1 newA newB outA outB hsa hsb h2a fA fB hs.a hs.b
  -- a side that sent nothing new is fully acknowledged; else the ACK of its new data waits at the peer
  have last : ∀ {t t1 t2 u2 : Tcb} {new : List Transmit} {out : List Segment}, EmitFx t new t1 out →
      t2.snd.una = t.snd.nxt → t2.snd.nxt = t1.snd.nxt →
      (0 < emitAmount t → Full.LastAck u2) →
      t2.snd.una = t2.snd.nxt ∨ Full.LastAck u2 := by
    intro t t1 t2 u2 new out f hu hn h1
    by_cases h0 : emitAmount t = 0
    · left
      rw [hu, hn, f.nxt, h0]
      simp
    · exact Or.inr (h1 (Nat.pos_of_ne_zero h0))
  exact ⟨ta2, tb2, ea2, eb2, kA, kB, last fA a_una kA.nxt b_one1, last fB b_una kB.nxt a_one1,
    ⟨kA.text, a_una, a_bytes, a_one0⟩, ⟨kB.text, b_una, b_bytes, b_one0⟩⟩

theorem phase_steady {iss : SideId → Seq} (s : Sys) (hg : Good iss s) (ta tb : Tcb) (hs : Steady s ta tb) :
    ∃ s' ta' tb', phase s = .ok s' ∧ PlainRun s s' ∧ Good iss s' ∧ Steady s' ta' tb' ∧
      PhaseX ta tb ta' ∧ PhaseX tb ta tb' := by
  obtain ⟨s', ta', tb', hp, hr, hg', hs', ⟨pa, pb⟩, -⟩ :=
    (hs.takes hg).phase s hg hs.ha hs.hb hs.a.st hs.b.st hs.a.mtu hs.b.mtu
  exact ⟨s', ta', tb', hp, hr, hg', hs', pa, pb⟩

end Elvis.Tcp
