import ElvisVerif.Generated.Codec
import ElvisVerif.Model.Codec.Ipv4
import ElvisVerif.Model.Codec.Udp
import ElvisVerif.Model.Codec.Tcp
/-!
Tie between the hand-written codec / checksum models and what `tools/extract.py` reads from the
Rust sources on every check (`Generated/Codec.lean`): the constants the models spell as literals
and the one-expression kernels.  A source edit that changes one of them breaks a proof here.
-/
namespace Elvis.Gen.Codec
open Elvis.Ck Elvis.Codec

theorem consts_eq :
    ipv4_BASE_WORDS = 5 ∧ ipv4_BASE_OCTETS = 20 ∧ ipv4_FRAGMENT_OFFSET_MASK = 8191 ∧
    ipv4_version_shift = 4 ∧ ipv4_version = 4 ∧ ipv4_ihl_mask = 15 ∧ ipv4_tos_reserved_mask = 3 ∧
    ipv4_flags_shift = 13 ∧ ipv4_reserved_flag_mask = 4 ∧ ipv4_build_version = 4 ∧
    ipv4_build_flags_shift = 13 ∧ ipv4_tos_precedence_shift = 5 ∧ ipv4_tos_delay_shift = 4 ∧
    ipv4_tos_throughput_shift = 3 ∧ ipv4_tos_reliability_shift = 2 ∧
    ipv4_may_fragment_mask = 2 ∧ ipv4_last_fragment_mask = 1 ∧
    udp_HEADER_OCTETS = 8 ∧ udp_protocol_number = 17 ∧ udp_build_protocol_number = 17 ∧
    tcp_BASE_HEADER_WORDS = 5 ∧ tcp_BASE_HEADER_OCTETS = 20 ∧ tcp_data_offset_shift = 4 ∧
    tcp_control_mask = 63 ∧ tcp_serialize_offset_shift = 4 ∧ tcp_build_offset_shift = 4 ∧
    tcp_protocol_number = 6 ∧ tcp_build_protocol_number = 6 ∧ tcp_bytes_factor = 4 := by
  decide

/-- `Checksum::add_u16` as extracted equals the model, and its checked `sum + carry` never
    overflows a `u16` -/
theorem add_u16_eq (a v : Nat) (ha : a < 65536) (hv : v < 65536) :
    add_u16 a v = addU16 a v ∧ add_u16 a v < 65536 := by
  unfold add_u16 addU16
  simp only
  by_cases h : a + v ≥ 65536
  · simp only [h, decide_true, Bool.toNat_true, if_true]; omega
  · simp only [h, decide_false, Bool.toNat_false, if_false]; omega

theorem as_u16_eq (a : Nat) : as_u16 a = asU16 true a ∧ as_u16_off = asU16 false a := by
  simp [as_u16, as_u16_off, asU16]

theorem matches_eq (acc e : Nat) :
    matches_ (asU16 true acc) acc e = matchesField true acc e ∧
    matches_ (asU16 false 0) 0 e = matchesField false 0 e := by
  simp [matches_, matchesField]

/-- `Control::new`: all 64 flag combinations -/
theorem control_new_eq : ∀ urg ack psh rst syn fin : Bool,
    control_new urg ack psh rst syn fin = Tcp.ctlNew urg ack psh rst syn fin := by
  decide

/-- `ControlFlags::new`: all 4 combinations -/
theorem control_flags_new_eq : ∀ may last : Bool,
    control_flags_new may last = Ipv4.flagsNew may last := by
  decide

/-- `TypeOfService::new`: all 8·2·2·2 combinations of the enum discriminants -/
theorem type_of_service_new_eq : ∀ p, p < 8 → ∀ d, d < 2 → ∀ t, t < 2 → ∀ r, r < 2 →
    type_of_service_new p d t r = Ipv4.tosNew p d t r := by
  decide

end Elvis.Gen.Codec
