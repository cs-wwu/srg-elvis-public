import ElvisVerif.Model.IpGen
import ElvisVerif.Lemmas.Subnet
/-!
Helper lemmas for C15 (address generator): mask arithmetic, the sorted-list `BTreeSet`,
membership characterisation of `block_range`.
-/
namespace Elvis.IpGen

def inR (r : Range) (a : Nat) : Prop := r.1 ≤ a ∧ a ≤ r.2

/-- the set of addresses a generator can still hand out -/
def avail (g : Gen) (a : Nat) : Prop := ∃ r ∈ g, inR r a

/-- `BTreeSet` representation invariant: strictly increasing in the derived order -/
def Sorted (g : Gen) : Prop := g.Pairwise (fun a b => Range.lt a b = true)

/-- every stored bound is a `u32` -/
def Bounded (g : Gen) : Prop := ∀ r ∈ g, r.1 ≤ U32MAX ∧ r.2 ≤ U32MAX

/-- a well-formed `Ipv4Net`: mask of prefix length `32 - k`, id aligned, id a `u32`.
    Every value the public API of `subnetting.rs` can build satisfies it. -/
def Net.WF (n : Net) (k : Nat) : Prop :=
  k ≤ 32 ∧ n.mask = 2 ^ 32 - 2 ^ k ∧ n.id % 2 ^ k = 0 ∧ n.id < 2 ^ 32

def inNet (n : Net) (k : Nat) (a : Nat) : Prop := n.id ≤ a ∧ a ≤ n.id + (2 ^ k - 1)

theorem and_mask (x k : Nat) (hk : k ≤ 32) (hx : x < 2 ^ 32) :
    x &&& (2 ^ 32 - 2 ^ k) = x / 2 ^ k * 2 ^ k := by
  have h2 : 2 ^ 32 - 2 ^ k = (2 ^ (32 - k) - 1) * 2 ^ k := by
    rw [Nat.sub_mul, Elvis.Subnet.pow_split hk, Nat.one_mul]
  have := Elvis.Subnet.and_prefix_nat x (32 - k) hx (Nat.sub_le 32 k)
  rw [Nat.sub_sub_self hk] at this
  rw [h2, this]

theorem fromBitcount_32 : fromBitcount 32 = 2 ^ 32 - 2 ^ 0 := by decide

theorem Net.new_WF (ip k : Nat) (hk : k ≤ 32) (hip : ip < 2 ^ 32) :
    (Net.new ip (2 ^ 32 - 2 ^ k)).WF k ∧ (Net.new ip (2 ^ 32 - 2 ^ k)).id = ip / 2 ^ k * 2 ^ k := by
  have hid := and_mask ip k hk hip
  refine ⟨⟨hk, rfl, ?_, ?_⟩, hid⟩
  · show (ip &&& (2 ^ 32 - 2 ^ k)) % 2 ^ k = 0
    rw [hid]; exact Nat.mul_mod_left _ _
  · show (ip &&& (2 ^ 32 - 2 ^ k)) < 2 ^ 32
    rw [hid]
    have := Nat.div_mul_le_self ip (2 ^ k)
    omega

theorem Net.new1_WF (ip : Nat) (hip : ip < 2 ^ 32) : (Net.new1 ip).WF 0 := by
  refine ⟨by omega, ?_, ?_, hip⟩
  · show fromBitcount 32 = _
    exact fromBitcount_32
  · exact Nat.mod_one _

theorem aligned_top {id k : Nat} (hk : k ≤ 32) (hal : id % 2 ^ k = 0) (hid : id < 2 ^ 32) :
    id + (2 ^ k - 1) ≤ U32MAX := by
  have := Subnet.aligned_gap hal (Nat.mod_eq_zero_of_dvd (Nat.pow_dvd_pow 2 hk)) hid
  have := Nat.two_pow_pos k
  unfold U32MAX; omega

theorem Net.broadcast_WF {n : Net} {k : Nat} (h : n.WF k) :
    n.broadcast = .ok (n.id + (2 ^ k - 1)) ∧ n.id + (2 ^ k - 1) ≤ U32MAX := by
  obtain ⟨hk, hm, hal, hid⟩ := h
  have htop := aligned_top hk hal hid
  have hp := Nat.two_pow_pos k
  have hle : 2 ^ k ≤ 2 ^ 32 := Nat.pow_le_pow_right (by omega) hk
  have hnot : U32MAX - n.mask = 2 ^ k - 1 := by rw [hm]; unfold U32MAX; omega
  refine ⟨?_, htop⟩
  unfold Net.broadcast
  rw [hnot, if_neg (by omega)]

theorem Net.range_le {n : Net} {k : Nat} (h : n.WF k) :
    n.id ≤ U32MAX ∧ n.id + (2 ^ k - 1) ≤ U32MAX :=
  ⟨by have := (Net.broadcast_WF h).2; omega, (Net.broadcast_WF h).2⟩

theorem Net.toRange_WF {n : Net} {k : Nat} (h : n.WF k) :
    n.toRange = .ok (n.id, n.id + (2 ^ k - 1)) := by
  unfold Net.toRange; rw [(Net.broadcast_WF h).1]

theorem add_one (x : Nat) : add x 1 = if x < U32MAX then some (x + 1) else none := by
  show (if x + 1 ≤ U32MAX then some (x + 1) else none) = _
  by_cases h : x < U32MAX
  · rw [if_pos h, if_pos (by omega)]
  · rw [if_neg h, if_neg (by omega)]

theorem add_neg_one (x : Nat) : add x (-1) = if 0 < x then some (x - 1) else none := by
  show (if 0 + 1 ≤ x then some (x - (0 + 1)) else none) = _
  by_cases h : 0 < x
  · rw [if_pos h, if_pos (by omega)]
  · rw [if_neg h, if_neg (by omega)]

theorem mem_insert (r x : Range) (l : List Range) : x ∈ insert r l ↔ x = r ∨ x ∈ l := by
  fun_induction insert r l with
  | case1 => rw [List.mem_singleton, or_iff_left List.not_mem_nil]
  | case2 y ys hlt => exact List.mem_cons
  | case3 y ys hlt heq =>
    rw [eq_of_beq heq]
    exact ⟨Or.inr, fun h => h.elim (fun e => e ▸ List.mem_cons_self) id⟩
  | case4 y ys hlt hne ih => rw [List.mem_cons, List.mem_cons, ih, or_left_comm]

theorem mem_remove (r x : Range) (l : List Range) : x ∈ remove r l ↔ x ∈ l ∧ x ≠ r := by
  simp [remove]

theorem Range.lt_trans {a b c : Range} (h1 : Range.lt a b = true) (h2 : Range.lt b c = true) :
    Range.lt a c = true := by
  simp [Range.lt] at *; omega

theorem Range.lt_total {a b : Range} (h1 : ¬ Range.lt a b = true) (h2 : ¬ (a == b) = true) :
    Range.lt b a = true := by
  have : ¬ (a.1 = b.1 ∧ a.2 = b.2) := fun h => h2 (beq_iff_eq.2 (Prod.ext h.1 h.2))
  simp [Range.lt] at *; omega

theorem sorted_insert (r : Range) (l : List Range) (h : Sorted l) : Sorted (insert r l) := by
  fun_induction insert r l with
  | case1 => exact List.pairwise_singleton _ _
  | case2 y ys hlt =>
    refine List.pairwise_cons.2 ⟨?_, h⟩
    intro z hz
    rcases List.mem_cons.1 hz with rfl | hz
    · exact hlt
    · exact Range.lt_trans hlt ((List.pairwise_cons.1 h).1 z hz)
  | case3 => exact h
  | case4 y ys hlt hne ih =>
    obtain ⟨hhd, htl⟩ := List.pairwise_cons.1 h
    refine List.pairwise_cons.2 ⟨?_, ih htl⟩
    intro z hz
    rcases (mem_insert r z ys).1 hz with rfl | hz
    · exact Range.lt_total hlt hne
    · exact hhd z hz

theorem sorted_remove (r : Range) (l : List Range) (h : Sorted l) : Sorted (remove r l) :=
  List.Pairwise.filter _ h

theorem bounded_insert {r : Range} {l : List Range} (h : Bounded l)
    (hr : r.1 ≤ U32MAX ∧ r.2 ≤ U32MAX) : Bounded (insert r l) := by
  intro x hx
  rcases (mem_insert r x l).1 hx with rfl | hx
  · exact hr
  · exact h x hx

theorem bounded_filter (p : Range → Bool) {l : List Range} (h : Bounded l) : Bounded (l.filter p) :=
  fun x hx => h x (List.mem_filter.1 hx).1

theorem avail_insert (r : Range) (g : Gen) (a : Nat) : avail (insert r g) a ↔ inR r a ∨ avail g a := by
  unfold avail
  constructor
  · rintro ⟨x, hx, hin⟩
    rcases (mem_insert r x g).1 hx with rfl | hx
    · exact .inl hin
    · exact .inr ⟨x, hx, hin⟩
  · rintro (h | ⟨x, hx, hin⟩)
    · exact ⟨r, (mem_insert r r g).2 (.inl rfl), h⟩
    · exact ⟨x, (mem_insert r x g).2 (.inr hx), hin⟩

/-- what one overlapping free range leaves behind when `range` is cut out of it -/
def pieces (range av : Range) : List Range :=
  (if range.1 > 0 ∧ av.1 ≤ range.1 - 1 then [(av.1, range.1 - 1)] else []) ++
  (if range.2 < U32MAX ∧ range.2 + 1 ≤ av.2 then [(range.2 + 1, av.2)] else [])

theorem mem_ite_singleton {α : Type} {c : Prop} [Decidable c] {a x : α} :
    x ∈ (if c then [a] else []) ↔ c ∧ x = a := by
  split <;> simp [*]

theorem mem_pieces {range av x : Range} :
    x ∈ pieces range av ↔
      (range.1 > 0 ∧ av.1 ≤ range.1 - 1 ∧ x = (av.1, range.1 - 1)) ∨
      (range.2 < U32MAX ∧ range.2 + 1 ≤ av.2 ∧ x = (range.2 + 1, av.2)) := by
  unfold pieces
  rw [List.mem_append, mem_ite_singleton, mem_ite_singleton, and_assoc, and_assoc]

/-- the loop body without its (dead) panic branches: the free range goes, what `range` leaves of it
    comes back -/
def splitPure (range : Range) (s : Gen) (av : Range) : Gen :=
  (pieces range av).foldl (fun g p => insert p g) (remove av s)

/-- the two `expect("overflow should be handled")` never fire -/
theorem splitStep_eq (range : Range) (s : Gen) (av : Range) :
    splitStep range s av = .ok (splitPure range s av) := by
  unfold splitStep splitPure pieces
  simp only [add_one, add_neg_one, isEmpty]
  by_cases h1 : range.1 > 0
  · by_cases h2 : range.2 < U32MAX
    · by_cases h3 : av.1 ≤ range.1 - 1 <;> by_cases h4 : range.2 + 1 ≤ av.2 <;>
        simp [h1, h2, h3, h4] <;> omega
    · by_cases h3 : av.1 ≤ range.1 - 1 <;> simp [h1, h2, h3] <;> omega
  · by_cases h2 : range.2 < U32MAX
    · by_cases h4 : range.2 + 1 ≤ av.2 <;> simp [h1, h2, h4] <;> omega
    · simp [h1, h2]

theorem mem_foldl_insert (ps : List Range) (g : Gen) (x : Range) :
    x ∈ ps.foldl (fun g p => insert p g) g ↔ x ∈ g ∨ x ∈ ps := by
  induction ps generalizing g with
  | nil => simp
  | cons p ps ih => rw [List.foldl_cons, ih, mem_insert, List.mem_cons, or_assoc, or_left_comm]

theorem sorted_foldl_insert (ps : List Range) (g : Gen) (h : Sorted g) :
    Sorted (ps.foldl (fun g p => insert p g) g) := by
  induction ps generalizing g with
  | nil => exact h
  | cons p ps ih => exact ih _ (sorted_insert p g h)

theorem mem_splitPure (range : Range) (s : Gen) (av x : Range) :
    x ∈ splitPure range s av ↔ (x ∈ s ∧ x ≠ av) ∨ x ∈ pieces range av := by
  unfold splitPure
  rw [mem_foldl_insert, mem_remove]

theorem pieces_not_overlap {range av x : Range} (h : x ∈ pieces range av) : overlaps x range = false := by
  rcases mem_pieces.1 h with ⟨_, _, rfl⟩ | ⟨_, _, rfl⟩
  · simp [overlaps]; omega
  · simp [overlaps]; omega

theorem sorted_splitPure (range : Range) (s : Gen) (av : Range) (h : Sorted s) :
    Sorted (splitPure range s av) :=
  sorted_foldl_insert _ _ (sorted_remove av s h)

theorem bounded_splitPure {range : Range} {s : Gen} {av : Range} (h : Bounded s)
    (hr : range.1 ≤ U32MAX ∧ range.2 ≤ U32MAX) (hav : av.1 ≤ U32MAX ∧ av.2 ≤ U32MAX) :
    Bounded (splitPure range s av) := by
  intro x hx
  rcases (mem_splitPure range s av x).1 hx with hx | hx
  · exact h x hx.1
  · rcases mem_pieces.1 hx with ⟨_, _, rfl⟩ | ⟨_, _, rfl⟩
    · simp; omega
    · simp; omega

theorem foldSplit_ok (range : Range) (hr : range.1 ≤ U32MAX ∧ range.2 ≤ U32MAX) :
    ∀ (L : List Range) (s : Gen), (∀ av ∈ L, overlaps av range = true) →
    ∃ s', foldSplit range s L = .ok s' ∧
      (∀ x, x ∈ s' ↔ (x ∈ s ∧ x ∉ L) ∨ (∃ av ∈ L, x ∈ pieces range av)) ∧
      (Sorted s → Sorted s') ∧
      (Bounded s → (∀ av ∈ L, av.1 ≤ U32MAX ∧ av.2 ≤ U32MAX) → Bounded s') := by
  intro L
  induction L with
  | nil => intro s _; exact ⟨s, rfl, by simp, id, fun h _ => h⟩
  | cons av rest ih =>
    intro s hov
    unfold foldSplit
    rw [splitStep_eq range s av]
    obtain ⟨s', he, hm, hs, hb⟩ := ih (splitPure range s av) (fun a ha => hov a (List.mem_cons_of_mem _ ha))
    refine ⟨s', he, ?_, fun h => hs (sorted_splitPure range s av h), ?_⟩
    · intro x
      have hp : x ∈ pieces range av → x ∉ rest := fun hp hxr => by
        have := hov x (List.mem_cons_of_mem _ hxr)
        rw [pieces_not_overlap hp] at this; cases this
      rw [hm x, mem_splitPure]
      simp only [List.mem_cons, not_or, or_and_right, exists_or, exists_eq_left, and_assoc,
        and_iff_left_of_imp hp, or_assoc, ne_eq]
    · intro hbs hbl
      exact hb (bounded_splitPure hbs hr (hbl av List.mem_cons_self))
        (fun a ha => hbl a (List.mem_cons_of_mem _ ha))

theorem blockRange_ok (g : Gen) (range : Range) (hr : range.1 ≤ U32MAX ∧ range.2 ≤ U32MAX) :
    ∃ g', blockRange g range = .ok g' ∧
      (∀ x, x ∈ g' ↔ (x ∈ g ∧ contains range x = false ∧ overlaps x range = false) ∨
                      (∃ av ∈ g, contains range av = false ∧ overlaps av range = true ∧ x ∈ pieces range av)) ∧
      (Sorted g → Sorted g') ∧ (Bounded g → Bounded g') := by
  unfold blockRange
  obtain ⟨g', he, hm, hs, hb⟩ := foldSplit_ok range hr
    ((g.filter (fun av => !contains range av)).filter (fun av => overlaps av range))
    (g.filter (fun av => !contains range av))
    (fun av hav => (List.mem_filter.1 hav).2)
  refine ⟨g', he, ?_, fun h => hs (List.Pairwise.filter _ h), fun h => hb (bounded_filter _ h) ?_⟩
  · intro x
    rw [hm x]
    simp only [List.mem_filter, Bool.not_eq_true', and_assoc]
    exact or_congr_left (and_congr_right fun hxg => and_congr_right fun hc =>
      ⟨fun h => by simpa [hxg, hc] using h, fun h => by simp [h]⟩)
  · intro av hav
    exact h av (List.mem_filter.1 (List.mem_filter.1 hav).1).1

theorem inR_pieces {range av : Range} {a : Nat} (hav2 : av.2 ≤ U32MAX)
    (ho : overlaps av range = true) :
    (∃ x ∈ pieces range av, inR x a) ↔ inR av a ∧ ¬ inR range a := by
  simp only [overlaps, Bool.and_eq_true, decide_eq_true_eq] at ho
  unfold inR
  constructor
  · rintro ⟨x, hx, hin⟩
    rcases mem_pieces.1 hx with ⟨_, _, rfl⟩ | ⟨_, _, rfl⟩
    · simp at hin ⊢; omega
    · simp at hin ⊢; omega
  · rintro ⟨hin, hnot⟩
    by_cases hl : a < range.1
    · exact ⟨(av.1, range.1 - 1), mem_pieces.2 (.inl ⟨by omega, by omega, rfl⟩), by simp; omega⟩
    · exact ⟨(range.2 + 1, av.2), mem_pieces.2 (.inr ⟨by omega, by omega, rfl⟩), by simp; omega⟩

theorem blockRange_spec (g : Gen) (range : Range) (hr : range.1 ≤ U32MAX ∧ range.2 ≤ U32MAX)
    (hb : Bounded g) :
    ∃ g', blockRange g range = .ok g' ∧ (Sorted g → Sorted g') ∧ Bounded g' ∧
      ∀ a, avail g' a ↔ avail g a ∧ ¬ inR range a := by
  obtain ⟨g', he, hm, hs, hb'⟩ := blockRange_ok g range hr
  refine ⟨g', he, hs, hb' hb, fun a => ?_⟩
  unfold avail
  constructor
  · rintro ⟨x, hx, hin⟩
    rcases (hm x).1 hx with ⟨hxg, _, hno⟩ | ⟨av, hag, _, hov, hp⟩
    · refine ⟨⟨x, hxg, hin⟩, ?_⟩
      intro hra
      unfold inR at *; simp [overlaps] at hno; omega
    · have := (inR_pieces (a := a) (hb av hag).2 hov).1 ⟨x, hp, hin⟩
      exact ⟨⟨av, hag, this.1⟩, this.2⟩
  · rintro ⟨⟨r, hrg, hin⟩, hnot⟩
    by_cases hc : contains range r = true
    · exfalso; apply hnot; unfold inR at *; simp [contains] at hc; omega
    · by_cases ho : overlaps r range = true
      · obtain ⟨x, hx, hxin⟩ := (inR_pieces (a := a) (hb r hrg).2 ho).2 ⟨hin, hnot⟩
        exact ⟨x, (hm x).2 (.inr ⟨r, hrg, by simpa using hc, ho, hx⟩), hxin⟩
      · exact ⟨r, (hm r).2 (.inl ⟨hrg, by simpa using hc, by simpa using ho⟩), hin⟩

theorem bounded_nil : Bounded [] := fun _ h => by cases h

theorem not_avail_nil (a : Nat) : ¬ avail [] a := fun ⟨_, h, _⟩ => nomatch h

end Elvis.IpGen
