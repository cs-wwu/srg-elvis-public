import ElvisVerif.Lemmas.TcbPath
import ElvisVerif.Lemmas.SeqArith
/-!
# Closing: the final ACK releases LAST-ACK, a quiet TIME-WAIT expires, the FIN follows the text

Single-endpoint building blocks of `c03_release_partial` / `c03_fin_after_data_partial` (`Props/C03.lean`).
-/
namespace Elvis.Tcp
open Elvis.ModCmp Elvis.Rfc9293
namespace Tcb

/-! ## the FIN is formed only when no text is queued, at SND.NXT -/

theorem finQueued_last (s : Tcb) : ∀ t ∈ (finQueued s).outgoing.retransmit,
    t ∈ s.outgoing.retransmit ∨ (t.segment.text = [] ∧ t.segment.hdr.seq + 1 = (finQueued s).snd.nxt) := by
  rw [finQueued_eq]
  exact List.forall_mem_append.2 ⟨fun _ h => Or.inl h, List.forall_mem_singleton.2 (Or.inr ⟨rfl, rfl⟩)⟩

theorem Segs.fin_last {m : Nat} {p : Bool} {s s' : Tcb} (h : Segs m p s s') :
    ∀ t ∈ s'.outgoing.retransmit, t.segment.hdr.ctl.fin = true → t ∈ s.outgoing.retransmit ∨
      (t.segment.text = [] ∧ t.segment.hdr.seq + 1 = s'.snd.nxt ∧ s'.outgoing.text = []) := by
  induction h with
  | done _ => exact fun t ht _ => Or.inl ht
  | @fin s _ _ he =>
    intro t ht _
    refine (finQueued_last s t ht).imp_right fun ⟨h3, h4⟩ => ⟨h3, h4, ?_⟩
    rw [finQueued_eq]
    exact List.isEmpty_iff.1 he
  | cut b _ _ _ _ _ _ ih =>
    intro t ht hfin
    refine (ih t ht hfin).imp_left fun h => ?_
    -- the data segment of this round carries no FIN
    rcases List.mem_append.1 h with h | h
    · exact h
    · rw [List.mem_singleton.1 h] at hfin
      cases hfin

/-- **`segments()` forms a FIN only in a call that leaves no text queued, and numbers it last**:
    every FIN-bearing entry on the retransmission queue afterwards was there before, or carries
    no text, sits at `SND.NXT − 1` of the result, and the result has no text queued -/
theorem segments_fin_last (s s' : Tcb) (out : List Segment) (e : s.segments = .ok (s', out)) :
    ∀ t ∈ s'.outgoing.retransmit, t.segment.hdr.ctl.fin = true →
      (∃ t0 ∈ s.outgoing.retransmit, t0.segment = t.segment) ∨
      (t.segment.text = [] ∧ t.segment.hdr.seq + 1 = s'.snd.nxt ∧ s'.outgoing.text = []) := by
  obtain ⟨s2, tmo, h, rfl⟩ := segments_segs e
  intro t ht hfin
  obtain ⟨t2, ht2, rfl⟩ := List.mem_map.1 ht
  exact (h.fin_last t2 ht2 hfin).imp_left fun h => ⟨t2, h, rfl⟩

/-! ## LAST-ACK: the acknowledgment of our FIN releases the TCB -/

theorem ack_of_nxt (una nxt : Seq) (h1 : 0 < (nxt - una).toNat) (h2 : (nxt - una).toNat < 2147483648) :
    modLeq nxt una = false ∧ modBounded una .Lt nxt .Leq nxt = true := by
  -- seen from `SND.UNA`, itself at offset 0, `SND.NXT` is `nxt − una` ahead
  have hn : off una nxt < 2147483648 := h2
  have hp : off una una < off una nxt := by rw [off_self]; exact h1
  refine ⟨Bool.eq_false_iff.2 fun h => ?_, bounded_of_off una una nxt nxt hn hp (Nat.le_refl _)⟩
  have := (modLeq_iff_off una nxt una hn (by omega)).1 h
  omega

theorem aep_valid (s : Tcb) (seg : Hdr) (h1 : modLeq seg.ack s.snd.una = false)
    (h2 : modBounded s.snd.una .Lt seg.ack .Leq s.snd.nxt = true) :
    (aep s seg).2 = .Success ∧ (aep s seg).1.snd.una = seg.ack ∧
      (aep s seg).1.snd.nxt = s.snd.nxt ∧ (aep s seg).1.state = s.state ∧ (aep s seg).1.outgoing.text = s.outgoing.text := by
  rw [aep_new h1 h2]
  have f := wndTaken_frame (ackTaken s seg.ack) seg
  exact ⟨rfl, f.2.2.2.2.2.1, f.2.2.2.2.2.2.1, f.1, (congrArg Outgoing.text f.2.2.1).trans rfl⟩

/-- **LAST-ACK is released by the final ACK.**  In LAST-ACK with the FIN formed (no text
    queued) and outstanding (`SND.UNA < SND.NXT`, fewer than 2^31 sequence numbers), an acceptable
    segment whose ACK acknowledges everything (`SEG.ACK = SND.NXT`) makes `process_segment` return
    `FinalizeClose` from block 2, before the RST bit is looked at: the caller deletes the TCB. -/
theorem processSegment_lastAck_release (s : Tcb) (segment : Segment) (hst : s.state = .LastAck)
    (htext : s.outgoing.text = [])
    (hout1 : 0 < (s.snd.nxt - s.snd.una).toNat) (hout2 : (s.snd.nxt - s.snd.una).toNat < 2147483648)
    (hacc : s.isSeqOk (BitVec.ofNat 32 segment.text.length) segment.hdr.seq segment.hdr.ctl.syn
      segment.hdr.ctl.fin = .ok true)
    (hack : segment.hdr.ctl.ack = true) (hval : segment.hdr.ack = s.snd.nxt) :
    ∃ s', s.processSegment segment = .ok (s', .FinalizeClose) := by
  obtain ⟨hle, hb⟩ := ack_of_nxt s.snd.una s.snd.nxt hout1 hout2
  obtain ⟨-, hu, hn, hs, ht⟩ := aep_valid s segment.hdr (by rw [hval]; exact hle) (by rw [hval]; exact hb)
  have fin : (aep s segment.hdr).1.isFinAcked = true := by
    rw [isFinAcked_eq, finPending_def]
    rw [hs, hst, ht, htext, hu, hn, hval]; simp
  -- block 2 in LAST-ACK finishes once our FIN is acknowledged
  have e2 : ackBlock s segment.hdr = .ok ((aep s segment.hdr).1, some .FinalizeClose) := by
    rw [ackBlock_eq, ackOut_synchronized hack (by rw [hst]; nofun) (by rw [hst]; nofun) (by rw [hst]; nofun), hst]
    show Except.ok ((aep s segment.hdr).1, if (aep s segment.hdr).1.isFinAcked then _ else _) = _
    rw [if_pos fin]
  exact ⟨_, processSegment_stop2 (seqCheck_pass (by rw [hst]; nofun) hacc) e2⟩

/-! ## TIME-WAIT: only a FIN restarts the timer; left alone it expires -/

/-- **in TIME-WAIT a segment without FIN and RST** leaves the state and the 2·MSL timer as they are: block 2 does
    nothing in TIME-WAIT, and only the FIN bit (block 6) restarts the timer -/
theorem processSegment_timeWait_quiet (s : Tcb) (segment : Segment) (hst : s.state = .TimeWait)
    (hfin : segment.hdr.ctl.fin = false) (hrst : segment.hdr.ctl.rst = false)
    (s' : Tcb) (r : ProcessSegmentResult) (e : s.processSegment segment = .ok (s', r)) :
    Keep s s' ∧ r.shouldDeleteTcb = false := by
  obtain ⟨h, hr⟩ := processSegment_effs e
  -- the moves start elsewhere, or need a FIN
  have keep : Keep s s' :=
    h.lift (R := fun s s' => s.state = .TimeWait → Keep s s') (fun _ _ => Keep.refl _)
      (fun h1 h2 h => (h1 h).trans (h2 ((h1 h).state.trans h)))
      (fun e h => by
        cases e with
        | reply => exact keep_enqueueBuilt _ _
        | ack | window | text | fin | rto => exact ⟨rfl, rfl⟩
        | established _ h' | finWait2 _ h' | timeWaitAcked _ h' | closing _ h' => rw [h] at h'; cases h'
        | syn _ _ h' => rw [h] at h'; cases h'
        | closeWait _ h' => rcases h' with h' | h' <;> (rw [h] at h'; cases h')
        | timeWaitFin hf => rw [hfin] at hf; cases hf) hst
  refine ⟨keep, ?_⟩
  -- a deletion needs a RST, or LAST-ACK
  cases hd : r.shouldDeleteTcb with
  | false => rfl
  | true =>
    rcases hr hd with ⟨h1, -⟩ | ⟨-, -, h1, -⟩
    · rw [hrst] at h1; cases h1
    · rw [keep.state, hst] at h1; cases h1

theorem advanceTime_timeWait (s : Tcb) (dt tw : Nat) (htw : s.timeouts.timeWait = some tw) :
    (tw < dt → ∃ s', s.advanceTime dt = .ok (s', .CloseConnection)) ∧
    (dt ≤ tw → ∃ s', s.advanceTime dt = .ok (s', .Ignore) ∧ s'.state = s.state ∧
      s'.timeouts.timeWait = some (tw - dt)) := by
  rw [advanceTime_eq, htw]
  dsimp only
  exact ⟨fun hlt => by rw [if_pos hlt]; exact ⟨_, rfl⟩,
    fun hle => by rw [if_neg (Nat.not_lt.2 hle)]; exact ⟨_, rfl, (keep_timerRun s dt).state, rfl⟩⟩

end Tcb
end Elvis.Tcp
