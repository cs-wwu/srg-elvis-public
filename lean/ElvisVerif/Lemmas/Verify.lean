import ElvisVerif.Lemmas.Ipv4
import ElvisVerif.Lemmas.Udp
import ElvisVerif.Lemmas.Tcp
import ElvisVerif.Lemmas.Flip
/-!
Helper lemmas for C18: for each decoder, the checksum test it performs (`Checksum::matches` on
its accumulator, feature on) is equivalent to RFC 1071 verification of the covered words.
-/
namespace Elvis.Ck
open Elvis.Codec Elvis.Rfc1071

theorem verifies_iff_sum (ws : List Nat) : verifies ws ↔ (ws.sum % 65535 = 0 ∧ ws.sum ≠ 0) := by
  unfold verifies onesSum onesSumOfTotal
  split
  · omega
  · split <;> omega

theorem sum_mod_eq_of_verifies {p ws ws' : List Nat} (v : verifies (p ++ ws))
    (v' : verifies (p ++ ws')) : ws.sum % 65535 = ws'.sum % 65535 := by
  rw [verifies_iff_sum, List.sum_append] at v v'
  omega

/-- any decoder `dec` whose accepted inputs verify, with a pseudo header that depends on the length
    only, rejects what changes the word sum modulo 65535 -/
theorem detects_changed_of {ε α : Type} {dec : List UInt8 → Except ε α} {ph : Nat → List Nat}
    (hv : ∀ {bs h}, dec bs = .ok h → verifies (ph bs.length ++ wordsOf bs)) {bs bs' : List UInt8}
    {h : α} (hl : bs'.length = bs.length) (ha : dec bs = .ok h)
    (hc : wsum bs' % 65535 ≠ wsum bs % 65535) : ∀ h', dec bs' ≠ .ok h' := by
  intro h' ha'
  have v' := hv ha'
  rw [hl] at v'
  exact hc (sum_mod_eq_of_verifies v' (hv ha))

theorem W4_halves (a b c d : UInt8) :
    W4 a b c d / 65536 % 65536 + W4 a b c d % 65536 = W a b + W c d := by
  have := a.toNat_lt; have := b.toNat_lt; have := c.toNat_lt; have := d.toNat_lt
  simp only [W, W4]; omega

theorem pseudoHeader_sum (src dst proto len : Nat) :
    (pseudoHeader src dst proto len).sum = src / 65536 + src % 65536 + (dst / 65536 + dst % 65536) + proto + len := by
  simp [pseudoHeader]; omega

end Elvis.Ck

namespace Elvis.Codec.Ipv4
open Elvis.Ck Elvis.Codec Elvis.Rfc1071

theorem matches_iff_verifies
    (b0 b1 b2 b3 b4 b5 b6 b7 b8 b9 b10 b11 b12 b13 b14 b15 b16 b17 b18 b19 : UInt8) :
    matchesField true (accBytes true b0 b1 b2 b3 b4 b5 b6 b7 b8 b9 b12 b13 b14 b15 b16 b17 b18 b19)
      (W b10 b11) = true ↔
    verifies (wordsOf [b0, b1, b2, b3, b4, b5, b6, b7, b8, b9, b10, b11, b12, b13, b14, b15, b16,
      b17, b18, b19]) := by
  -- the accumulator tracks the plain sum of the nine words other than the checksum field
  have t := (((Tracks.zero.addU8 b0.toNat_lt b1.toNat_lt).add16 (W_lt b2 b3)).add16 (W_lt b4 b5)).add16 (W_lt b6 b7)
  have t := ((t.addU8 b8.toNat_lt b9.toNat_lt).addWord32 (v := W4 b12 b13 b14 b15)).addWord32
    (v := W4 b16 b17 b18 b19)
  refine matches_iff_verifies_of_tracks t (W_lt b10 b11) ?_
  rw [W4_halves, W4_halves]
  simp only [wordsOf, List.sum_cons, List.sum_nil, W]; omega

end Elvis.Codec.Ipv4

namespace Elvis.Codec.Udp
open Elvis.Ck Elvis.Codec Elvis.Rfc1071

theorem matches_iff_verifies (b0 b1 b2 b3 b4 b5 b6 b7 : UInt8) (rest : List UInt8) (src dst : Nat)
    (hs : src < 4294967296) (hd : dst < 4294967296) :
    matchesField true (accDec true (W b0 b1) (W b2 b3) (W b4 b5) src dst rest) (W b6 b7) = true ↔
    verifies (pseudoHeader src dst 17 (W b4 b5) ++
      wordsOf (b0 :: b1 :: b2 :: b3 :: b4 :: b5 :: b6 :: b7 :: rest)) := by
  refine matches_iff_verifies_of_tracks
    (accDec_tracks src dst rest (W_lt b0 b1) (W_lt b2 b3) (W_lt b4 b5)) (W_lt b6 b7) ?_
  rw [List.sum_append, pseudoHeader_sum]
  simp only [wordsOf, List.sum_cons, coveredSum, W]; omega

end Elvis.Codec.Udp

namespace Elvis.Codec.Tcp
open Elvis.Ck Elvis.Codec Elvis.Rfc1071

theorem matches_iff_verifies
    (b0 b1 b2 b3 b4 b5 b6 b7 b8 b9 b10 b11 b12 b13 b14 b15 b16 b17 b18 b19 : UInt8)
    (rest : List UInt8) (src dst plen : Nat)
    (hs : src < 4294967296) (hd : dst < 4294967296) (hp : plen < 65536) :
    matchesField true (accDec true (W b0 b1) (W b2 b3) (W4 b4 b5 b6 b7) (W4 b8 b9 b10 b11)
        (W b12 b13) (W b14 b15) (W b18 b19) rest src dst plen) (W b16 b17) = true ↔
    verifies (pseudoHeader src dst 6 plen ++
      wordsOf (b0 :: b1 :: b2 :: b3 :: b4 :: b5 :: b6 :: b7 :: b8 :: b9 :: b10 :: b11 :: b12 :: b13 ::
        b14 :: b15 :: b16 :: b17 :: b18 :: b19 :: rest)) := by
  refine matches_iff_verifies_of_tracks
    (accDec_tracks (W4 b4 b5 b6 b7) (W4 b8 b9 b10 b11) src dst rest (W_lt b0 b1) (W_lt b2 b3)
      (W_lt b12 b13) (W_lt b14 b15) (W_lt b18 b19) hp) (W_lt b16 b17) ?_
  rw [List.sum_append, pseudoHeader_sum]
  unfold coveredSum
  rw [W4_halves, W4_halves]
  simp only [wordsOf, List.sum_cons, W]; omega

end Elvis.Codec.Tcp
