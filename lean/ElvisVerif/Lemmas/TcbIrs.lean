import ElvisVerif.Lemmas.TcbPath
/-!
# IRS is fixed once the peer's SYN has been accepted

Outside SYN-SENT no segment — in particular no old duplicate SYN of an earlier incarnation,
whatever its sequence number — changes `RCV.IRS`, and SYN-SENT is never entered again.
-/
namespace Elvis.Tcp
namespace Tcb

structure IrsKeep (s s' : Tcb) : Prop where
  irs : s'.rcv.irs = s.rcv.irs
  notSynSent : s'.state ≠ .SynSent

theorem IrsKeep.trans {a b c : Tcb} (h1 : a.state ≠ .SynSent → IrsKeep a b) (h2 : b.state ≠ .SynSent → IrsKeep b c)
    (h : a.state ≠ .SynSent) : IrsKeep a c :=
  ⟨(h2 (h1 h).notSynSent).irs.trans (h1 h).irs, (h2 (h1 h).notSynSent).notSynSent⟩

theorem Eff.irs {g : Segment} {k : Nat} {s s' : Tcb} (h : Eff g k s s') (hs : s.state ≠ .SynSent) : IrsKeep s s' := by
  refine ⟨?_, fun hx => hs (h.rx.synsent hx)⟩
  cases h with
  | reply _ => rw [(same_enqueueBuilt _ _).rcv]
  | syn _ _ hst => exact absurd hst hs
  | _ => rfl

theorem segmentArrives_irs (s : Tcb) (segment : Segment) (h : s.state ≠ .SynSent) (s' : Tcb)
    (e : s.segmentArrives segment = .ok (s', .Ok)) : IrsKeep s s' :=
  segmentArrives_lift (R := fun s s' => s.state ≠ .SynSent → IrsKeep s s') (fun _ h => ⟨rfl, h⟩) IrsKeep.trans
    (fun _ _ h => ⟨rfl, h⟩) Eff.irs e h

end Tcb
end Elvis.Tcp
