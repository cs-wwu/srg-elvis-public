import ElvisVerif.Lemmas.TcpFinSys
/-!
# The stream invariant with `close()`: runs

`FinRun s s'`: any finite sequence of `write`, `read`, `tick`, `emit`, `close`, `drop` and deliveries of
any history element to the endpoint it is addressed to (loss, duplication, reordering, arbitrary
delay), from `s` to `s'`.  H31 (`C01.Lt31`: fewer than 2^31 bytes submitted per direction) is asked of the
final state only: the submitted logs only grow.  `finRunB`: executable form.
-/
namespace Elvis.Tcp.Fin
open Elvis.ModCmp Elvis.Tcp.Tcb Elvis.Tcp.C01

inductive FinRun : Sys → Sys → Prop
  | refl (s : Sys) : FinRun s s
  | step {s s1 s2 : Sys} {op : Op} {r : Res} : FinRun s s1 → OpOkF s1 op → s1.step op = .ok (s2, r) → FinRun s s2

theorem FinRun.sub {s s' : Sys} (h : FinRun s s') (y : SideId) : (s.side y).submitted <+: (s'.side y).submitted := by
  induction h with
  | refl => exact List.prefix_refl _
  | step _ _ e ih => exact ih.trans (step_sub e y)

theorem Lt31.of_finRun {s s' : Sys} (h : FinRun s s') (h31 : Lt31 s') : Lt31 s :=
  ⟨Nat.lt_of_le_of_lt (h.sub .A).length_le h31.1, Nat.lt_of_le_of_lt (h.sub .B).length_le h31.2⟩

theorem finRun_inv {iss : SideId → Seq} {fin : SideId → Bool} {s s' : Sys} (h : InvF iss fin s)
    (hrun : FinRun s s') (h31 : Lt31 s') : ∃ fin', InvF iss fin' s' ∧ ∀ y, fin y = true → fin' y = true := by
  induction hrun with
  | refl => exact ⟨fin, h, fun _ h0 => h0⟩
  | step hr hop e ih =>
    have h31' : Lt31 _ := Lt31.of_finRun (.step (.refl _) hop e) h31
    obtain ⟨f1, i1, m1⟩ := ih h31'
    obtain ⟨f2, i2, m2⟩ := step_invF i1 hop h31' e
    exact ⟨f2, i2, fun y hy => m2 y (m1 y hy)⟩

theorem FinRun.head {s s1 s2 : Sys} {op : Op} {r : Res} (hp : OpOkF s op)
    (e : s.step op = .ok (s1, r)) (h : FinRun s1 s2) : FinRun s s2 := by
  induction h with
  | refl => exact .step (.refl _) hp e
  | step _ hp' e' ih => exact .step ih hp' e'

theorem FinRun.trans {a b c : Sys} (h1 : FinRun a b) (h2 : FinRun b c) : FinRun a c := by
  induction h2 with
  | refl => exact h1
  | step _ hp e ih => exact .step ih hp e

def opOkFB (s : Sys) : Op → Bool
  | .write _ _ | .read _ | .tick _ _ | .emit _ | .drop _ | .close _ => true
  | .deliver x i => match s.nth i with
    | none => true
    | some g => addressedB x g
  | _ => false

theorem opOkFB_sound {s : Sys} {op : Op} (h : opOkFB s op = true) : OpOkF s op := by
  cases op <;> simp only [opOkFB, OpOkF] at h ⊢
  case deliver x i =>
    intro g hg
    rw [hg] at h
    simp only [addressedB, Bool.and_eq_true, beq_iff_eq] at h
    exact h
  all_goals first | trivial | cases h

def finRunB : Sys → List Op → Option Sys
  | s, [] => some s
  | s, op :: ops =>
    if opOkFB s op then
      match s.step op with
      | .ok (s', _) => finRunB s' ops
      | .error _ => none
    else none

theorem finRunB_sound (s s' : Sys) (ops : List Op) (h : finRunB s ops = some s') : FinRun s s' := by
  induction ops generalizing s with
  | nil => simp only [finRunB, Option.some.injEq] at h; subst h; exact .refl _
  | cons op ops ih =>
    unfold finRunB at h
    split at h
    · rename_i hc
      split at h
      · rename_i s1 r e
        exact FinRun.head (opOkFB_sound hc) e (ih s1 h)
      · simp at h
    · simp at h

end Elvis.Tcp.Fin
