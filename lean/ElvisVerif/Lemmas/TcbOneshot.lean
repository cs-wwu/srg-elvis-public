import ElvisVerif.Lemmas.TcbNoop
/-!
# No operation reads the one-shot output queue

For C17.  `pre p s` = `s` with the headers `p` put in front of its one-shot queue.  Every operation except
`segments()` and `abort` commutes with `pre p` (they only append to the queue and never read it); `segments()`
hands `p` to the network in front of its normal output and ends in the state it would have reached without `p`,
except that the retransmission timer is re-armed (`pre_segments`).  `abort`, which empties the queue, is not treated.
-/
namespace Elvis.Tcp
open Elvis.ModCmp
namespace Tcb

def pre (p : List Hdr) (s : Tcb) : Tcb := { s with outgoing.oneshot := p ++ s.outgoing.oneshot }

def mapT {α : Type} (g : Tcb → Tcb) (x : Except String (Tcb × α)) : Except String (Tcb × α) :=
  match x with
  | .error e => .error e
  | .ok (s, a) => .ok (g s, a)

@[simp] theorem mapT_ok {α : Type} (g : Tcb → Tcb) (s : Tcb) (a : α) : mapT g (.ok (s, a)) = .ok (g s, a) := rfl
@[simp] theorem mapT_error {α : Type} (g : Tcb → Tcb) (e : String) :
    mapT g (.error e : Except String (Tcb × α)) = .error e := rfl

theorem pre_nil (s : Tcb) : pre [] s = s := by
  cases s with
  | mk lp rp mtu ini st snd rcv out inc tmo => cases out; rfl

theorem pre_pre (p q : List Hdr) (s : Tcb) : pre p (pre q s) = pre (p ++ q) s := by
  unfold pre; simp [List.append_assoc]

theorem pre_enqueueBuilt (p : List Hdr) (s : Tcb) (h : Hdr) :
    (pre p s).enqueueBuilt h = pre p (s.enqueueBuilt h) := by
  rcases enqueueBuilt_cases s h with ⟨hc, e⟩ | ⟨h1, h2, e⟩
  · rw [e, enqueueBuilt_retransmit _ h hc]
    rfl
  · rw [e, enqueueBuilt_oneshot _ h h1 h2]
    unfold pre
    simp only [List.append_assoc]

/-- every `enqueueThen` of the model continues with a fixed answer -/
theorem pre_enqueueThen (p : List Hdr) (s : Tcb) (hb : Hdr) (c : Option ProcessSegmentResult) :
    enqueueThen (pre p s) hb (fun s => .ok (s, c)) = mapT (pre p) (enqueueThen s hb fun s => .ok (s, c)) := by
  rw [enqueueThen_eq, enqueueThen_eq, pre_enqueueBuilt]
  rfl

/-! `pre p` writes one field that no piece reads: it commutes with a piece that is a record update by `rfl`, and
with one that tests something once the test is seen to be the same, which `rfl` sees too after the map has gone into
the branches. -/

theorem pre_wndTaken (p : List Hdr) (s : Tcb) (seg : Hdr) : wndTaken (pre p s) seg = pre p (wndTaken s seg) := by
  unfold wndTaken
  rw [apply_ite (pre p)]
  rfl

theorem pre_aep (p : List Hdr) (s : Tcb) (seg : Hdr) : aep (pre p s) seg = Prod.map (pre p) id (aep s seg) := by
  unfold aep
  simp only [apply_ite (Prod.map (pre p) id), Prod.map_apply, id, ← pre_wndTaken, ← pre_enqueueBuilt]
  rfl

theorem pre_ackSynSent (p : List Hdr) (s : Tcb) (seg : Hdr) :
    ackSynSent (pre p s) seg = Prod.map (pre p) id (ackSynSent s seg) := by
  unfold ackSynSent
  simp only [apply_ite (Prod.map (pre p) id), Prod.map_apply, id, ← pre_enqueueBuilt]
  rfl

theorem pre_ackExit (p : List Hdr) (st : State) (v : Tcb × ProcessSegmentResult) :
    ackExit st (Prod.map (pre p) id v) = Prod.map (pre p) id (ackExit st v) := by
  unfold ackExit
  split <;> simp only [Prod.map_apply, id, apply_ite (pre p)] <;> rfl

theorem pre_ackOut (p : List Hdr) (s : Tcb) (seg : Hdr) : ackOut (pre p s) seg = Prod.map (pre p) id (ackOut s seg) := by
  unfold ackOut
  rw [show (pre p s).state = s.state from rfl]
  split
  · rfl
  · split
    · exact pre_ackSynSent p s seg
    · rfl
    · rw [apply_ite (Prod.map (pre p) id), ← pre_ackExit, ← pre_aep, Prod.map_apply, ← pre_enqueueBuilt]
      rfl
    · rw [← pre_ackExit, ← pre_aep]

theorem pre_seqCheck (p : List Hdr) (s : Tcb) (seg : Hdr) (tl : Seq) :
    seqCheck (pre p s) seg tl = mapT (pre p) (seqCheck s seg tl) := by
  unfold seqCheck
  rw [show (pre p s).state = s.state from rfl,
    show (pre p s).isSeqOk tl seg.seq seg.ctl.syn seg.ctl.fin = s.isSeqOk tl seg.seq seg.ctl.syn seg.ctl.fin from rfl]
  split
  · rfl
  · cases s.isSeqOk tl seg.seq seg.ctl.syn seg.ctl.fin with
    | error e => rfl
    | ok b =>
      cases b with
      | true => rfl
      | false => exact pre_enqueueThen p s _ _

theorem pre_ackBlock (p : List Hdr) (s : Tcb) (seg : Hdr) :
    ackBlock (pre p s) seg = mapT (pre p) (ackBlock s seg) := by
  rw [ackBlock_eq, ackBlock_eq, pre_ackOut]
  rfl

theorem pre_rstBlock (p : List Hdr) (s : Tcb) (seg : Hdr) :
    rstBlock (pre p s) seg = mapT (pre p) (rstBlock s seg) := by
  rw [rstBlock_eq, rstBlock_eq]
  rfl

theorem pre_synBlock (p : List Hdr) (s : Tcb) (seg : Hdr) :
    synBlock (pre p s) seg = mapT (pre p) (synBlock s seg) := by
  rw [synBlock_eq, synBlock_eq]
  simp only [apply_ite (mapT (pre p)), mapT_ok, ← pre_enqueueThen]
  rfl

theorem pre_textBlock (p : List Hdr) (s : Tcb) (seg : Hdr) (text : List UInt8) (tl : Seq) :
    textBlock (pre p s) seg text tl = mapT (pre p) (textBlock s seg text tl) := by
  have hT : textTaken (pre p s) seg text tl = pre p (textTaken s seg text tl) :=
    pre_enqueueBuilt p (textBuffered s seg text tl) _
  rw [textBlock_eq, textBlock_eq, hT]
  simp only [apply_ite (mapT (pre p)), mapT_ok, mapT_error]
  rfl

theorem pre_finAdvance (p : List Hdr) (s : Tcb) (seq tl : Seq) :
    finAdvance (pre p s) seq tl = (finAdvance s seq tl).map (pre p) := by
  unfold finAdvance
  rw [show (pre p s).state = s.state from rfl, show (pre p s).rcv = s.rcv from rfl]
  split
  · dsimp only
    split
    · rw [enqueue_eq, enqueue_eq]
      exact congrArg Except.ok (pre_enqueueBuilt p (setRcvNxt s (seq + tl + 1)) _)
    · rfl
  · rfl

theorem pre_finState (p : List Hdr) (s : Tcb) : finState (pre p s) = mapT (pre p) (finState s) := by
  unfold finState
  rw [show (pre p s).state = s.state from rfl, show (pre p s).isFinAcked = s.isFinAcked from rfl]
  cases s.state with
  | FinWait1 => cases s.isFinAcked <;> rfl
  | _ => rfl

theorem pre_finBlock (p : List Hdr) (s : Tcb) (seg : Hdr) (tl : Seq) :
    finBlock (pre p s) seg tl = mapT (pre p) (finBlock s seg tl) := by
  rw [finBlock_eq, finBlock_eq, pre_finAdvance]
  split
  · rfl
  · cases finAdvance s seg.seq tl with
    | error e => rfl
    | ok u => exact pre_finState p u

theorem pre_andThen (p : List Hdr) {x y : B} {f g : Tcb → B} (hfg : ∀ u, g (pre p u) = mapT (pre p) (f u))
    (hxy : y = mapT (pre p) x) : y.andThen g = mapT (pre p) (x.andThen f) := by
  subst hxy
  cases x with
  | error e => rfl
  | ok q =>
    obtain ⟨u, r⟩ := q
    cases r with
    | some r => rfl
    | none => exact hfg u

theorem pre_finish (p : List Hdr) (x : B) : finish (mapT (pre p) x) = mapT (pre p) (finish x) := by
  cases x with
  | error e => rfl
  | ok q => obtain ⟨u, r⟩ := q; cases r <;> rfl

theorem pre_processSegment (p : List Hdr) (s : Tcb) (segment : Segment) :
    (pre p s).processSegment segment = mapT (pre p) (s.processSegment segment) := by
  rw [processSegment_eq, processSegment_eq, ← pre_finish]
  refine congrArg finish (pre_andThen p (fun u => pre_finBlock p u _ _) ?_)
  refine pre_andThen p (fun u => pre_textBlock p u _ _ _) ?_
  refine pre_andThen p (fun u => pre_synBlock p u _) ?_
  refine pre_andThen p (fun u => pre_rstBlock p u _) ?_
  exact pre_andThen p (fun u => pre_ackBlock p u _) (pre_seqCheck p s _ _)

theorem pre_drain (p : List Hdr) (fuel : Nat) (s : Tcb) :
    drain fuel (pre p s) = mapT (pre p) (drain fuel s) := by
  induction fuel generalizing s with
  | zero => rfl
  | succ n ih =>
    -- the gate reads the heap, the state and `RCV.NXT`, which `pre p` leaves alone
    rw [Elvis.Tcp.drain_succ, Elvis.Tcp.drain_succ, show (pre p s).incoming = s.incoming from rfl,
      show (pre p s).state = s.state from rfl, show (pre p s).rcv = s.rcv from rfl]
    cases LHeap.peek s.incoming.segments with
    | none => rfl
    | some top =>
      dsimp only
      split
      · rfl
      · cases LHeap.pop segLe s.incoming.segments with
        | mk o rest =>
          cases o with
          | none => rfl
          | some segment =>
            dsimp only
            rw [show setHeap (pre p s) rest = pre p (setHeap s rest) from rfl, pre_processSegment]
            cases (setHeap s rest).processSegment segment with
            | error e => rfl
            | ok q =>
              dsimp only [mapT]
              split
              · rfl
              · exact ih q.1

theorem pre_segmentArrives (p : List Hdr) (s : Tcb) (segment : Segment) :
    (pre p s).segmentArrives segment = mapT (pre p) (s.segmentArrives segment) := by
  rw [segmentArrives_eq, segmentArrives_eq, show (pre p s).state = s.state from rfl,
    show (pre p s).isSeqOk = s.isSeqOk from rfl, show (pre p s).incoming = s.incoming from rfl,
    show (pre p s).ackHdr = s.ackHdr from rfl]
  split
  · rfl
  · rw [enqueue_eq, enqueue_eq, pre_enqueueBuilt]
    rfl
  · exact pre_drain p _ (setHeap s (LHeap.push segLe s.incoming.segments segment))

theorem pre_timerRun (p : List Hdr) (s : Tcb) (dt : Nat) : timerRun (pre p s) dt = pre p (timerRun s dt) := by
  by_cases h : dt > s.timeouts.retransmission
  · rw [timerRun_expired h, timerRun_expired (s := pre p s) h]; rfl
  · rw [timerRun_running h, timerRun_running (s := pre p s) h]; rfl

theorem pre_advanceTime (p : List Hdr) (s : Tcb) (dt : Nat) :
    (pre p s).advanceTime dt = mapT (pre p) (s.advanceTime dt) := by
  rw [advanceTime_eq, advanceTime_eq, show (pre p s).timeouts = s.timeouts from rfl, pre_timerRun]
  cases s.timeouts.timeWait with
  | none => rfl
  | some tw =>
    dsimp only
    split <;> rfl

theorem pre_send (p : List Hdr) (s : Tcb) (m : List UInt8) : (pre p s).send m = pre p (s.send m) := by
  rw [send_eq, send_eq, apply_ite (pre p)]
  rfl

theorem pre_receive (p : List Hdr) (s : Tcb) :
    (pre p s).receive = (pre p s.receive.1, s.receive.2) := by
  rw [receive_eq, receive_eq, show (pre p s).state = s.state from rfl]
  split <;> rfl

theorem pre_finQueued (p : List Hdr) (s : Tcb) : finQueued (pre p s) = pre p (finQueued s) := by
  unfold finQueued
  rw [show (pre p s).finHdr = s.finHdr from rfl, pre_enqueueBuilt]
  rfl

theorem pre_close (p : List Hdr) (s : Tcb) : (pre p s).close = mapT (pre p) s.close := by
  have move : ∀ st,
      (if (pre p s).outgoing.text.isEmpty then finQueued { pre p s with state := st }
        else { pre p s with state := st }) =
      pre p (if s.outgoing.text.isEmpty then finQueued { s with state := st } else { s with state := st }) :=
    fun st => by rw [apply_ite (pre p), ← pre_finQueued]; rfl
  rw [close_eq, close_eq, move, move]
  simp only [apply_ite (mapT (pre p)), mapT_ok]
  rfl

/-- `segments()` hands the prefix to the network in front of its normal output.  The state it ends
    in is the one it would have reached without the prefix — except for ONE thing: sending anything
    at all re-arms the retransmission timer, so a non-empty prefix re-arms it even when nothing else
    was sent. -/
theorem pre_segments (p : List Hdr) (s : Tcb) (hp : p ≠ []) :
    (pre p s).segments =
      match s.segments with
      | .error e => .error e
      | .ok (s', out) =>
        .ok ({ s' with timeouts.retransmission := RTO }, (p.map fun h => (⟨h, []⟩ : Segment)) ++ out) := by
  rw [segments_eq, segments_eq, show clearOneshot (pre p s) = clearOneshot s from rfl,
    show (pre p s).finPending = s.finPending from rfl]
  cases segmentizeIfOpen (clearOneshot s) with
  | error e => rfl
  | ok u0 =>
    dsimp only
    cases finIfPending s.finPending u0 with
    | error e => rfl
    | ok u =>
      dsimp only
      obtain ⟨h0, t0, rfl⟩ := List.exists_cons_of_ne_nil hp
      rw [show (pre (h0 :: t0) s).outgoing.oneshot = h0 :: (t0 ++ s.outgoing.oneshot) from rfl]
      simp only [List.map_cons, List.cons_append, List.isEmpty_cons, List.map_append, List.append_assoc]
      -- something is sent now: the timer is re-armed, as it is on the right whatever was sent there
      congr 2
      cases List.isEmpty _ <;> rfl

end Tcb
end Elvis.Tcp
