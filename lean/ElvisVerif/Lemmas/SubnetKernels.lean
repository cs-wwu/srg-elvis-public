import ElvisVerif.Generated.SubnetKernels
import ElvisVerif.Model.IpTable
import ElvisVerif.Lemmas.Subnet
/-!
Tie between the hand-written model (`Model/Subnet.lean`, `Model/IpTable.lean`) and the kernels
that `tools/extract_subnet.py` translates mechanically from the Rust source on every check
(`Generated/SubnetKernels.lean`, all in `Except String` with every checked `u32` operation able
to fail).  Each hand definition equals the generated one — in particular the generated
`from_bitcount`, `new`, `contains`, `id`, `Obm::cmp` never take a panic branch, and `broadcast` /
`overlaps` panic exactly where the model says.  Editing one of these Rust functions changes the
generated definition and breaks the corresponding lemma here.
-/
namespace Elvis.Subnet
open Elvis.Gen.Subnet

def Mask.toGen (m : Mask) : Ipv4Mask := ⟨m.bits⟩
def Net.toGen (n : Net) : Ipv4Net := ⟨n.id, n.mask.toGen⟩

theorem gen_clamp (size : BitVec 32) :
    Elvis.Gen.Subnet.clamp size 0 32 = .ok (BitVec.ofNat 32 (min size.toNat 32)) := by
  have h0 : (0 : BitVec 32) ≤ 32 := by decide
  have h1 : ¬ size < (0 : BitVec 32) := by rw [BitVec.lt_def]; exact Nat.not_lt_zero _
  unfold Elvis.Gen.Subnet.clamp
  simp only [bind, Except.bind, pure, Except.pure, h0, h1, decide_true, decide_false, if_true,
    Bool.false_eq_true, if_false]
  by_cases h : size > (32 : BitVec 32)
  · have hn : 32 < size.toNat := h
    rw [decide_eq_true h, if_pos rfl, Nat.min_eq_right (Nat.le_of_lt hn)]
    rfl
  · have hn : size.toNat ≤ 32 := Nat.le_of_not_lt h
    rw [decide_eq_false h, if_neg Bool.false_ne_true, Nat.min_eq_left hn, BitVec.ofNat_toNat, BitVec.setWidth_eq]

theorem gen_table_from_bitcount : ∀ k : Fin 33,
    Ipv4Mask.from_bitcount (BitVec.ofNat 32 k.val) = .ok (Mask.fromBitcount k.val).toGen := by
  decide +kernel

theorem gen_from_bitcount (size : BitVec 32) :
    Ipv4Mask.from_bitcount size = .ok (Mask.fromBitcount size.toNat).toGen := by
  have hidem : Ipv4Mask.from_bitcount size =
      Ipv4Mask.from_bitcount (BitVec.ofNat 32 (min size.toNat 32)) := by
    unfold Ipv4Mask.from_bitcount
    simp only [bind, Except.bind, pure, Except.pure]
    rw [gen_clamp, gen_clamp]
    have : min (BitVec.ofNat 32 (min size.toNat 32)).toNat 32 = min size.toNat 32 := by
      rw [BitVec.toNat_ofNat]; omega
    rw [this]
  rw [hidem, fromBitcount_clamp]
  exact gen_table_from_bitcount ⟨min size.toNat 32, by omega⟩

theorem gen_to_u32 (m : Mask) : Ipv4Mask.to_u32 m.toGen = .ok m.toU32 := rfl

theorem gen_new (ip : Addr) (m : Mask) : Ipv4Net.new ip m.toGen = .ok (Net.new ip m).toGen := rfl

theorem gen_new_1 (ip : Addr) : Ipv4Net.new_1 ip = .ok (Net.new1 ip).toGen := by
  unfold Ipv4Net.new_1
  simp only [bind, Except.bind, pure, Except.pure]
  have := gen_from_bitcount 32
  have h32 : (32 : BitVec 32).toNat = 32 := rfl
  rw [h32] at this
  rw [this]
  rfl

theorem gen_id (n : Net) : Ipv4Net.id n.toGen = .ok n.id := rfl

theorem gen_mask (n : Net) : Ipv4Net.mask n.toGen = .ok n.mask.toGen := rfl

theorem gen_broadcast (n : Net) : Ipv4Net.broadcast n.toGen = n.broadcast := by
  unfold Ipv4Net.broadcast Net.broadcast
  simp only [bind, Except.bind, pure, Except.pure, Ipv4Net.id, ToU32.to_u32, Ipv4Mask.to_u32,
    U32.add, U32.to_be_bytes, Ipv4Address.new, Net.toGen, Mask.toGen]
  by_cases hc : n.id.toNat + (~~~ n.mask.bits).toNat < 2 ^ 32
  · simp only [hc, if_true]
  · simp only [hc, if_false]; rfl

theorem gen_contains (n : Net) (a : Addr) : Ipv4Net.contains n.toGen a = .ok (n.contains a) := rfl

theorem gen_overlaps (a b : Net) : Ipv4Net.overlaps a.toGen b.toGen = a.overlaps b := by
  unfold Ipv4Net.overlaps Net.overlaps
  simp only [bind, Except.bind, pure, Except.pure, gen_broadcast, gen_id]
  cases b.broadcast with
  | error e => rfl
  | ok ob =>
    dsimp only
    by_cases h : a.id ≤ ob
    · rw [decide_eq_true h, if_pos rfl, if_pos h]
    · rw [decide_eq_false h, if_neg Bool.false_ne_true, if_neg h]

end Elvis.Subnet

namespace Elvis.IpTable
open Elvis.Subnet Elvis.Gen.Subnet

theorem gen_obm_cmp (a b : Net) : Obm.cmp ⟨a.toGen⟩ ⟨b.toGen⟩ = .ok (obmCmp a b) := by
  unfold Obm.cmp obmCmp cmpU32
  simp only [bind, Except.bind, pure, Except.pure, Ipv4Net.mask, Ipv4Net.id, Cmp.cmp, Net.toGen,
    Mask.toGen, Ordering.reverse]
  by_cases h1 : a.mask.bits < b.mask.bits
  · simp only [h1, if_true]; rfl
  · by_cases h2 : a.mask.bits = b.mask.bits
    · have h3 : ¬ b.mask.bits < b.mask.bits := by rw [BitVec.lt_def]; omega
      simp only [h2, h3, if_false, if_true]
    · simp only [h1, h2, if_false]; rfl

end Elvis.IpTable
