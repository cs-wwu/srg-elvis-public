import ElvisVerif.Lemmas.TcpFullHsBatch
/-!
# One exchange phase makes the handshake progress

`recv_trace`: in an exchange phase, everything side `x` emits is delivered to its peer `y` at some intermediate state
that satisfies the invariants.  `recv_low` (a side without TCB or in SYN-SENT whose peer is in SYN-SENT / SYN-RECEIVED
gets past SYN-SENT), `recv_sr` (SYN-RECEIVED with the peer in SYN-RECEIVED becomes ESTABLISHED), `recv_sr_es`
(SYN-RECEIVED with the peer ESTABLISHED becomes ESTABLISHED, or — when the peer has nothing at all to send — the peer ends
with an ACK on its one-shot queue).
-/
namespace Elvis.Tcp.Full
open Elvis.ModCmp Elvis.Tcp.Tcb

variable {iss : SideId → Seq} {mt : SideId → U16}

/-- what the phase does with the batch of side `x` -/
structure RecvT (iss : SideId → Seq) (mt : SideId → U16) (x : SideId) (P0 s' : Sys) : Prop where
  ex : ∃ (se : Sys) (out : List Segment), PlainRun P0 se ∧ All iss mt se ∧ se.side x = P0.side x ∧
    (∀ tp, (P0.side x.peer).tcb = some tp → ∃ tp', (se.side x.peer).tcb = some tp' ∧ tp'.state = tp.state) ∧
    (∀ tx, (P0.side x).tcb = some tx → ∃ tx', tx.segments = .ok (tx', out)) ∧
    (∀ σ ∈ out, ∃ sa sb i r, PlainRun P0 sa ∧ Good iss sa ∧ sa.nth i = some σ ∧ σ.hdr.srcPort = x.port ∧
      Op.Plain sa (.deliver x.peer i) ∧
      sa.step (.deliver x.peer i) = .ok (sb, r) ∧ Good iss sb ∧ PlainRun sb s' ∧ QuietRun iss sb s')

theorem recv_trace {P0 s' : Sys} (a : All iss mt P0) (t : PhaseT iss P0 s') (x : SideId) :
    RecvT iss mt x P0 s' := by
  obtain ⟨s1, s2, s3, s4, s5, outA, outB, tA, tB, p3, g3, hh3, hl3, hp3, tr3, p4, g4, hh4, hl4, hp4, tr4, t5, t6, q3, q4⟩ := t.ex
  have r45 : PlainRun s4 s' := t5.run.trans t6.run
  cases x with
  | A =>
    refine ⟨P0, outA, .refl _, a, rfl, fun tp htp => ⟨tp, htp, rfl⟩, fun tx htx => ?_, fun σ hσ => ?_⟩
    · obtain ⟨tx', e1, _⟩ := tA.tcb tx htx
      exact ⟨tx', e1⟩
    · obtain ⟨j, hj, rfl⟩ := List.getElem_of_mem hσ
      obtain ⟨sa, sb, r, q1, ga, ea, gb, q2, ha, hla, _, qq⟩ := (tr3 j hj).ex
      have hnth : sa.nth (P0.historyLen + j) = some outA[j] := by
        rw [nth_of_hist ha hla, tB.old _ (by rw [tA.len]; omega), tA.new j hj]
      exact ⟨sa, sb, P0.historyLen + j, r, (tA.run.trans tB.run).trans q1, ga, hnth,
        (tA.ports _ (List.getElem_mem hj)).1,
        (fun τ hτ => by rw [hnth] at hτ; cases hτ; exact tA.ports _ (List.getElem_mem hj)),
        ea, gb, (q2.trans p4).trans r45, qq.trans q3⟩
  | B =>
    have a1 : All iss mt s1 := all_run a tA.run tA.good.room
    refine ⟨s1, outB, tA.run, a1, tA.peer, fun tp htp => ?_, fun tx htx => ?_, fun σ hσ => ?_⟩
    · obtain ⟨tp', e1, h1⟩ := tA.tcb tp htp
      exact ⟨tp', h1, (segments_keep tp tp' outA e1).state⟩
    · have htx1 : (s1.side .B).tcb = some tx := by
        have : s1.side .B = P0.side .B := tA.peer
        rw [this]; exact htx
      obtain ⟨tx', e1, _⟩ := tB.tcb tx htx1
      exact ⟨tx', e1⟩
    · obtain ⟨j, hj, rfl⟩ := List.getElem_of_mem hσ
      obtain ⟨sa, sb, r, q1, ga, ea, gb, q2, ha, hla, _, qq⟩ := (tr4 j hj).ex
      have hnth : sa.nth (s1.historyLen + j) = some outB[j] := by
        rw [nth_of_hist ha hla, nth_of_hist hh3 hl3, tB.new j hj]
      exact ⟨sa, sb, s1.historyLen + j, r, ((tA.run.trans tB.run).trans p3).trans q1, ga, hnth,
        (tB.ports _ (List.getElem_mem hj)).1,
        (fun τ hτ => by rw [hnth] at hτ; cases hτ; exact tB.ports _ (List.getElem_mem hj)),
        ea, gb, q2.trans r45, qq.trans q4⟩

theorem rk_to_end {sb s' : Sys} (gb : Good iss sb) (p : PlainRun sb s') (hs' : Good iss s') (y : SideId) (k : Nat)
    (h : k ≤ rk sb y) : k ≤ rk s' y := Nat.le_trans h (rk_mono_run gb p hs'.room y)

theorem recv_low {P0 s' : Sys} (a : All iss mt P0) (hm : ∀ x, SPACE_FOR_HEADERS < (mt x).toNat) (hs' : Good iss s')
    (x : SideId) (T : RecvT iss mt x P0 s') (tx : Tcb) (htx : (P0.side x).tcb = some tx)
    (hst : tx.state = .SynSent ∨ tx.state = .SynReceived)
    (hflag : ∀ tr ∈ tx.outgoing.retransmit, tr.needsTransmit = true) : 2 ≤ rk s' x.peer := by
  obtain ⟨se, out, pe, ae, hse, _, hseg, htr⟩ := T.ex
  obtain ⟨tx', es⟩ := hseg tx htx
  obtain ⟨σ, hσ, hsyn⟩ := (batch_syn ae hm x tx tx' out (by rw [hse]; exact htx) es hflag).1 hst
  obtain ⟨sa, sb, i, r, pa, ga, hn, hsrc, hpl, ea, gb, pb, _⟩ := htr σ hσ
  have aa : All iss mt sa := all_run a pa ga.room
  have hsrc' : σ.hdr.srcPort = x.peer.peer.port := by rw [SideId.peer_peer]; exact hsrc
  refine rk_to_end gb pb hs' x.peer 2 ?_
  cases hy : (sa.side x.peer).tcb with
  | none => rw [deliver_listen aa x.peer i σ hy hn hsrc' hsyn ea]; exact Nat.le_refl _
  | some t =>
    rcases (ga.tinv x.peer t hy).st.cases with h | h | h
    · exact deliver_ss aa x.peer i σ t hy h hn hsrc' hsyn ea gb
    · have : 2 ≤ rk sa x.peer := by rw [rk_some hy, h]; decide
      exact Nat.le_trans this (rk_mono_step sa ga _ hpl sb r ea gb x.peer)
    · have : 2 ≤ rk sa x.peer := by rw [rk_some hy, h]; decide
      exact Nat.le_trans this (rk_mono_step sa ga _ hpl sb r ea gb x.peer)

theorem recv_trig {P0 s' : Sys} (a : All iss mt P0) (hs' : Good iss s') (x : SideId) (out : List Segment)
    (htr : ∀ σ ∈ out, ∃ sa sb i r, PlainRun P0 sa ∧ Good iss sa ∧ sa.nth i = some σ ∧ σ.hdr.srcPort = x.port ∧
      Op.Plain sa (.deliver x.peer i) ∧
      sa.step (.deliver x.peer i) = .ok (sb, r) ∧ Good iss sb ∧ PlainRun sb s' ∧ QuietRun iss sb s')
    (σ : Segment) (hσ : σ ∈ out) (ht : Trig (iss x) σ) (h2 : 2 ≤ rk P0 x.peer) : 3 ≤ rk s' x.peer := by
  obtain ⟨sa, sb, i, r, pa, ga, hn, hsrc, hpl, ea, gb, pb, _⟩ := htr σ hσ
  have aa : All iss mt sa := all_run a pa ga.room
  have hsrc' : σ.hdr.srcPort = x.peer.peer.port := by rw [SideId.peer_peer]; exact hsrc
  refine rk_to_end gb pb hs' x.peer 3 ?_
  have h2a : 2 ≤ rk sa x.peer := Nat.le_trans h2 (rk_mono_run a.good pa ga.room x.peer)
  cases hy : (sa.side x.peer).tcb with
  | none => rw [rk_none hy] at h2a; omega
  | some t =>
    rcases (ga.tinv x.peer t hy).st.cases with h | h | h
    · rw [rk_some hy, h] at h2a
      have h1 : stRank State.SynSent = 1 := rfl
      omega
    · have := deliver_sr aa x.peer i σ t hy h hn hsrc' (by rw [SideId.peer_peer]; exact ht) ea gb
      omega
    · have : 3 ≤ rk sa x.peer := by rw [rk_some hy, h]; decide
      exact Nat.le_trans this (rk_mono_step sa ga _ hpl sb r ea gb x.peer)

theorem recv_sr {P0 s' : Sys} (a : All iss mt P0) (hm : ∀ x, SPACE_FOR_HEADERS < (mt x).toNat) (hs' : Good iss s')
    (x : SideId) (T : RecvT iss mt x P0 s') (tx : Tcb) (htx : (P0.side x).tcb = some tx)
    (hst : tx.state = .SynReceived) (hflag : ∀ tr ∈ tx.outgoing.retransmit, tr.needsTransmit = true)
    (h2 : 2 ≤ rk P0 x.peer) : 3 ≤ rk s' x.peer := by
  obtain ⟨se, out, pe, ae, hse, _, hseg, htr⟩ := T.ex
  obtain ⟨tx', es⟩ := hseg tx htx
  obtain ⟨σ, hσ, ht⟩ := (batch_syn ae hm x tx tx' out (by rw [hse]; exact htx) es hflag).2 hst
  exact recv_trig a hs' x out htr σ hσ ht h2

theorem recv_sr_es {P0 s' : Sys} (a : All iss mt P0) (hm : ∀ x, SPACE_FOR_HEADERS < (mt x).toNat) (hs' : Good iss s')
    (x : SideId) (T : RecvT iss mt x P0 s') (T' : RecvT iss mt x.peer P0 s') (tx ty : Tcb)
    (htx : (P0.side x).tcb = some tx) (hty : (P0.side x.peer).tcb = some ty)
    (hst : tx.state = .Established) (hsty : ty.state = .SynReceived)
    (hflag : ∀ tr ∈ tx.outgoing.retransmit, tr.needsTransmit = true)
    (hflagy : ∀ tr ∈ ty.outgoing.retransmit, tr.needsTransmit = true) :
    3 ≤ rk s' x.peer ∨ (tx.outgoing.oneshot = [] ∧ NE s' x) := by
  obtain ⟨se, out, pe, ae, hse, hpeer, hseg, htr⟩ := T.ex
  obtain ⟨tx', es⟩ := hseg tx htx
  have h2 : 2 ≤ rk P0 x.peer := by rw [rk_some hty, hsty]; decide
  by_cases hout : out = []
  · right
    have htxe : (se.side x).tcb = some tx := by rw [hse]; exact htx
    obtain ⟨new, fx⟩ := emitFx_of_segments ae hm x tx tx' out htxe es
    have ho : tx.outgoing.oneshot = [] := by
      have := fx.out
      rw [hout] at this
      have := (List.append_eq_nil_iff.1 this.symm).1
      exact List.map_eq_nil_iff.1 this
    refine ⟨ho, ?_⟩
    -- the peer's SYN-ACK reaches `x`
    obtain ⟨se', out', _, ae', hse', _, hseg', htr'⟩ := T'.ex
    obtain ⟨ty', es'⟩ := hseg' ty hty
    obtain ⟨σ, hσ, hsyn⟩ := (batch_syn ae' hm x.peer ty ty' out' (by rw [hse']; exact hty) es' hflagy).1 (Or.inr hsty)
    obtain ⟨sa, sb, i, r, pa, ga, hn, hsrc, hpl, ea, gb, pb, qq⟩ := htr' σ hσ
    have aa : All iss mt sa := all_run a pa ga.room
    rw [SideId.peer_peer] at ea hpl
    have h3 : 3 ≤ rk sa x := by
      have : rk P0 x = 3 := by rw [rk_some htx, hst]; rfl
      exact Nat.le_trans (by omega) (rk_mono_run a.good pa ga.room x)
    obtain ⟨t, hx, hes⟩ := est_of_rk ga h3
    exact ne_quiet qq x (deliver_es_syn aa x i σ t hx hes hn hsrc hsyn ea gb)
  · left
    obtain ⟨tp', htp', hstp'⟩ := hpeer ty hty
    obtain ⟨σ, hσ, ht⟩ := batch_trig ae hm x tx tp' tx' out (by rw [hse]; exact htx) htp' hst (by rw [hstp']; exact hsty)
      es hflag hout
    exact recv_trig a hs' x out htr σ hσ ht h2

/-- an ESTABLISHED side whose peer is in SYN-RECEIVED has something on its one-shot queue -/
def fX (t u : Tcb) : Bool :=
  t.state == .Established && u.state == .SynReceived && !t.outgoing.oneshot.isEmpty

def fB (s : Sys) : Bool :=
  match s.a.tcb, s.b.tcb with
  | some ta, some tb => fX ta tb || fX tb ta
  | _, _ => false

theorem fB_eq (s : Sys) (x : SideId) :
    fB s = match (s.side x).tcb, (s.side x.peer).tcb with
      | some t, some u => fX t u || fX u t
      | _, _ => false := by
  cases x
  · rfl
  · show fB s = match s.b.tcb, s.a.tcb with
      | some t, some u => fX t u || fX u t
      | _, _ => false
    unfold fB
    cases s.a.tcb <;> cases s.b.tcb <;> first | rfl | exact Bool.or_comm _ _

theorem fB_true {s : Sys} (x : SideId) (t u : Tcb) (ht : (s.side x).tcb = some t) (hu : (s.side x.peer).tcb = some u)
    (h1 : t.state = .Established) (h2 : u.state = .SynReceived) (h3 : t.outgoing.oneshot ≠ []) : fB s = true := by
  have hf : fX t u = true := by
    unfold fX
    rw [h1, h2]
    cases ho : t.outgoing.oneshot with
    | nil => exact absurd ho h3
    | cons a l => rfl
  rw [fB_eq s x, ht, hu]
  show (fX t u || fX u t) = true
  rw [hf]
  rfl

theorem fB_false {s : Sys} (x : SideId) (t u : Tcb) (ht : (s.side x).tcb = some t) (hu : (s.side x.peer).tcb = some u)
    (h2 : u.state = .SynReceived) (h3 : t.outgoing.oneshot = []) : fB s = false := by
  have hf : fX t u = false := by unfold fX; rw [h3]; simp
  have hf' : fX u t = false := by unfold fX; rw [h2]; simp
  rw [fB_eq s x, ht, hu]
  show (fX t u || fX u t) = false
  rw [hf, hf']
  rfl

def meas (s : Sys) : Nat := 2 * (6 - (rk s .A + rk s .B)) + (if fB s then 0 else 1)

theorem meas_bounds (s : Sys) :
    2 * (6 - (rk s .A + rk s .B)) ≤ meas s ∧ meas s ≤ 2 * (6 - (rk s .A + rk s .B)) + 1 := by
  unfold meas
  split <;> omega

theorem es_peer_not_ss {s : Sys} (a : All iss mt s) (x : SideId) (t u : Tcb) (ht : (s.side x).tcb = some t)
    (hu : (s.side x.peer).tcb = some u) (hst : t.state = .Established) : u.state ≠ .SynSent := by
  intro hs
  have hA := ackLink_tcbs a.good ht hu
  have h1 := hA.una t u rfl rfl
  rw [top_of_synSent hs, a.good.iss_eq x t ht] at h1
  have := a.u x t ht hst
  omega

theorem phase_progress {P0 s' : Sys} (a : All iss mt P0) (hm : ∀ x, SPACE_FOR_HEADERS < (mt x).toNat) (hs' : Good iss s')
    (T : PhaseT iss P0 s') (pr : PlainRun P0 s')
    (hflag : ∀ z t, (P0.side z).tcb = some t → ∀ tr ∈ t.outgoing.retransmit, tr.needsTransmit = true)
    (hne : ¬ (rk P0 .A = 3 ∧ rk P0 .B = 3)) :
    rk P0 .A + rk P0 .B < rk s' .A + rk s' .B ∨ (fB P0 = false ∧ fB s' = true) := by
  have hg := a.good
  have monoA := rk_mono_run hg pr hs'.room .A
  have monoB := rk_mono_run hg pr hs'.room .B
  have TA := recv_trace a T .A
  have TB := recv_trace a T .B
  -- A always has a TCB
  obtain ⟨ta, hta⟩ : ∃ ta, (P0.side .A).tcb = some ta := by
    rcases hg.conv.nr.alive .A with h | h
    · exact Option.isSome_iff_exists.1 h
    · have : P0.a.listen.isSome = true := h
      rw [hg.conv.full.inv.noListenA] at this; cases this
  have h3a := (hg.tinv .A ta hta).st
  have gain : ∀ y : SideId, rk P0 y < rk s' y → rk P0 .A + rk P0 .B < rk s' .A + rk s' .B := by
    intro y hy
    cases y <;> omega
  have up : ∀ (y : SideId) (k : Nat), rk P0 y ≤ k → k + 1 ≤ rk s' y →
      rk P0 .A + rk P0 .B < rk s' .A + rk s' .B ∨ (fB P0 = false ∧ fB s' = true) :=
    fun y k h1 h2 => Or.inl (gain y (Nat.lt_of_le_of_lt h1 h2))
  have es_sr : ∀ (x : SideId) (t u : Tcb), (P0.side x).tcb = some t → (P0.side x.peer).tcb = some u →
      t.state = .Established → u.state = .SynReceived →
      rk P0 .A + rk P0 .B < rk s' .A + rk s' .B ∨ (fB P0 = false ∧ fB s' = true) := by
    intro x t u ht hu sx su
    have h2 : rk P0 x.peer = 2 := by rw [rk_some hu, su]; rfl
    have monoP := rk_mono_run hg pr hs'.room x.peer
    rcases recv_sr_es a hm hs' x (recv_trace a T x) (recv_trace a T x.peer) t u ht hu sx su (hflag x t ht)
      (hflag x.peer u hu) with h | ⟨ho, t', ht', hne1⟩
    · exact Or.inl (gain x.peer (by omega))
    · by_cases h3 : 3 ≤ rk s' x.peer
      · exact Or.inl (gain x.peer (by omega))
      · right
        refine ⟨fB_false x t u ht hu su ho, ?_⟩
        have hx3 : rk s' x = 3 := by
          have : rk P0 x = 3 := by rw [rk_some ht, sx]; rfl
          have := rk_le3 s' x
          have := rk_mono_run hg pr hs'.room x
          omega
        have hp2 : rk s' x.peer = 2 := by omega
        cases hu' : (s'.side x.peer).tcb with
        | none => rw [rk_none hu'] at hp2; omega
        | some u' =>
          exact fB_true x t' u' ht' hu' (((state_of_rk hs' ht').2.2).1 hx3) (((state_of_rk hs' hu').2.1).1 hp2) hne1
  cases htb : (P0.side .B).tcb with
  | none =>
    -- B only listens: A is in SYN-SENT
    have hlis : (P0.side .B).listen.isSome = true := by
      rcases hg.conv.nr.alive .B with h | h
      · rw [htb] at h; cases h
      · exact h
    have hss := ((hg.conv.full.inv.link .B).fresh htb hlis).2 ta hta
    exact up .B 1 (by rw [rk_none htb]; decide) (recv_low a hm hs' .A TA ta hta (Or.inl hss.1) (hflag .A ta hta))
  | some tb =>
    have h3b := (hg.tinv .B tb htb).st
    rcases h3a.cases with sa | sa | sa
    · -- A in SYN-SENT: B is not ESTABLISHED
      have hb : tb.state = .SynSent ∨ tb.state = .SynReceived := by
        rcases h3b.cases with h | h | h
        · exact Or.inl h
        · exact Or.inr h
        · exact absurd sa (es_peer_not_ss a .B tb ta htb hta h)
      exact up .A 1 (by rw [rk_some hta, sa]; decide) (recv_low a hm hs' .B TB tb htb hb (hflag .B tb htb))
    · rcases h3b.cases with sb | sb | sb
      · -- B in SYN-SENT, A in SYN-RECEIVED
        exact up .B 1 (by rw [rk_some htb, sb]; decide) (recv_low a hm hs' .A TA ta hta (Or.inr sa) (hflag .A ta hta))
      · -- both in SYN-RECEIVED
        have h2 : rk P0 .B = 2 := by rw [rk_some htb, sb]; rfl
        exact up .B 2 (Nat.le_of_eq h2) (recv_sr a hm hs' .A TA ta hta sa (hflag .A ta hta) (Nat.le_of_eq h2.symm))
      · exact es_sr .B tb ta htb hta sb sa
    · rcases h3b.cases with sb | sb | sb
      · exact absurd sb (es_peer_not_ss a .A ta tb hta htb sa)
      · exact es_sr .A ta tb hta htb sa sb
      · exfalso
        apply hne
        exact ⟨by rw [rk_some hta, sa]; rfl, by rw [rk_some htb, sb]; rfl⟩

theorem fX_congr {t t1 u u1 : Tcb} (h1 : t1.state = t.state) (h2 : t1.outgoing.oneshot = t.outgoing.oneshot)
    (h3 : u1.state = u.state) : fX t1 u1 = fX t u := by
  unfold fX; rw [h1, h2, h3]

theorem tick_meas {x : SideId} {s s1 : Sys} (T : TickT iss x s s1) :
    fB s1 = fB s ∧ ∀ z, rk s1 z = rk s z := by
  cases ht : (s.side x).tcb with
  | none =>
    rw [T.none ht]
    exact ⟨rfl, fun _ => rfl⟩
  | some t =>
    obtain ⟨t1, ht1, k⟩ := T.tcb t ht
    have hp := T.peer
    refine ⟨?_, x.both (by rw [rk_some ht1, rk_some ht, k.st]) (rk_congr hp)⟩
    rw [fB_eq s1 x, fB_eq s x, ht1, ht, hp]
    cases (s.side x.peer).tcb with
    | none => rfl
    | some u =>
      dsimp only
      rw [fX_congr k.st k.one rfl, fX_congr (t := u) (t1 := u) rfl rfl k.st]

theorem TickT.flagged {x : SideId} {s s1 : Sys} (T : TickT iss x s s1) (t : Tcb) (h : (s1.side x).tcb = some t) :
    ∀ tr ∈ t.outgoing.retransmit, tr.needsTransmit = true := by
  cases h0 : (s.side x).tcb with
  | none =>
    rw [T.none h0, h0] at h
    cases h
  | some t0 =>
    obtain ⟨t1, h1, k⟩ := T.tcb t0 h0
    rw [h1] at h
    cases h
    exact k.all

theorem fair1_progress (s : Sys) (a : All iss mt s) (hm : ∀ x, SPACE_FOR_HEADERS < (mt x).toNat) :
    ∃ s', fairRound 1 s = .ok s' ∧ PlainRun s s' ∧ All iss mt s' ∧ (∀ y, (s'.side y).submitted = (s.side y).submitted) ∧
      ((rk s .A = 3 ∧ rk s .B = 3) ∨ meas s' < meas s) := by
  obtain ⟨s1, r1, e1, t1⟩ := tick_any s a.good a.f .A
  have a1 : All iss mt s1 := all_run a t1.run t1.good.room
  obtain ⟨s2, r2, e2, t2⟩ := tick_any s1 a1.good a1.f .B
  have a2 : All iss mt s2 := all_run a1 t2.run t2.good.room
  obtain ⟨s', e3, p3, g3, sub3, T⟩ := phase_any s2 a2.good
  have pr := (t1.run.trans t2.run).trans p3
  have a' : All iss mt s' := all_run a pr g3.room
  refine ⟨s', fairRound_of e1 e2 (by simp only [phases, e3]), pr, a', fun y => by rw [sub3, t2.sub, t1.sub], ?_⟩
  by_cases hne : rk s .A = 3 ∧ rk s .B = 3
  · exact Or.inl hne
  · right
    obtain ⟨f1, k1⟩ := tick_meas t1
    obtain ⟨f2, k2⟩ := tick_meas t2
    have hne2 : ¬ (rk s2 .A = 3 ∧ rk s2 .B = 3) := by rw [k2, k2, k1, k1]; exact hne
    -- after the ticks every queue entry is flagged
    have hflag : ∀ z t, (s2.side z).tcb = some t → ∀ tr ∈ t.outgoing.retransmit, tr.needsTransmit = true := by
      intro z t hz
      cases z with
      | A =>
        have hpa : s2.side .A = s1.side .A := t2.peer
        rw [hpa] at hz
        exact t1.flagged t hz
      | B => exact t2.flagged t hz
    have hA := rk_le3 s' .A
    have hB := rk_le3 s' .B
    have mA := rk_mono_run a2.good p3 g3.room .A
    have mB := rk_mono_run a2.good p3 g3.room .B
    have hm2 : meas s2 = meas s := by unfold meas; rw [f2, f1, k2, k2, k1, k1]
    rw [← hm2]
    rcases phase_progress a2 hm g3 T p3 hflag hne2 with h | ⟨h1, h2⟩
    · have b := (meas_bounds s').2
      have b2 := (meas_bounds s2).1
      omega
    · unfold meas
      rw [h1, h2]
      simp only [if_true, Bool.false_eq_true, if_false]
      omega

theorem handshake_rounds (hm : ∀ x, SPACE_FOR_HEADERS < (mt x).toNat) (n : Nat) : ∀ (s : Sys), All iss mt s → meas s ≤ n →
    ∃ (rounds : List Nat) (s1 : Sys), rounds.foldlM (fun st k => fairRound k st) s = .ok s1 ∧ PlainRun s s1 ∧
      All iss mt s1 ∧ rk s1 .A = 3 ∧ rk s1 .B = 3 ∧ (∀ y, (s1.side y).submitted = (s.side y).submitted) ∧
      rounds.length ≤ n ∧ (∀ k ∈ rounds, k = 1) := by
  induction n with
  | zero =>
    intro s a hn
    have hA := rk_le3 s .A
    have hB := rk_le3 s .B
    have : rk s .A = 3 ∧ rk s .B = 3 := by
      have := (meas_bounds s).1
      omega
    exact ⟨[], s, rfl, .refl _, a, this.1, this.2, fun _ => rfl, Nat.le_refl _, fun k hk => by cases hk⟩
  | succ n ih =>
    intro s a hn
    obtain ⟨s', e1, p1, a', sub1, hpr⟩ := fair1_progress s a hm
    rcases hpr with ⟨h1, h2⟩ | hlt
    · exact ⟨[], s, rfl, .refl _, a, h1, h2, fun _ => rfl, Nat.zero_le _, fun k hk => by cases hk⟩
    · obtain ⟨rounds, s1, e2, p2, a1, h1, h2, sub2, hl, hone⟩ := ih s' a' (by omega)
      refine ⟨1 :: rounds, s1, ?_, p1.trans p2, a1, h1, h2, fun y => (sub2 y).trans (sub1 y), by simp; omega,
        fun k hk => ?_⟩
      rotate_left
      · rcases List.mem_cons.1 hk with rfl | hk
        · rfl
        · exact hone k hk
      simp only [List.foldlM, e1, bind, Except.bind]
      exact e2

theorem est_converges (s : Sys) (a : All iss mt s) (hm : ∀ x, SPACE_FOR_HEADERS < (mt x).toNat) (n : Nat)
    (hA : EstX s .A (65535 * n)) (hB : EstX s .B (65535 * n)) :
    ∃ s1 s' ta' tb', fairRound 1 s = .ok s1 ∧ fairRound (2 * n + 2) s1 = .ok s' ∧ PlainRun s s' ∧ Good iss s' ∧
      Done s' ta' tb' ∧ ∀ y, (s'.side y).submitted = (s.side y).submitted := by
  obtain ⟨s1, ta1, tb1, e1, p1, g1, hc1, la, lb, sub1⟩ := cleanup_round s a.good a.f a.u hm _ _ hA hB
  have f1 := finv_run a.good.conv a.good.ext a.f p1 g1.room
  obtain ⟨s', ta', tb', e2, p2, g2, hd⟩ := fairRound_rough n s1 ta1 tb1 g1 f1 hc1 la lb
  exact ⟨s1, s', ta', tb', e1, e2, p1.trans p2, g2, hd, fun y => (fairRound_submitted e2 y).trans (sub1 y)⟩

theorem foldlM_fairRound_append (r1 r2 : List Nat) (s s1 : Sys)
    (h1 : r1.foldlM (fun st k => fairRound k st) s = .ok s1) :
    (r1 ++ r2).foldlM (fun st k => fairRound k st) s = r2.foldlM (fun st k => fairRound k st) s1 := by
  rw [List.foldlM_append, h1]
  rfl

theorem converges (s : Sys) (a : All iss mt s) (hm : ∀ x, SPACE_FOR_HEADERS < (mt x).toNat) (n : Nat)
    (hn : ∀ x, (s.side x).submitted.length ≤ 65535 * n) :
    ∃ (hs : List Nat) (s' : Sys) (ta' tb' : Tcb),
      (hs ++ [1, 2 * n + 2]).foldlM (fun st k => fairRound k st) s = .ok s' ∧ PlainRun s s' ∧ Good iss s' ∧
      Done s' ta' tb' ∧ (∀ y, (s'.side y).submitted = (s.side y).submitted) ∧ hs.length ≤ meas s ∧ ∀ k ∈ hs, k = 1 := by
  obtain ⟨hs, s1, hfold, p1, a1, h1, h2, sub1, hl, hone⟩ := handshake_rounds hm (meas s) s a (Nat.le_refl _)
  -- both sides are ESTABLISHED, and unsent text is part of what was submitted
  have est : ∀ x, rk s1 x = 3 → EstX s1 x (65535 * n) := by
    intro x hx
    obtain ⟨t, ht, hst⟩ := est_of_rk a1.good (Nat.le_of_eq hx.symm)
    refine ⟨t, ht, hst, Nat.le_trans ?_ (hn x)⟩
    obtain ⟨pre, hsub, _⟩ := (a1.good.tinv x t ht).out
    rw [← sub1 x, hsub, List.length_append]
    omega
  obtain ⟨s2, s', ta', tb', e1, e2, p2, g', hd, sub2⟩ := est_converges s1 a1 hm n (est .A h1) (est .B h2)
  refine ⟨hs, s', ta', tb', ?_, p1.trans p2, g', hd, fun y => (sub2 y).trans (sub1 y), hl, hone⟩
  rw [foldlM_fairRound_append _ _ _ _ hfold]
  simp only [List.foldlM, e1, e2, bind, Except.bind, pure, Except.pure]

end Elvis.Tcp.Full
