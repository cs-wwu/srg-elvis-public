/-! Lists read by position (`l[i]?`): what `set`, `++` and `eraseIdx` do to the positions, and
`List.Grows R` (every position persists, up to `R`).  Shared by the state-machine invariants that
store per-index state. -/

theorem List.lt_length_of_getElem? {α : Type} {l : List α} {i : Nat} {x : α} (h : l[i]? = some x) :
    i < l.length :=
  (List.getElem?_eq_some_iff.1 h).1

def List.Grows {α : Type} (R : α → α → Prop) (l l' : List α) : Prop :=
  ∀ (i : Nat) (x : α), l[i]? = some x → ∃ x', l'[i]? = some x' ∧ R x x'

theorem List.Grows.refl {α : Type} {R : α → α → Prop} (hR : ∀ x, R x x) (l : List α) : List.Grows R l l :=
  fun _ x h => ⟨x, h, hR x⟩

theorem List.Grows.trans {α : Type} {R : α → α → Prop} (hR : ∀ {x y z}, R x y → R y z → R x z) {a b c : List α}
    (h1 : List.Grows R a b) (h2 : List.Grows R b c) : List.Grows R a c := fun i x h => by
  obtain ⟨y, hy, r1⟩ := h1 i x h
  obtain ⟨z, hz, r2⟩ := h2 i y hy
  exact ⟨z, hz, hR r1 r2⟩

theorem List.Grows.set {α : Type} {R : α → α → Prop} (hR : ∀ x, R x x) {l : List α} {k : Nat} {m m' : α}
    (h : l[k]? = some m) (hr : R m m') : List.Grows R l (l.set k m') := fun j o ho => by
  by_cases hj : k = j
  · subst hj
    rw [h] at ho; cases ho
    exact ⟨m', List.getElem?_set_self (List.lt_length_of_getElem? h), hr⟩
  · exact ⟨o, by rw [List.getElem?_set_ne hj]; exact ho, hR o⟩

theorem List.Grows.append {α : Type} {R : α → α → Prop} (hR : ∀ x, R x x) (l l' : List α) :
    List.Grows R l (l ++ l') := fun _ x h =>
  ⟨x, by rw [List.getElem?_append_left (List.lt_length_of_getElem? h)]; exact h, hR x⟩

theorem List.getElem?_set_cases {α : Type} {l : List α} {i j : Nat} {x y : α}
    (h : (l.set i x)[j]? = some y) : (j = i ∧ y = x) ∨ (j ≠ i ∧ l[j]? = some y) := by
  by_cases hij : j = i
  · subst hij
    rw [List.getElem?_set_self'] at h
    cases hl : l[j]? <;> rw [hl] at h <;> cases h
    exact .inl ⟨rfl, rfl⟩
  · exact .inr ⟨hij, by rwa [List.getElem?_set_ne (Ne.symm hij)] at h⟩

/-- in a list pairwise related by a symmetric relation every member is related to all the others:
    the net given back to those still held, a delivered Release to those in flight, a lease to any
    other lease -/
theorem List.pairwise_rel_others {α : Type} {R : α → α → Prop} (hsym : ∀ a b, R a b → R b a)
    {l l' : List α} {x : α} (hp : l.Pairwise R) (h : l.Perm (x :: l')) : ∀ y ∈ l', R x y :=
  (List.pairwise_cons.1 ((List.Perm.pairwise_iff (hsym _ _) h).1 hp)).1

theorem List.perm_cons_eraseIdx {α : Type} {l : List α} {i : Nat} {x : α} (h : l[i]? = some x) :
    l.Perm (x :: l.eraseIdx i) := by
  obtain ⟨hi, rfl⟩ := List.getElem?_eq_some_iff.1 h
  rw [List.eraseIdx_eq_take_drop_succ]
  conv => lhs; rw [← List.take_append_drop i l, ← List.getElem_cons_drop hi]
  exact List.perm_middle

theorem List.getElem?_set_self_of_some {α : Type} {l : List α} {i : Nat} {x y : α} (h : l[i]? = some y) :
    (l.set i x)[i]? = some x :=
  List.getElem?_set_self (List.getElem?_eq_some_iff.1 h).1
