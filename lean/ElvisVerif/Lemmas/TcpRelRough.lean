import ElvisVerif.Lemmas.TcpRelLoss
import ElvisVerif.Lemmas.TcpFullInv
/-!
# `close()` after loss from ROUGH states of a system satisfying `FInv`: parked segments in the peer's reorder heap

`close_roughL` (`Lemmas/TcpRelLoss.lean`) with the `HeapFit` of B's reorder heap taken from `FInv`, in the two cases text
queued / nothing unsent, each followed by `releaseTail`.
-/
namespace Elvis.Tcp
open Tcb Elvis.ModCmp Elvis.Tcp.Fin Elvis.Tcp.Full

section
variable {iss : SideId → Seq} {mt : SideId → U16}

theorem close_after_loss_rough (n : Nat) (s : Sys) (hg : Good iss s) (hf : FInv iss mt s) (ta tb : Tcb) (hc : Rough s ta tb)
    (hheapA : ta.incoming.segments = [])
    (hub : tb.snd.una = tb.snd.nxt) (tbt : tb.outgoing.text = [])
    (hne : ta.outgoing.text ≠ []) (hlen : ta.outgoing.text.length ≤ 65535 * n) :
    ∃ s1 ta1 tb1 s2, closeLossFrontN n s = .ok s1 ∧ FinRun s s1 ∧
      (s1.side .A).tcb = some ta1 ∧ (s1.side .B).tcb = some tb1 ∧
      ta1.state = .FinWait2 ∧ tb1.state = .CloseWait ∧ RestX .A ta1 tb1 ∧ RestX .B tb1 ta1 ∧
      (s1.side .A).submitted = (s.side .A).submitted ∧ (s1.side .B).submitted = (s.side .B).submitted ∧
      (s1.side .A).delivered = (s.side .A).delivered ∧
      closeLossRoundN n s = .ok s2 ∧ releaseTail s1 = .ok s2 ∧ FinRun s1 s2 ∧
      (s2.side .A).tcb = none ∧ (s2.side .B).tcb = none ∧
      (s2.side .A).submitted = (s.side .A).submitted ∧ (s2.side .B).submitted = (s.side .B).submitted ∧
      (s2.side .A).delivered = (s.side .A).delivered ∧ (s2.side .B).delivered = (s1.side .B).delivered :=
  Front.tuple (close_roughL n s hg ta tb hc (hf.heapFit .B tb ta hc.hb hc.ha) hheapA hub tbt hlen)
    (closeLossRoundN_eq n s)

theorem close_inflight_rough (n : Nat) (s : Sys) (hg : Good iss s) (hf : FInv iss mt s) (ta tb : Tcb) (hc : Rough s ta tb)
    (hheapA : ta.incoming.segments = [])
    (hub : tb.snd.una = tb.snd.nxt) (tbt : tb.outgoing.text = []) (hnt : ta.outgoing.text = []) :
    ∃ s1 ta1 tb1 s2, closeLossFrontN n s = .ok s1 ∧ FinRun s s1 ∧
      (s1.side .A).tcb = some ta1 ∧ (s1.side .B).tcb = some tb1 ∧
      ta1.state = .FinWait2 ∧ tb1.state = .CloseWait ∧ RestX .A ta1 tb1 ∧ RestX .B tb1 ta1 ∧
      (s1.side .A).submitted = (s.side .A).submitted ∧ (s1.side .B).submitted = (s.side .B).submitted ∧
      (s1.side .A).delivered = (s.side .A).delivered ∧
      closeLossRoundN n s = .ok s2 ∧ releaseTail s1 = .ok s2 ∧ FinRun s1 s2 ∧
      (s2.side .A).tcb = none ∧ (s2.side .B).tcb = none ∧
      (s2.side .A).submitted = (s.side .A).submitted ∧ (s2.side .B).submitted = (s.side .B).submitted ∧
      (s2.side .A).delivered = (s.side .A).delivered ∧ (s2.side .B).delivered = (s1.side .B).delivered :=
  Front.tuple (close_roughL n s hg ta tb hc (hf.heapFit .B tb ta hc.hb hc.ha) hheapA hub tbt (by rw [hnt]; exact Nat.zero_le _))
    (closeLossRoundN_eq n s)

end
end Elvis.Tcp
