import ElvisVerif.Lemmas.TcpRelTail
import ElvisVerif.Lemmas.TcpRelAcks
import ElvisVerif.Lemmas.TcpRelEmit
import ElvisVerif.Lemmas.TcpConvRound
/-!
# `close()` with unsent text still queued: the schedules, and what a steady stream has delivered

`closeDataFront` / `closeDataRound`: `close A` while A still holds unsent text, two exchange phases (the text with the FIN
behind its last byte; B's ACKs), then `releaseTail`.  What they do is proved in `Lemmas/TcpRelData2.lean`
(`close_data_front`: the one-window case, by `CloseStart.finalText`).
-/
namespace Elvis.Tcp
open Tcb Elvis.ModCmp Elvis.Tcp.Fin

def closeDataFront (s : Sys) : Except String Sys :=
  match s.step (.close .A) with
  | .error e => .error e
  | .ok (s1, _) =>
  match phase s1 with
  | .error e => .error e
  | .ok s2 => phase s2

section
variable {iss : SideId → Seq}

theorem steady_stream {s : Sys} (hg : Good iss s) (x : SideId) (t u : Tcb) (ht : (s.side x).tcb = some t)
    (hu : (s.side x.peer).tcb = some u) (S : SteadyX t u) (S' : SteadyX u t) (htext : t.outgoing.text = []) :
    (s.side x.peer).delivered = (s.side x).submitted :=
  stream_delivered hg x t u ht hu S.sync (by rw [S'.st]; simp) S'.buf htext

def closeDataRound (s : Sys) : Except String Sys :=
  match closeDataFront s with
  | .error e => .error e
  | .ok s1 => releaseTail s1

end
end Elvis.Tcp
