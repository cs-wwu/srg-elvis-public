import ElvisVerif.Model.ModCmp
import ElvisVerif.Generated.ModCmpKernels
/-!
# `Model/ModCmp` = the kernels extracted from `modular_cmp.rs`, and offset-form characterisations

Proof discipline (DESIGN.md section 4): one characterisation lemma per circular predicate in
*offset form*; larger arithmetic goals never unfold a circular predicate.
-/
namespace Elvis.ModCmp

def Cmp.toGen : Cmp → Elvis.Gen.ModCmp.Cmp
  | .Lt => .Lt
  | .Leq => .Leq

theorem shift_literal : ((1 : BitVec 32) <<< (31 : BitVec 32)) = 2147483648#32 := by decide

theorem offset_eq_generated (c : Cmp) : c.offset = Elvis.Gen.ModCmp.Cmp.offset c.toGen := by
  cases c <;> rfl

theorem modLt_eq_generated (a b : BitVec 32) : modLt a b = Elvis.Gen.ModCmp.mod_lt a b := by
  unfold modLt Elvis.Gen.ModCmp.mod_lt
  rw [shift_literal]

theorem modLeq_eq_generated (a b : BitVec 32) : modLeq a b = Elvis.Gen.ModCmp.mod_leq a b := by
  unfold modLeq Elvis.Gen.ModCmp.mod_leq
  rw [modLt_eq_generated]

theorem modGt_eq_generated (a b : BitVec 32) : modGt a b = Elvis.Gen.ModCmp.mod_gt a b := by
  unfold modGt Elvis.Gen.ModCmp.mod_gt
  rw [modLt_eq_generated]

theorem modGeq_eq_generated (a b : BitVec 32) : modGeq a b = Elvis.Gen.ModCmp.mod_geq a b := by
  unfold modGeq Elvis.Gen.ModCmp.mod_geq
  rw [modGt_eq_generated]

theorem modBounded_eq_generated (a : BitVec 32) (ab : Cmp) (b : BitVec 32) (bc : Cmp) (c : BitVec 32) :
    modBounded a ab b bc c = Elvis.Gen.ModCmp.mod_bounded a ab.toGen b bc.toGen c := by
  unfold modBounded cyc Elvis.Gen.ModCmp.mod_bounded
  simp only [offset_eq_generated]

theorem modLt_iff (a b : BitVec 32) :
    modLt a b = true ↔ 0 < (b - a).toNat ∧ (b - a).toNat < 2147483648 := by
  unfold modLt
  simp only [decide_eq_true_eq, gt_iff_lt, BitVec.lt_def, BitVec.toNat_sub, BitVec.toNat_ofNat]
  have ha := a.isLt; have hb := b.isLt
  omega

theorem modLt_self (a : BitVec 32) : modLt a a = false := by
  unfold modLt; simp

theorem modGt_self (a : BitVec 32) : modGt a a = false := modLt_self a

theorem modGt_succ (a : BitVec 32) : modGt (a + 1) a = true := by
  unfold modGt
  rw [modLt_iff]
  have e : a + 1 - a = 1#32 := by rw [BitVec.add_comm, BitVec.add_sub_cancel]; rfl
  rw [e]; decide

theorem modLeq_self (a : BitVec 32) : modLeq a a = true := by
  unfold modLeq; simp

theorem cyc_iff (a b c : BitVec 32) :
    cyc a b c = true ↔ 0 < (b - a).toNat ∧ (b - a).toNat < (c - a).toNat := by
  unfold cyc
  simp only [Bool.or_eq_true, Bool.and_eq_true, decide_eq_true_eq, gt_iff_lt]
  simp only [BitVec.lt_def, BitVec.toNat_sub]
  have ha := a.isLt; have hb := b.isLt; have hc := c.isLt
  omega

end Elvis.ModCmp
