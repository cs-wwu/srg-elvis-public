import ElvisVerif.Lemmas.TcpRelData
import ElvisVerif.Lemmas.TcpRelTwin
/-!
# `close()` with ANY amount of unsent text queued (quiet peer): the closer keeps segmentizing in FIN-WAIT-1

The closed system `c` runs alongside its close-free twin `s` (`Twin`): same TCBs except that A's is in FIN-WAIT-1.
* `phase_twin`: while the window does not let through all of A's unsent text, one exchange phase does to `c` exactly what it
  does to `s` (the closer cuts what the window admits, `Tcb.segments_twin_more`; B's ACKs of the previous window are
  processed as in ESTABLISHED, `Tcb.ackList_twin`); `s` stays `Good` and steady, so the argument repeats.
* `phase_final`: once the window admits all the remaining text, two phases: the text and the FIN behind it, B's ACKs;
  A is in FIN-WAIT-2 and B in CLOSE-WAIT, both at rest (`Front`, `Lemmas/TcpRelTail.lean`).  The argument is `final_core`,
  which leaves open how B takes A's batch (`CloseStart.takes`) and which TCB the closer has.
* `CloseStart`: what the two arguments need of the state in which a phase starts — each side takes the other's batch
  (`Takes`, `Lemmas/TcpConvExchange.lean`) and the peer is idle; `CloseStart.twin` and `final_core` are proved over it,
  steady states are an instance (`Steady.start`), rough states after loss another (`Lemmas/TcpRelLoss.lean`).
* `Steady.front`: at most `2n − 1` phases of the first kind when `|unsent| ≤ 65535·n`, then the last two; `close_steady`:
  `close A` followed by it, or by the last two phases alone when nothing is unsent; `close_data_any` and `close_data_none`
  are its two cases, each followed by `releaseTail`.
-/
namespace Elvis.Tcp
open Tcb Elvis.ModCmp Elvis.Tcp.Fin

/-- `c` is `s` with A's TCB in FIN-WAIT-1 -/
structure Twin (c s : Sys) (ta tb : Tcb) : Prop where
  ca : (c.side .A).tcb = some (fw ta)
  cb : (c.side .B).tcb = some tb
  sa : (c.side .A).submitted = (s.side .A).submitted
  sb : (c.side .B).submitted = (s.side .B).submitted
  da : (c.side .A).delivered = (s.side .A).delivered
  db : (c.side .B).delivered = (s.side .B).delivered

/-- the peer B has nothing unsent (what it has sent has been received — `Steady` — but need not be acknowledged yet) -/
structure IdleB (ta tb : Tcb) : Prop where
  tbt : tb.outgoing.text = []

theorem Twin.view {c s : Sys} {ta tb : Tcb} (tw : Twin c s ta tb) :
    View .A c ⟨some (fw ta), some tb, (s.side .A).submitted, (s.side .B).submitted, (s.side .A).delivered,
      (s.side .B).delivered, c.historyLen⟩ :=
  ⟨tw.ca, tw.cb, tw.sa, tw.sb, tw.da, tw.db, rfl⟩

section
variable {iss : SideId → Seq}

theorem idle_out {s : Sys} (hg : Good iss s) (ta tb tb1 : Tcb) (newB : List Transmit) (outB : List Segment)
    (hsb : (s.side .B).tcb = some tb) (S : SteadyX tb ta) (tbt : tb.outgoing.text = [])
    (fB : EmitFx tb newB tb1 outB) :
    emitAmount tb = 0 ∧ newB = [] ∧ outB = tb.outgoing.oneshot.map (fun h => (⟨h, []⟩ : Segment)) ∧
      tb1.snd.nxt = tb.snd.nxt := by
  have hamtB := emitAmount_notext tbt
  have hnewB := fB.new_nil hamtB
  exact ⟨hamtB, hnewB, by rw [S.out fB, hnewB]; simp, by rw [fB.nxt, hamtB]; simp⟩

theorem sync_of_acked {s : Sys} (hg : Good iss s) (ta tb : Tcb) (hsa : (s.side .A).tcb = some ta)
    (hsb : (s.side .B).tcb = some tb) (sta : ta.state = .Established) (hub : tb.snd.una = tb.snd.nxt) :
    ta.rcv.nxt = tb.snd.nxt := by
  have sq := squeeze_facts hg .B tb ta hsb hsa sta
  apply off_inj (base := iss .B)
  have := hg.sent_eq .B tb hsb
  rw [hub] at sq
  omega

/-- what a close by A against an idle peer needs of the state in which an exchange phase starts: B emits its waiting pure
    ACKs only, each side takes the other's batch (`takes`), and B ends fully acknowledged (`unaB`).  The closer's phases are
    proved over it once (`CloseStart.twin`, `final_core`); steady states (`Steady.start`) and rough states after the ticks
    (`Full.Rough.start`, `Lemmas/TcpRelLoss.lean`) are its instances. -/
structure CloseStart (iss : SideId → Seq) (s : Sys) (ta tb : Tcb) (P : Tcb → Tcb → Prop) : Prop where
  ha : (s.side .A).tcb = some ta
  hb : (s.side .B).tcb = some tb
  sta : ta.state = .Established
  stb : tb.state = .Established
  ma : SPACE_FOR_HEADERS < ta.mtu.toNat
  mb : SPACE_FOR_HEADERS < tb.mtu.toNat
  heap : ta.incoming.segments = []
  buf : ta.incoming.text = []
  sync : ta.rcv.nxt = tb.snd.nxt
  tbt : tb.outgoing.text = []
  outB : ∀ newB tb1 outB, EmitFx tb newB tb1 outB → outB = tb.outgoing.oneshot.map (fun h => (⟨h, []⟩ : Segment))
  takes : Takes iss ta tb P
  unaB : ∀ ta' tb', P ta' tb' → tb'.snd.una = tb.snd.nxt

theorem CloseStart.acks {s : Sys} {ta tb : Tcb} {P : Tcb → Tcb → Prop} (cs : CloseStart iss s ta tb P) (hg : Good iss s)
    {newA newB : List Transmit} {ta1 tb1 : Tcb} {outA outB : List Segment} (fA : EmitFx ta newA ta1 outA)
    (issA1 : ta1.snd.iss = iss .A) (fB : EmitFx tb newB tb1 outB) : AcksFor (iss .A) ta.rcv.nxt ta1.sent outB := by
  rw [cs.outB newB tb1 outB fB, cs.sync]
  refine (oneshot_facts hg .A ta tb cs.ha cs.hb cs.stb).2.mono
    (Nat.le_trans (squeeze_facts hg .A ta tb cs.ha cs.hb cs.stb).2 ?_)
  rw [sent_emit hg .A ta ta1 newA outA cs.ha fA issA1]
  exact Nat.le_add_right _ _

theorem CloseStart.twin {s c : Sys} {ta tb : Tcb} {P : Tcb → Tcb → Prop} (cs : CloseStart iss s ta tb P) (hg : Good iss s)
    (tw : Twin c s ta tb) (hmore : emitAmount ta < ta.outgoing.text.length) :
    ∃ s' c' ta' tb', phase s = .ok s' ∧ PlainRun s s' ∧ Good iss s' ∧ Steady s' ta' tb' ∧ IdleB ta' tb' ∧ P ta' tb' ∧
      ta'.outgoing.text = ta.outgoing.text.drop (emitAmount ta) ∧
      phase c = .ok c' ∧ PlainRun c c' ∧ Twin c' s' ta' tb' ∧
      (s'.side .A).submitted = (s.side .A).submitted ∧ (s'.side .B).submitted = (s.side .B).submitted := by
  obtain ⟨newA, ta1, outA, eA, fA, eA'⟩ := segments_twin_more ta cs.sta cs.ma
  have hne1 : ta1.outgoing.text ≠ [] := by
    intro h0
    have := congrArg List.length h0
    rw [fA.text, List.length_drop] at this
    simp only [List.length_nil] at this
    omega
  have eA' := eA' hne1
  obtain ⟨newB, tb1, outB, eB, fB⟩ := segments_fwd tb (by rw [cs.stb]; trivial) cs.mb
  obtain ⟨s2, _, hg2, h2a, h2b, _⟩ := emit_both hg ta tb ta1 tb1 outA outB cs.ha cs.hb eA eB
  obtain ⟨ta2, tb2, ea2, eb2, kA, kB, la, lb, hP⟩ := cs.takes s2 newA ta1 outA newB tb1 outB hg2 h2a h2b fA fB
  -- the closer takes B's pure ACKs as its twin does
  have issA1 : ta1.snd.iss = iss .A := hg2.iss_eq .A ta1 h2a
  have sq2 := squeeze_facts hg2 .A ta1 tb1 h2a h2b (by rw [fB.st]; exact cs.stb)
  have ea2' : (fw ta1).arriveList outB = .ok (fw ta2) :=
    (ackList_twin (iss .A) ta1.sent (hg2.sent_lt .A ta1 h2a) outB ta1 ta2 (by rw [fA.st]; exact cs.sta)
      (by rw [fA.rcv]; exact hg.wnd .A ta cs.ha) (by rw [fA.inc]; exact cs.heap) hne1 issA1
      (hg2.sent_eq .A ta1 h2a) (Nat.le_trans sq2.1 sq2.2) (by rw [fA.rcv]; exact cs.acks hg fA issA1 fB) ea2).1
  have haA := fun g h => (hg.emitted .A ta cs.ha eA g h).2.2
  have haB := fun g h => (hg.emitted .B tb cs.hb eB g h).2.2
  have v0 := View.start s .A ta tb cs.ha cs.hb
  obtain ⟨s6, ph, r, v⟩ := v0.phase eA eB eb2 ea2 (receive_established ta2 kA.st) (receive_established tb2 kB.st) haA haB
  have hrA : (fw ta2).receive = (fw ta2.receive.1, ta2.receive.2) := by
    rw [receive_established ta2 kA.st]
    rfl
  obtain ⟨c6, phc, rc06, w⟩ := tw.view.phase eA' eB eb2 ea2' hrA (receive_established tb2 kB.st) haA haB
  rw [receive_established ta2 kA.st] at w
  exact ⟨s6, c6, _, _, ph, r, View.good hg r v0 v rfl rfl, ⟨v.t, v.u, kA.steady kB cs.ma la, kB.steady kA cs.mb lb⟩,
    ⟨by show tb2.outgoing.text = []; rw [kB.text, cs.tbt]; exact List.drop_nil⟩, hP, kA.text, phc, rc06,
    ⟨w.t, w.u, w.st.trans v.st.symm, w.su.trans v.su.symm, w.dt.trans v.dt.symm, w.du.trans v.du.symm⟩, v.st, v.su⟩

/-- B takes A's batch: the twin in which it has done so is `Good` again -/
theorem CloseStart.taken {s : Sys} {ta tb : Tcb} {P : Tcb → Tcb → Prop} (cs : CloseStart iss s ta tb P) (hg : Good iss s)
    {newA newB : List Transmit} {ta1 tb1 : Tcb} {outA outB : List Segment}
    (eA : ta.segments = .ok (ta1, outA)) (fA : EmitFx ta newA ta1 outA)
    (eB : tb.segments = .ok (tb1, outB)) (fB : EmitFx tb newB tb1 outB) :
    ∃ tb2 s3, tb1.arriveList outA = .ok tb2 ∧ Good iss s3 ∧ (s3.side .A).tcb = some ta1 ∧ (s3.side .B).tcb = some tb2 ∧
      Took tb tb1 ta1 tb2 ∧ tb2.snd.una = tb.snd.nxt := by
  obtain ⟨s2, r02, hg2, h2a, h2b, hsubA2, hsubB2, hnA⟩ := emit_both hg ta tb ta1 tb1 outA outB cs.ha cs.hb eA eB
  obtain ⟨_, tb2, -, eb2, -, kB, -, -, hP⟩ := cs.takes s2 newA ta1 outA newB tb1 outB hg2 h2a h2b fA fB
  obtain ⟨s3, _, r23, v3, _⟩ := (View.start s2 .B tb1 ta1 h2b h2a).batch outA s.historyLen hnA (takeO_ok _ _ _ eb2)
    (fun g hg' => (hg.emitted .A ta cs.ha eA g hg').2.2)
  refine ⟨tb2, s3, eb2, hg.of_run (r02.trans r23) (hg.room.congr fun y => ?_), v3.u, v3.t, kB, (cs.unaB _ _ hP :)⟩
  cases y
  · exact v3.su.trans hsubA2
  · exact v3.st.trans hsubB2

/-- The last two phases, for any closer `tc` that emits the twin's batch followed by a FIN (`CloseFx`) — the FIN may have
    been numbered by `close()` itself: B is idle and synchronised with A, emits only the pure ACKs it has waiting, and is in
    CLOSE-WAIT after the FIN; its ACKs take the closer to FIN-WAIT-2; both are at rest (`Front`) -/
theorem final_core {s c : Sys} {ta tb : Tcb} {P : Tcb → Tcb → Prop} (cs : CloseStart iss s ta tb P) (hg : Good iss s)
    (tc : Tcb) {sa sb da db : List UInt8} {m : Nat} (w : View .A c ⟨some tc, some tb, sa, sb, da, db, m⟩)
    (newA : List Transmit) (ta1 : Tcb) (outA : List Segment) (ta1' : Tcb) (fin : Hdr)
    (eA : ta.segments = .ok (ta1, outA)) (fA : EmitFx ta newA ta1 outA)
    (eA' : tc.segments = .ok (ta1', outA ++ [⟨fin, []⟩])) (cf : CloseFx ta1 fin ta1') :
    ∃ c', phases 2 c = .ok c' ∧ PlainRun c c' ∧ Front c' sa sb da := by
  obtain ⟨newB, tb1, outB, eB, fB⟩ := segments_fwd tb (by rw [cs.stb]; trivial) cs.mb
  have hnxtB1 : tb1.snd.nxt = tb.snd.nxt := by
    rw [fB.nxt, emitAmount_notext cs.tbt]; simp
  -- B takes the data; in the twin `s3` in which it has done so all invariants hold again
  obtain ⟨tb2, s3, eb2, hg3, h3a, h3b, kB, b_una⟩ := cs.taken hg eA fA eB fB
  obtain ⟨lpA, rpA⟩ := hg3.ports .A ta1 h3a
  obtain ⟨lpB, rpB⟩ := hg3.ports .B tb2 h3b
  have wB2 : tb2.rcv.wnd = 65535#16 := hg3.wnd .B tb2 h3b
  have wA : ta.rcv.wnd = 65535#16 := hg.wnd .A ta cs.ha
  have issA1 : ta1.snd.iss = iss .A := hg3.iss_eq .A ta1 h3a
  have hN : ta1.sent + 1 < 2147483648 := by
    have := room_of_inv hg3.conv.c01 hg3.room .A ta1 h3a
    unfold Room at this; omega
  have hsentA1 := hg3.sent_eq .A ta1 h3a
  have sqA3 := squeeze_facts hg3 .A ta1 tb2 h3a h3b kB.st
  have hunaB2 : tb2.snd.una = tb2.snd.nxt := by rw [b_una, kB.nxt, hnxtB1]
  have hrtxB2 : tb2.outgoing.retransmit = [] :=
    hg3.acked_empty .B tb2 h3b hunaB2
  -- B takes the FIN behind the data (CLOSE-WAIT), reads, and will send what it has waiting and, last, the ACK of the FIN
  have hmB2 : ¬ tb2.mtu.toNat < SPACE_FOR_HEADERS := by rw [kB.mtu]; exact Nat.not_lt.2 (Nat.le_of_lt cs.mb)
  have htB2 : tb2.outgoing.text = [] := by rw [kB.text, cs.tbt]; simp
  obtain ⟨aB, rB3, eB2⟩ := fin_answered (g := ⟨fin, []⟩) eb2 kB.st wB2 kB.heap htB2 hrtxB2 hmB2 (by rw [kB.rcv]; exact cf.isfin)
    (by rw [fA.rcv, cs.sync, b_una]; exact modLeq_self _)
  let tb4 : Tcb := ({ finTakenT tb2 with incoming.text := [] } : Tcb)
  -- the closer, its FIN queued behind the data, takes the pure ACKs B had waiting (none of them acknowledges the FIN), emits
  -- nothing, and takes B's second batch: the last ACK acknowledges the FIN: FIN-WAIT-2
  have hrcvA1 : ta1.rcv.nxt = tb.snd.nxt := by rw [fA.rcv, cs.sync]
  obtain ⟨ta3, ta5, aA1, rA3, eA2, aA, rA5, hst5, rcv5, restA⟩ :=
    closer_acked cf .A (emitT tb4) tb2 (iss .A) ta1.sent hN outB
      (by rw [fA.rcv]; exact wA) (by rw [fA.inc]; exact cs.heap) (by rw [fA.inc]; exact cs.buf)
      (by rw [fA.mtu]; exact Nat.not_lt.2 (Nat.le_of_lt cs.ma)) lpA rpA
      (by show tb2.rcv.nxt + 1 = _; rw [kB.rcv]) hsentA1 (Nat.le_trans sqA3.1 sqA3.2) (hg3.queue .A ta1 h3a)
      fA.unflagged
      (by rw [fA.rcv]; exact cs.acks hg fA issA1 fB) kB.rcv (by rw [kB.nxt, hnxtB1, hrcvA1])
      (by
        rw [hrcvA1, ← hnxtB1, ← kB.nxt]
        exact (oneshot_facts hg3 .A ta1 tb2 h3a h3b kB.st).2.mono (by rw [kB.rcv]; exact Nat.le_of_eq hsentA1))
  -- phase 1: the data and the FIN one way, B's waiting ACKs the other; phase 2: B's ACKs
  obtain ⟨c1, ph1, r01, v1⟩ :=
    w.phase eA' eB aB aA1 rA3 rB3
      (fun g hg' => by
        rcases List.mem_append.1 hg' with h | h
        · exact (hg.emitted .A ta cs.ha eA g h).2.2
        · simp only [List.mem_singleton] at h
          subst h
          exact ⟨cf.src.trans lpA, cf.dst.trans rpA⟩)
      (fun g h => (hg.emitted .B tb cs.hb eB g h).2.2)
  obtain ⟨c2, ph2, r12, v2⟩ :=
    v1.phase eA2 eB2 rfl aA rA5 (receive_empty (emitT tb4) rfl)
      (fun g hg' => by cases hg')
      (fun g hg' => by
        obtain ⟨h, hh, rfl⟩ := List.mem_map.1 hg'
        rcases List.mem_append.1 hh with hh | hh
        · exact ⟨((hg3.below .B tb2 h3b).oports h hh).1.trans lpB, ((hg3.below .B tb2 h3b).oports h hh).2.trans rpB⟩
        · simp only [List.mem_singleton] at hh
          subst hh
          exact ⟨lpB, rpB⟩)
  simp only [List.append_nil] at v2
  exact ⟨c2, by simp only [phases, ph1, ph2], r01.trans r12, ta5, emitT tb4, _, _, v2, hst5, rfl, restA,
    kB.heap, rfl, htB2, by show tb2.outgoing.retransmit.map _ = []; rw [hrtxB2]; rfl, rfl, hunaB2,
    by show ta5.rcv.nxt = tb2.snd.nxt; rw [rcv5, hrcvA1, kB.nxt, hnxtB1], wB2, hmB2, lpB, rpB⟩

theorem CloseStart.finalText {s c : Sys} {ta tb : Tcb} {P : Tcb → Tcb → Prop} (cs : CloseStart iss s ta tb P) (hg : Good iss s)
    {sa sb da db : List UInt8} {m : Nat} (w : View .A c ⟨some (fw ta), some tb, sa, sb, da, db, m⟩)
    (hne : ta.outgoing.text ≠ []) (hfit : emitAmount ta = ta.outgoing.text.length) :
    ∃ c', phases 2 c = .ok c' ∧ PlainRun c c' ∧ Front c' sa sb da := by
  have hfitA : ta.outgoing.text.length ≤ ta.snd.wnd.toNat - rtxBytes ta.outgoing.retransmit := by
    unfold emitAmount at hfit; omega
  obtain ⟨newA, ta1, outA, ta1', fin, eA, fA, eA', cf⟩ := segments_twin ta cs.sta cs.ma hfitA
  exact final_core cs hg (fw ta) w newA ta1 outA ta1' fin eA fA (eA' hne) cf

theorem CloseStart.finalNone {s c : Sys} {ta tb : Tcb} {P : Tcb → Tcb → Prop} (cs : CloseStart iss s ta tb P) (hg : Good iss s)
    {sa sb da db : List UInt8} {m : Nat} (w : View .A c ⟨some (closedT ta), some tb, sa, sb, da, db, m⟩)
    (hnt : ta.outgoing.text = []) :
    ∃ c', phases 2 c = .ok c' ∧ PlainRun c c' ∧ Front c' sa sb da := by
  obtain ⟨eP, eC, cf⟩ := segments_closedT ta hnt (by have := cs.ma; omega)
  exact final_core cs hg (closedT ta) w [] (emitT ta) (emitOut ta) (emitT (closedT ta)) (finSeg ta).hdr eP
    (.of_notext ta hnt) eC cf

theorem Steady.start {s : Sys} {ta tb : Tcb} (hg : Good iss s) (hs : Steady s ta tb) (hi : IdleB ta tb) :
    CloseStart iss s ta tb fun ta' tb' => PhaseX ta tb ta' ∧ PhaseX tb ta tb' :=
  ⟨hs.ha, hs.hb, hs.a.st, hs.b.st, hs.a.mtu, hs.b.mtu, hs.a.heap, hs.a.buf, hs.b.sync, hi.tbt,
    fun newB tb1 outB fB => (idle_out hg ta tb tb1 newB outB hs.hb hs.b hi.tbt fB).2.2.1, hs.takes hg, fun _ _ p => p.2.una⟩

theorem phase_twin (s c : Sys) (hg : Good iss s) (ta tb : Tcb) (hs : Steady s ta tb) (hi : IdleB ta tb)
    (tw : Twin c s ta tb) (hmore : emitAmount ta < ta.outgoing.text.length) :
    ∃ s' c' ta' tb', phase s = .ok s' ∧ PlainRun s s' ∧ Good iss s' ∧ Steady s' ta' tb' ∧ IdleB ta' tb' ∧
      PhaseX ta tb ta' ∧ phase c = .ok c' ∧ PlainRun c c' ∧ Twin c' s' ta' tb' ∧
      (s'.side .A).submitted = (s.side .A).submitted ∧ (s'.side .B).submitted = (s.side .B).submitted := by
  obtain ⟨s', c', ta', tb', h1, h2, h3, h4, h5, p, -, h6⟩ := (Steady.start hg hs hi).twin hg tw hmore
  exact ⟨s', c', ta', tb', h1, h2, h3, h4, h5, p.1, h6⟩

theorem phase_final (s c : Sys) (hg : Good iss s) (ta tb : Tcb) (hs : Steady s ta tb) (hi : IdleB ta tb)
    (tw : Twin c s ta tb) (hne : ta.outgoing.text ≠ []) (hfit : emitAmount ta = ta.outgoing.text.length) :
    ∃ c' ta' tb', phases 2 c = .ok c' ∧ PlainRun c c' ∧
      (c'.side .A).tcb = some ta' ∧ (c'.side .B).tcb = some tb' ∧
      ta'.state = .FinWait2 ∧ tb'.state = .CloseWait ∧ RestX .A ta' tb' ∧ RestX .B tb' ta' ∧
      (c'.side .A).submitted = (s.side .A).submitted ∧ (c'.side .B).submitted = (s.side .B).submitted ∧
      (c'.side .A).delivered = (s.side .A).delivered := by
  obtain ⟨c', p, r, f⟩ := (Steady.start hg hs hi).finalText hg tw.view hne hfit
  obtain ⟨ta', tb', h⟩ := f.unpack
  exact ⟨c', ta', tb', p, r, h⟩

theorem close_data_front (s : Sys) (hg : Good iss s) (ta tb : Tcb) (hs : Steady s ta tb)
    (qa : ta.outgoing.retransmit = []) (tbt : tb.outgoing.text = [])
    (hne : ta.outgoing.text ≠ []) (hlen : ta.outgoing.text.length ≤ 65535) :
    ∃ s', closeDataFront s = .ok s' ∧ FinRun s s' ∧
      Front s' (s.side .A).submitted (s.side .B).submitted (s.side .A).delivered := by
  have hfit : emitAmount ta = ta.outgoing.text.length := by
    rw [emitAmount_eq hg .A ta hs.ha hs.a.st, qa, rtxBytes_nil]
    omega
  obtain ⟨c0, st0, r0, w0⟩ := (View.start s .A ta tb hs.ha hs.hb).close (close_pending ta hs.a.st hne)
  obtain ⟨c2, p2, r2, f⟩ := (Steady.start hg hs ⟨tbt⟩).finalText hg w0 hne hfit
  refine ⟨c2, ?_, r0.trans (FinRun.of_plain r2), f⟩
  have two : ∀ c, (match phase c with | .error e => .error e | .ok c1 => phase c1) = phases 2 c := by
    intro c
    simp only [phases]
    cases phase c with
    | error e => rfl
    | ok c1 =>
      dsimp only
      cases phase c1 <;> rfl
  unfold closeDataFront
  rw [st0]
  exact (two _).trans p2

/-- two windows take at least 65535 bytes off the unsent text unless one of them empties it -/
theorem two_windows {L0 r0 a0 L1 r1 a1 L2 n : Nat} (e0 : a0 = min L0 (65535 - r0)) (e1 : a1 = min L1 (65535 - r1))
    (l1 : L1 = L0 - a0) (l2 : L2 = L1 - a1) (b1 : r1 ≤ a0) (h0 : a0 < L0) (h1 : a1 < L1)
    (hl : L0 ≤ 65535 * (n + 1)) : L2 ≠ 0 ∧ L2 ≤ 65535 * n := by
  omega

theorem phases_twin (n : Nat) : ∀ (s c : Sys) (ta tb : Tcb), Good iss s → Steady s ta tb → IdleB ta tb →
    Twin c s ta tb → ta.outgoing.text ≠ [] → ta.outgoing.text.length ≤ 65535 * n →
    ∃ k s' c' ta' tb', k + 1 ≤ 2 * n ∧ phases k c = .ok c' ∧ PlainRun c c' ∧ PlainRun s s' ∧ Good iss s' ∧
      Steady s' ta' tb' ∧ IdleB ta' tb' ∧ Twin c' s' ta' tb' ∧ ta'.outgoing.text ≠ [] ∧
      emitAmount ta' = ta'.outgoing.text.length ∧
      (s'.side .A).submitted = (s.side .A).submitted ∧ (s'.side .B).submitted = (s.side .B).submitted := by
  induction n with
  | zero =>
    intro s c ta tb _ _ _ _ hne hl
    exact (hne (List.eq_nil_of_length_eq_zero (by omega))).elim
  | succ n ih =>
    intro s c ta tb hg hs hi tw hne hl
    by_cases h0 : emitAmount ta = ta.outgoing.text.length
    · exact ⟨0, s, c, ta, tb, by omega, rfl, .refl _, .refl _, hg, hs, hi, tw, hne, h0, rfl, rfl⟩
    · have hlt0 : emitAmount ta < ta.outgoing.text.length := Nat.lt_of_le_of_ne (Nat.min_le_left _ _) h0
      obtain ⟨s1, c1, ta1, tb1, _, r1, hg1, hs1, hi1, pa1, pc1, rc1, tw1, x1a, x1b⟩ := phase_twin s c hg ta tb hs hi tw hlt0
      have l1 : ta1.outgoing.text.length = ta.outgoing.text.length - emitAmount ta := by
        rw [pa1.text, List.length_drop]
      have hne1 : ta1.outgoing.text ≠ [] := fun h => Nat.sub_ne_zero_of_lt hlt0 (by rw [← l1, h]; rfl)
      by_cases h1 : emitAmount ta1 = ta1.outgoing.text.length
      · refine ⟨1, s1, c1, ta1, tb1, by omega, by simp only [phases, pc1], rc1, r1, hg1, hs1, hi1, tw1, hne1, h1, x1a, x1b⟩
      · have hlt1 : emitAmount ta1 < ta1.outgoing.text.length := Nat.lt_of_le_of_ne (Nat.min_le_left _ _) h1
        obtain ⟨s2, c2, ta2, tb2, _, r2, hg2, hs2, hi2, pa2, pc2, rc2, tw2, x2a, x2b⟩ :=
          phase_twin s1 c1 hg1 ta1 tb1 hs1 hi1 tw1 hlt1
        have l2 : ta2.outgoing.text.length = ta1.outgoing.text.length - emitAmount ta1 := by
          rw [pa2.text, List.length_drop]
        obtain ⟨z2, hl2⟩ := two_windows (emitAmount_eq hg .A ta hs.ha hs.a.st) (emitAmount_eq hg1 .A ta1 hs1.ha hs1.a.st)
          l1 l2 pa1.bytes hlt0 hlt1 hl
        have hne2 : ta2.outgoing.text ≠ [] := fun h => z2 (by rw [h]; rfl)
        obtain ⟨k, s', c', ta', tb', hk, pk, rck, rk, hg', hs', hi', tw', hne', hf', xa, xb⟩ :=
          ih s2 c2 ta2 tb2 hg2 hs2 hi2 tw2 hne2 hl2
        refine ⟨2 + k, s', c', ta', tb', by omega, ?_, (rc1.trans rc2).trans rck, (r1.trans r2).trans rk, hg', hs', hi',
          tw', hne', hf', (xa.trans x2a).trans x1a, (xb.trans x2b).trans x1b⟩
        rw [phases_add]
        simp only [phases, pc1, pc2]
        exact pk

/-- the closer empties its text (`phases_twin`), then the last two phases (`CloseStart.finalText`); A's application
    already holds everything B submitted, before and after -/
theorem Steady.front (n : Nat) {s c : Sys} {ta tb : Tcb} (hg : Good iss s) (hs : Steady s ta tb) (hi : IdleB ta tb)
    (tw : Twin c s ta tb) (hne : ta.outgoing.text ≠ []) (hlen : ta.outgoing.text.length ≤ 65535 * n) :
    ∃ k c', k + 1 ≤ 2 * n ∧ phases (k + 2) c = .ok c' ∧ PlainRun c c' ∧
      Front c' (s.side .A).submitted (s.side .B).submitted (s.side .A).delivered := by
  obtain ⟨k, s', c', ta', tb', hk, pk, rck, _, hg', hs', hi', tw', hne', hf', hsubA, hsubB⟩ :=
    phases_twin n s c ta tb hg hs hi tw hne hlen
  have d1 : (s.side .A).delivered = (s.side .B).submitted := steady_stream hg .B tb ta hs.hb hs.ha hs.b hs.a hi.tbt
  have d2 : (s'.side .A).delivered = (s'.side .B).submitted := steady_stream hg' .B tb' ta' hs'.hb hs'.ha hs'.b hs'.a hi'.tbt
  obtain ⟨c2, p2, r2, f2⟩ := (Steady.start hg' hs' hi').finalText hg' tw'.view hne' hf'
  rw [hsubA, hsubB, d2.trans (hsubB.trans d1.symm)] at f2
  exact ⟨k, c2, hk, by rw [phases_add, pk]; exact p2, rck.trans r2, f2⟩

theorem rest_phase (c : Sys) (ta tb : Tcb) (ha : (c.side .A).tcb = some ta) (hb : (c.side .B).tcb = some tb)
    (sa : ta.state = .FinWait2) (sb : tb.state = .CloseWait) (qa : RestX .A ta tb) (qb : RestX .B tb ta) :
    ∃ c' ta' tb', phase c = .ok c' ∧ PlainRun c c' ∧ (c'.side .A).tcb = some ta' ∧ (c'.side .B).tcb = some tb' ∧
      ta'.state = .FinWait2 ∧ tb'.state = .CloseWait ∧ RestX .A ta' tb' ∧ RestX .B tb' ta' ∧
      (c'.side .A).submitted = (c.side .A).submitted ∧ (c'.side .B).submitted = (c.side .B).submitted ∧
      (c'.side .A).delivered = (c.side .A).delivered ∧ (c'.side .B).delivered = (c.side .B).delivered := by
  have eA := segments_notext_eq ta qa.text qa.mtu
  rw [emitOut_quiet ta qa.one qa.rtx] at eA
  have eB := segments_notext_eq tb qb.text qb.mtu
  rw [emitOut_quiet tb qb.one qb.rtx] at eB
  obtain ⟨c1, ph, r, v⟩ := (View.start c .A ta tb ha hb).phase eA eB rfl rfl (receive_empty (emitT ta) qa.buf)
    (receive_empty (emitT tb) qb.buf) (fun g hg' => by cases hg') (fun g hg' => by cases hg')
  simp only [List.append_nil] at v
  refine ⟨c1, emitT ta, emitT tb, ph, r, v.t, v.u, sa, sb, ?_, ?_, v.st, v.su, v.dt, v.du⟩
  · exact ⟨qa.heap, qa.buf, qa.text, by show ta.outgoing.retransmit.map _ = []; rw [qa.rtx]; rfl, rfl, qa.una, qa.sync,
      qa.wnd, qa.mtu, qa.lp, qa.rp⟩
  · exact ⟨qb.heap, qb.buf, qb.text, by show tb.outgoing.retransmit.map _ = []; rw [qb.rtx]; rfl, rfl, qb.una, qb.sync,
      qb.wnd, qb.mtu, qb.lp, qb.rp⟩

theorem rest_phases (j : Nat) : ∀ (c : Sys) (ta tb : Tcb), (c.side .A).tcb = some ta → (c.side .B).tcb = some tb →
    ta.state = .FinWait2 → tb.state = .CloseWait → RestX .A ta tb → RestX .B tb ta →
    ∃ c' ta' tb', phases j c = .ok c' ∧ PlainRun c c' ∧ (c'.side .A).tcb = some ta' ∧ (c'.side .B).tcb = some tb' ∧
      ta'.state = .FinWait2 ∧ tb'.state = .CloseWait ∧ RestX .A ta' tb' ∧ RestX .B tb' ta' ∧
      (c'.side .A).submitted = (c.side .A).submitted ∧ (c'.side .B).submitted = (c.side .B).submitted ∧
      (c'.side .A).delivered = (c.side .A).delivered ∧ (c'.side .B).delivered = (c.side .B).delivered := by
  induction j with
  | zero =>
    intro c ta tb ha hb sa sb qa qb
    exact ⟨c, ta, tb, rfl, .refl _, ha, hb, sa, sb, qa, qb, rfl, rfl, rfl, rfl⟩
  | succ j ih =>
    intro c ta tb ha hb sa sb qa qb
    obtain ⟨c1, ta1, tb1, ph, r, h1a, h1b, sa1, sb1, qa1, qb1, u1, u2, u3, u4⟩ := rest_phase c ta tb ha hb sa sb qa qb
    obtain ⟨c', ta', tb', ph', r', ha', hb', sa', sb', qa', qb', v1, v2, v3, v4⟩ := ih c1 ta1 tb1 h1a h1b sa1 sb1 qa1 qb1
    exact ⟨c', ta', tb', by simp only [phases, ph]; exact ph', r.trans r', ha', hb', sa', sb', qa', qb', v1.trans u1,
      v2.trans u2, v3.trans u3, v4.trans u4⟩

theorem Front.pad {c c1 : Sys} {sa sb da : List UInt8} {k N : Nat} (hk : k ≤ N) (p : phases k c = .ok c1)
    (r : PlainRun c c1) (f : Front c1 sa sb da) : ∃ c2, phases N c = .ok c2 ∧ PlainRun c c2 ∧ Front c2 sa sb da := by
  obtain ⟨ta, tb, db, n, v, h⟩ := f
  obtain ⟨c2, ta', tb', p2, r2, ha, hb, k1, k2, k3, k4, u1, u2, u3, _⟩ :=
    rest_phases (N - k) c1 ta tb v.t v.u h.sa h.sb h.qa h.qb
  exact ⟨c2, by rw [show N = k + (N - k) by omega, phases_add, p]; exact p2, r.trans r2, ta', tb', _, _,
    ⟨ha, hb, u1.trans v.st, u2.trans v.su, u3.trans v.dt, rfl, rfl⟩, ⟨k1, k2, k3, k4⟩⟩

def closeDataFrontN (n : Nat) (s : Sys) : Except String Sys :=
  match s.step (.close .A) with
  | .error e => .error e
  | .ok (s1, _) => phases (2 * n + 1) s1

def closeDataRoundN (n : Nat) (s : Sys) : Except String Sys :=
  match closeDataFrontN n s with
  | .error e => .error e
  | .ok s1 => releaseTail s1

theorem closeDataRoundN_eq (n : Nat) (s s1 : Sys) (e : closeDataFrontN n s = .ok s1) :
    closeDataRoundN n s = releaseTail s1 := by
  unfold closeDataRoundN; rw [e]

theorem close_steady (n : Nat) (hn : 1 ≤ n) (s : Sys) (hg : Good iss s) (ta tb : Tcb) (hs : Steady s ta tb)
    (hi : IdleB ta tb) (hlen : ta.outgoing.text.length ≤ 65535 * n) :
    ∃ s1, closeDataFrontN n s = .ok s1 ∧ FinRun s s1 ∧
      Front s1 (s.side .A).submitted (s.side .B).submitted (s.side .A).delivered := by
  by_cases hnt : ta.outgoing.text = []
  · obtain ⟨c0, st0, r0, w0⟩ := (View.start s .A ta tb hs.ha hs.hb).close (close_fwd ta hs.a.st hnt)
    obtain ⟨c3, p3, r3, f3⟩ := (Steady.start hg hs hi).finalNone hg w0 hnt
    obtain ⟨c4, p4, r4, f4⟩ := Front.pad (N := 2 * n + 1) (by omega) p3 r3 f3
    refine ⟨c4, ?_, r0.trans (FinRun.of_plain r4), f4⟩
    unfold closeDataFrontN
    rw [st0]
    exact p4
  · obtain ⟨c0, st0, r0, w0⟩ := (View.start s .A ta tb hs.ha hs.hb).close (close_pending ta hs.a.st hnt)
    obtain ⟨k, c2, hk, p2, r2, f2⟩ := Steady.front n hg hs hi ⟨w0.t, w0.u, w0.st, w0.su, w0.dt, w0.du⟩ hnt hlen
    obtain ⟨c3, p3, r3, f3⟩ := Front.pad (N := 2 * n + 1) (by omega) p2 r2 f2
    refine ⟨c3, ?_, r0.trans (FinRun.of_plain r3), f3⟩
    unfold closeDataFrontN
    rw [st0]
    exact p3

theorem close_data_any (n : Nat) (s : Sys) (hg : Good iss s) (ta tb : Tcb) (hs : Steady s ta tb) (hi : IdleB ta tb)
    (hne : ta.outgoing.text ≠ []) (hlen : ta.outgoing.text.length ≤ 65535 * n) :
    ∃ s1 ta1 tb1 s2, closeDataFrontN n s = .ok s1 ∧ FinRun s s1 ∧
      (s1.side .A).tcb = some ta1 ∧ (s1.side .B).tcb = some tb1 ∧
      ta1.state = .FinWait2 ∧ tb1.state = .CloseWait ∧ RestX .A ta1 tb1 ∧ RestX .B tb1 ta1 ∧
      (s1.side .A).submitted = (s.side .A).submitted ∧ (s1.side .B).submitted = (s.side .B).submitted ∧
      (s1.side .A).delivered = (s.side .A).delivered ∧
      closeDataRoundN n s = .ok s2 ∧ releaseTail s1 = .ok s2 ∧ FinRun s1 s2 ∧
      (s2.side .A).tcb = none ∧ (s2.side .B).tcb = none ∧
      (s2.side .A).submitted = (s.side .A).submitted ∧ (s2.side .B).submitted = (s.side .B).submitted ∧
      (s2.side .A).delivered = (s.side .A).delivered ∧ (s2.side .B).delivered = (s1.side .B).delivered :=
  Front.tuple (close_steady n (Nat.pos_of_ne_zero fun h0 => hne (List.eq_nil_of_length_eq_zero (by rw [h0] at hlen; omega)))
    s hg ta tb hs hi hlen) (closeDataRoundN_eq n s)

theorem close_data_none (n : Nat) (hn : 1 ≤ n) (s : Sys) (hg : Good iss s) (ta tb : Tcb) (hs : Steady s ta tb) (hi : IdleB ta tb)
    (hnt : ta.outgoing.text = []) :
    ∃ s1 ta1 tb1 s2, closeDataFrontN n s = .ok s1 ∧ FinRun s s1 ∧
      (s1.side .A).tcb = some ta1 ∧ (s1.side .B).tcb = some tb1 ∧
      ta1.state = .FinWait2 ∧ tb1.state = .CloseWait ∧ RestX .A ta1 tb1 ∧ RestX .B tb1 ta1 ∧
      (s1.side .A).submitted = (s.side .A).submitted ∧ (s1.side .B).submitted = (s.side .B).submitted ∧
      (s1.side .A).delivered = (s.side .A).delivered ∧
      closeDataRoundN n s = .ok s2 ∧ releaseTail s1 = .ok s2 ∧ FinRun s1 s2 ∧
      (s2.side .A).tcb = none ∧ (s2.side .B).tcb = none ∧
      (s2.side .A).submitted = (s.side .A).submitted ∧ (s2.side .B).submitted = (s.side .B).submitted ∧
      (s2.side .A).delivered = (s.side .A).delivered ∧ (s2.side .B).delivered = (s1.side .B).delivered :=
  Front.tuple (close_steady n hn s hg ta tb hs hi (by rw [hnt]; exact Nat.zero_le _))
    (closeDataRoundN_eq n s)

end
end Elvis.Tcp
