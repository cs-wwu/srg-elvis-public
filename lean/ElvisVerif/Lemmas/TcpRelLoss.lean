import ElvisVerif.Lemmas.TcpRelData2
import ElvisVerif.Lemmas.TcpFullRound
/-!
# `close()` after loss (idle peer): the closer retransmits in FIN-WAIT-1

Starting states: the *rough* states of `Lemmas/TcpFullPhase.lean` (both ESTABLISHED, SYN acknowledged, receive buffers empty,
timers ≤ RTO; ANYTHING on the closer's retransmission queue — lost or received, acknowledged or not; any one-shot queues;
on B's side any reorder heap that fits, `HeapFit`) with an idle peer (`SND.UNA = SND.NXT`, nothing unsent); the *calm* states
of `Lemmas/TcpConvCalm.lean` are those with empty heaps and one-shot queues.
`advanceTime_fw`, `advanceTime_closedT_eq`: `advance_time` reads neither the state nor the FIN, so the two ticks of a fair
round keep the closed system a twin (`close_loss_front`).  After the ticks the state is a starting state
(`Full.Rough.start`, `CloseStart` of `Lemmas/TcpRelData2.lean`); `CloseStart.front` runs the `2n + 2` phases: either the
window admits the whole queue and all the text (the queue, the text and the FIN leave in ONE batch; B takes what it has
not received yet, in order, then the FIN), or one phase leaves a steady twin and `phases_twin` / `Steady.start` apply;
with nothing unsent `close()` has numbered the FIN itself; the phases beyond those change nothing (`Front.pad`).
`close_roughL`: `close A`, a fair round of `2n + 2` phases.
-/
namespace Elvis.Tcp
open Tcb Elvis.ModCmp Elvis.Tcp.Fin

namespace Tcb

/-- `advance_time` commutes with every change of the TCB that the run of the retransmission timer commutes with and that
    leaves the 2·MSL timer alone -/
theorem advanceTime_comm (f : Tcb → Tcb) (hr : ∀ t dt, timerRun (f t) dt = f (timerRun t dt))
    (hw : ∀ t, (f t).timeouts.timeWait = t.timeouts.timeWait)
    (hs : ∀ t o, ({ f t with timeouts.timeWait := o } : Tcb) = f { t with timeouts.timeWait := o }) (t : Tcb) (dt : Nat) :
    (f t).advanceTime dt =
      match t.advanceTime dt with
      | .error e => .error e
      | .ok (t1, r) => .ok (f t1, r) := by
  rw [advanceTime_eq, advanceTime_eq, hr, hw]
  cases t.timeouts.timeWait with
  | none => rfl
  | some tw =>
    dsimp only
    split
    · rfl
    · rw [hs]

theorem timerRun_fw (t : Tcb) (dt : Nat) : timerRun (fw t) dt = fw (timerRun t dt) := by
  by_cases h : dt > t.timeouts.retransmission
  · rw [timerRun_expired h, timerRun_expired (s := fw t) h]; rfl
  · rw [timerRun_running h, timerRun_running (s := fw t) h]; rfl

theorem advanceTime_fw (t : Tcb) (dt : Nat) :
    (fw t).advanceTime dt =
      match t.advanceTime dt with
      | .error e => .error e
      | .ok (t1, r) => .ok (fw t1, r) :=
  advanceTime_comm fw timerRun_fw (fun _ => rfl) (fun _ _ => rfl) t dt

/-- the FIN `close()` has numbered is flagged already, so flagging the queue leaves it alone -/
theorem timerRun_closedT (t : Tcb) (dt : Nat) : timerRun (closedT t) dt = closedT (timerRun t dt) := by
  by_cases h : dt > t.timeouts.retransmission
  · rw [timerRun_expired h, timerRun_expired (s := closedT t) h]
    unfold closedT
    dsimp only
    rw [List.map_append]
    rfl
  · rw [timerRun_running h, timerRun_running (s := closedT t) h]; rfl

theorem advanceTime_closedT_eq (t : Tcb) (dt : Nat) :
    (closedT t).advanceTime dt =
      match t.advanceTime dt with
      | .error e => .error e
      | .ok (t1, r) => .ok (closedT t1, r) :=
  advanceTime_comm closedT timerRun_closedT (fun _ => rfl) (fun _ _ => rfl) t dt

theorem advanceTime_closedT (t : Tcb) (dt : Nat) (hdt : dt > t.timeouts.retransmission)
    (htw : t.timeouts.timeWait = none) :
    ∃ t1, t.advanceTime dt = .ok (t1, .Ignore) ∧ Flagged t t1 ∧ (closedT t).advanceTime dt = .ok (closedT t1, .Ignore) ∧
      t1.localPort = t.localPort ∧ t1.remotePort = t.remotePort := by
  obtain ⟨t1, e, f⟩ := advanceTime_expire t dt hdt htw
  have fr := (advanceTime_local t dt t1 e).1
  exact ⟨t1, e, f, by rw [advanceTime_closedT_eq, e], fr.lp, fr.rp⟩

end Tcb

section
variable {iss : SideId → Seq}

theorem una_of_acked {s : Sys} (hg : Good iss s) (tb tb' : Tcb) (hsb : (s.side .B).tcb = some tb)
    (hub : tb.snd.una = tb.snd.nxt) (tbt : tb.outgoing.text = [])
    (b_lo : off (iss .B) tb.snd.una ≤ off (iss .B) tb'.snd.una)
    (b_hi : off (iss .B) tb'.snd.una ≤ tb.sent + emitAmount tb) : tb'.snd.una = tb.snd.nxt := by
  apply off_inj (base := iss .B)
  rw [hub, hg.sent_eq .B tb hsb] at b_lo
  rw [emitAmount_notext tbt] at b_hi
  rw [hg.sent_eq .B tb hsb]
  omega

theorem outB_of_acked {s : Sys} (hg : Good iss s) (tb : Tcb) (hsb : (s.side .B).tcb = some tb)
    (hub : tb.snd.una = tb.snd.nxt) (tbt : tb.outgoing.text = []) (newB : List Transmit) (tb1 : Tcb) (outB : List Segment)
    (fB : EmitFx tb newB tb1 outB) : outB = tb.outgoing.oneshot.map (fun h => (⟨h, []⟩ : Segment)) := by
  have hqb := hg.acked_empty .B tb hsb hub
  rw [fB.out, hqb, fB.new_nil (emitAmount_notext tbt)]; simp

theorem idle_stream {s : Sys} (hg : Good iss s) (x : SideId) (t u : Tcb) (ht : (s.side x).tcb = some t)
    (hu : (s.side x.peer).tcb = some u) (hsync : u.rcv.nxt = t.snd.nxt) (hns : u.state ≠ .SynSent)
    (hbuf : u.incoming.text = []) (htext : t.outgoing.text = []) :
    (s.side x.peer).delivered = (s.side x).submitted :=
  stream_delivered hg x t u ht hu hsync hns hbuf htext

def closeLossFrontN (n : Nat) (s : Sys) : Except String Sys :=
  match s.step (.close .A) with
  | .error e => .error e
  | .ok (s1, _) => fairRound (2 * n + 2) s1

def closeLossRoundN (n : Nat) (s : Sys) : Except String Sys :=
  match closeLossFrontN n s with
  | .error e => .error e
  | .ok s1 => releaseTail s1

theorem closeLossRoundN_eq (n : Nat) (s s1 : Sys) (e : closeLossFrontN n s = .ok s1) :
    closeLossRoundN n s = releaseTail s1 := by
  unfold closeLossRoundN; rw [e]

/-- `close A`, then both retransmission timers expire, in the closed system and in its close-free twin alike
    (`advance_time` does not read the state); what the `2n + 2` exchange phases then do is left to `hphases`.  `tc` is the
    closer's TCB as a function of the twin's: `fw` (text queued) or `closedT` (none). -/
theorem close_loss_front (n : Nat) (s : Sys) (hg : Good iss s) (ta tb : Tcb) {sa sb da db : List UInt8} {m : Nat}
    (v : View .A s ⟨some ta, some tb, sa, sb, da, db, m⟩)
    (sta : ta.state = .Established) (stb : tb.state = .Established)
    (tmoA : ta.timeouts.retransmission ≤ RTO) (tmoB : tb.timeouts.retransmission ≤ RTO)
    (tc : Tcb → Tcb) (hclose : ta.close = .ok (tc ta, .Ok))
    (htick : ∀ ta1, ta.advanceTime (RTO + 1) = .ok (ta1, .Ignore) → (tc ta).advanceTime (RTO + 1) = .ok (tc ta1, .Ignore))
    (hphases : ∀ s2 c2 ta1 tb1, Good iss s2 → PlainRun s s2 → Flagged ta ta1 → Flagged tb tb1 →
      View .A s2 ⟨some ta1, some tb1, sa, sb, da, db, m⟩ → View .A c2 ⟨some (tc ta1), some tb1, sa, sb, da, db, m⟩ →
      ∃ c3, phases (2 * n + 2) c2 = .ok c3 ∧ PlainRun c2 c3 ∧ Front c3 sa sb da) :
    ∃ s1, closeLossFrontN n s = .ok s1 ∧ FinRun s s1 ∧ Front s1 sa sb da := by
  obtain ⟨c0, st0, r0, w0⟩ := v.close hclose
  obtain ⟨ta1, e1, fa⟩ := advanceTime_expire ta (RTO + 1) (Nat.lt_succ_of_le tmoA)
    (hg.timeWait_none .A ta v.t (by rw [sta]; nofun))
  obtain ⟨tb1, e2, fb⟩ := advanceTime_expire tb (RTO + 1) (Nat.lt_succ_of_le tmoB)
    (hg.timeWait_none .B tb v.u (by rw [stb]; nofun))
  obtain ⟨s2, _, p2, v2⟩ := v.fairRound e1 e2
  obtain ⟨c2, hf, q2, w2⟩ := w0.fairRound (htick ta1 e1) e2
  obtain ⟨c3, p3, r3, f3⟩ := hphases s2 c2 ta1 tb1 (View.good hg p2 v v2 rfl rfl) p2 fa fb v2 w2
  refine ⟨c3, ?_, r0.trans (FinRun.of_plain (q2.trans r3)), f3⟩
  unfold closeLossFrontN
  rw [st0]
  exact (hf _).trans p3

theorem idle_delivered {s : Sys} (hg : Good iss s) (ta tb : Tcb) (hsa : (s.side .A).tcb = some ta)
    (hsb : (s.side .B).tcb = some tb) (sta : ta.state = .Established) (hbufA : ta.incoming.text = [])
    (hub : tb.snd.una = tb.snd.nxt) (tbt : tb.outgoing.text = []) :
    (s.side .A).delivered = (s.side .B).submitted := by
  have hsyncB : ta.rcv.nxt = tb.snd.nxt := sync_of_acked hg ta tb hsa hsb sta hub
  exact idle_stream hg .B tb ta hsb hsa hsyncB (by rw [sta]; simp) hbufA tbt

theorem CloseStart.front {s c : Sys} {ta tb : Tcb} {P : Tcb → Tcb → Prop} (cs : CloseStart iss s ta tb P) (hg : Good iss s)
    (n : Nat) (hlen : ta.outgoing.text.length ≤ 65535 * n)
    (tc : Tcb → Tcb) (htc : (ta.outgoing.text ≠ [] ∧ tc = fw) ∨ (ta.outgoing.text = [] ∧ tc = closedT))
    {sa sb da db : List UInt8} {m m' : Nat} (hdB : da = sb)
    (v : View .A s ⟨some ta, some tb, sa, sb, da, db, m⟩) (w : View .A c ⟨some (tc ta), some tb, sa, sb, da, db, m'⟩) :
    ∃ c3, phases (2 * n + 2) c = .ok c3 ∧ PlainRun c c3 ∧ Front c3 sa sb da := by
  rcases htc with ⟨hne, rfl⟩ | ⟨hnt, rfl⟩
  · by_cases h0 : emitAmount ta = ta.outgoing.text.length
    · obtain ⟨c3, p3, r3, f3⟩ := cs.finalText hg w hne h0
      exact Front.pad (by omega) p3 r3 f3
    · have hlt0 : emitAmount ta < ta.outgoing.text.length := by
        unfold emitAmount at h0 ⊢; omega
      obtain ⟨s3, c3, ta3, tb3, _, _, g3, hs3, hi3, _, txt3, pc3, rc3, tw3, x3a, x3b⟩ :=
        cs.twin hg ⟨w.t, w.u, w.st.trans v.st.symm, w.su.trans v.su.symm, w.dt.trans v.dt.symm, w.du.trans v.du.symm⟩ hlt0
      have hne3 : ta3.outgoing.text ≠ [] := by
        intro h
        have := congrArg List.length h
        rw [txt3, List.length_drop] at this
        simp only [List.length_nil] at this
        omega
      have hlen3 : ta3.outgoing.text.length ≤ 65535 * n := by
        rw [txt3, List.length_drop]; omega
      obtain ⟨k, c5, hk, p5, r5, f5⟩ := Steady.front n g3 hs3 hi3 tw3 hne3 hlen3
      have d3 : (s3.side .A).delivered = (s3.side .B).submitted :=
        steady_stream g3 .B tb3 ta3 hs3.hb hs3.ha hs3.b hs3.a hi3.tbt
      rw [x3a.trans v.st, x3b.trans v.su, d3.trans ((x3b.trans v.su).trans hdB.symm)] at f5
      refine Front.pad (k := 1 + (k + 2)) (by omega) ?_ (rc3.trans r5) f5
      rw [phases_add]
      simp only [phases, pc3]
      exact p5
  · obtain ⟨c3, p3, r3, f3⟩ := cs.finalNone hg w hnt
    exact Front.pad (by omega) p3 r3 f3

open Elvis.Tcp.Full

theorem Full.Rough.start {s : Sys} {ta tb : Tcb} (hg : Good iss s) (hc : Rough s ta tb)
    (hhb : HeapFit (iss .A) ta.sent tb) (hheapA : ta.incoming.segments = [])
    (hfa : ∀ tr ∈ ta.outgoing.retransmit, tr.needsTransmit = true)
    (hub : tb.snd.una = tb.snd.nxt) (tbt : tb.outgoing.text = []) :
    CloseStart iss s ta tb fun ta' tb' =>
      (off (iss .A) ta.snd.una ≤ off (iss .A) ta'.snd.una ∧ off (iss .A) ta'.snd.una ≤ ta.sent + emitAmount ta) ∧
      (off (iss .B) tb.snd.una ≤ off (iss .B) tb'.snd.una ∧ off (iss .B) tb'.snd.una ≤ tb.sent + emitAmount tb) := by
  have hsb : (s.side .B).tcb = some tb := hc.hb
  have hfb : ∀ tr ∈ tb.outgoing.retransmit, tr.needsTransmit = true := by
    intro tr htr; rw [hg.acked_empty .B tb hsb hub] at htr; cases htr
  exact ⟨hc.ha, hsb, hc.a.st, hc.b.st, hc.a.mtu, hc.b.mtu, hheapA, hc.a.buf,
    sync_of_acked hg ta tb hc.ha hsb hc.a.st hub, tbt, outB_of_acked hg tb hsb hub tbt,
    hc.takes hg (.of_empty hheapA) hhb hfa hfb, fun _ tb' p => una_of_acked hg tb tb' hsb hub tbt p.2.1 p.2.2⟩

theorem close_roughL (n : Nat) (s : Sys) (hg : Good iss s) (ta tb : Tcb) (hc : Rough s ta tb)
    (hhb : HeapFit (iss .A) ta.sent tb) (hheapA : ta.incoming.segments = [])
    (hub : tb.snd.una = tb.snd.nxt) (tbt : tb.outgoing.text = []) (hlen : ta.outgoing.text.length ≤ 65535 * n) :
    ∃ s1, closeLossFrontN n s = .ok s1 ∧ FinRun s s1 ∧
      Front s1 (s.side .A).submitted (s.side .B).submitted (s.side .A).delivered := by
  obtain ⟨tc, hclose, htick, htc⟩ : ∃ tc : Tcb → Tcb, ta.close = .ok (tc ta, .Ok) ∧
      (∀ ta1, ta.advanceTime (RTO + 1) = .ok (ta1, .Ignore) → (tc ta).advanceTime (RTO + 1) = .ok (tc ta1, .Ignore)) ∧
      ((ta.outgoing.text ≠ [] ∧ tc = fw) ∨ (ta.outgoing.text = [] ∧ tc = closedT)) := by
    by_cases hnt : ta.outgoing.text = []
    · exact ⟨closedT, close_fwd ta hc.a.st hnt, fun ta1 e1 => by rw [advanceTime_closedT_eq, e1], Or.inr ⟨hnt, rfl⟩⟩
    · exact ⟨fw, close_pending ta hc.a.st hnt, fun ta1 e1 => by rw [advanceTime_fw, e1], Or.inl ⟨hnt, rfl⟩⟩
  refine close_loss_front n s hg ta tb (View.start s .A ta tb hc.ha hc.hb) hc.a.st hc.b.st hc.a.tmo hc.b.tmo tc hclose htick
    (fun s2 c2 ta1 tb1 g2 _ fa fb v2 w2 => ?_)
  have hhb2 : HeapFit (iss .A) ta1.sent tb1 := by
    rw [sent_congr (congrArg Snd.iss fa.snd) (congrArg Snd.nxt fa.snd)]; exact hhb.of_flagged fb
  have cs := Full.Rough.start g2 ⟨v2.t, v2.u, (hc.a.of_flagged fa).1, (hc.b.of_flagged fb).1⟩ hhb2
    (by rw [fa.inc]; exact hheapA) (hc.a.of_flagged fa).2 (by rw [fb.snd]; exact hub) (by rw [fb.otext]; exact tbt)
  exact cs.front g2 n (by rw [fa.otext]; exact hlen) tc (by rw [fa.otext]; exact htc)
    (idle_delivered hg ta tb hc.ha hc.hb hc.a.st hc.a.buf hub tbt) v2 w2

theorem phase_twin_first (s c : Sys) (hg : Good iss s) (ta tb : Tcb) (hc : Calm s ta tb)
    (hfa : ∀ tr ∈ ta.outgoing.retransmit, tr.needsTransmit = true)
    (hub : tb.snd.una = tb.snd.nxt) (tbt : tb.outgoing.text = [])
    (tw : Twin c s ta tb) (hmore : emitAmount ta < ta.outgoing.text.length) :
    ∃ s' c' ta' tb', phase s = .ok s' ∧ PlainRun s s' ∧ Good iss s' ∧ Steady s' ta' tb' ∧ IdleB ta' tb' ∧
      ta'.outgoing.text = ta.outgoing.text.drop (emitAmount ta) ∧ phase c = .ok c' ∧ PlainRun c c' ∧ Twin c' s' ta' tb' ∧
      (s'.side .A).submitted = (s.side .A).submitted ∧ (s'.side .B).submitted = (s.side .B).submitted := by
  obtain ⟨s', c', ta', tb', h1, h2, h3, h4, h5, -, h6⟩ :=
    (Full.Rough.start hg hc.rough (.of_empty hc.b.heap) hc.a.heap hfa hub tbt).twin hg tw hmore
  exact ⟨s', c', ta', tb', h1, h2, h3, h4, h5, h6⟩

theorem final_core_first (s c : Sys) (hg : Good iss s) (ta tb : Tcb) (hc : Calm s ta tb)
    (hfa : ∀ tr ∈ ta.outgoing.retransmit, tr.needsTransmit = true)
    (hub : tb.snd.una = tb.snd.nxt) (tbt : tb.outgoing.text = [])
    (tc : Tcb) (hca : (c.side .A).tcb = some tc) (hcb : (c.side .B).tcb = some tb)
    (hcsa : (c.side .A).submitted = (s.side .A).submitted) (hcsb : (c.side .B).submitted = (s.side .B).submitted)
    (hcda : (c.side .A).delivered = (s.side .A).delivered)
    (newA : List Transmit) (ta1 : Tcb) (outA : List Segment) (ta1' : Tcb) (fin : Hdr)
    (eA : ta.segments = .ok (ta1, outA)) (fA : EmitFx ta newA ta1 outA)
    (eA' : tc.segments = .ok (ta1', outA ++ [⟨fin, []⟩])) (cf : CloseFx ta1 fin ta1') :
    ∃ c' ta' tb', phases 2 c = .ok c' ∧ PlainRun c c' ∧
      (c'.side .A).tcb = some ta' ∧ (c'.side .B).tcb = some tb' ∧
      ta'.state = .FinWait2 ∧ tb'.state = .CloseWait ∧ RestX .A ta' tb' ∧ RestX .B tb' ta' ∧
      (c'.side .A).submitted = (s.side .A).submitted ∧ (c'.side .B).submitted = (s.side .B).submitted ∧
      (c'.side .A).delivered = (s.side .A).delivered := by
  obtain ⟨c', p, r, f⟩ := final_core (Full.Rough.start hg hc.rough (.of_empty hc.b.heap) hc.a.heap hfa hub tbt) hg tc
    (⟨hca, hcb, hcsa, hcsb, hcda, rfl, rfl⟩ : View .A c ⟨some tc, some tb, _, _, _, (c.side .B).delivered, c.historyLen⟩)
    newA ta1 outA ta1' fin eA fA eA' cf
  obtain ⟨ta', tb', h⟩ := f.unpack
  exact ⟨c', ta', tb', p, r, h⟩

theorem phase_final_first (s c : Sys) (hg : Good iss s) (ta tb : Tcb) (hc : Calm s ta tb)
    (hfa : ∀ tr ∈ ta.outgoing.retransmit, tr.needsTransmit = true)
    (hub : tb.snd.una = tb.snd.nxt) (tbt : tb.outgoing.text = [])
    (tw : Twin c s ta tb) (hne : ta.outgoing.text ≠ []) (hfit : emitAmount ta = ta.outgoing.text.length) :
    ∃ c' ta' tb', phases 2 c = .ok c' ∧ PlainRun c c' ∧
      (c'.side .A).tcb = some ta' ∧ (c'.side .B).tcb = some tb' ∧
      ta'.state = .FinWait2 ∧ tb'.state = .CloseWait ∧ RestX .A ta' tb' ∧ RestX .B tb' ta' ∧
      (c'.side .A).submitted = (s.side .A).submitted ∧ (c'.side .B).submitted = (s.side .B).submitted ∧
      (c'.side .A).delivered = (s.side .A).delivered := by
  obtain ⟨c', p, r, f⟩ :=
    (Full.Rough.start hg hc.rough (.of_empty hc.b.heap) hc.a.heap hfa hub tbt).finalText hg tw.view hne hfit
  obtain ⟨ta', tb', h⟩ := f.unpack
  exact ⟨c', ta', tb', p, r, h⟩

theorem close_after_loss (n : Nat) (s : Sys) (hg : Good iss s) (ta tb : Tcb) (hc : Calm s ta tb)
    (hub : tb.snd.una = tb.snd.nxt) (tbt : tb.outgoing.text = [])
    (hne : ta.outgoing.text ≠ []) (hlen : ta.outgoing.text.length ≤ 65535 * n) :
    ∃ s1 ta1 tb1 s2, closeLossFrontN n s = .ok s1 ∧ FinRun s s1 ∧
      (s1.side .A).tcb = some ta1 ∧ (s1.side .B).tcb = some tb1 ∧
      ta1.state = .FinWait2 ∧ tb1.state = .CloseWait ∧ RestX .A ta1 tb1 ∧ RestX .B tb1 ta1 ∧
      (s1.side .A).submitted = (s.side .A).submitted ∧ (s1.side .B).submitted = (s.side .B).submitted ∧
      (s1.side .A).delivered = (s.side .A).delivered ∧
      closeLossRoundN n s = .ok s2 ∧ releaseTail s1 = .ok s2 ∧ FinRun s1 s2 ∧
      (s2.side .A).tcb = none ∧ (s2.side .B).tcb = none ∧
      (s2.side .A).submitted = (s.side .A).submitted ∧ (s2.side .B).submitted = (s.side .B).submitted ∧
      (s2.side .A).delivered = (s.side .A).delivered ∧ (s2.side .B).delivered = (s1.side .B).delivered :=
  Front.tuple (close_roughL n s hg ta tb hc.rough (.of_empty hc.b.heap) hc.a.heap hub tbt hlen)
    (closeLossRoundN_eq n s)

theorem close_inflight_after_loss (n : Nat) (s : Sys) (hg : Good iss s) (ta tb : Tcb) (hc : Calm s ta tb)
    (hub : tb.snd.una = tb.snd.nxt) (tbt : tb.outgoing.text = []) (hnt : ta.outgoing.text = []) :
    ∃ s1 ta1 tb1 s2, closeLossFrontN n s = .ok s1 ∧ FinRun s s1 ∧
      (s1.side .A).tcb = some ta1 ∧ (s1.side .B).tcb = some tb1 ∧
      ta1.state = .FinWait2 ∧ tb1.state = .CloseWait ∧ RestX .A ta1 tb1 ∧ RestX .B tb1 ta1 ∧
      (s1.side .A).submitted = (s.side .A).submitted ∧ (s1.side .B).submitted = (s.side .B).submitted ∧
      (s1.side .A).delivered = (s.side .A).delivered ∧
      closeLossRoundN n s = .ok s2 ∧ releaseTail s1 = .ok s2 ∧ FinRun s1 s2 ∧
      (s2.side .A).tcb = none ∧ (s2.side .B).tcb = none ∧
      (s2.side .A).submitted = (s.side .A).submitted ∧ (s2.side .B).submitted = (s.side .B).submitted ∧
      (s2.side .A).delivered = (s.side .A).delivered ∧ (s2.side .B).delivered = (s1.side .B).delivered :=
  Front.tuple (close_roughL n s hg ta tb hc.rough (.of_empty hc.b.heap) hc.a.heap hub tbt (by rw [hnt]; exact Nat.zero_le _))
    (closeLossRoundN_eq n s)

end
end Elvis.Tcp
