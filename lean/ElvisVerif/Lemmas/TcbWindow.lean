import ElvisVerif.Lemmas.TcbInv
import ElvisVerif.Lemmas.SeqArith
/-!
# The send window: the retransmission queue covers `[SND.UNA, SND.NXT)`

`segments()` limits new data by `SND.WND − queued_bytes`.  That keeps new data left of
`SND.UNA + SND.WND` because the retransmission queue *covers* everything between `SND.UNA` and
`SND.NXT` (`SndInv.cover`).  `Chain` is the structural fact behind it: the text-bearing entries of
the queue are contiguous and end at `SND.NXT` (entry `t` followed by `x` queued bytes ends at
`SND.NXT − x`), so a cumulative ACK removes a prefix and what stays still covers
`[SEG.ACK, SND.NXT)`.

What the calls other than `abort` do to the send side is listed once (`SndStep`; `segments()` cuts what the window
admits: `segments_step`); that they keep the invariant (`SndPres`) and the bound on queued segments (`RtxLe`,
`Lemmas/TcbRtx.lean`) is an induction on it.
-/
namespace Elvis.Tcp
open Elvis.ModCmp
namespace Tcb

/-- bytes of text on a retransmission queue (`Outgoing::queued_bytes`) -/
def rtxBytes (l : List Transmit) : Nat := (l.map fun t => t.segment.text.length).sum

theorem queuedBytes_eq (o : Outgoing) : o.queuedBytes = rtxBytes o.retransmit := rfl

@[simp] theorem rtxBytes_nil : rtxBytes [] = 0 := rfl
@[simp] theorem rtxBytes_cons (t : Transmit) (l : List Transmit) :
    rtxBytes (t :: l) = t.segment.text.length + rtxBytes l := by simp [rtxBytes]
@[simp] theorem rtxBytes_append (a b : List Transmit) : rtxBytes (a ++ b) = rtxBytes a + rtxBytes b := by
  simp [rtxBytes]
theorem rtxBytes_map_flag (l : List Transmit) (b : Bool) :
    rtxBytes (l.map fun t => { t with needsTransmit := b }) = rtxBytes l := by
  induction l with
  | nil => rfl
  | cons t l ih => simp [ih]

/-- every text-bearing entry carries neither SYN nor FIN and, followed by `x` queued bytes, ends
    at `nxt − x` -/
def Chain (nxt : Seq) : List Transmit → Prop
  | [] => True
  | t :: rest =>
    (t.segment.text = [] ∨
      (t.segment.hdr.ctl.syn = false ∧ t.segment.hdr.ctl.fin = false ∧
        t.segment.hdr.seq + BitVec.ofNat 32 t.segment.text.length + BitVec.ofNat 32 (rtxBytes rest) = nxt)) ∧
    Chain nxt rest

theorem chain_map_flag (nxt : Seq) (l : List Transmit) (b : Bool) (h : Chain nxt l) :
    Chain nxt (l.map fun t => { t with needsTransmit := b }) := by
  induction l with
  | nil => trivial
  | cons t l ih =>
    simp only [List.map_cons, Chain]
    refine ⟨?_, ih h.2⟩
    rw [rtxBytes_map_flag]
    exact h.1

theorem chain_append_free (nxt : Seq) (l : List Transmit) (t : Transmit) (ht : t.segment.text = [])
    (h : Chain nxt l) : Chain nxt (l ++ [t]) := by
  induction l with
  | nil => exact ⟨Or.inl ht, trivial⟩
  | cons a l ih =>
    simp only [List.cons_append, Chain]
    refine ⟨?_, ih h.2⟩
    rcases h.1 with h1 | h1
    · exact Or.inl h1
    · right
      refine ⟨h1.1, h1.2.1, ?_⟩
      rw [rtxBytes_append, rtxBytes_cons, rtxBytes_nil, ht]
      exact h1.2.2

theorem chain_append_data (nxt : Seq) (l : List Transmit) (t : Transmit)
    (hs : t.segment.hdr.ctl.syn = false) (hf : t.segment.hdr.ctl.fin = false)
    (hseq : t.segment.hdr.seq = nxt) (h : Chain nxt l) :
    Chain (nxt + BitVec.ofNat 32 t.segment.text.length) (l ++ [t]) := by
  induction l with
  | nil =>
    refine ⟨Or.inr ⟨hs, hf, ?_⟩, trivial⟩
    rw [hseq, rtxBytes_nil]; simp
  | cons a l ih =>
    simp only [List.cons_append, Chain]
    refine ⟨?_, ih h.2⟩
    rcases h.1 with h1 | h1
    · exact Or.inl h1
    · right
      refine ⟨h1.1, h1.2.1, ?_⟩
      rw [rtxBytes_append, rtxBytes_cons, rtxBytes_nil, Nat.add_zero, BitVec.ofNat_add, ← h1.2.2]
      generalize a.segment.hdr.seq + BitVec.ofNat 32 a.segment.text.length = e
      generalize BitVec.ofNat 32 (rtxBytes l) = x
      generalize BitVec.ofNat 32 t.segment.text.length = y
      ac_rfl

/-- the retention test of `remove_acked_from_retransmission` -/
def keepFor (una : Seq) (t : Transmit) : Bool :=
  modLt una (t.segment.hdr.seq + BitVec.ofNat 32 t.segment.segLen)

theorem keep_iff (nxt una : Seq) (t : Transmit) (x : Nat) (hx : x ≤ 65535)
    (hm : (nxt - una).toNat ≤ 65536)
    (hs : t.segment.hdr.ctl.syn = false) (hf : t.segment.hdr.ctl.fin = false)
    (he : t.segment.hdr.seq + BitVec.ofNat 32 t.segment.text.length + BitVec.ofNat 32 x = nxt) :
    keepFor una t = decide (x < (nxt - una).toNat) := by
  unfold keepFor Segment.segLen
  rw [hs, hf]
  simp only [Bool.toNat_false, Nat.add_zero]
  have e : t.segment.hdr.seq + BitVec.ofNat 32 t.segment.text.length = nxt - BitVec.ofNat 32 x := by
    rw [← he, BitVec.add_sub_cancel]
  rw [e]
  rw [Bool.eq_iff_iff, modLt_iff, decide_eq_true_eq]
  have e2 : nxt - BitVec.ofNat 32 x - una = (nxt - una) - BitVec.ofNat 32 x := by
    simp only [BitVec.sub_eq_add_neg]; ac_rfl
  rw [e2]
  generalize (nxt - una) = d at hm ⊢
  have hxn : (BitVec.ofNat 32 x).toNat = x := by simp only [BitVec.toNat_ofNat]; omega
  simp only [BitVec.toNat_sub, hxn]
  have := d.isLt
  omega

theorem rtxBytes_filter_le (p : Transmit → Bool) (l : List Transmit) : rtxBytes (l.filter p) ≤ rtxBytes l := by
  induction l with
  | nil => exact Nat.le_refl _
  | cons t rest ih =>
    rw [List.filter_cons]
    split
    · rw [rtxBytes_cons, rtxBytes_cons]; exact Nat.add_le_add_left ih _
    · rw [rtxBytes_cons]; exact Nat.le_trans ih (Nat.le_add_left _ _)

/-- after a cumulative ACK of `una` the queue still covers `[una, nxt)`:
    it holds at least `min (nxt − una) (bytes before)` bytes, and is still a chain -/
theorem filter_cover (nxt una : Seq) (l : List Transmit) (hc : Chain nxt l)
    (hb : rtxBytes l ≤ 65535) (hm : (nxt - una).toNat ≤ 65536) :
    min (nxt - una).toNat (rtxBytes l) ≤ rtxBytes (l.filter (keepFor una)) ∧ Chain nxt (l.filter (keepFor una)) := by
  induction l with
  | nil => exact ⟨Nat.min_le_right _ _, trivial⟩
  | cons t rest ih =>
    rw [rtxBytes_cons] at hb
    have hrest : rtxBytes rest ≤ 65535 := Nat.le_trans (Nat.le_add_left _ _) hb
    obtain ⟨ih1, ih2⟩ := ih hc.2 hrest
    rw [List.filter_cons, rtxBytes_cons]
    by_cases h0 : t.segment.text = []
    · have hl : t.segment.text.length = 0 := by rw [h0]; rfl
      rw [hl, Nat.zero_add]
      split
      · rw [rtxBytes_cons, hl, Nat.zero_add]
        exact ⟨ih1, Or.inl h0, ih2⟩
      · exact ⟨ih1, ih2⟩
    · obtain ⟨hs, hf, he⟩ := hc.1.resolve_left h0
      rw [keep_iff nxt una t (rtxBytes rest) hrest hm hs hf he]
      by_cases hx : rtxBytes rest < (nxt - una).toNat
      · -- kept; so is all the text after it, since the rest still covers its own bytes
        rw [Nat.min_eq_right (Nat.le_of_lt hx)] at ih1
        have kb : rtxBytes (rest.filter (keepFor una)) = rtxBytes rest :=
          Nat.le_antisymm (rtxBytes_filter_le _ _) ih1
        rw [if_pos (decide_eq_true hx), rtxBytes_cons, kb]
        exact ⟨Nat.min_le_right _ _, Or.inr ⟨hs, hf, by rw [kb]; exact he⟩, ih2⟩
      · -- removed: the rest alone covers `[una, nxt)`
        rw [Nat.min_eq_left (Nat.le_of_not_lt hx)] at ih1
        rw [if_neg (fun h => hx (of_decide_eq_true h))]
        exact ⟨Nat.le_trans (Nat.min_le_left _ _) ih1, ih2⟩

/-- `segments()` may still turn queued text into data segments: the four open states, and the
    closing states while the FIN waits for text that is still queued (`fin_pending`) -/
def segmentizing (s : Tcb) : Bool :=
  match s.state with
  | .SynSent | .SynReceived | .Established | .CloseWait => true
  | .FinWait1 | .Closing | .LastAck => !s.outgoing.text.isEmpty
  | _ => false

theorem segmentizing_congr {s s' : Tcb} (h1 : s'.state = s.state) (h2 : s'.outgoing.text = s.outgoing.text) :
    segmentizing s' = segmentizing s := by
  unfold segmentizing; rw [h1, h2]

/-- 1 while our SYN is unacknowledged -/
def synPending (s : Tcb) : Nat := if s.snd.una = s.snd.iss then 1 else 0

/-- the retransmission queue is a chain ending at `SND.NXT`, holds at most 65535 bytes and
    covers `[SND.UNA, SND.NXT)` (up to the unacknowledged SYN) -/
structure SndInv (s : Tcb) : Prop where
  chain : Chain s.snd.nxt s.outgoing.retransmit
  bytes : rtxBytes s.outgoing.retransmit ≤ 65535
  cover : (s.snd.nxt - s.snd.una).toNat ≤ rtxBytes s.outgoing.retransmit + synPending s

theorem SndInv.congr {s s' : Tcb} (h : SndInv s) (h1 : s'.snd.una = s.snd.una) (h2 : s'.snd.nxt = s.snd.nxt)
    (h3 : s'.snd.iss = s.snd.iss) (h4 : s'.outgoing.retransmit = s.outgoing.retransmit) : SndInv s' := by
  refine ⟨by rw [h2, h4]; exact h.chain, by rw [h4]; exact h.bytes, ?_⟩
  unfold synPending
  rw [h1, h2, h3, h4]
  exact h.cover

theorem sndInv_enqueueBuilt (s : Tcb) (hd : Hdr) (h : SndInv s) : SndInv (s.enqueueBuilt hd) := by
  rcases enqueueBuilt_cases s hd with ⟨-, e⟩ | ⟨-, -, e⟩ <;> rw [e]
  · refine ⟨chain_append_free _ _ _ rfl h.chain, ?_, ?_⟩
    · simp only [rtxBytes_append, rtxBytes_cons, rtxBytes_nil, Transmit.new]
      exact h.bytes
    · unfold synPending
      simp only [rtxBytes_append, rtxBytes_cons, rtxBytes_nil, Transmit.new]
      exact h.cover
  · exact h.congr rfl rfl rfl rfl

theorem outstanding_of_bounded (una ack nxt : Seq) (b : Nat) (hc : (nxt - una).toNat ≤ b + 1) (hb : b ≤ 65535)
    (h : modBounded una .Lt ack .Leq nxt = true) : (nxt - ack).toNat ≤ b := by
  unfold modBounded at h
  rw [cyc_iff] at h
  simp only [Cmp.offset] at h
  rw [show una - 0 = una from BitVec.sub_zero una,
    show nxt + 1 - una = (nxt - una) + 1 by simp only [BitVec.sub_eq_add_neg]; ac_rfl] at h
  rw [sub_sub_sub_cancel una ack nxt]
  generalize (nxt - una) = n at h hc ⊢
  generalize (ack - una) = a at h ⊢
  have h1 : (1 : BitVec 32).toNat = 1 := rfl
  simp only [BitVec.toNat_add, BitVec.toNat_sub, h1] at h ⊢
  have := n.isLt; have := a.isLt
  omega

theorem sndInv_ack (s : Tcb) (ack : Seq) (h : SndInv s)
    (hb : modBounded s.snd.una .Lt ack .Leq s.snd.nxt = true) :
    SndInv (({ s with snd.una := ack } : Tcb).removeAckedFromRetransmission ack) := by
  have hsp : synPending s ≤ 1 := by unfold synPending; split <;> decide
  have hd : (s.snd.nxt - ack).toNat ≤ rtxBytes s.outgoing.retransmit :=
    outstanding_of_bounded _ _ _ _ (Nat.le_trans h.cover (Nat.add_le_add_left hsp _)) h.bytes hb
  obtain ⟨f1, f2⟩ := filter_cover s.snd.nxt ack s.outgoing.retransmit h.chain h.bytes
    (Nat.le_trans hd (Nat.le_trans h.bytes (by decide)))
  rw [Nat.min_eq_left hd] at f1
  exact ⟨f2, Nat.le_trans (rtxBytes_filter_le _ _) h.bytes, Nat.le_trans f1 (Nat.le_add_right _ _)⟩

/-! ## `segments()` creates data only inside the peer's window -/

/-- the segment's text lies in `[SND.UNA, SND.UNA + SND.WND)` (one further while our SYN is
    unacknowledged: the SYN occupies `SND.UNA` itself) -/
def InSendWindow (s : Tcb) (seg : Segment) : Prop :=
  (seg.hdr.seq - s.snd.una).toNat + seg.text.length ≤ s.snd.wnd.toNat + synPending s

theorem rtxBytes_cutSegment (s : Tcb) (b : Nat) (hl : b ≤ s.outgoing.text.length) :
    rtxBytes (cutSegment s b).outgoing.retransmit = rtxBytes s.outgoing.retransmit + b :=
  queuedBytes_cutSegment s b hl

/-- `b` more bytes that the window `w` admits after the `q` queued ones: the queue stays within 65535 bytes and
    keeps covering what is outstanding (`d`, of which `p` are not on the queue) -/
theorem cover_add (d : Seq) (q b p w : Nat) (hc : d.toNat ≤ q + p) (hb : b ≤ w - q) (hw : w < 65536) (hq : q ≤ 65535) :
    q + b ≤ 65535 ∧ (d + BitVec.ofNat 32 b).toNat ≤ q + b + p := by
  rw [BitVec.toNat_add, BitVec.toNat_ofNat]
  have := Nat.mod_le (d.toNat + b % 2 ^ 32) (2 ^ 32)
  have := Nat.mod_le b (2 ^ 32)
  omega

theorem sndInv_cutSegment (s : Tcb) (h : SndInv s) (b : Nat)
    (hb : b ≤ s.snd.wnd.toNat - rtxBytes s.outgoing.retransmit) (hl : b ≤ s.outgoing.text.length) :
    SndInv (cutSegment s b) := by
  have hr := rtxBytes_cutSegment s b hl
  obtain ⟨k1, k2⟩ := cover_add (s.snd.nxt - s.snd.una) _ b (synPending s) _ h.cover hb s.snd.wnd.isLt h.bytes
  refine ⟨chain_append_data s.snd.nxt s.outgoing.retransmit (Transmit.new ⟨s.ackHdr.built, s.outgoing.text.take b⟩)
    rfl rfl rfl h.chain, hr ▸ k1, ?_⟩
  rw [hr]
  show (s.snd.nxt + BitVec.ofNat 32 (s.outgoing.text.take b).length - s.snd.una).toNat ≤ _ + synPending s
  rw [List.length_take, Nat.min_eq_left hl,
    show s.snd.nxt + BitVec.ofNat 32 b - s.snd.una = (s.snd.nxt - s.snd.una) + BitVec.ofNat 32 b by
      simp only [BitVec.sub_eq_add_neg]; ac_rfl]
  exact k2

theorem inSendWindow_cutSegment (s : Tcb) (h : SndInv s) (b : Nat)
    (hb : b ≤ s.snd.wnd.toNat - rtxBytes s.outgoing.retransmit) (hl : b ≤ s.outgoing.text.length) (h0 : b ≠ 0) :
    InSendWindow s ⟨s.ackHdr.built, s.outgoing.text.take b⟩ := by
  have hlen : (s.outgoing.text.take b).length = b := by rw [List.length_take]; omega
  have hc := h.cover
  show (s.snd.nxt - s.snd.una).toNat + (s.outgoing.text.take b).length ≤ _
  omega

/-! ## the invariant is kept by every operation except `abort` -/

def SndOk (s : Tcb) : Prop := segmentizing s = true → SndInv s

/-- one step keeps the invariant: a segmentizing state is only entered from a segmentizing
    state, and `SndInv` carries over -/
def SndPres (s s' : Tcb) : Prop :=
  segmentizing s' = true → segmentizing s = true ∧ (SndInv s → SndInv s')

theorem SndPres.refl (s : Tcb) : SndPres s s := fun h => ⟨h, id⟩

theorem SndPres.trans {a b c : Tcb} (h1 : SndPres a b) (h2 : SndPres b c) : SndPres a c := fun h =>
  ⟨(h1 (h2 h).1).1, fun ha => (h2 h).2 ((h1 (h2 h).1).2 ha)⟩

theorem SndOk.step {s s' : Tcb} (h : SndOk s) (p : SndPres s s') : SndOk s' := fun hs =>
  (p hs).2 (h (p hs).1)

theorem sndPres_congr {s s' : Tcb} (hst : segmentizing s' = true → segmentizing s = true)
    (h1 : s'.snd.una = s.snd.una) (h2 : s'.snd.nxt = s.snd.nxt) (h3 : s'.snd.iss = s.snd.iss)
    (h4 : s'.outgoing.retransmit = s.outgoing.retransmit) : SndPres s s' :=
  fun h => ⟨hst h, fun hi => hi.congr h1 h2 h3 h4⟩

theorem segmentizing_enqueueBuilt (s : Tcb) (hd : Hdr) : segmentizing (s.enqueueBuilt hd) = segmentizing s :=
  segmentizing_congr (state_enqueueBuilt s hd) (enqueueBuilt_frame s hd).text

theorem sndPres_enqueueBuilt (s : Tcb) (hd : Hdr) : SndPres s (s.enqueueBuilt hd) := fun h =>
  ⟨by rw [segmentizing_enqueueBuilt] at h; exact h, sndInv_enqueueBuilt s hd⟩

theorem sndPres_flags (t : Tcb) (b : Bool) (tmo : Timeouts) :
    SndPres t { t with outgoing.retransmit := t.outgoing.retransmit.map fun x => { x with needsTransmit := b },
                       timeouts := tmo } := fun hst =>
  ⟨hst, fun hi => ⟨chain_map_flag _ _ _ hi.chain, (rtxBytes_map_flag _ _).symm ▸ hi.bytes,
    show _ ≤ rtxBytes (t.outgoing.retransmit.map _) + synPending t from (rtxBytes_map_flag _ _).symm ▸ hi.cover⟩⟩

theorem of_exists {α : Type} {x : Except String (Tcb × α)} {P : Tcb → Prop}
    (h : ∃ s r, x = .ok (s, r) ∧ P s) {s' : Tcb} {r' : α} (e : x = .ok (s', r')) : P s' := by
  obtain ⟨s, r, e1, p⟩ := h
  rw [e1] at e
  cases e
  exact p

theorem seg_of_synSent {s : Tcb} (h : s.state = .SynSent) : segmentizing s = true := by
  unfold segmentizing; rw [h]
theorem seg_of_synReceived {s : Tcb} (h : s.state = .SynReceived) : segmentizing s = true := by
  unfold segmentizing; rw [h]
theorem seg_of_established {s : Tcb} (h : s.state = .Established) : segmentizing s = true := by
  unfold segmentizing; rw [h]
theorem seg_of_closeWait {s : Tcb} (h : s.state = .CloseWait) : segmentizing s = true := by
  unfold segmentizing; rw [h]

theorem sndPres_finQueued (t : Tcb) (hcl : t.state = .FinWait1 ∨ t.state = .Closing ∨ t.state = .LastAck)
    (he : t.outgoing.text.isEmpty = true) : SndPres t (finQueued t) := by
  intro hseg
  -- with its FIN queued the endpoint segmentizes no more
  rw [finQueued_eq] at hseg
  unfold segmentizing at hseg
  rcases hcl with h | h | h <;> (dsimp only at hseg; rw [h, he] at hseg; cases hseg)

/-- what a call may do to the send side: queue a header, take an acknowledgment, set the flags of the queue (the
    retransmission timeout sets them, `segments()` clears them), queue the FIN once no text waits, leave
    `SND.UNA`, `SND.NXT`, ISS and the queue alone, or cut `b` octets of text into a data segment as one round of the
    loop of `segments()` does: what there is, what the window leaves after what is queued, at most a segment -/
inductive SndStep : Tcb → Tcb → Prop
  | refl (s : Tcb) : SndStep s s
  | trans {a b c : Tcb} : SndStep a b → SndStep b c → SndStep a c
  | enqueue (s : Tcb) (hd : Hdr) : SndStep s (s.enqueueBuilt hd)
  | ack {s : Tcb} {ack : Seq} : modBounded s.snd.una .Lt ack .Leq s.snd.nxt = true → SndStep s (ackTaken s ack)
  | flags (s : Tcb) (b : Bool) (tmo : Timeouts) :
      SndStep s { s with outgoing.retransmit := s.outgoing.retransmit.map fun x => { x with needsTransmit := b },
                         timeouts := tmo }
  | fin {s : Tcb} : s.state = .FinWait1 ∨ s.state = .Closing ∨ s.state = .LastAck → s.outgoing.text.isEmpty = true →
      SndStep s (finQueued s)
  | frame {s s' : Tcb} : (segmentizing s' = true → segmentizing s = true) → s'.snd.una = s.snd.una →
      s'.snd.nxt = s.snd.nxt → s'.snd.iss = s.snd.iss → s'.outgoing.retransmit = s.outgoing.retransmit → SndStep s s'
  | cut {s : Tcb} {b : Nat} : segmentizing s = true → b ≤ s.outgoing.text.length →
      b ≤ s.snd.wnd.toNat - rtxBytes s.outgoing.retransmit → b + SPACE_FOR_HEADERS ≤ 65535 → SndStep s (cutSegment s b)

theorem SndStep.pres {s s' : Tcb} (h : SndStep s s') : SndPres s s' := by
  induction h with
  | refl s => exact SndPres.refl s
  | trans _ _ h1 h2 => exact h1.trans h2
  | enqueue s hd => exact sndPres_enqueueBuilt s hd
  | ack hb => exact fun hs => ⟨hs, fun hi => sndInv_ack _ _ hi hb⟩
  | flags s b tmo => exact sndPres_flags s b tmo
  | fin hcl he => exact sndPres_finQueued _ hcl he
  | frame hst h1 h2 h3 h4 => exact sndPres_congr hst h1 h2 h3 h4
  | cut hs hl hb _ => exact fun _ => ⟨hs, fun hi => sndInv_cutSegment _ hi _ hb hl⟩

theorem Eff.sndStep {g : Segment} {k : Nat} {s s' : Tcb} (h : Eff g k s s') : SndStep s s' := by
  cases h with
  | reply => exact .enqueue _ _
  | ack _ _ _ hb => exact .ack hb
  | window | text | fin | rto => exact .frame id rfl rfl rfl rfl
  | established _ hst => exact .frame (fun _ => seg_of_synReceived hst) rfl rfl rfl rfl
  | syn _ _ hst => exact .frame (fun _ => seg_of_synSent hst) rfl rfl rfl rfl
  | closeWait _ hs => exact .frame (fun _ => hs.elim seg_of_synReceived seg_of_established) rfl rfl rfl rfl
  | closing _ hst => exact .frame (fun h => by unfold segmentizing at h ⊢; rw [hst]; exact h) rfl rfl rfl rfl
  -- FIN-WAIT-2 and TIME-WAIT never segmentize
  | finWait2 | timeWaitAcked | timeWaitFin => exact .frame nofun rfl rfl rfl rfl

theorem segmentArrives_step {s s' : Tcb} {g : Segment} {r : SegmentArrivesResult}
    (e : s.segmentArrives g = .ok (s', r)) : SndStep s s' :=
  segmentArrives_lift .refl .trans (fun _ _ => .frame id rfl rfl rfl rfl) Eff.sndStep e

theorem segmentize_nil (maxSeg fuel : Nat) (s : Tcb) (q : Nat) (h : s.outgoing.text = []) :
    segmentize maxSeg fuel s q = .ok s :=
  segmentize_idle _ _ (by unfold cutLen; rw [h]; exact Nat.min_zero _)

theorem segmentizing_of_text {s : Tcb} (hs : segmentizes s.state = true) (ht : s.outgoing.text ≠ []) :
    segmentizing s = true := by
  unfold segmentizing
  unfold segmentizes at hs
  cases hst : s.state <;> rw [hst] at hs <;> first | rfl | cases hs | skip
  all_goals
    cases h : s.outgoing.text with
    | nil => exact absurd h ht
    | cons => rfl

theorem Segs.step {m : Nat} {p : Bool} {s s' : Tcb} (h : Segs m p s s') (hm : m + SPACE_FOR_HEADERS ≤ 65535) :
    SndStep s s' ∧ (SndOk s → ∀ t ∈ s'.outgoing.retransmit,
      t ∈ s.outgoing.retransmit ∨ t.segment.text = [] ∨ InSendWindow s t.segment) := by
  induction h with
  | done _ => exact ⟨.refl _, fun _ _ ht => Or.inl ht⟩
  | fin _ hcl he =>
    refine ⟨.fin hcl he, fun _ t ht => ?_⟩
    rw [finQueued_retransmit] at ht
    exact (List.mem_append.1 ht).imp_right fun ht => Or.inl (by rw [List.mem_singleton.1 ht]; rfl)
  | @cut s s' b hs h0 hl hbm hb _ ih =>
    have hseg := segmentizing_of_text hs (List.ne_nil_of_length_pos (Nat.lt_of_lt_of_le h0 hl))
    have cut : SndStep s (cutSegment s b) := .cut hseg hl hb (Nat.le_trans (Nat.add_le_add_right hbm _) hm)
    refine ⟨cut.trans ih.1, fun hok t ht => ?_⟩
    rcases ih.2 (hok.step cut.pres) t ht with ht | ht
    · rcases List.mem_append.1 ht with ht | ht
      · exact Or.inl ht
      · rw [List.mem_singleton.1 ht]
        exact Or.inr (Or.inr (inSendWindow_cutSegment s (hok hseg) _ hb hl (Nat.pos_iff_ne_zero.1 h0)))
    · exact Or.inr ht

/-- **`segments()` is a step of the send side**: the one-shot queue is handed out, the loop cuts what the window
    admits, the FIN that waited for the text is queued, the flags are cleared.  Under the invariant every segment
    handed to the network is a retransmission of a queued segment, carries no text, or is new data inside the send
    window. -/
theorem segments_cuts {s s' : Tcb} {out : List Segment} (e : s.segments = .ok (s', out)) :
    SndStep s s' ∧ (SndOk s → ∀ seg ∈ out,
      seg.text = [] ∨ (∃ t ∈ s.outgoing.retransmit, t.segment = seg) ∨ InSendWindow s seg) := by
  obtain ⟨s2, tmo, h, rfl⟩ := segments_segs e
  have k0 : SndStep s (clearOneshot s) := .frame id rfl rfl rfl rfl
  have := s.mtu.isLt
  obtain ⟨k, w⟩ := h.step (by show s.mtu.toNat - 50 + 50 ≤ 65535; omega)
  refine ⟨(k0.trans k).trans (.flags s2 false { s2.timeouts with retransmission := tmo }), fun hok seg hseg => ?_⟩
  rcases segments_out e seg hseg with ⟨hd, -, rfl⟩ | ⟨tr, htr, rfl⟩
  · exact Or.inl rfl
  · obtain ⟨t, ht, rfl⟩ := List.mem_map.1 htr
    rcases w (hok.step k0.pres) t ht with h | h | h
    · exact Or.inr (Or.inl ⟨t, h, rfl⟩)
    · exact Or.inl h
    · exact Or.inr (Or.inr h)

theorem segments_step {s s' : Tcb} {out : List Segment} (e : s.segments = .ok (s', out)) : SndStep s s' :=
  (segments_cuts e).1

theorem advanceTime_step {s s' : Tcb} {dt : Nat} {r : AdvanceTimeResult} (e : s.advanceTime dt = .ok (s', r)) :
    SndStep s s' := by
  obtain ⟨tmo, rfl | rfl⟩ := advanceTime_flags e
  · exact .frame id rfl rfl rfl rfl
  · exact .flags s true tmo

theorem send_step (s : Tcb) (m : List UInt8) : SndStep s (s.send m) := by
  rw [send_eq]
  split
  · rename_i h
    refine .frame (fun _ => ?_) rfl rfl rfl rfl
    unfold segmentizing
    cases hs : s.state <;> rw [hs] at h <;> first | rfl | cases h
  · exact .refl _

theorem receive_step (s : Tcb) : SndStep s s.receive.1 := by
  rw [receive_eq]
  split <;> exact .frame id rfl rfl rfl rfl

theorem close_step {s s' : Tcb} {r : CloseResult} (e : s.close = .ok (s', r)) : SndStep s s' := by
  rcases close_cases e with rfl | ⟨st, rfl, hst⟩
  · exact .refl _
  · have hs : segmentizing s = true := by
      rcases hst with ⟨h | h, -⟩ | ⟨h, -⟩
      · exact seg_of_synReceived h
      · exact seg_of_established h
      · exact seg_of_closeWait h
    have hcl : st = .FinWait1 ∨ st = .Closing ∨ st = .LastAck :=
      hst.elim (fun h => Or.inl h.2) fun h => Or.inr (Or.inr h.2)
    have p0 : SndStep s { s with state := st } := .frame (fun _ => hs) rfl rfl rfl rfl
    split
    · exact p0.trans (.fin hcl ‹_›)
    · exact p0

/-- a TCB whose queue holds only its SYN, unacknowledged: `open` and LISTEN -/
theorem sndInv_fresh (t : Tcb) (iss : Seq) (hd : Hdr) (hr : t.outgoing.retransmit = [Transmit.new ⟨hd, []⟩])
    (hu : t.snd.una = iss) (hn : t.snd.nxt = iss + 1) (hi : t.snd.iss = iss) : SndInv t := by
  refine ⟨hr ▸ ⟨Or.inl rfl, trivial⟩, hr ▸ Nat.zero_le _, ?_⟩
  unfold synPending
  rw [hr, hu, hn, hi, if_pos rfl, BitVec.add_comm, BitVec.add_sub_cancel]
  exact Nat.le_refl 1

theorem open_sndOk (lp rp : U16) (iss : Seq) (mtu : U16) (s : Tcb) (e : Tcb.open lp rp iss mtu = .ok s) :
    SndOk s := by
  rw [open_eq] at e
  cases e
  exact fun _ => sndInv_fresh _ iss _ rfl rfl rfl rfl

theorem listen_sndOk (segment : Segment) (iss : Seq) (mtu : U16) (tcb : Tcb)
    (e : segmentArrivesListen segment iss mtu = .ok (some (.Tcb tcb))) : SndOk tcb := by
  rw [(segmentArrivesListen_tcb e).2.2.2]
  exact fun _ => sndInv_fresh _ iss _ rfl rfl rfl rfl

end Tcb
end Elvis.Tcp
