import ElvisVerif.Lemmas.TcpFullHsDrain
/-!
# ESTABLISHED implies `SND.UNA ≠ ISS` (the SYN has been acknowledged); a delivery that fills a gap

`UInv`: in every reachable state a TCB in ESTABLISHED has `1 ≤ SND.UNA − ISS`; over plain steps, from `XU`
(`Lemmas/TcpFullHsTcb.lean`) carried through `segment_arrives` (`segmentArrives_xu`).  `Good.arr`: the invariants give
`Arr` (`Lemmas/TcpFullHsDrain.lean`) for every history element of the peer.
-/
namespace Elvis.Tcp.Full
open Elvis.ModCmp Elvis.Tcp.Tcb

def UInv (iss : SideId → Seq) (s : Sys) : Prop :=
  ∀ x t, (s.side x).tcb = some t → t.state = .Established → 1 ≤ off (iss x) t.snd.una

theorem UInv.ne {iss : SideId → Seq} {s : Sys} (h : UInv iss s) (hg : Good iss s) (x : SideId) (t : Tcb)
    (ht : (s.side x).tcb = some t) (hst : t.state = .Established) : t.snd.una ≠ t.snd.iss := by
  intro h0
  have := h x t ht hst
  rw [h0, hg.iss_eq x t ht, off_self] at this
  omega

variable {issf : SideId → Seq}

theorem _root_.Elvis.Tcp.Good.arr {s : Sys} (hg : Good issf s) {y : SideId} {t tp : Tcb} {σ : Segment}
    (ht : (s.side y).tcb = some t) (htp : (s.side y.peer).tcb = some tp) (hmem : σ ∈ s.history)
    (hsrc : σ.hdr.srcPort = y.peer.port) :
    Arr y.port (issf y) (issf y.peer) (s.side y).submitted (s.side y.peer).submitted (s.side y).delivered t σ := by
  obtain ⟨a1, a2⟩ := ack_le_sent hg ht htp
  refine ⟨hg.sent_lt y t ht, hg.tinv y t ht, by have := hg.room.side y.peer; omega, hg.valid hmem hsrc,
    early_of_conv hg.conv y t ht, hg.una_le y t ht, fun x hx => ?_⟩
  rcases List.mem_cons.1 hx with rfl | hx
  · exact ⟨a1 x hmem hsrc, hg.conv.nr.hist x hmem⟩
  · exact ⟨a2 x hx, (hg.conv.nr.tcb y t ht).heap x hx⟩

theorem uinv_step {s s' : Sys} (hg : Good issf s) (h : UInv issf s) (l : LiveStep s s') : UInv issf s' :=
  l.tcbs h fun y o tcb' new htcb c _ hs => by
    cases c with
    | @loc tcb _ _ l =>
      have k := l.kept hg htcb
      rw [k.una]
      exact h y tcb htcb (by rw [← k.state]; exact hs)
    | @arrive tcb _ σ hmem hsrc h1 =>
      cases hq : (s.side y.peer).tcb with
      | none =>
        -- the peer only listens: the TCB is in SYN-SENT and stays there
        exfalso
        have hlis : (s.side y.peer).listen.isSome = true := by
          rcases hg.conv.nr.alive y.peer with ha | ha
          · rw [hq] at ha; cases ha
          · exact ha
        have := (arrive_listening s hg.conv.full.inv hg.conv.full.fresh hg.conv.full.ack
          (room_of_inv hg.conv.c01 hg.room) y tcb tcb' σ htcb hmem hsrc h1 hq hlis).2.2.2
        rw [this] at hs; cases hs
      | some tp => exact (segmentArrives_xu (hg.arr htcb hq hmem hsrc) h1 (h y tcb htcb)).est hs
    | create => cases hs

theorem uinv_run {s s' : Sys} (hc : Conv issf s) (hx : Ext s) (h : UInv issf s) (r : PlainRun s s') (hb : RoomH s') :
    UInv issf s' :=
  good_run (fun _ _ hg h l _ => uinv_step hg h l) hc hx h r hb

theorem uinv_init (ia ib : Seq) (ma mb : U16) (simultaneous : Bool) (sys : Sys) (rs : List Res)
    (e : Sys.run {} [.open .A ia ma, if simultaneous then .open .B ib mb else .listen .B ib mb] = .ok (sys, rs)) :
    UInv (issOf ia ib) sys := by
  intro y u hu hs
  rw [(init_tcbs e).2.1 y u hu] at hs
  cases hs

end Elvis.Tcp.Full

/-! ## a delivery that fills a gap, at system level

A history element of the peer without SYN is `Nice` (`Lemmas/TcpFullEst.lean`), so its delivery to an ESTABLISHED side is
evaluated by `arrive_est`. -/
namespace Elvis.Tcp.Full
open Elvis.ModCmp Elvis.Tcp.Tcb

variable {iss : SideId → Seq} {mt : SideId → U16}

theorem noSyn_of_text {s : Sys} (hg : Good iss s) {σ : Segment} {x : SideId} (hmem : σ ∈ s.history)
    (hsrc : σ.hdr.srcPort = x.port) (htxt : σ.text ≠ []) : σ.hdr.ctl.syn = false := by
  cases h : σ.hdr.ctl.syn with
  | false => rfl
  | true => exact absurd ((hg.valid hmem hsrc).syn h).2 htxt

theorem nice_of_hist {s : Sys} (hg : Good iss s) (hf : FInv iss mt s) (y : SideId) (ty tx : Tcb)
    (hty : (s.side y).tcb = some ty) (htx : (s.side y.peer).tcb = some tx)
    (σ : Segment) (hmem : σ ∈ s.history) (hsrc : σ.hdr.srcPort = y.peer.port) (hsyn : σ.hdr.ctl.syn = false) :
    Nice (iss y) ty.sent (iss y.peer) tx.sent σ := by
  have hval := hg.valid hmem hsrc
  have hissX := hg.iss_eq y.peer tx htx
  refine ⟨hg.conv.nr.hist σ hmem, hsyn, hval.fin, (ack_le_sent hg hty htx).1 σ hmem hsrc, ?_,
    hf.seq y.peer tx htx σ hmem hsrc, fun hne => ?_⟩
  · have := hg.ext.wf.hist σ hmem
    have : MAX_PAYLOAD = 65515 := rfl
    omega
  · exact hissX ▸ ((hg.conv.full.inv.link y.peer).hist tx htx σ hmem hsrc).text hne

theorem deliver_gap {s : Sys} (hg : Good iss s) (hf : FInv iss mt s) (y : SideId) (ty tx : Tcb)
    (hty : (s.side y).tcb = some ty) (htx : (s.side y.peer).tcb = some tx)
    (sty : ty.state = .Established)
    (hroom : ty.incoming.text.length + (tx.sent - off (iss y.peer) ty.rcv.nxt) ≤ 65535)
    (i : Nat) (σ : Segment) (hn : s.nth i = some σ) (hsrc : σ.hdr.srcPort = y.peer.port) (hsyn : σ.hdr.ctl.syn = false) :
    ∃ ty', s.step (.deliver y i) = .ok (s.setSide y { s.side y with tcb := some ty' }, .arrived .Ok) ∧
      ER (iss y) ty.sent (iss y.peer) tx.sent ty' ∧ EK (iss y) (iss y.peer) ty ty' ∧
      (∀ g ∈ ty'.incoming.segments, g = σ ∨ g ∈ ty.incoming.segments) ∧
      (σ.text ≠ [] → off (iss y.peer) σ.hdr.seq ≤ off (iss y.peer) ty.rcv.nxt →
        off (iss y.peer) σ.hdr.seq + σ.text.length ≤ off (iss y.peer) ty'.rcv.nxt ∧ LastAck ty') := by
  have hmem : σ ∈ s.history := nth_mem s i σ hn
  have er := er_of_goodL hg y ty tx (hf.heapFit y ty tx hty htx) hty htx sty hroom
  have ng := nice_of_hist hg hf y ty tx hty htx σ hmem hsrc hsyn
  obtain ⟨ty', e1, er', k', hs', prog'⟩ := arrive_est (hg.sent_lt y ty hty) (hg.sent_lt y.peer tx htx) ty σ er ng
  refine ⟨ty', ?_, er', k', hs', prog'⟩
  exact step_iff.2 (.deliver hn (.tcb hty e1))

end Elvis.Tcp.Full
