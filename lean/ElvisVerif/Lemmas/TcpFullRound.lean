import ElvisVerif.Lemmas.TcpFullPhase
/-!
# One fair round from a rough state ends `Done`

`Rough.takes`, `phase_roughL`: from a rough state (`Lemmas/TcpFullPhase.lean`) with every queue entry flagged each side
takes the other's batch (`Takes`, `Lemmas/TcpConvExchange.lean`), so the exchange phase succeeds and ends steady.  A tick of
`RTO + 1` flags every queue entry (`advanceTime_expire`).  `fairRound_roughL`: one fair round of `2n + 2` phases from a
rough state ends `Done` when at most `65535 · n` bytes are unsent on either side.
-/
namespace Elvis.Tcp.Full
open Elvis.ModCmp Elvis.Tcp.Tcb

variable {iss : SideId → Seq}

theorem RoughX.of_flagged {t t1 : Tcb} (C : RoughX t) (f : Flagged t t1) :
    RoughX t1 ∧ ∀ tr ∈ t1.outgoing.retransmit, tr.needsTransmit = true := by
  exact ⟨⟨by rw [f.st]; exact C.st, by rw [f.inc]; exact C.buf, by rw [f.snd]; exact C.una,
    by rw [f.mtu]; exact C.mtu, by rw [f.tmo]; exact Nat.le_refl _⟩, f.all⟩

theorem good_of_run {s s' : Sys} (hg : Good iss s) (r : PlainRun s s') (hroom : RoomH s') : Good iss s' :=
  hg.of_run r hroom

theorem tick_rough (s : Sys) (hg : Good iss s) (x : SideId) (t : Tcb) (ht : (s.side x).tcb = some t) (C : RoughX t) :
    ∃ s1 r t1, s.step (.tick x (RTO + 1)) = .ok (s1, r) ∧ PlainRun s s1 ∧ Good iss s1 ∧
      (s1.side x).tcb = some t1 ∧ s1.side x.peer = s.side x.peer ∧ Flagged t t1 := by
  obtain ⟨t1, -, e, r01, hg1, k1⟩ := tick_flag s hg x t ht (by rw [C.st]; nofun) C.tmo
  exact ⟨_, _, t1, e, r01, hg1, by rw [side_setSide_same], by rw [side_setSide_peer], k1⟩

/-- rough states whose queues the ticks have flagged: each side re-sends its whole queue and cuts what the window still
    admits; the other takes what it has not received yet, in order; `SND.UNA` moves within what has been sent -/
theorem Rough.takes {s : Sys} {ta tb : Tcb} (hg : Good iss s) (hc : Rough s ta tb)
    (hha : HeapFit (iss .B) tb.sent ta) (hhb : HeapFit (iss .A) ta.sent tb)
    (hfa : ∀ tr ∈ ta.outgoing.retransmit, tr.needsTransmit = true)
    (hfb : ∀ tr ∈ tb.outgoing.retransmit, tr.needsTransmit = true) :
    Takes iss ta tb fun ta' tb' =>
      (off (iss .A) ta.snd.una ≤ off (iss .A) ta'.snd.una ∧ off (iss .A) ta'.snd.una ≤ ta.sent + emitAmount ta) ∧
      (off (iss .B) tb.snd.una ≤ off (iss .B) tb'.snd.una ∧ off (iss .B) tb'.snd.una ≤ tb.sent + emitAmount tb) := by
  intro s2 newA ta1 outA newB tb1 outB hg2 h2a h2b fA fB
  have hsa : (s.side .A).tcb = some ta := hc.ha
  have hsb : (s.side .B).tcb = some tb := hc.hb
  obtain ⟨tb2, eb2, kB, b_lo, b_hi, b_last⟩ :=
    side_outcome_roughL hg hg2 .B tb tb1 ta ta1 newB newA outB outA hsb hsa h2b h2a fB fA hc.b hc.a hfa hhb
  obtain ⟨ta2, ea2, kA, a_lo, a_hi, a_last⟩ :=
    side_outcome_roughL hg hg2 .A ta ta1 tb tb1 newA newB outA outB hsa hsb h2a h2b fA fB hc.a hc.b hfb hha
  -- the peer's last header acknowledges everything; or the side had nothing outstanding: its SND.UNA already equals SND.NXT
  have lastack : ∀ (y : SideId) (t t1 t2 u2 : Tcb) (new : List Transmit) (out : List Segment),
      (s2.side y).tcb = some t1 → EmitFx t new t1 out → t2.snd.nxt = t1.snd.nxt →
      off (iss y) t1.snd.una ≤ off (iss y) t2.snd.una → off (iss y) t2.snd.una ≤ t1.sent →
      (LastAck u2 ∨ (t.snd.una = t.snd.nxt ∧ t1.snd.nxt = t.snd.nxt)) → t2.snd.una = t2.snd.nxt ∨ LastAck u2 := by
    intro y t t1 t2 u2 new out h1 f hn lo hi hl
    rcases hl with h0 | ⟨e1, e2⟩
    · exact Or.inr h0
    refine Or.inl (off_inj (base := iss y) ?_)
    rw [hn]
    have := hg2.sent_eq y t1 h1
    rw [f.una, e1, ← e2] at lo
    omega
  have sA := sent_emit hg .A ta ta1 newA outA hsa fA (hg2.iss_eq .A ta1 h2a)
  have sB := sent_emit hg .B tb tb1 newB outB hsb fB (hg2.iss_eq .B tb1 h2b)
  exact ⟨ta2, tb2, ea2, eb2, kA, kB, lastack .A ta ta1 ta2 tb2 newA outA h2a fA kA.nxt a_lo a_hi b_last,
    lastack .B tb tb1 tb2 ta2 newB outB h2b fB kB.nxt b_lo b_hi a_last,
    ⟨fA.una ▸ a_lo, sA ▸ a_hi⟩, ⟨fB.una ▸ b_lo, sB ▸ b_hi⟩⟩

theorem phase_roughL (s : Sys) (hg : Good iss s) (ta tb : Tcb) (hc : Rough s ta tb)
    (hha : HeapFit (iss .B) tb.sent ta) (hhb : HeapFit (iss .A) ta.sent tb)
    (hfa : ∀ tr ∈ ta.outgoing.retransmit, tr.needsTransmit = true)
    (hfb : ∀ tr ∈ tb.outgoing.retransmit, tr.needsTransmit = true) :
    ∃ s' ta' tb', phase s = .ok s' ∧ PlainRun s s' ∧ Good iss s' ∧ Steady s' ta' tb' ∧
      ta'.outgoing.text = ta.outgoing.text.drop (emitAmount ta) ∧
      tb'.outgoing.text = tb.outgoing.text.drop (emitAmount tb) := by
  obtain ⟨s', ta', tb', hp, hr, hg', hs', -, ta_text, tb_text⟩ :=
    (hc.takes hg hha hhb hfa hfb).phase s hg hc.ha hc.hb hc.a.st hc.b.st hc.a.mtu hc.b.mtu
  exact ⟨s', ta', tb', hp, hr, hg', hs', ta_text, tb_text⟩

theorem HeapFit.of_flagged {base : Seq} {Np : Nat} {t t1 : Tcb} (h : HeapFit base Np t) (f : Flagged t t1) :
    HeapFit base Np t1 := by
  refine ⟨⟨?_, ?_⟩, ?_, ?_⟩
  · rw [f.inc]; exact h.hk.win
  · rw [f.inc]; exact h.hk.heap
  · unfold Ahead; rw [f.st, f.inc, f.rcv]; exact h.ahead
  · rw [f.inc]; exact h.seq

theorem fairRound_roughL (n : Nat) (s : Sys) (ta tb : Tcb) (hg : Good iss s) (hc : Rough s ta tb)
    (hha : HeapFit (iss .B) tb.sent ta) (hhb : HeapFit (iss .A) ta.sent tb)
    (wa : ta.outgoing.text.length ≤ 65535 * n) (wb : tb.outgoing.text.length ≤ 65535 * n) :
    ∃ s' ta' tb', fairRound (2 * n + 2) s = .ok s' ∧ PlainRun s s' ∧ Good iss s' ∧ Done s' ta' tb' := by
  have v := View.start s .A ta tb hc.ha hc.hb
  obtain ⟨ta1, e1, fa⟩ := advanceTime_expire ta (RTO + 1) (Nat.lt_succ_of_le hc.a.tmo)
    (hg.timeWait_none .A ta hc.ha (by rw [hc.a.st]; nofun))
  obtain ⟨tb1, e2, fb⟩ := advanceTime_expire tb (RTO + 1) (Nat.lt_succ_of_le hc.b.tmo)
    (hg.timeWait_none .B tb hc.hb (by rw [hc.b.st]; nofun))
  obtain ⟨s2, hf, p2, v2⟩ := v.fairRound e1 e2
  have g2 := View.good hg p2 v v2 rfl rfl
  obtain ⟨ca, hfa⟩ := hc.a.of_flagged fa
  obtain ⟨cb, hfb⟩ := hc.b.of_flagged fb
  obtain ⟨s3, ta3, tb3, hp3, r3, g3, st3, ta_text, tb_text⟩ := phase_roughL s2 g2 ta1 tb1 ⟨v2.t, v2.u, ca, cb⟩
    (by rw [sent_congr (congrArg Snd.iss fb.snd) (congrArg Snd.nxt fb.snd)]; exact hha.of_flagged fa)
    (by rw [sent_congr (congrArg Snd.iss fa.snd) (congrArg Snd.nxt fa.snd)]; exact hhb.of_flagged fb) hfa hfb
  obtain ⟨s', ta', tb', hp, hr, hg', hd⟩ := phases_done n s3 ta3 tb3 g3 st3
    (by rw [ta_text, List.length_drop, fa.otext]; omega) (by rw [tb_text, List.length_drop, fb.otext]; omega)
  refine ⟨s', ta', tb', ?_, (p2.trans r3).trans hr, hg', hd⟩
  rw [hf]
  show phases ((2 * n + 1) + 1) s2 = _
  simp only [phases, hp3]
  exact hp

end Elvis.Tcp.Full

/-! ## After loss with empty reorder heaps: a calm state is a rough state

A calm state (`Lemmas/TcpConvCalm.lean`) is a rough state whose reorder heaps are empty (`HeapFit.of_empty`):
`phase_first` and `fairRound_calm` are `Full.phase_roughL` and `Full.fairRound_roughL` there. -/

namespace Elvis.Tcp
open Tcb Elvis.ModCmp

variable {iss : SideId → Seq}

theorem CalmX.rough {t : Tcb} (c : CalmX t) : Full.RoughX t := ⟨c.st, c.buf, c.una, c.mtu, c.tmo⟩

theorem Calm.rough {s : Sys} {ta tb : Tcb} (hc : Calm s ta tb) : Full.Rough s ta tb := ⟨hc.ha, hc.hb, hc.a.rough, hc.b.rough⟩

theorem phase_first (s : Sys) (hg : Good iss s) (ta tb : Tcb) (hc : Calm s ta tb)
    (hfa : ∀ tr ∈ ta.outgoing.retransmit, tr.needsTransmit = true)
    (hfb : ∀ tr ∈ tb.outgoing.retransmit, tr.needsTransmit = true) :
    ∃ s' ta' tb', phase s = .ok s' ∧ PlainRun s s' ∧ Good iss s' ∧ Steady s' ta' tb' ∧
      ta'.outgoing.text = ta.outgoing.text.drop (emitAmount ta) ∧
      tb'.outgoing.text = tb.outgoing.text.drop (emitAmount tb) :=
  Full.phase_roughL s hg ta tb hc.rough (.of_empty hc.a.heap) (.of_empty hc.b.heap) hfa hfb

theorem fairRound_calm (n : Nat) (s : Sys) (ta tb : Tcb) (hg : Good iss s) (hc : Calm s ta tb)
    (wa : ta.outgoing.text.length ≤ 65535 * n) (wb : tb.outgoing.text.length ≤ 65535 * n) :
    ∃ s' ta' tb', fairRound (2 * n + 2) s = .ok s' ∧ PlainRun s s' ∧ Good iss s' ∧ Done s' ta' tb' :=
  Full.fairRound_roughL n s ta tb hg hc.rough (.of_empty hc.a.heap) (.of_empty hc.b.heap) wa wb

end Elvis.Tcp
