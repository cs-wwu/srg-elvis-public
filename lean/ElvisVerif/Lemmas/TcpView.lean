import ElvisVerif.Lemmas.TcpConvSteady
import ElvisVerif.Lemmas.TcpFinRun
/-!
# What a forward execution observes of the system, and what each call makes of it

The executions evaluated step by step (`release_*`, `close_*`, `handshake_*`) speak of seven things only: the two TCBs, the
four ghost logs and the length of the history.  `Obs` holds them, seen from side `y` (`t`, `st`, `dt` are `y`'s, `u`, `su`,
`du` the peer's); `View y s o` says that `s` shows `o`.  Every call of a schedule maps a view to a view (one lemma of
namespace `View` per op; `View.fairRound` for the two ticks of a fair round, `View.phase`, `View.phaseClose` for an
exchange phase); the observation after a call is an explicit record of the one before, so at the end of an execution
the logs are read off by projection.

The exchange phase is evaluated once (`View.phaseA`: `View.emit` twice, `View.batch` twice, `View.readO` twice), for batches
whose LAST segment may make the receiving TCB tell its caller to delete it (`Tcb.takeO`).
-/
namespace Elvis.Tcp
open Tcb Elvis.Tcp.Fin

theorem Op.Plain.okF {s : Sys} {op : Op} (hp : Op.Plain s op) : OpOkF s op := by
  cases op <;> first | exact hp | exact hp.elim | trivial

theorem FinRun.of_plain {s s' : Sys} (h : PlainRun s s') : FinRun s s' := by
  induction h with
  | refl => exact .refl _
  | step _ hp e ih => exact .step ih hp.okF e

namespace Tcb

/-- `arriveList` with the outcome `none` when the last segment of the batch makes the TCB tell its caller to delete it -/
def takeO (t : Tcb) : List Segment → Except String (Option Tcb)
  | [] => .ok (some t)
  | g :: rest =>
    match t.segmentArrives g with
    | .error e => .error e
    | .ok (t1, .Ok) => takeO t1 rest
    | .ok (_, .Close) =>
      match rest with
      | [] => .ok none
      | _ :: _ => .error "closed"

theorem takeO_ok (gs : List Segment) : ∀ (t t' : Tcb), t.arriveList gs = .ok t' → t.takeO gs = .ok (some t') := by
  induction gs with
  | nil => intro t t' h; cases h; rfl
  | cons g rest ih =>
    intro t t' h
    simp only [arriveList, takeO] at h ⊢
    cases hg : t.segmentArrives g with
    | error e => rw [hg] at h; cases h
    | ok p =>
      obtain ⟨t1, r⟩ := p
      rw [hg] at h
      cases r with
      | Ok => exact ih t1 t' h
      | Close => cases h

theorem takeO_close (t t' : Tcb) (g : Segment) (h : t.segmentArrives g = .ok (t', .Close)) : t.takeO [g] = .ok none := by
  simp only [takeO, h]

/-- what `receive()` leaves and hands over, if there is a TCB -/
def readO : Option Tcb → Option Tcb × List UInt8
  | none => (none, [])
  | some t => (some t.receive.1, t.receive.2)

end Tcb

theorem phase_of_steps {s s1 s2 s3 s4 s5 s6 : Sys} {r1 r2 r5 r6 : Res} {nA nB : Nat}
    (st1 : s.step (.emit .A) = .ok (s1, r1)) (st2 : s1.step (.emit .B) = .ok (s2, r2))
    (l1 : s1.historyLen = s.historyLen + nA) (l2 : s2.historyLen = s1.historyLen + nB)
    (d3 : deliverRange s2 .B s.historyLen nA = .ok s3) (d4 : deliverRange s3 .A s1.historyLen nB = .ok s4)
    (st5 : s4.step (.read .A) = .ok (s5, r5)) (st6 : s5.step (.read .B) = .ok (s6, r6)) : phase s = .ok s6 := by
  unfold phase
  rw [st1]
  dsimp only
  rw [st2]
  dsimp only
  rw [show s1.historyLen - s.historyLen = nA by omega, d3]
  dsimp only
  rw [show s2.historyLen - s1.historyLen = nB by omega, d4]
  dsimp only
  rw [st5]
  dsimp only
  rw [st6]

structure Obs where
  t : Option Tcb
  u : Option Tcb
  st : List UInt8
  su : List UInt8
  dt : List UInt8
  du : List UInt8
  n : Nat

structure View (y : SideId) (s : Sys) (o : Obs) : Prop where
  t : (s.side y).tcb = o.t
  u : (s.side y.peer).tcb = o.u
  st : (s.side y).submitted = o.st
  su : (s.side y.peer).submitted = o.su
  dt : (s.side y).delivered = o.dt
  du : (s.side y.peer).delivered = o.du
  n : s.historyLen = o.n

namespace View
variable {y : SideId} {s : Sys} {t t' : Tcb} {u : Option Tcb} {st su dt du : List UInt8} {n : Nat}

theorem start (s : Sys) (y : SideId) (t u : Tcb) (ht : (s.side y).tcb = some t) (hu : (s.side y.peer).tcb = some u) :
    View y s ⟨some t, some u, (s.side y).submitted, (s.side y.peer).submitted, (s.side y).delivered,
      (s.side y.peer).delivered, s.historyLen⟩ :=
  ⟨ht, hu, rfl, rfl, rfl, rfl, rfl⟩

theorem swap {t u : Option Tcb} (v : View y s ⟨t, u, st, su, dt, du, n⟩) : View y.peer s ⟨u, t, su, st, du, dt, n⟩ := by
  refine ⟨v.u, ?_, v.su, ?_, v.du, ?_, v.n⟩ <;> rw [SideId.peer_peer]
  · exact v.t
  · exact v.st
  · exact v.dt

theorem unswap {t u : Option Tcb} (v : View y.peer s ⟨t, u, st, su, dt, du, n⟩) : View y s ⟨u, t, su, st, du, dt, n⟩ := by
  have := v.swap
  rw [SideId.peer_peer] at this
  exact this

theorem set (v : View y s ⟨some t, u, st, su, dt, du, n⟩) (o' : Option Tcb) (l : Option (Seq × U16)) :
    View y (s.setSide y ⟨o', l, (s.side y).submitted, (s.side y).delivered⟩) ⟨o', u, st, su, dt, du, n⟩ :=
  ⟨by rw [side_setSide_same], by rw [side_setSide_peer]; exact v.u, by rw [side_setSide_same]; exact v.st,
    by rw [side_setSide_peer]; exact v.su, by rw [side_setSide_same]; exact v.dt,
    by rw [side_setSide_peer]; exact v.du, by rw [historyLen_setSide]; exact v.n⟩

theorem close {r : CloseResult} (v : View y s ⟨some t, u, st, su, dt, du, n⟩) (e : t.close = .ok (t', r)) :
    ∃ s1, s.step (.close y) = .ok (s1, .closed r) ∧ FinRun s s1 ∧ View y s1 ⟨some t', u, st, su, dt, du, n⟩ := by
  have st1 := step_iff.2 (Sys.Step.close (s := s) v.t e)
  exact ⟨_, st1, .step (op := .close y) (.refl _) trivial st1, v.set _ _⟩

theorem tick {ms : Nat} (v : View y s ⟨some t, u, st, su, dt, du, n⟩) (e : t.advanceTime ms = .ok (t', .Ignore)) :
    ∃ s1, s.step (.tick y ms) = .ok (s1, .tick .Ignore) ∧ PlainRun s s1 ∧ View y s1 ⟨some t', u, st, su, dt, du, n⟩ := by
  have st1 := step_iff.2 (Sys.Step.tick (s := s) v.t e)
  exact ⟨_, st1, .step (op := .tick y ms) (.refl _) trivial st1, v.set _ _⟩

/-- both ticks of a fair round, each survived by its TCB: the round is its phases from the state after them -/
theorem fairRound {ta ta1 tb tb1 : Tcb} (v : View .A s ⟨some ta, some tb, st, su, dt, du, n⟩)
    (eA : ta.advanceTime (RTO + 1) = .ok (ta1, .Ignore)) (eB : tb.advanceTime (RTO + 1) = .ok (tb1, .Ignore)) :
    ∃ s2, (∀ k, Elvis.Tcp.fairRound k s = phases k s2) ∧ PlainRun s s2 ∧
      View .A s2 ⟨some ta1, some tb1, st, su, dt, du, n⟩ := by
  obtain ⟨s1, e1, p1, v1⟩ := v.tick eA
  obtain ⟨s2, e2, p2, v2⟩ := v1.swap.tick eB
  exact ⟨s2, fairRound_eq e1 e2, p1.trans p2, v2.unswap⟩

/-- the TIME-WAIT timeout: the TCB is deleted -/
theorem expire {ms : Nat} (v : View y s ⟨some t, u, st, su, dt, du, n⟩)
    (e : ∃ t', t.advanceTime ms = .ok (t', .CloseConnection)) :
    ∃ s1, s.step (.tick y ms) = .ok (s1, .tick .CloseConnection) ∧ PlainRun s s1 ∧
      View y s1 ⟨none, u, st, su, dt, du, n⟩ := by
  obtain ⟨t', e⟩ := e
  have st1 := step_iff.2 (Sys.Step.expire (s := s) v.t e)
  exact ⟨_, st1, .step (op := .tick y ms) (.refl _) trivial st1, v.set _ _⟩

theorem read {b : List UInt8} (v : View y s ⟨some t, u, st, su, dt, du, n⟩) (e : t.receive = (t', b)) :
    ∃ s1 r, s.step (.read y) = .ok (s1, r) ∧ PlainRun s s1 ∧ View y s1 ⟨some t', u, st, su, dt ++ b, du, n⟩ := by
  have st1 := step_iff.2 (Sys.Step.read (s := s) v.t)
  rw [e] at st1
  exact ⟨_, _, st1, .step (op := .read y) (.refl _) trivial st1,
    by rw [side_setSide_same], by rw [side_setSide_peer]; exact v.u, by rw [side_setSide_same]; exact v.st,
    by rw [side_setSide_peer]; exact v.su, by rw [side_setSide_same]; exact congrArg (· ++ b) v.dt,
    by rw [side_setSide_peer]; exact v.du, by rw [historyLen_setSide]; exact v.n⟩

theorem write (v : View y s ⟨some t, u, st, su, dt, du, n⟩) (b : List UInt8) (ha : sendAccepts t.state = true) :
    ∃ s1, s.step (.write y b) = .ok (s1, .ok) ∧ PlainRun s s1 ∧
      View y s1 ⟨some ({ t with outgoing.text := t.outgoing.text ++ b } : Tcb), u, st ++ b, su, dt, du, n⟩ := by
  have st1 := step_iff.2 (Sys.Step.write (s := s) (b := b) v.t)
  rw [ha, if_pos rfl, Tcb.send_eq, ha, if_pos rfl] at st1
  exact ⟨_, st1, .step (op := .write y b) (.refl _) trivial st1,
    by rw [side_setSide_same], by rw [side_setSide_peer]; exact v.u,
    by rw [side_setSide_same]; exact congrArg (· ++ b) v.st, by rw [side_setSide_peer]; exact v.su,
    by rw [side_setSide_same]; exact v.dt, by rw [side_setSide_peer]; exact v.du, by rw [historyLen_setSide]; exact v.n⟩

theorem emit {out : List Segment} (v : View y s ⟨some t, u, st, su, dt, du, n⟩) (e : t.segments = .ok (t', out)) :
    ∃ s1 r, s.step (.emit y) = .ok (s1, r) ∧ PlainRun s s1 ∧ View y s1 ⟨some t', u, st, su, dt, du, n + out.length⟩ ∧
      (∀ j (hj : j < out.length), s1.nth (n + j) = some out[j]) ∧ ∀ i, i < n → s1.nth i = s.nth i := by
  obtain ⟨s1, r, st1, h1, h2, h3, h4, h5, h6, h7⟩ := emit_facts s y t t' out v.t e
  rw [v.n] at h5 h6 h7
  exact ⟨s1, r, st1, .step (op := .emit y) (.refl _) trivial st1,
    ⟨h1, by rw [h2]; exact v.u, h3.trans v.st, by rw [h2]; exact v.su, h4.trans v.dt, by rw [h2]; exact v.du, h5⟩, h6, h7⟩

/-- delivering the history elements `lo … lo + |gs| − 1` to `y` is `Tcb.takeO` on its TCB -/
theorem batch (gs : List Segment) : ∀ {s : Sys} {t : Tcb} (lo : Nat) {o : Option Tcb},
    View y s ⟨some t, u, st, su, dt, du, n⟩ → (∀ j (hj : j < gs.length), s.nth (lo + j) = some gs[j]) →
    t.takeO gs = .ok o → (∀ g ∈ gs, g.hdr.srcPort = y.peer.port ∧ g.hdr.dstPort = y.port) →
    ∃ s1, deliverRange s y lo gs.length = .ok s1 ∧ PlainRun s s1 ∧ View y s1 ⟨o, u, st, su, dt, du, n⟩ ∧
      ∀ i, s1.nth i = s.nth i := by
  induction gs with
  | nil =>
    intro s t lo o v _ e _
    cases e
    exact ⟨s, rfl, .refl _, v, fun _ => rfl⟩
  | cons g rest ih =>
    intro s t lo o v hn e ha
    have h0 : s.nth lo = some g := by
      have := hn 0 (by simp)
      simpa using this
    have hp : Op.Plain s (.deliver y lo) := by
      intro σ hσ
      rw [h0] at hσ
      cases hσ
      exact ha g List.mem_cons_self
    simp only [takeO] at e
    cases hs : t.segmentArrives g with
    | error err => rw [hs] at e; cases e
    | ok p =>
      obtain ⟨t1, r1⟩ := p
      rw [hs] at e
      cases r1 with
      | Ok =>
        have hstep : s.step (.deliver y lo) = .ok (s.withTcb y t1, .arrived .Ok) := step_iff.2 (.deliver h0 (.tcb v.t hs))
        obtain ⟨s1, d, r, v1, k⟩ := ih (lo + 1) (v.set (some t1) _)
          (fun j hj => by
            rw [nth_setSide]
            have := hn (j + 1) (by simp; omega)
            rw [show lo + (j + 1) = lo + 1 + j by omega] at this
            simpa using this) e (fun g' hg' => ha g' (List.mem_cons_of_mem _ hg'))
        exact ⟨s1, by simp only [List.length_cons, deliverRange, hstep]; exact d,
          (PlainRun.step (.refl _) hp hstep).trans r, v1, fun i => by rw [k, nth_setSide]⟩
      | Close =>
        cases rest with
        | cons g' rest' => cases e
        | nil =>
          cases e
          have hstep : s.step (.deliver y lo) = .ok (s.gone y, .arrived .Close) := step_iff.2 (.deliver h0 (.close v.t hs))
          exact ⟨_, by simp only [List.length_cons, List.length_nil, deliverRange, hstep], .step (.refl _) hp hstep,
            v.set _ _, fun i => by rw [nth_setSide]⟩

theorem readO {o : Option Tcb} (v : View y s ⟨o, u, st, su, dt, du, n⟩) :
    ∃ s1 r, s.step (.read y) = .ok (s1, r) ∧ PlainRun s s1 ∧
      View y s1 ⟨(Tcb.readO o).1, u, st, su, dt ++ (Tcb.readO o).2, du, n⟩ := by
  cases o with
  | none =>
    have st1 := step_iff.2 (Sys.Step.noTcb (s := s) (op := .read y) trivial v.t)
    exact ⟨s, _, st1, .step (op := .read y) (.refl _) trivial st1,
      v.t, v.u, v.st, v.su, v.dt.trans (List.append_nil _).symm, v.du, v.n⟩
  | some t => exact v.read rfl

/-- **an exchange phase**, whatever becomes of the two TCBs: each call maps the view -/
theorem phaseA {ta tb ta1 tb1 : Tcb} {oa ob : Option Tcb} {outA outB : List Segment}
    (v : View .A s ⟨some ta, some tb, st, su, dt, du, n⟩)
    (eA : ta.segments = .ok (ta1, outA)) (eB : tb.segments = .ok (tb1, outB))
    (aB : tb1.takeO outA = .ok ob) (aA : ta1.takeO outB = .ok oa)
    (pA : ∀ g ∈ outA, g.hdr.srcPort = SideId.A.port ∧ g.hdr.dstPort = SideId.B.port)
    (pB : ∀ g ∈ outB, g.hdr.srcPort = SideId.B.port ∧ g.hdr.dstPort = SideId.A.port) :
    ∃ s6, Elvis.Tcp.phase s = .ok s6 ∧ PlainRun s s6 ∧
      View .A s6 ⟨(Tcb.readO oa).1, (Tcb.readO ob).1, st, su, dt ++ (Tcb.readO oa).2, du ++ (Tcb.readO ob).2,
        n + outA.length + outB.length⟩ := by
  have hn := v.n
  subst hn
  obtain ⟨s1, r1, st1, p1, v1, new1, -⟩ := v.emit eA
  obtain ⟨s2, r2, st2, p2, v2, new2, old2⟩ := v1.swap.emit eB
  obtain ⟨s3, d3, p3, v3, nth3⟩ := v2.batch outA s.historyLen
    (fun j hj => by rw [old2 _ (by omega)]; exact new1 j hj) aB pA
  obtain ⟨s4, d4, p4, v4, -⟩ := v3.swap.batch outB s1.historyLen
    (fun j hj => by rw [nth3, v1.n]; exact new2 j hj) aA pB
  obtain ⟨s5, r5, st5, p5, v5⟩ := v4.readO
  obtain ⟨s6, r6, st6, p6, v6⟩ := v5.swap.readO
  exact ⟨s6, phase_of_steps st1 st2 v1.n (by rw [v2.n, v1.n]) d3 d4 st5 st6,
    ((((p1.trans p2).trans p3).trans p4).trans p5).trans p6, v6.swap⟩

/-- `phaseA` seen from either side (`phase` runs A's calls before B's: for `y = B` the view is swapped) -/
theorem phaseO {tx ty1 tx1 : Tcb} {oy ox : Option Tcb} {outY outX : List Segment}
    (v : View y s ⟨some t, some tx, st, su, dt, du, n⟩)
    (eY : t.segments = .ok (ty1, outY)) (eX : tx.segments = .ok (tx1, outX))
    (aX : tx1.takeO outY = .ok ox) (aY : ty1.takeO outX = .ok oy)
    (pY : ∀ g ∈ outY, g.hdr.srcPort = y.port ∧ g.hdr.dstPort = y.peer.port)
    (pX : ∀ g ∈ outX, g.hdr.srcPort = y.peer.port ∧ g.hdr.dstPort = y.port) :
    ∃ s6, Elvis.Tcp.phase s = .ok s6 ∧ PlainRun s s6 ∧
      View y s6 ⟨(Tcb.readO oy).1, (Tcb.readO ox).1, st, su, dt ++ (Tcb.readO oy).2, du ++ (Tcb.readO ox).2,
        n + outY.length + outX.length⟩ := by
  cases y
  · exact v.phaseA eY eX aX aY pY pX
  · obtain ⟨s6, ph, r, w⟩ := (View.swap v).phaseA eX eY aY aX pX pY
    rw [Nat.add_right_comm] at w
    exact ⟨s6, ph, r, View.swap w⟩

/-- **an exchange phase** in which both sides keep their TCB -/
theorem phase {tx ty1 tx1 ty2 tx2 ty3 tx3 : Tcb} {outY outX : List Segment} {bY bX : List UInt8}
    (v : View y s ⟨some t, some tx, st, su, dt, du, n⟩)
    (eY : t.segments = .ok (ty1, outY)) (eX : tx.segments = .ok (tx1, outX))
    (aX : tx1.arriveList outY = .ok tx2) (aY : ty1.arriveList outX = .ok ty2)
    (rY : ty2.receive = (ty3, bY)) (rX : tx2.receive = (tx3, bX))
    (pY : ∀ g ∈ outY, g.hdr.srcPort = y.port ∧ g.hdr.dstPort = y.peer.port)
    (pX : ∀ g ∈ outX, g.hdr.srcPort = y.peer.port ∧ g.hdr.dstPort = y.port) :
    ∃ s6, Elvis.Tcp.phase s = .ok s6 ∧ PlainRun s s6 ∧
      View y s6 ⟨some ty3, some tx3, st, su, dt ++ bY, du ++ bX, n + outY.length + outX.length⟩ := by
  have := v.phaseO eY eX (takeO_ok _ _ _ aX) (takeO_ok _ _ _ aY) pY pX
  simp only [Tcb.readO, rY, rX] at this
  exact this

/-- an exchange phase in which `y` emits nothing and the peer's one segment makes `y`'s TCB tell its caller to delete it -/
theorem phaseClose {tx ty1 tx1 tx3 : Tcb} {g : Segment} {bX : List UInt8}
    (v : View y s ⟨some t, some tx, st, su, dt, du, n⟩)
    (eY : t.segments = .ok (ty1, [])) (eX : tx.segments = .ok (tx1, [g]))
    (cY : ∃ t', ty1.segmentArrives g = .ok (t', .Close)) (rX : tx1.receive = (tx3, bX))
    (pX : g.hdr.srcPort = y.peer.port ∧ g.hdr.dstPort = y.port) :
    ∃ s6, Elvis.Tcp.phase s = .ok s6 ∧ PlainRun s s6 ∧ View y s6 ⟨none, some tx3, st, su, dt, du ++ bX, n + 1⟩ := by
  obtain ⟨t', cY⟩ := cY
  have := v.phaseO eY eX rfl (takeO_close _ _ _ cY) (fun g' hg' => by cases hg')
    (List.forall_mem_singleton.2 pX)
  simp only [Tcb.readO, rX, List.append_nil] at this
  exact this

section
variable {iss : SideId → Seq}

theorem good {s' : Sys} {o o' : Obs} (hg : Good iss s) (r : PlainRun s s') (v : View y s o)
    (v' : View y s' o') (h1 : o'.st = o.st) (h2 : o'.su = o.su) : Good iss s' :=
  hg.of_run r (hg.room.congr (y.both (by rw [v'.st, v.st, h1]) (by rw [v'.su, v.su, h2])))

end
end View

section
variable {iss : SideId → Seq}

/-- both `segments()` calls of a phase: the state in which the two batches are taken is `Good` -/
theorem emit_both {s : Sys} (hg : Good iss s) (ta tb ta1 tb1 : Tcb) (outA outB : List Segment)
    (hsa : (s.side .A).tcb = some ta) (hsb : (s.side .B).tcb = some tb)
    (eA : ta.segments = .ok (ta1, outA)) (eB : tb.segments = .ok (tb1, outB)) :
    ∃ s2, PlainRun s s2 ∧ Good iss s2 ∧ (s2.side .A).tcb = some ta1 ∧ (s2.side .B).tcb = some tb1 ∧
      (s2.side .A).submitted = (s.side .A).submitted ∧ (s2.side .B).submitted = (s.side .B).submitted ∧
      ∀ j (hj : j < outA.length), s2.nth (s.historyLen + j) = some outA[j] := by
  have v := View.start s .A ta tb hsa hsb
  obtain ⟨s1, _, _, p1, v1, new1, -⟩ := v.emit eA
  obtain ⟨s2, _, _, p2, v2, -, old2⟩ := v1.swap.emit eB
  exact ⟨s2, p1.trans p2, View.good hg (p1.trans p2) v v2.unswap rfl rfl, v2.u, v2.t, v2.su, v2.st,
    fun j hj => by rw [old2 _ (by omega)]; exact new1 j hj⟩

end
end Elvis.Tcp
