import ElvisVerif.Lemmas.Arp
/-! Timing invariant of the retry loop of `Arp::resolve`, and when the clock may advance (`canTick_iff`)
    (helper lemmas for C06). -/
namespace Elvis.Arp
open Elvis.Gen.Arp

def TimeOk (neg : Bool) (mtu now : Nat) (r : Resolver) : Prop :=
  r.started ≤ now ∧
  match r.result with
  | none => now ≤ r.deadline ∧ r.deadline = r.started + r.sent * resendDelayUs ∧ 1 ≤ r.sent ∧ r.sent ≤ resendTries
  | some (st, t) => r.started ≤ t ∧ t ≤ now ∧ t ≤ r.started + resendTries * resendDelayUs ∧
      (st = .err → neg = false → packetSize ≤ mtu → t = r.started + resendTries * resendDelayUs ∧ r.sent = resendTries)

def TInv (s : Net) : Prop := ∀ r ∈ s.resolvers, TimeOk s.negCache s.mtu s.now r

theorem tableHit_err {neg : Bool} {e : Option Status} (h : tableHit neg e = some .err) : neg = true := by
  unfold tableHit at h
  split at h
  · simp at h
  · split at h
    · assumption
    · simp at h
  · simp at h

theorem Net.hit_err {s : Net} {k : Nat} {x : Ip} (h : s.hit k x = some .err) : s.negCache = true := by
  unfold Net.hit at h
  split at h
  · exact tableHit_err h
  · cases h

theorem Net.failMac_fields (s : Net) (k : Nat) (x : Ip) :
    (s.failMac k x).now = s.now ∧ (s.failMac k x).mtu = s.mtu ∧ (s.failMac k x).negCache = s.negCache ∧
    (s.failMac k x).resolvers = s.resolvers ∧ (s.failMac k x).wire = s.wire ∧ (s.failMac k x).panic = s.panic := by
  unfold Net.failMac; split <;> simp

theorem Net.roundOrFail_fields (s : Net) (r : Resolver) :
    (s.roundOrFail r).1.now = s.now ∧ (s.roundOrFail r).1.mtu = s.mtu ∧
    (s.roundOrFail r).1.negCache = s.negCache ∧ (s.roundOrFail r).1.resolvers = s.resolvers ∧
    (s.roundOrFail r).1.panic = s.panic ∧
    (s.roundOrFail r).2.started = r.started ∧ (s.roundOrFail r).2.mach = r.mach ∧
    (s.roundOrFail r).2.dest = r.dest ∧ (s.roundOrFail r).2.smac = r.smac ∧ (s.roundOrFail r).2.loc = r.loc := by
  unfold Net.roundOrFail
  split
  · split <;> simp
  · have := s.failMac_fields r.mach r.dest
    simp [this]

theorem mul_le_budget {n : Nat} (h : n ≤ resendTries) : n * resendDelayUs ≤ resendTries * resendDelayUs :=
  Nat.mul_le_mul_right _ h

theorem roundOrFail_time {s : Net} {r : Resolver} (h0 : r.started ≤ s.now) (hd : s.now = r.deadline)
    (he : r.deadline = r.started + r.sent * resendDelayUs) (hs : r.sent ≤ resendTries)
    (hr : r.result = none) :
    TimeOk s.negCache s.mtu s.now (s.roundOrFail r).2 := by
  have hb := mul_le_budget hs
  unfold Net.roundOrFail
  split
  · rename_i hlt
    split
    · refine ⟨h0, ?_⟩
      simp only [hr]
      refine ⟨by omega, ?_, by omega, by omega⟩
      rw [Nat.add_mul]; omega
    · rename_i hm
      refine ⟨h0, ?_⟩
      simp only
      exact ⟨h0, Nat.le_refl _, by omega, fun _ _ h => absurd h hm⟩
  · rename_i hge
    have hse : r.sent = resendTries := by omega
    refine ⟨h0, ?_⟩
    simp only
    refine ⟨h0, Nat.le_refl _, by omega, fun _ _ _ => ⟨?_, hse⟩⟩
    rw [← hse]; omega

/-! `TInv` reads the resolvers, the clock and the configuration only: an operation that changes
    machines or the wire keeps it as it stands. -/

theorem TInv.listen {s : Net} (h : TInv s) (k : Nat) (ip : Ip) : TInv (s.listen k ip) := by
  unfold Net.listen
  split <;> exact h

theorem TInv.setSubnet {s : Net} (h : TInv s) (k : Nat) (ip : Ip) (bits : Nat) (gw : Ip) :
    TInv (s.setSubnet k ip bits gw) := by
  unfold Net.setSubnet
  split <;> exact h

theorem TInv.lose {s : Net} (h : TInv s) (fi : Nat) : TInv (s.lose fi) := by
  unfold Net.lose
  split <;> exact h

theorem TInv.deliver {s : Net} (h : TInv s) (fi k slot : Nat) : TInv (s.deliver fi k slot) := by
  unfold Net.deliver
  split
  · split
    · split
      · exact h
      · exact h
    · exact h
  · exact h

def Unblocked (s : Net) (dt : Nat) (r : Resolver) : Prop :=
  r.result ≠ none ∨ (s.hit r.mach r.dest = none ∧ s.now + dt ≤ r.deadline)

theorem canTick_iff {s : Net} {dt : Nat} : s.canTick dt = true ↔ ∀ r ∈ s.resolvers, Unblocked s dt r := by
  unfold Net.canTick Unblocked
  rw [List.all_eq_true]
  refine forall₂_congr fun r _ => ?_
  cases r.result <;> simp

theorem canTick_waiting {s : Net} {r : Resolver} (hm : r ∈ s.resolvers) (hres : r.result = none) {st : Status}
    (hh : s.hit r.mach r.dest = some st) (dt : Nat) : s.canTick dt = false := by
  refine Bool.eq_false_iff.2 fun hc => ?_
  rcases canTick_iff.1 hc r hm with h | ⟨h, _⟩
  · exact h hres
  · rw [hh] at h; cases h

theorem TInv.tick {s : Net} (h : TInv s) (dt : Nat) : TInv (s.tick dt) := by
  unfold Net.tick
  split
  · rename_i hc
    intro r hr
    have hr' : r ∈ s.resolvers := hr
    have h1 := h r hr'
    unfold TimeOk at h1 ⊢
    obtain ⟨h1a, h1b⟩ := h1
    refine ⟨by show r.started ≤ s.now + dt; omega, ?_⟩
    cases hres : r.result with
    | none =>
      simp only [hres] at h1b ⊢
      rcases canTick_iff.1 hc r hr' with h2 | ⟨_, h2⟩
      · exact absurd hres h2
      · exact ⟨h2, h1b.2⟩
    | some p =>
      obtain ⟨st, t⟩ := p
      simp only [hres] at h1b ⊢
      exact ⟨h1b.1, by show t ≤ s.now + dt; omega, h1b.2.2⟩
  · exact h

theorem TInv.update {s s' : Net} {r' : Resolver} (h : TInv s)
    (hmem : ∀ x ∈ s'.resolvers, x ∈ s.resolvers ∨ x = r') (h2 : s'.now = s.now) (h3 : s'.mtu = s.mtu)
    (h4 : s'.negCache = s.negCache) (hr : TimeOk s.negCache s.mtu s.now r') : TInv s' := by
  intro x hx
  rw [h2, h3, h4]
  rcases hmem x hx with h1 | rfl
  · exact h x h1
  · exact hr

theorem TInv.wake {s : Net} (h : TInv s) (i : Nat) : TInv (s.wake i) := by
  unfold Net.wake
  split
  · rename_i r hr
    split
    · rename_i hres
      split
      · rename_i st hst
        refine h.update (fun x hx => List.mem_or_eq_of_mem_set hx) rfl rfl rfl ?_
        have h1 := h r (List.mem_of_getElem? hr)
        unfold TimeOk at h1 ⊢
        simp only [hres] at h1
        obtain ⟨h1a, h1b, h1c, h1d, h1e⟩ := h1
        have hb := mul_le_budget h1e
        refine ⟨h1a, ?_⟩
        simp only
        refine ⟨h1a, Nat.le_refl _, by omega, fun he hn => ?_⟩
        subst he
        rw [Net.hit_err hst] at hn
        cases hn
      · exact h
    · exact h
  · exact h

theorem TInv.timeout {s : Net} (h : TInv s) (i : Nat) : TInv (s.timeout i) := by
  unfold Net.timeout
  split
  · rename_i r hr
    split
    · rename_i hc
      have h1 := h r (List.mem_of_getElem? hr)
      unfold TimeOk at h1
      simp only [hc.1] at h1
      obtain ⟨h1a, h1b, h1c, h1d, h1e⟩ := h1
      have ht := roundOrFail_time h1a hc.2.1 h1c h1e hc.1
      obtain ⟨f1, f2, f3, f4, _⟩ := s.roundOrFail_fields r
      exact h.update (s' := { (s.roundOrFail r).1 with resolvers := (s.roundOrFail r).1.resolvers.set i (s.roundOrFail r).2 })
        (fun x hx => List.mem_or_eq_of_mem_set (f4 ▸ hx)) f1 f2 f3 ht
    · exact h
  · exact h

theorem TInv.resolve {s : Net} (h : TInv s) (k : Nat) (loc remote : Ip) (slot : Nat) :
    TInv (s.resolve k loc remote slot) := by
  unfold Net.resolve
  split
  · exact h
  · rename_i m0 hm0
    dsimp only
    split
    · rename_i st hst
      refine h.update (s' := { s with machines := _, resolvers := s.resolvers ++ [_] })
        (fun x hx => (List.mem_append.1 hx).imp_right List.mem_singleton.1) rfl rfl rfl ?_
      refine ⟨Nat.le_refl _, Nat.le_refl _, Nat.le_refl _, by show s.now ≤ s.now + _; omega, fun he hn => ?_⟩
      subst he
      have : s.negCache = true := tableHit_err hst
      rw [this] at hn; cases hn
    · split
      · exact h
      · rename_i mac hmac
        let s1 : Net := { s with machines := s.machines.set k (m0.listen loc) }
        let r0 : Resolver := ⟨k, mac, loc, destOf (m0.listen loc) loc remote, s.now, 0, s.now, none⟩
        have ht : TimeOk s1.negCache s1.mtu s1.now (s1.roundOrFail r0).2 :=
          roundOrFail_time (s := s1) (r := r0) (Nat.le_refl _) rfl (by simp [r0]) (Nat.zero_le _) rfl
        obtain ⟨f1, f2, f3, f4, _⟩ := s1.roundOrFail_fields r0
        exact h.update (s' := { (s1.roundOrFail r0).1 with resolvers := (s1.roundOrFail r0).1.resolvers ++ [(s1.roundOrFail r0).2] })
          (fun x hx => (List.mem_append.1 hx).imp (fun hx => f4 ▸ hx) List.mem_singleton.1) f1 f2 f3 ht

theorem TInv.step {s : Net} (h : TInv s) (l : Label) : TInv (step s l) :=
  step_keeps h l h.listen h.setSubnet h.resolve h.deliver h.lose h.wake h.timeout h.tick

theorem TInv.init (neg : Bool) (slots : List Nat) (mtu : Nat) : TInv (initWith neg slots mtu) :=
  fun r hr => by simp [initWith] at hr

end Elvis.Arp
