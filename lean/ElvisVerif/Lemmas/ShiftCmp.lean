import ElvisVerif.Lemmas.ModCmp
import ElvisVerif.Lemmas.ShiftAttr
/-!
# The circular comparisons are invariant under a common shift (C12)

Staged as DESIGN.md section 4 prescribes: offset-form characterisation (`modLt_iff`, `cyc_iff`),
tiny cancellation lemmas, nothing else.
-/
namespace Elvis.ModCmp

theorem add_sub_add_right (a b k : BitVec 32) : (b + k) - (a + k) = b - a := by
  rw [BitVec.add_comm a k, ← BitVec.sub_sub, BitVec.add_sub_cancel]
theorem sub_add_comm' (a o k : BitVec 32) : (a + k) - o = (a - o) + k := BitVec.sub_add_comm.symm
theorem add_add_comm' (c o k : BitVec 32) : (c + k) + o = (c + o) + k := by ac_rfl

@[simp, shift_simps] theorem modLt_shift (a b k : BitVec 32) : modLt (a + k) (b + k) = modLt a b := by
  rw [Bool.eq_iff_iff, modLt_iff, modLt_iff, add_sub_add_right]

@[simp, shift_simps] theorem modGt_shift (a b k : BitVec 32) : modGt (a + k) (b + k) = modGt a b := by
  unfold modGt; exact modLt_shift b a k

@[simp, shift_simps] theorem cyc_shift (a b c k : BitVec 32) : cyc (a + k) (b + k) (c + k) = cyc a b c := by
  rw [Bool.eq_iff_iff, cyc_iff, cyc_iff, add_sub_add_right, add_sub_add_right]

@[simp, shift_simps] theorem modBounded_shift (a : BitVec 32) (ab : Cmp) (b : BitVec 32) (bc : Cmp) (c k : BitVec 32) :
    modBounded (a + k) ab (b + k) bc (c + k) = modBounded a ab b bc c := by
  unfold modBounded
  rw [sub_add_comm', add_add_comm', cyc_shift]

theorem eq_shift (a b k : BitVec 32) : (a + k = b + k) ↔ a = b := BitVec.add_left_inj k

@[simp, shift_simps] theorem beq_shift (a b k : BitVec 32) : ((a + k) == (b + k)) = (a == b) := by
  rw [Bool.eq_iff_iff, beq_iff_eq, beq_iff_eq, eq_shift]

@[simp, shift_simps] theorem modLeq_shift (a b k : BitVec 32) : modLeq (a + k) (b + k) = modLeq a b := by
  unfold modLeq; rw [beq_shift, modLt_shift]

@[simp, shift_simps] theorem modGeq_shift (a b k : BitVec 32) : modGeq (a + k) (b + k) = modGeq a b := by
  unfold modGeq; rw [beq_shift, modGt_shift]

end Elvis.ModCmp
