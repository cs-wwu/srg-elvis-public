import ElvisVerif.Lemmas.TcbWindow
/-!
# What can sit on the retransmission queue

`RtxLe s s'`: every entry of `s'`'s retransmission queue is text-free, carries at most
`MAX_SEGMENT_TEXT = 65535 − SPACE_FOR_HEADERS` bytes (one MSS), or was already queued in `s`.  Every step of the send
side (`SndStep.rtx`) and `abort` satisfy it, hence every segment `segments()` hands to the network has a payload an
IPv4 datagram can carry (`RtxBound`) — which closes the loop for the two-endpoint system: what one side emits is a
valid input for the other (`c01_closed_system_no_panic`).
-/
namespace Elvis.Tcp
namespace Tcb

/-- the largest text `segments()` can cut: `65535 − SPACE_FOR_HEADERS` -/
def MAX_SEGMENT_TEXT : Nat := 65535 - SPACE_FOR_HEADERS

def RtxLe (s s' : Tcb) : Prop :=
  ∀ t ∈ s'.outgoing.retransmit,
    t.segment.text.length ≤ MAX_SEGMENT_TEXT ∨ ∃ t0 ∈ s.outgoing.retransmit, t0.segment = t.segment

/-- every queued segment fits an IPv4 datagram -/
def RtxBound (s : Tcb) : Prop := ∀ t ∈ s.outgoing.retransmit, t.segment.text.length ≤ MAX_PAYLOAD

theorem RtxLe.refl (s : Tcb) : RtxLe s s := fun t ht => Or.inr ⟨t, ht, rfl⟩

theorem RtxLe.trans {a b c : Tcb} (h1 : RtxLe a b) (h2 : RtxLe b c) : RtxLe a c := by
  intro t ht
  rcases h2 t ht with h | ⟨t1, ht1, e1⟩
  · exact Or.inl h
  · rcases h1 t1 ht1 with h | ⟨t0, ht0, e0⟩
    · left; rw [← e1]; exact h
    · exact Or.inr ⟨t0, ht0, e0.trans e1⟩

theorem RtxBound.step {s s' : Tcb} (h : RtxBound s) (p : RtxLe s s') : RtxBound s' := by
  intro t ht
  rcases p t ht with h1 | ⟨t0, ht0, e0⟩
  · have : MAX_SEGMENT_TEXT ≤ MAX_PAYLOAD := by decide
    omega
  · rw [← e0]; exact h t0 ht0

theorem rtxLe_of_subset {s s' : Tcb} (h : ∀ t ∈ s'.outgoing.retransmit, t ∈ s.outgoing.retransmit) :
    RtxLe s s' := fun t ht => Or.inr ⟨t, h t ht, rfl⟩

theorem rtxLe_of_eq {s s' : Tcb} (h : s'.outgoing.retransmit = s.outgoing.retransmit) : RtxLe s s' :=
  rtxLe_of_subset (fun t ht => by rw [h] at ht; exact ht)

theorem rtxLe_enqueueBuilt (s : Tcb) (hd : Hdr) : RtxLe s (s.enqueueBuilt hd) := by
  rcases enqueueBuilt_cases s hd with ⟨-, e⟩ | ⟨-, -, e⟩ <;> rw [e]
  · intro t ht
    simp only [List.mem_append, List.mem_singleton] at ht
    rcases ht with ht | rfl
    · exact Or.inr ⟨t, ht, rfl⟩
    · left; simp [Transmit.new]
  · exact rtxLe_of_eq rfl

theorem rtxLe_removeAcked (s : Tcb) (una : Seq) : RtxLe s (s.removeAckedFromRetransmission una) :=
  rtxLe_of_subset (fun _ ht => (List.mem_filter.1 ht).1)

theorem rtxLe_flags (s : Tcb) (b : Bool) (tmo : Timeouts) :
    RtxLe s { s with outgoing.retransmit := s.outgoing.retransmit.map fun x => { x with needsTransmit := b },
                     timeouts := tmo } := by
  intro t ht
  obtain ⟨t0, ht0, rfl⟩ := List.mem_map.1 ht
  exact Or.inr ⟨t0, ht0, rfl⟩

theorem rtxLe_finQueued (s : Tcb) : RtxLe s (finQueued s) :=
  (rtxLe_enqueueBuilt _ _).trans (rtxLe_of_eq rfl)

theorem SndStep.rtx {s s' : Tcb} (h : SndStep s s') : RtxLe s s' := by
  induction h with
  | refl s => exact RtxLe.refl s
  | trans _ _ h1 h2 => exact h1.trans h2
  | enqueue s hd => exact rtxLe_enqueueBuilt s hd
  | ack _ => exact rtxLe_removeAcked _ _
  | flags s b tmo => exact rtxLe_flags s b tmo
  | fin _ _ => exact rtxLe_finQueued _
  | frame _ _ _ _ h4 => exact rtxLe_of_eq h4
  | @cut s b _ _ _ hm =>
    -- the loop of `segments()` cuts at most a segment
    intro t ht
    rcases List.mem_append.1 ht with ht | ht
    · exact Or.inr ⟨t, ht, rfl⟩
    · rw [List.mem_singleton.1 ht]
      exact Or.inl (Nat.le_trans (List.length_take_le _ _) (Nat.le_sub_of_add_le hm))

theorem segments_rtx (s : Tcb) (hb : RtxBound s) (s' : Tcb) (out : List Segment)
    (e : s.segments = .ok (s', out)) :
    RtxBound s' ∧ ∀ seg ∈ out, seg.text.length ≤ MAX_PAYLOAD := by
  have b' := hb.step (segments_step e).rtx
  refine ⟨b', fun seg hseg => ?_⟩
  rcases segments_out e seg hseg with ⟨hd, -, rfl⟩ | ⟨tr, htr, rfl⟩
  · exact Nat.zero_le _
  · exact b' tr htr

theorem abort_rtx (s : Tcb) (s' : Tcb) (e : s.abort = .ok s') : RtxLe s s' := by
  obtain ⟨u, e', c⟩ := abort_cases s
  rw [e] at e'
  cases e'
  rcases c with rfl | rfl
  · exact RtxLe.refl _
  · exact RtxLe.trans (b := { s with outgoing := {} }) (fun _ ht => nomatch ht) (rtxLe_enqueueBuilt _ _)

theorem rtxBound_fresh {t : Tcb} {hd : Hdr} (hr : t.outgoing.retransmit = [Transmit.new ⟨hd, []⟩]) : RtxBound t :=
  fun x hx => by rw [hr] at hx; cases List.mem_singleton.1 hx; exact Nat.zero_le _

theorem open_rtxBound (lp rp : U16) (iss : Seq) (mtu : U16) (s : Tcb) (e : Tcb.open lp rp iss mtu = .ok s) :
    RtxBound s := by
  rw [open_eq] at e
  cases e
  exact rtxBound_fresh rfl

theorem listen_rtxBound (segment : Segment) (iss : Seq) (mtu : U16) (tcb : Tcb)
    (e : segmentArrivesListen segment iss mtu = .ok (some (.Tcb tcb))) : RtxBound tcb := by
  rw [(segmentArrivesListen_tcb e).2.2.2]
  exact rtxBound_fresh rfl

end Tcb
end Elvis.Tcp
