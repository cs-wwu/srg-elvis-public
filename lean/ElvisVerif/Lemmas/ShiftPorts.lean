import ElvisVerif.Lemmas.TcbInv
/-!
# Ports: every header a TCB emits carries its local port (C12)

Needed to know which way a segment of the history moves under `Sys.shift` (the history does not
record the emitter): `PortsOk` is an invariant, `PortsKeep` the per-operation step.  Nothing here mentions the shift.
-/
namespace Elvis.Tcp
open Elvis.ModCmp

structure PortsOk (t : Tcb) (p : U16) : Prop where
  lp : t.localPort = p
  one : ∀ h ∈ t.outgoing.oneshot, h.srcPort = p
  rtx : ∀ tr ∈ t.outgoing.retransmit, tr.segment.hdr.srcPort = p

def PortsKeep (s u : Tcb) : Prop := ∀ p, PortsOk s p → PortsOk u p

theorem PortsKeep.refl (s : Tcb) : PortsKeep s s := fun _ h => h

theorem PortsKeep.trans {a b c : Tcb} (h1 : PortsKeep a b) (h2 : PortsKeep b c) : PortsKeep a c :=
  fun p h => h2 p (h1 p h)

theorem PortsOk.of_keep {s u : Tcb} {p : U16} (h : PortsOk s p) (k : PortsKeep s u) : PortsOk u p := k p h

theorem PortsKeep.of_eq {s u : Tcb} (h1 : u.localPort = s.localPort) (h2 : u.outgoing.oneshot = s.outgoing.oneshot)
    (h3 : u.outgoing.retransmit = s.outgoing.retransmit) : PortsKeep s u :=
  fun _ h => ⟨h1.trans h.lp, h2 ▸ h.one, h3 ▸ h.rtx⟩

theorem PortsKeep.of_rtx_append {s u : Tcb} {t : Transmit} (h1 : u.localPort = s.localPort)
    (h2 : u.outgoing.oneshot = s.outgoing.oneshot) (h3 : u.outgoing.retransmit = s.outgoing.retransmit ++ [t])
    (hp : t.segment.hdr.srcPort = s.localPort) : PortsKeep s u :=
  fun _ h => ⟨h1.trans h.lp, h2 ▸ h.one,
    h3 ▸ List.forall_mem_append.2 ⟨h.rtx, List.forall_mem_singleton.2 (hp.trans h.lp)⟩⟩

theorem portsOk_empty (t : Tcb) (p : U16) (h1 : t.localPort = p) (h2 : t.outgoing.oneshot = [])
    (h3 : t.outgoing.retransmit = []) : PortsOk t p :=
  ⟨h1, (fun _ hh => by rw [h2] at hh; cases hh), (fun _ hh => by rw [h3] at hh; cases hh)⟩

theorem keep_enqueueBuilt (s : Tcb) (h : Hdr) (hp : h.srcPort = s.localPort) : PortsKeep s (s.enqueueBuilt h) := by
  by_cases hc : h.ctl.syn = true ∨ h.ctl.fin = true
  · rw [Tcb.enqueueBuilt_retransmit s h hc]
    exact PortsKeep.of_rtx_append rfl rfl rfl hp
  · rw [Tcb.enqueueBuilt_oneshot s h (Bool.eq_false_iff.2 fun e => hc (.inl e)) (Bool.eq_false_iff.2 fun e => hc (.inr e))]
    exact fun _ k => ⟨k.lp, List.forall_mem_append.2 ⟨k.one, List.forall_mem_singleton.2 (hp.trans k.lp)⟩, k.rtx⟩

theorem ackHdr_port (s : Tcb) : s.ackHdr.built.srcPort = s.localPort := rfl
theorem finHdr_port (s : Tcb) : s.finHdr.built.srcPort = s.localPort := rfl
theorem rstForAck_port (s : Tcb) (seg : Hdr) : (s.rstForAck seg).built.srcPort = s.localPort := rfl


theorem keep_left {s m u : Tcb} (h2 : PortsKeep m u) (e1 : m.localPort = s.localPort)
    (e2 : m.outgoing.oneshot = s.outgoing.oneshot) (e3 : m.outgoing.retransmit = s.outgoing.retransmit) :
    PortsKeep s u := (PortsKeep.of_eq e1 e2 e3).trans h2

theorem keep_right {s m u : Tcb} (h1 : PortsKeep s m) (e1 : u.localPort = m.localPort)
    (e2 : u.outgoing.oneshot = m.outgoing.oneshot) (e3 : u.outgoing.retransmit = m.outgoing.retransmit) :
    PortsKeep s u := h1.trans (PortsKeep.of_eq e1 e2 e3)

/-- of the elementary changes only the replies add a header, and they carry the local port; an acknowledgment
    only removes entries -/
theorem Tcb.Eff.ports {g : Segment} {k : Nat} {s u : Tcb} (h : Tcb.Eff g k s u) : PortsKeep s u := by
  cases h with
  | reply hr => exact keep_enqueueBuilt _ _ (by rcases hr.hdr with rfl | rfl | rfl <;> rfl)
  | ack => exact fun _ k => ⟨k.lp, k.one, fun tr h => k.rtx tr (List.mem_filter.1 h).1⟩
  | _ => exact PortsKeep.of_eq rfl rfl rfl

theorem keep_segmentArrives (s u : Tcb) (seg : Segment) (r : SegmentArrivesResult)
    (h : s.segmentArrives seg = .ok (u, r)) : PortsKeep s u :=
  Tcb.segmentArrives_lift PortsKeep.refl PortsKeep.trans (fun _ _ => PortsKeep.of_eq rfl rfl rfl) Tcb.Eff.ports h

/-- `for transmit in self.outgoing.retransmit.iter_mut() { transmit.needs_transmit = b }` (`advance_time`, `segments`) -/
def markAll (s : Tcb) (b : Bool) : Tcb :=
  { s with outgoing.retransmit := s.outgoing.retransmit.map fun t => { t with needsTransmit := b } }

theorem keep_markAll (s : Tcb) (b : Bool) : PortsKeep s (markAll s b) := by
  refine fun _ k => ⟨k.lp, k.one, fun tr h => ?_⟩
  obtain ⟨t0, ht0, e⟩ := List.mem_map.1 h
  rw [← e]
  exact k.rtx t0 ht0

theorem keep_finQueued (s : Tcb) : PortsKeep s (Tcb.finQueued s) :=
  keep_right (keep_enqueueBuilt _ _ rfl) rfl rfl rfl

theorem Tcb.Segs.ports {m : Nat} {p : Bool} {s u : Tcb} (h : Tcb.Segs m p s u) : PortsKeep s u := by
  induction h with
  | done _ => exact PortsKeep.refl _
  | fin _ _ _ => exact keep_finQueued _
  | @cut s _ b _ _ _ _ _ _ ih =>
    exact (PortsKeep.of_rtx_append rfl rfl rfl rfl : PortsKeep s (Tcb.cutSegment s b)).trans ih

theorem ports_segments (s u : Tcb) (segs : List Segment) (h : s.segments = .ok (u, segs)) :
    PortsKeep s u ∧ ∀ p, PortsOk s p → ∀ sg ∈ segs, sg.hdr.srcPort = p := by
  have k : PortsKeep s u := by
    obtain ⟨s2, tmo, h', rfl⟩ := Tcb.segments_segs h
    have k0 : PortsKeep s (clearOneshot s) := fun _ k => ⟨k.lp, fun _ hh => (nomatch hh), k.rtx⟩
    exact keep_right ((k0.trans h'.ports).trans (keep_markAll _ false)) rfl rfl rfl
  refine ⟨k, fun p hs sg hsg => ?_⟩
  -- what goes out was on the one-shot queue, or stays on the retransmission queue
  rcases Tcb.segments_out h sg hsg with ⟨hd, hh, rfl⟩ | ⟨tr, ht, rfl⟩
  · exact hs.one hd hh
  · exact (hs.of_keep k).rtx tr ht

end Elvis.Tcp
