import ElvisVerif.Lemmas.TcpFullHsProg
/-!
# What a side emits after its retransmission timer expired, in the handshake states

`batch_syn`: in SYN-SENT / SYN-RECEIVED the batch contains the SYN / SYN-ACK that is still on the queue; in
SYN-RECEIVED the SYN-ACK is a trigger for the peer.  `batch_trig`: an ESTABLISHED side whose peer is in SYN-RECEIVED
emits a trigger (its first unacknowledged data segment, its first new data segment, or a pure ACK — all numbered
`ISS + 1`) unless it emits nothing.  `ne_quiet`: a non-empty one-shot queue stays non-empty under deliveries and reads.
-/
namespace Elvis.Tcp.Full
open Elvis.ModCmp Elvis.Tcp.Tcb

variable {iss : SideId → Seq} {mt : SideId → U16}

theorem mem_out_of_rtx {t t' : Tcb} {new : List Transmit} {out : List Segment} (fx : EmitFx t new t' out)
    (tr : Transmit) (htr : tr ∈ t.outgoing.retransmit ++ new) (hf : tr.needsTransmit = true) : tr.segment ∈ out := by
  rw [fx.out]
  exact List.mem_append_right _ (List.mem_map.2 ⟨tr, List.mem_filter.2 ⟨htr, hf⟩, rfl⟩)

theorem emitFx_of_segments {s : Sys} (a : All iss mt s) (hm : ∀ x, SPACE_FOR_HEADERS < (mt x).toNat) (x : SideId)
    (t t' : Tcb) (out : List Segment) (ht : (s.side x).tcb = some t) (es : t.segments = .ok (t', out)) :
    ∃ new, EmitFx t new t' out := by
  obtain ⟨new, t2, out2, e2, fx⟩ := segments_fwd t (a.good.tinv x t ht).st (by rw [(a.f.tcb x t ht).mtu]; exact hm x)
  rw [es] at e2
  cases e2
  exact ⟨new, fx⟩

theorem batch_syn {s : Sys} (a : All iss mt s) (hm : ∀ x, SPACE_FOR_HEADERS < (mt x).toNat) (x : SideId)
    (t t' : Tcb) (out : List Segment) (ht : (s.side x).tcb = some t) (es : t.segments = .ok (t', out))
    (hflag : ∀ tr ∈ t.outgoing.retransmit, tr.needsTransmit = true) :
    ((t.state = .SynSent ∨ t.state = .SynReceived) → ∃ σ ∈ out, σ.hdr.ctl.syn = true) ∧
    (t.state = .SynReceived → ∃ σ ∈ out, Trig (iss x) σ) := by
  obtain ⟨new, fx⟩ := emitFx_of_segments a hm x t t' out ht es
  have f := a.h.tcb x t ht
  refine ⟨fun hs => ?_, fun hs => ?_⟩
  · obtain ⟨g, hg, hsyn⟩ := f.q hs
    obtain ⟨tr, htr, rfl⟩ := List.mem_map.1 hg
    exact ⟨tr.segment, mem_out_of_rtx fx tr (List.mem_append_left _ htr) (hflag tr htr), hsyn⟩
  · obtain ⟨g, hg, hsyn, hack⟩ := f.qa hs
    obtain ⟨tr, htr, rfl⟩ := List.mem_map.1 hg
    refine ⟨tr.segment, mem_out_of_rtx fx tr (List.mem_append_left _ htr) (hflag tr htr), hack, Or.inr ⟨hsyn, ?_⟩⟩
    obtain ⟨v, _⟩ := (a.good.tinv x t ht).rtx tr.segment (List.mem_map.2 ⟨tr, htr, rfl⟩)
    rw [(v.syn hsyn).1, off_self]

theorem batch_trig {s : Sys} (a : All iss mt s) (hm : ∀ x, SPACE_FOR_HEADERS < (mt x).toNat) (x : SideId)
    (t tp t' : Tcb) (out : List Segment) (ht : (s.side x).tcb = some t) (htp : (s.side x.peer).tcb = some tp)
    (hst : t.state = .Established) (hstp : tp.state = .SynReceived) (es : t.segments = .ok (t', out))
    (hflag : ∀ tr ∈ t.outgoing.retransmit, tr.needsTransmit = true) (hne : out ≠ []) :
    ∃ σ ∈ out, Trig (iss x) σ := by
  have hg := a.good
  obtain ⟨new, fx⟩ := emitFx_of_segments a hm x t t' out ht es
  have hissx := hg.iss_eq x t ht
  have hN := hg.sent_lt x t ht
  -- the peer has received nothing but the SYN: `SND.UNA = ISS + 1`
  have hnsp : tp.state ≠ .SynSent := by rw [hstp]; simp
  have hq := (sr_rcv_nxt a x.peer tp htp hstp).2
  rw [SideId.peer_peer] at hq
  have hA := ackLink_tcbs hg ht htp
  have hule := hA.una t tp rfl rfl
  rw [top_of_ne hnsp, hissx, hq] at hule
  have huge := a.u x t ht hst
  have hune := a.u.ne hg x t ht hst
  have huna : off (iss x) t.snd.una = 1 := by omega
  obtain ⟨qsum, qle, qB⟩ := queue_start hg x t ht hst hune
  have factsX := rtx_entry_facts hg x t ht hune
  have siX := hg.sndInv x t ht hst
  cases hl : t.outgoing.retransmit with
  | cons tr0 rest =>
    -- the first queue entry starts at or before `SND.UNA`, i.e. at `ISS + 1`
    have hm0 : tr0 ∈ t.outgoing.retransmit := by rw [hl]; exact List.mem_cons_self
    have cr := chain_catchRun t.snd.nxt t.outgoing.retransmit siX.chain factsX
    rw [hl] at cr
    simp only [List.map_cons, CatchRun] at cr
    obtain ⟨v, _⟩ := (hg.tinv x t ht).rtx tr0.segment (List.mem_map.2 ⟨tr0, hm0, rfl⟩)
    obtain ⟨p, hp, _, _⟩ := v.txt (factsX tr0 hm0).1
    have hoff : off (iss x) tr0.segment.hdr.seq = 1 + p := by
      rw [hp]
      have e1 : iss x + 1 + BitVec.ofNat 32 p = iss x + BitVec.ofNat 32 (1 + p) := by
        rw [BitVec.ofNat_add, BitVec.add_assoc]; rfl
      rw [e1, off_add _ _ _ (by rw [off_self]; have := hg.room.side x; omega), off_self]
      omega
    have hstart : off (iss x) tr0.segment.hdr.seq ≤ 1 := by
      rw [cr.1, ← hl]; omega
    refine ⟨tr0.segment, mem_out_of_rtx fx tr0 (List.mem_append_left _ hm0) (hflag tr0 hm0), (factsX tr0 hm0).2.2.2,
      Or.inl ⟨cr.2.2.1, by omega⟩⟩
  | nil =>
    rw [hl] at qsum
    simp only [rtxBytes_nil, BitVec.sub_zero, Nat.add_zero] at qsum
    -- nothing outstanding: `SND.NXT = ISS + 1`
    have hsent1 : off (iss x) t.snd.nxt = 1 := by
      have hc := siX.cover
      have hsp : synPending t = 0 := by unfold synPending; rw [if_neg hune]
      rw [hl, hsp] at hc
      simp only [rtxBytes_nil, Nat.add_zero, Nat.le_zero_eq] at hc
      have : t.snd.nxt = t.snd.una := by
        have h0 : (t.snd.nxt - t.snd.una) = 0 := BitVec.eq_of_toNat_eq (by rw [hc]; rfl)
        exact (BitVec.sub_eq_iff_eq_add.1 h0).trans (BitVec.zero_add _)
      rw [this]; exact huna
    cases hnw : new with
    | cons n0 nrest =>
      have hrun := fx.run
      rw [hnw] at hrun
      simp only [List.map_cons, DataRun] at hrun
      have hm0 : n0 ∈ t.outgoing.retransmit ++ new := by rw [hnw]; exact List.mem_append_right _ List.mem_cons_self
      refine ⟨n0.segment, mem_out_of_rtx fx n0 hm0 (fx.flagged n0 (by rw [hnw]; exact List.mem_cons_self)), ?_,
        Or.inl ⟨?_, ?_⟩⟩
      · rw [hrun.1]; rfl
      · rw [hrun.1]; rfl
      · rw [hrun.1]
        show off (iss x) t.snd.nxt = 1
        exact hsent1
    | nil =>
      -- only the one-shot queue is emitted
      have hout : out = t.outgoing.oneshot.map fun h => (⟨h, []⟩ : Segment) := by
        rw [fx.out, hl, hnw]; simp
      cases ho : t.outgoing.oneshot with
      | nil => rw [hout, ho] at hne; exact absurd rfl hne
      | cons h0 orest =>
        have hm0 : h0 ∈ t.outgoing.oneshot := by rw [ho]; exact List.mem_cons_self
        obtain ⟨e1, e2, e3, _⟩ := (hg.ext.tcb x t ht).one h0 hm0
        refine ⟨⟨h0, []⟩, by rw [hout, ho]; exact List.mem_cons_self, e2, Or.inl ⟨e3, ?_⟩⟩
        show off (iss x) h0.seq = 1
        rw [e1]; exact hsent1

theorem receive_oneshot (t : Tcb) : t.receive.1.outgoing.oneshot = t.outgoing.oneshot := by
  rw [receive_eq]; split <;> rfl

theorem ne_quiet {s s' : Sys} (q : QuietRun iss s s') (x : SideId) (h : NE s x) : NE s' x := by
  induction q with
  | refl => exact h
  | del _ e g ih =>
    rename_i s1 s2 z i r _q
    obtain ⟨t, ht, hne⟩ := ih
    rcases side_cases z x with hz | hz
    · subst hz
      cases hn : s1.nth i with
      | none =>
        cases (show s1.step (.deliver x i) = .ok (s1, .noSeg) from step_iff.2 (.noSeg hn)).symm.trans e
        exact ⟨t, ht, hne⟩
      | some σ =>
        obtain ⟨t', e1, rfl⟩ := deliver_tcb x i σ t ht hn e g
        obtain ⟨L, hL⟩ := oneshot_grows t σ t' .Ok e1
        refine ⟨t', by rw [side_setSide_same], ?_⟩
        rw [hL]
        intro h0
        exact hne (List.append_eq_nil_iff.1 h0).1
    · have : s2.side z.peer = s1.side z.peer := (step_iff.1 e).peer
      rw [← hz] at this
      exact ⟨t, by rw [this]; exact ht, hne⟩
  | rd _ e ih =>
    rename_i s1 s2 z r _q
    obtain ⟨t, ht, hne⟩ := ih
    rcases side_cases z x with hz | hz
    · subst hz
      rw [step_iff.2 (Sys.Step.read ht)] at e
      cases e
      exact ⟨t.receive.1, by rw [side_setSide_same], by rw [receive_oneshot]; exact hne⟩
    · have : s2.side z.peer = s1.side z.peer := (step_iff.1 e).peer
      rw [← hz] at this
      exact ⟨t, by rw [this]; exact ht, hne⟩

end Elvis.Tcp.Full
