import ElvisVerif.Lemmas.TcbInv
import ElvisVerif.Spec.Rfc9293
/-!
# Every elementary change of `process_segment` moves along edges of the RFC 9293 state diagram

For C03.  `Eff.edge`: after one elementary change (`Lemmas/TcbEff.lean`) the state is the state before it or one
`rfcCause` edge away for the event "a segment with these control bits"; `Returned.cause`: a result that makes the
caller delete the TCB is an edge to `none` for that event.  Alongside, the invariant `TwInv` (the TIME-WAIT timer
runs only in TIME-WAIT), which is what makes `advance_time` delete a TCB only along TIME-WAIT → CLOSED.
-/
namespace Elvis.Tcp
open Elvis.Rfc9293
namespace Tcb

/-- the event an arriving segment stands for: its four control bits -/
def evOf (c : Ctl) : Event := .segment c.ack c.rst c.syn c.fin

/-- `b` is `a`, or one edge caused by `ev` away -/
def Step (ev : Event) (a b : State) : Prop := rfcStepBy ev (some a) (some b) = true

theorem Step.refl (ev : Event) (a : State) : Step ev a a := by
  unfold Step rfcStepBy; simp

theorem Step.of_eq {ev : Event} {a b : State} (h : b = a) : Step ev a b := by
  subst h; exact Step.refl _ _

/-- the 2·MSL timer is armed only in TIME-WAIT -/
def TwInv (s : Tcb) : Prop := s.timeouts.timeWait.isSome = true → s.state = .TimeWait

structure Keep (s s' : Tcb) : Prop where
  state : s'.state = s.state
  tw : s'.timeouts.timeWait = s.timeouts.timeWait

theorem Keep.refl (s : Tcb) : Keep s s := ⟨rfl, rfl⟩
theorem Keep.trans {a b c : Tcb} (h1 : Keep a b) (h2 : Keep b c) : Keep a c :=
  ⟨h2.state.trans h1.state, h2.tw.trans h1.tw⟩

theorem Keep.step {s s' : Tcb} (h : Keep s s') (ev : Event) : Step ev s.state s'.state :=
  Step.of_eq h.state

theorem Keep.twInv {s s' : Tcb} (h : Keep s s') (ht : TwInv s) : TwInv s' := by
  unfold TwInv at *
  rw [h.tw, h.state]; exact ht

theorem keep_enqueueBuilt (s : Tcb) (h : Hdr) : Keep s (s.enqueueBuilt h) :=
  ⟨state_enqueueBuilt s h, by rw [(enqueueBuilt_frame s h).timeouts]⟩

theorem twInv_of_not_tw {s s' : Tcb} (ht : TwInv s) (hne : s.state ≠ .TimeWait)
    (htw : s'.timeouts.timeWait = s.timeouts.timeWait) : TwInv s' := by
  intro h
  rw [htw] at h
  exact absurd (ht h) hne

theorem twInv_of_tw {s' : Tcb} (h : s'.state = .TimeWait) : TwInv s' := fun _ => h

theorem cause_rst {c : Ctl} (hr : c.rst = true) {st : State} (h : st = .SynSent → c.ack = true) :
    rfcCause (evOf c) (some st) none = true := by
  unfold evOf
  rw [hr]
  cases st
  case SynSent => rw [h rfl]; rfl
  all_goals rfl

theorem edge_of {ev : Event} {s s' : Tcb} {a b : State} (ha : s.state = a) (hb : s'.state = b)
    (hc : rfcCause ev (some a) (some b) = true)
    (htw : b = .TimeWait ∨ (a ≠ .TimeWait ∧ s'.timeouts.timeWait = s.timeouts.timeWait)) :
    Step ev s.state s'.state ∧ (TwInv s → TwInv s') := by
  refine ⟨?_, fun ht => ?_⟩
  · rw [ha, hb]
    unfold Step rfcStepBy
    rw [hc, Bool.or_true]
  · rcases htw with h | ⟨h, h'⟩
    · exact twInv_of_tw (hb.trans h)
    · exact twInv_of_not_tw ht (ha ▸ h) h'

theorem Eff.edge {g : Segment} {k : Nat} {s s' : Tcb} (h : Eff g k s s') :
    Step (evOf g.hdr.ctl) s.state s'.state ∧ (TwInv s → TwInv s') := by
  have keep : ∀ {u : Tcb}, Keep s u → Step (evOf g.hdr.ctl) s.state u.state ∧ (TwInv s → TwInv u) :=
    fun k => ⟨k.step _, k.twInv⟩
  cases h with
  | reply => exact keep (keep_enqueueBuilt _ _)
  | ack | window | text | fin | rto => exact keep ⟨rfl, rfl⟩
  | established ha hst => exact edge_of hst rfl (by unfold evOf; rw [ha]; rfl) (.inr ⟨nofun, rfl⟩)
  | finWait2 ha hst => exact edge_of hst rfl (by unfold evOf; rw [ha]; rfl) (.inr ⟨nofun, rfl⟩)
  | timeWaitAcked ha hst => exact edge_of hst rfl (by unfold evOf; rw [ha]; rfl) (.inl rfl)
  | syn hsyn hrst hst =>
    -- SYN-SENT → ESTABLISHED (our SYN acknowledged) or SYN-RECEIVED (simultaneous open)
    have hev : evOf g.hdr.ctl = .segment g.hdr.ctl.ack false true g.hdr.ctl.fin := by unfold evOf; rw [hsyn, hrst]
    by_cases hg : ModCmp.modGt s.snd.una s.snd.iss = true
    · rw [if_pos hg]; exact edge_of hst rfl (hev ▸ rfl) (.inr ⟨nofun, rfl⟩)
    · rw [if_neg hg]; exact edge_of hst rfl (hev ▸ rfl) (.inr ⟨nofun, rfl⟩)
  | closeWait hfin hs =>
    rcases hs with hs | hs <;> exact edge_of hs rfl (by unfold evOf; rw [hfin]; rfl) (.inr ⟨nofun, rfl⟩)
  | closing hfin hs => exact edge_of hs rfl (by unfold evOf; rw [hfin]; rfl) (.inr ⟨nofun, rfl⟩)
  | timeWaitFin hfin hs =>
    rcases hs with ⟨hs, -⟩ | hs | hs
    · exact edge_of hs rfl (by unfold evOf; rw [hfin]; rfl) (.inl rfl)
    · exact edge_of hs rfl (by unfold evOf; rw [hfin]; rfl) (.inl rfl)
    · exact ⟨Step.of_eq hs.symm, fun _ => twInv_of_tw rfl⟩

theorem Returned.cause {g : Segment} {s' : Tcb} {r : ProcessSegmentResult} (h : Returned g s' r)
    (hd : r.shouldDeleteTcb = true) : rfcCause (evOf g.hdr.ctl) (some s'.state) none = true := by
  rcases h hd with ⟨hr, ha⟩ | ⟨-, ha, hst, -⟩
  · exact cause_rst hr ha
  · unfold evOf
    rw [hst, ha]
    exact Bool.or_true _

end Tcb
end Elvis.Tcp
