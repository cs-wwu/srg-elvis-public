import ElvisVerif.Lemmas.TcbEff
/-!
# Well-formedness of a TCB: on a well-formed TCB no operation panics, and each keeps it well-formed

`Tcb.Wf` is the invariant that makes every TCB operation total (no panic):
`SPACE_FOR_HEADERS ≤ mtu`, `RCV.WND = 65535` (the code never changes it), the buffered text
fits the window, and every parked segment carries at most `MAX_PAYLOAD` bytes.

`Rx s s'` says what an operation may have changed *as far as `Wf` is concerned*; every elementary change of
`Lemmas/TcbEff.lean` satisfies it (`Eff.rx`), it is reflexive and transitive, and `Wf s → Rx s s' → Wf s'`.
-/
namespace Elvis.Tcp
open Elvis.ModCmp

/-- a bound no TCP payload in an IPv4 datagram exceeds: 65535 - 20 (only the IPv4 header is taken off) -/
def MAX_PAYLOAD : Nat := 65515

theorem toNat_ofNat_payload {n : Nat} (h : n ≤ MAX_PAYLOAD) : (BitVec.ofNat 32 n).toNat = n :=
  (BitVec.toNat_ofNat _ _).trans (Nat.mod_eq_of_lt (Nat.lt_of_le_of_lt h (by decide)))

namespace Tcb

structure Wf (s : Tcb) : Prop where
  mtu_ge : SPACE_FOR_HEADERS ≤ s.mtu.toNat
  rcv_wnd : s.rcv.wnd = 65535#16
  in_text : s.incoming.text.length ≤ s.rcv.wnd.toNat
  heap_text : ∀ seg ∈ s.incoming.segments, seg.text.length ≤ MAX_PAYLOAD

/-- in SYN-SENT nothing waits on the reorder heap (holds between calls) -/
def HeapIdle (s : Tcb) : Prop := s.state = .SynSent → s.incoming.segments = []

/-- `s'` differs from `s` only in fields `Wf` does not read, or in ways that keep it -/
structure Rx (s s' : Tcb) : Prop where
  mtu : s'.mtu = s.mtu
  wnd : s'.rcv.wnd = s.rcv.wnd
  heap : s'.incoming.segments = s.incoming.segments
  text : s.incoming.text.length ≤ s.rcv.wnd.toNat → s'.incoming.text.length ≤ s'.rcv.wnd.toNat
  synsent : s'.state = .SynSent → s.state = .SynSent

theorem Rx.refl (s : Tcb) : Rx s s := ⟨rfl, rfl, rfl, id, id⟩

theorem Rx.trans {a b c : Tcb} (h1 : Rx a b) (h2 : Rx b c) : Rx a c :=
  ⟨h2.mtu.trans h1.mtu, h2.wnd.trans h1.wnd, h2.heap.trans h1.heap, fun h => h2.text (h1.text h),
    fun h => h1.synsent (h2.synsent h)⟩

theorem Wf.of_rx {s s' : Tcb} (h : Wf s) (r : Rx s s') : Wf s' :=
  ⟨by rw [r.mtu]; exact h.mtu_ge, by rw [r.wnd]; exact h.rcv_wnd, r.text h.in_text, by rw [r.heap]; exact h.heap_text⟩

theorem HeapIdle.of_rx {s s' : Tcb} (h : HeapIdle s) (r : Rx s s') : HeapIdle s' := fun hs => by
  rw [r.heap]
  exact h (r.synsent hs)

structure Same (s s' : Tcb) : Prop where
  mtu : s'.mtu = s.mtu
  rcv : s'.rcv = s.rcv
  incoming : s'.incoming = s.incoming

theorem Same.refl (s : Tcb) : Same s s := ⟨rfl, rfl, rfl⟩
theorem Same.trans {a b c : Tcb} (h1 : Same a b) (h2 : Same b c) : Same a c :=
  ⟨h2.mtu.trans h1.mtu, h2.rcv.trans h1.rcv, h2.incoming.trans h1.incoming⟩

theorem Same.rx {s s' : Tcb} (h : Same s s') (hs : s'.state = .SynSent → s.state = .SynSent) : Rx s s' :=
  ⟨h.mtu, by rw [h.rcv], by rw [h.incoming], by rw [h.incoming, h.rcv]; exact id, hs⟩

theorem Same.rx_of_state {s s' : Tcb} (h : Same s s') (hs : s'.state = s.state) : Rx s s' :=
  h.rx (by rw [hs]; exact id)

theorem same_enqueueBuilt (s : Tcb) (h : Hdr) : Same s (s.enqueueBuilt h) :=
  ⟨(enqueueBuilt_frame s h).mtu, (enqueueBuilt_frame s h).rcv, (enqueueBuilt_frame s h).incoming⟩

theorem snd_enqueueBuilt (s : Tcb) (h : Hdr) : (s.enqueueBuilt h).snd = s.snd :=
  (enqueueBuilt_frame s h).snd

theorem rx_enqueueBuilt (s : Tcb) (h : Hdr) : Rx s (s.enqueueBuilt h) :=
  (same_enqueueBuilt s h).rx_of_state (state_enqueueBuilt s h)

theorem isSeqOk_ok (s : Tcb) (tl seq : Seq) (syn fin : Bool) (h : tl.toNat ≤ MAX_PAYLOAD) :
    ∃ b, s.isSeqOk tl seq syn fin = .ok b := by
  have hf := Bool.toNat_le fin
  have hs := Bool.toNat_le syn
  rw [isSeqOk_eq, if_neg (by unfold MAX_PAYLOAD at h; omega)]
  exact ⟨_, rfl⟩

/-- an elementary change keeps what `Wf` reads: what block 5 takes fits what the window leaves free -/
theorem Eff.rx {g : Segment} {k : Nat} {s s' : Tcb} (h : Eff g k s s') : Rx s s' := by
  cases h with
  | reply => exact rx_enqueueBuilt _ _
  | ack | window | rto | fin => exact ⟨rfl, rfl, rfl, id, id⟩
  | established | finWait2 | timeWaitAcked | closing | closeWait | timeWaitFin => exact ⟨rfl, rfl, rfl, id, nofun⟩
  | syn _ _ hst => exact ⟨rfl, rfl, rfl, id, fun _ => hst⟩
  | @text _ n t _ _ hn htx =>
    refine ⟨rfl, rfl, rfl, fun hin => ?_, id⟩
    have hmod : s.incoming.text.length % 4294967296 = s.incoming.text.length :=
      Nat.mod_eq_of_lt (Nat.lt_of_le_of_lt hin (Nat.lt_trans s.rcv.wnd.isLt (by decide)))
    have hroom : n ≤ s.rcv.wnd.toNat - s.incoming.text.length := by
      rw [hn]
      exact hmod ▸ Nat.min_le_right _ _
    show (s.incoming.text ++ t).length ≤ s.rcv.wnd.toNat
    rw [htx, List.length_append, List.length_take]
    exact Nat.le_trans (Nat.add_le_add_left (Nat.le_trans (Nat.min_le_left _ _) hroom) _)
      (Nat.le_of_eq (Nat.add_sub_of_le hin))

theorem processSegment_rx {s s' : Tcb} {g : Segment} {r : ProcessSegmentResult}
    (e : s.processSegment g = .ok (s', r)) : Rx s s' :=
  processSegment_lift Rx.refl Rx.trans Eff.rx e

/-- no elementary change enters SYN-SENT, and parking a segment changes no state -/
theorem segmentArrives_synsent {s s' : Tcb} {g : Segment} {r : SegmentArrivesResult}
    (e : s.segmentArrives g = .ok (s', r)) (h : s'.state = .SynSent) : s.state = .SynSent :=
  segmentArrives_lift (R := fun a b => b.state = .SynSent → a.state = .SynSent) (fun _ => id)
    (fun h1 h2 h => h1 (h2 h)) (fun _ _ => id) (fun x => x.rx.synsent) e h

/-- only the change that takes the peer's SYN (block 4, for a segment with SYN) leaves SYN-SENT, and none enters it -/
theorem Eff.synSent_iff {g : Segment} {k : Nat} {a b : Tcb} (h : Eff g k a b) (hk : k ≠ 4 ∨ g.hdr.ctl.syn = false) :
    b.state = .SynSent ↔ a.state = .SynSent := by
  cases h with
  | reply => rw [state_enqueueBuilt]
  | ack | window | text | fin | rto => exact Iff.rfl
  | established _ hst | finWait2 _ hst | timeWaitAcked _ hst | closing _ hst =>
    exact iff_of_false nofun (by rw [hst]; nofun)
  | closeWait _ hs => exact iff_of_false nofun (by rcases hs with h | h <;> rw [h] <;> nofun)
  | timeWaitFin _ hs => exact iff_of_false nofun (by rcases hs with ⟨h, -⟩ | h | h <;> rw [h] <;> nofun)
  | syn hsyn => exact hk.elim (absurd rfl) fun h => by rw [h] at hsyn; cases hsyn

theorem Eff.ackSame {g : Segment} {a b : Tcb} (h : Eff g 2 a b) : Same a b := by
  cases h with
  | reply => exact same_enqueueBuilt _ _
  | _ => exact ⟨rfl, rfl, rfl⟩

theorem textBlock_total (s : Tcb) (seg : Hdr) (text : List UInt8)
    (hin : s.incoming.text.length ≤ s.rcv.wnd.toNat) (hlen : text.length ≤ MAX_PAYLOAD)
    (hpre : text ≠ [] →
      (s.isInRcvWindow seg.seq || s.isInRcvWindow (seg.seq + BitVec.ofNat 32 text.length)) = true) :
    ∃ s', textBlock s seg text (BitVec.ofNat 32 text.length) = .ok (s', none) := by
  by_cases hne : text = []
  · exact ⟨s, by rw [textBlock_eq, hne]; rfl⟩
  cases hst : takesText s.state
  · exact ⟨s, by rw [textBlock_eq, hst, Bool.not_false, Bool.or_true, if_pos rfl]⟩
  · have htl := toNat_ofNat_payload hlen
    have hmod : s.incoming.text.length % 4294967296 = s.incoming.text.length :=
      Nat.mod_eq_of_lt (Nat.lt_of_le_of_lt hin (Nat.lt_trans s.rcv.wnd.isLt (by decide)))
    have ha : (alreadyReceived s seg (BitVec.ofNat 32 text.length)).toNat ≤ (BitVec.ofNat 32 text.length).toNat :=
      (alreadyReceived_toNat s seg _).symm ▸ Nat.min_le_right _ _
    -- what is taken lies inside the text
    have hsum : (alreadyReceived s seg (BitVec.ofNat 32 text.length)).toNat +
        acceptLen s seg (BitVec.ofNat 32 text.length) ≤ (BitVec.ofNat 32 text.length).toNat :=
      Nat.le_trans (Nat.add_le_add_left (acceptLen_le s seg _) _) (Nat.le_of_eq (Nat.add_sub_of_le ha))
    exact ⟨_, textBlock_taken hne hst (hpre hne) ha (hmod.symm ▸ hin) (Nat.lt_of_le_of_lt hsum (BitVec.isLt _))
      (Nat.le_trans hsum (Nat.le_of_eq htl))⟩

theorem isSeqOk_text (s : Tcb) (tl seq : Seq) (fin : Bool) (hl : 0 < tl.toNat)
    (hw : s.rcv.wnd ≠ 0) (h : s.isSeqOk tl seq false fin = .ok true) :
    (s.isInRcvWindow seq || s.isInRcvWindow (seq + BitVec.ofNat 32 (tl.toNat + fin.toNat + 0) - 1)) = true := by
  rw [isSeqOk_eq] at h
  split at h
  · cases h
  · have h' := Except.ok.inj h
    rw [acceptable_pos (by show ¬ tl.toNat + fin.toNat + 0 = 0; omega) hw] at h'
    exact h'

theorem seqOk_cases (s : Tcb) (g : Segment) (hp : g.text.length ≤ MAX_PAYLOAD) :
    s.state = .SynSent ∨
    (s.state ≠ .SynSent ∧ s.isSeqOk (tl g) g.hdr.seq g.hdr.ctl.syn g.hdr.ctl.fin = .ok true) ∨
    (s.state ≠ .SynSent ∧ s.isSeqOk (tl g) g.hdr.seq g.hdr.ctl.syn g.hdr.ctl.fin = .ok false) := by
  by_cases hst : s.state = .SynSent
  · exact .inl hst
  · obtain ⟨b, hb⟩ := isSeqOk_ok s (tl g) g.hdr.seq g.hdr.ctl.syn g.hdr.ctl.fin ((toNat_ofNat_payload hp).symm ▸ hp)
    cases b
    · exact .inr (.inr ⟨hst, hb⟩)
    · exact .inr (.inl ⟨hst, hb⟩)

/-- block 5 finds its assertion true: block 1 accepted the segment and blocks 2 to 4 left the receive side as it was
    (`s2` is the TCB after block 2, `s4` after block 4), or block 4 took the SYN just before the text -/
theorem textBlock_pre {s s2 s4 : Tcb} {g : Segment} (h : Wf s) (hp : g.text.length ≤ MAX_PAYLOAD)
    (hacc : s.state ≠ .SynSent → s.isSeqOk (tl g) g.hdr.seq g.hdr.ctl.syn g.hdr.ctl.fin = .ok true)
    (same2 : Same s s2) (st2 : s2.state = .SynSent ↔ s.state = .SynSent)
    (c4 : synBlock s2 g.hdr = .ok (s4, none)) (hne : g.text ≠ []) :
    (s4.isInRcvWindow g.hdr.seq || s4.isInRcvWindow (g.hdr.seq + BitVec.ofNat 32 g.text.length)) = true := by
  have htl := toNat_ofNat_payload hp
  have hpos : 0 < (tl g).toNat := by rw [htl]; exact List.length_pos_iff.2 hne
  rcases synBlock_ok c4 with ⟨hsyn, rfl, ⟨-, hq⟩ | ⟨hns2, -⟩⟩ | ⟨-, -, -, hq⟩ | ⟨-, -, -, -, rfl⟩ | ⟨-, -, -, hq, -⟩
  · cases hq
  · -- no SYN, not SYN-SENT: the segment passed `is_seq_ok`
    have hok := hacc fun hx => hns2 (st2.2 hx)
    rw [hsyn] at hok
    have hwnd : s.rcv.wnd ≠ 0 := by rw [h.rcv_wnd]; decide
    have hw := isSeqOk_text s _ _ _ hpos hwnd hok
    rw [isInRcvWindow_congr same2.rcv, isInRcvWindow_congr same2.rcv]
    refine assert_of_seqOk s _ _ _ hpos ?_ hw
    rw [htl, h.rcv_wnd]
    exact Nat.le_trans hp (by decide)
  · cases hq
  · -- SYN in SYN-SENT: `RCV.NXT = SEG.SEQ + 1`
    rw [Bool.or_eq_true]; left
    rw [isInRcvWindow_iff, (same_enqueueBuilt _ _).rcv]
    right
    show (g.hdr.seq - (g.hdr.seq + 1)).toNat = 4294967295
    simp only [BitVec.sub_eq_add_neg, BitVec.neg_add, ← BitVec.add_assoc, BitVec.add_right_neg,
      BitVec.zero_add]
    rfl
  · cases hq

/-- `process_segment` never panics on a well-formed TCB and a payload of at most `MAX_PAYLOAD` bytes: blocks 2, 3, 4
    and 6 never do, block 1 needs the `u32` sum (`seqOk_cases`), and block 5 finds its assertion true
    (`textBlock_pre`) -/
theorem processSegment_total (s : Tcb) (g : Segment) (h : Wf s) (hp : g.text.length ≤ MAX_PAYLOAD) :
    ∃ s' r, s.processSegment g = .ok (s', r) := by
  -- block 1 accepts (or asks nothing, in SYN-SENT), or acknowledges and returns
  have c1 : (seqCheck s g.hdr (tl g) = .ok (s, none) ∧
      (s.state ≠ .SynSent → s.isSeqOk (tl g) g.hdr.seq g.hdr.ctl.syn g.hdr.ctl.fin = .ok true)) ∨
      ∃ u r, s.processSegment g = .ok (u, r) := by
    rcases seqOk_cases s g hp with hst | ⟨hst, hok⟩ | ⟨hst, hno⟩
    · exact .inl ⟨seqCheck_synSent hst, fun hns => absurd hst hns⟩
    · exact .inl ⟨seqCheck_pass hst hok, fun _ => hok⟩
    · exact .inr ⟨_, _, processSegment_stop1 (seqCheck_reject hst hno)⟩
  rcases c1 with ⟨c1, hacc⟩ | done
  case inr => exact done
  cases hq2 : (ackOut s g.hdr).2 with
  | some r => exact ⟨_, _, processSegment_stop2 c1 (by rw [ackBlock_eq, ← hq2])⟩
  | none =>
    have c2 : ackBlock s g.hdr = .ok ((ackOut s g.hdr).1, none) := by rw [ackBlock_eq, ← hq2]
    generalize (ackOut s g.hdr).1 = s2 at c2
    obtain ⟨same2, st2⟩ := (ackBlock_effs c2).1.lift
      (R := fun a b => Same a b ∧ (b.state = .SynSent ↔ a.state = .SynSent)) (fun a => ⟨Same.refl a, Iff.rfl⟩)
      (fun h1 h2 => ⟨h1.1.trans h2.1, h2.2.trans h1.2⟩) fun x => ⟨x.ackSame, x.synSent_iff (.inl (by decide))⟩
    cases hr : g.hdr.ctl.rst with
    | true => exact ⟨_, _, processSegment_stop3 c1 c2 (by rw [rstBlock_eq, hr]; rfl)⟩
    | false =>
      have c3 := rstBlock_pass (s := s2) hr
      obtain ⟨s4, q4, c4⟩ := synBlock_total s2 g.hdr
      cases q4 with
      | some r => exact ⟨_, _, processSegment_stop4 c1 c2 c3 c4⟩
      | none =>
        have wf2 : Wf s2 := h.of_rx (same2.rx st2.1)
        have wf4 : Wf s4 := wf2.of_rx ((synBlock_effs c4 hr).1.lift Rx.refl Rx.trans Eff.rx)
        obtain ⟨s5, c5⟩ := textBlock_total s4 g.hdr g.text wf4.in_text hp (textBlock_pre h hp hacc same2 st2 c4)
        obtain ⟨s6, q6, c6⟩ := finBlock_total s5 g.hdr (tl g)
        obtain rfl : q6 = none := (finBlock_ok c6).1
        exact ⟨_, _, processSegment_blocks c1 c2 c3 c4 c5 c6⟩

theorem processSegment_spec (s : Tcb) (segment : Segment) (h : Wf s)
    (hp : segment.text.length ≤ MAX_PAYLOAD) :
    ∃ s' r, s.processSegment segment = .ok (s', r) ∧ Rx s s' := by
  obtain ⟨s', r, e⟩ := processSegment_total s segment h hp
  exact ⟨s', r, e, processSegment_rx e⟩

theorem Stops.heapIdle {s : Tcb} (h : Stops s) : HeapIdle s := fun hst => by
  cases hl : s.incoming.segments with
  | nil => rfl
  | cons a l => exact absurd hst (h a (by rw [hl]; rfl)).1

theorem drains_spec (n : Nat) (s : Tcb) (hn : s.incoming.segments.length ≤ n) (h : Wf s) :
    ∃ s' r, Drains s r s' ∧ Wf s' := by
  induction n generalizing s with
  | zero =>
    refine ⟨s, .Ok, .stop fun top ht => ?_, h⟩
    rw [List.length_eq_zero_iff.1 (Nat.le_zero.1 hn)] at ht
    cases ht
  | succ n ih =>
    cases hpeek : LHeap.peek s.incoming.segments with
    | none => exact ⟨s, .Ok, .stop (fun top ht => by rw [hpeek] at ht; cases ht), h⟩
    | some top =>
      by_cases hg : s.state ≠ .SynSent ∧ modGt top.hdr.seq s.rcv.nxt = true
      · exact ⟨s, .Ok, .stop (fun top' ht => by rw [hpeek] at ht; cases ht; exact hg), h⟩
      have hgate : s.state ≠ .SynSent → modGt top.hdr.seq s.rcv.nxt = false :=
        fun hns => Bool.eq_false_iff.2 fun hm => hg ⟨hns, hm⟩
      obtain ⟨rest, hpop⟩ := LHeap.pop_of_peek (le := segLe) hpeek
      have hmem := LHeap.mem_of_mem_pop hpop
      have wf0 : Wf { s with incoming.segments := rest } :=
        ⟨h.mtu_ge, h.rcv_wnd, h.in_text, fun seg hs => h.heap_text seg (hmem.2 seg hs)⟩
      obtain ⟨s1, r1, e1, rx1⟩ := processSegment_spec _ top wf0 (h.heap_text top hmem.1)
      have P : Pops s top rest s1 r1 := ⟨hpop, hgate, e1⟩
      cases hd : r1.shouldDeleteTcb with
      | true => exact ⟨s1, .Close, .close P hd, wf0.of_rx rx1⟩
      | false =>
        obtain ⟨s2, r2, d2, wf2⟩ := ih s1 (by have := P.length; omega) (wf0.of_rx rx1)
        exact ⟨s2, r2, .step P hd d2, wf2⟩

theorem segmentArrives_spec (s : Tcb) (segment : Segment) (h : Wf s) (hi : HeapIdle s)
    (hp : segment.text.length ≤ MAX_PAYLOAD) :
    ∃ s' r, s.segmentArrives segment = .ok (s', r) ∧ Wf s' ∧ (r = .Ok → HeapIdle s') := by
  have wf0 : Wf { s with incoming.segments := LHeap.push segLe s.incoming.segments segment } :=
    ⟨h.mtu_ge, h.rcv_wnd, h.in_text, LHeap.forall_mem_push hp h.heap_text⟩
  obtain ⟨s1, r1, d1, wf1⟩ := drains_spec _ _ (Nat.le_refl _) wf0
  have run : (s.state = .SynSent ∨ s.isSeqOk (BitVec.ofNat 32 segment.text.length) segment.hdr.seq
      segment.hdr.ctl.syn segment.hdr.ctl.fin = .ok true) →
      ∃ s' r, s.segmentArrives segment = .ok (s', r) ∧ Wf s' ∧ (r = .Ok → HeapIdle s') := fun hc =>
    ⟨s1, r1, segmentArrives_iff.2 (Or.inr ⟨hc, d1⟩), wf1, fun hr => by subst hr; exact d1.rest.heapIdle⟩
  rcases seqOk_cases s segment hp with hst | ⟨-, hok⟩ | ⟨hst, hno⟩
  · exact run (Or.inl hst)
  · exact run (Or.inr hok)
  · exact ⟨_, _, segmentArrives_iff.2 (Or.inl ⟨hst, hno, rfl, rfl⟩), h.of_rx (rx_enqueueBuilt _ _),
      fun _ => hi.of_rx (rx_enqueueBuilt _ _)⟩

theorem segmentize_total (maxSeg : Nat) (hm : maxSeg + BASE_HEADER_OCTETS ≤ 65535) (fuel : Nat) (s : Tcb) (q : Nat) :
    ∃ s', segmentize maxSeg fuel s q = .ok s' := by
  induction fuel generalizing s q with
  | zero => exact ⟨_, rfl⟩
  | succ n ih =>
    rw [segmentize_cut maxSeg hm]
    split
    · exact ⟨_, rfl⟩
    · exact ih _ _

theorem same_finQueued (s : Tcb) : Same s (finQueued s) ∧ (finQueued s).state = s.state := by
  rw [finQueued_eq]
  exact ⟨⟨rfl, rfl, rfl⟩, rfl⟩

theorem segments_same {s s' : Tcb} {out : List Segment} (e : s.segments = .ok (s', out)) :
    Same s s' ∧ s'.state = s.state := by
  obtain ⟨s1, s2, tmo, h1, rfl, -, rfl, -⟩ := segments_ok e
  have k1 := segmentizeIfOpen_frame h1
  have k2 : Same s1 (if s.finPending && s1.outgoing.text.isEmpty then finQueued s1 else s1) ∧
      (if s.finPending && s1.outgoing.text.isEmpty then finQueued s1 else s1).state = s1.state := by
    split
    · exact same_finQueued s1
    · exact ⟨Same.refl _, rfl⟩
  exact ⟨⟨k2.1.mtu.trans k1.mtu, k2.1.rcv.trans k1.rcv, k2.1.incoming.trans k1.incoming⟩, k2.2.trans k1.state⟩


/-- `segments()` panics only when the MTU leaves no space for the headers -/
theorem segments_spec (s : Tcb) (h : Wf s) :
    ∃ s' out, s.segments = .ok (s', out) ∧ Same s s' ∧ s'.state = s.state := by
  have hmtu := s.mtu.isLt
  have hge : SPACE_FOR_HEADERS ≤ (clearOneshot s).mtu.toNat := h.mtu_ge
  have hm : (clearOneshot s).mtu.toNat - SPACE_FOR_HEADERS + BASE_HEADER_OCTETS ≤ 65535 := by
    show s.mtu.toNat - 50 + 20 ≤ 65535
    omega
  obtain ⟨s1, e1⟩ : ∃ s1, segmentizeIfOpen (clearOneshot s) = .ok s1 := by
    rw [segmentizeIfOpen_eq]
    split
    · rw [if_neg (Nat.not_lt.2 hge)]
      exact segmentize_total _ hm _ _ _
    · exact ⟨_, rfl⟩
  obtain ⟨⟨s', out⟩, e⟩ : ∃ p, s.segments = .ok p := by
    rw [segments_eq, e1]
    dsimp only
    rw [finIfPending_eq]
    exact ⟨_, rfl⟩
  exact ⟨s', out, e, segments_same e⟩

theorem advanceTime_spec (s : Tcb) (dt : Nat) :
    ∃ s' r, s.advanceTime dt = .ok (s', r) ∧ Same s s' ∧ s'.state = s.state := by
  obtain ⟨u, r, e, tmo, rfl | rfl⟩ := advanceTime_cases s dt
  · exact ⟨_, _, e, ⟨rfl, rfl, rfl⟩, rfl⟩
  · exact ⟨_, _, e, ⟨rfl, rfl, rfl⟩, rfl⟩

theorem send_same (s : Tcb) (m : List UInt8) : Same s (s.send m) ∧ (s.send m).state = s.state := by
  rw [send_eq]
  split <;> exact ⟨⟨rfl, rfl, rfl⟩, rfl⟩

theorem receive_rx (s : Tcb) : Rx s s.receive.1 ∧ s.receive.1.state = s.state := by
  rw [receive_eq]
  split
  · exact ⟨Rx.refl _, rfl⟩
  · exact ⟨⟨rfl, rfl, rfl, fun _ => Nat.zero_le _, id⟩, rfl⟩

theorem close_spec (s : Tcb) :
    ∃ s' r, s.close = .ok (s', r) ∧ Same s s' ∧ (s'.state = .SynSent → s.state = .SynSent) := by
  have move : ∀ st, st ≠ .SynSent → ∀ u,
      u = (if s.outgoing.text.isEmpty then finQueued { s with state := st } else { s with state := st }) →
      Same s u ∧ (u.state = .SynSent → s.state = .SynSent) := by
    intro st hst u hu
    rw [hu]
    split
    · have q := same_finQueued ({ s with state := st } : Tcb)
      exact ⟨⟨q.1.mtu, q.1.rcv, q.1.incoming⟩, fun h => absurd (q.2.symm.trans h) hst⟩
    · exact ⟨⟨rfl, rfl, rfl⟩, fun h => absurd h hst⟩
  rw [close_eq]
  by_cases h1 : s.state = .SynReceived ∨ s.state = .Established
  · rw [if_pos h1]
    exact ⟨_, _, rfl, move .FinWait1 nofun _ rfl⟩
  · rw [if_neg h1]
    by_cases h2 : s.state = .CloseWait
    · rw [if_pos h2]
      exact ⟨_, _, rfl, move .LastAck nofun _ rfl⟩
    · rw [if_neg h2]
      exact ⟨_, _, rfl, Same.refl _, id⟩

theorem abort_spec (s : Tcb) : ∃ s', s.abort = .ok s' ∧ Same s s' ∧ s'.state = s.state := by
  obtain ⟨u, e, rfl | rfl⟩ := abort_cases s
  · exact ⟨_, e, Same.refl _, rfl⟩
  · have sm := same_enqueueBuilt ({ s with outgoing := {} } : Tcb)
      ((({ s with outgoing := {} } : Tcb).headerBuilder s.snd.nxt).withRst.withWnd s.rcv.wnd).built
    exact ⟨_, e, ⟨sm.mtu, sm.rcv, sm.incoming⟩, state_enqueueBuilt _ _⟩

theorem open_spec (lp rp : U16) (iss : Seq) (mtu : U16) (hm : SPACE_FOR_HEADERS ≤ mtu.toNat) :
    ∃ s, Tcb.open lp rp iss mtu = .ok s ∧ Wf s ∧ HeapIdle s :=
  ⟨_, open_eq lp rp iss mtu, ⟨hm, rfl, Nat.zero_le _, fun _ h => absurd h List.not_mem_nil⟩, fun _ => rfl⟩

theorem listen_spec (segment : Segment) (iss : Seq) (mtu : U16) (hm : SPACE_FOR_HEADERS ≤ mtu.toNat)
    (hp : segment.text.length ≤ MAX_PAYLOAD) :
    ∃ r, segmentArrivesListen segment iss mtu = .ok r ∧
      ∀ tcb, r = some (.Tcb tcb) → Wf tcb ∧ HeapIdle tcb := by
  refine ⟨_, segmentArrivesListen_eq segment iss mtu, fun tcb h => ?_⟩
  obtain ⟨-, -, -, rfl⟩ := segmentArrivesListen_tcb ((segmentArrivesListen_eq segment iss mtu).trans (congrArg _ h))
  -- the parked SYN keeps the text of the segment
  exact ⟨⟨hm, rfl, Nat.zero_le _, fun seg hs => by cases List.mem_singleton.1 hs; exact hp⟩, nofun⟩

end Tcb
end Elvis.Tcp
