import ElvisVerif.Lemmas.TcpFullInv
/-!
# ESTABLISHED stays

`est_stays`: a segment without RST and FIN arriving at an ESTABLISHED TCB whose reorder heap holds no RST and no FIN
leaves it ESTABLISHED (no edge of the RFC 9293 diagram leaves ESTABLISHED for such control bits).
-/
namespace Elvis.Tcp.Full
open Elvis.ModCmp Elvis.Tcp.Tcb Elvis.Rfc9293

theorem est_edge (a s : Bool) (c : Option State)
    (h : rfcCause (.segment a false s false) (some .Established) c = true) : c = some .Established := by
  revert h
  cases a <;> cases s <;> cases c <;> (try rename_i st; cases st) <;> decide

theorem path_est {S : Event → Prop} (hS : ∀ ev, S ev → ∃ a s, ev = .segment a false s false) {a b : Option State}
    (p : Path S a b) : a = some .Established → b = some .Established := by
  induction p with
  | refl => exact id
  | tail _ hs hc ih =>
    intro ha
    obtain ⟨x, y, rfl⟩ := hS _ hs
    rw [ih ha] at hc
    exact est_edge x y _ hc

theorem path_est_segs {l : List Segment} (h : ∀ g ∈ l, g.hdr.ctl.rst = false ∧ g.hdr.ctl.fin = false)
    {a b : Option State} (p : Path (fun ev => ∃ seg ∈ l, ev = evOf seg.hdr.ctl) a b) :
    a = some .Established → b = some .Established :=
  path_est (fun ev ⟨g, hg, hev⟩ =>
    ⟨g.hdr.ctl.ack, g.hdr.ctl.syn, by rw [hev]; unfold evOf; rw [(h g hg).1, (h g hg).2]⟩) p

theorem est_stays (t : Tcb) (σ : Segment) (t' : Tcb) (e : t.segmentArrives σ = .ok (t', .Ok))
    (hst : t.state = .Established)
    (h : ∀ g ∈ σ :: t.incoming.segments, g.hdr.ctl.rst = false ∧ g.hdr.ctl.fin = false) :
    t'.state = .Established :=
  Option.some.inj (path_est_segs h (segmentArrives_path t σ t' .Ok e).1 (by rw [hst]))

variable {iss : SideId → Seq} {mt : SideId → U16}

def EstX (s : Sys) (x : SideId) (L : Nat) : Prop :=
  ∃ t, (s.side x).tcb = some t ∧ t.state = .Established ∧ t.outgoing.text.length ≤ L

end Elvis.Tcp.Full
