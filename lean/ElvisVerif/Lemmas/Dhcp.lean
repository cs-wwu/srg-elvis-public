import ElvisVerif.Model.Dhcp
import ElvisVerif.Lemmas.IpGenFetch
import ElvisVerif.Lemmas.ListSet
/-!
Helper lemmas for the DHCP clause of C15: the invariant `DInv` of the message-level transition
system and its preservation by every kind of world update.
-/
namespace Elvis.Dhcp
open Elvis.IpGen

/-- datagrams that name a leased address: Offer, Request, Ack -/
def isLeaseMsg (t : MsgType) : Prop := t = .offer ∨ t = .request ∨ t = .ack

def relDistinct (p q : Packet) : Prop := p.typ = .release → q.typ = .release → p.yourIp ≠ q.yourIp

/-- what holds in every reachable world.  `owner` (ghost) lists the outstanding leases
    `(ip, client, release under way)`. -/
structure DInv (pool : Range) (w : World) : Prop where
  sorted : Sorted w.gen
  bounded : Bounded w.gen
  availPool : ∀ a, avail w.gen a → inR pool a
  ownDistinct : w.owner.Pairwise (fun x y => x.1 ≠ y.1)
  ownNotAvail : ∀ e ∈ w.owner, ¬ avail w.gen e.1 ∧ e.1 < 2 ^ 32 ∧ inR pool e.1
  /-- every lease started with an Offer to that client -/
  ownOffered : ∀ e ∈ w.owner, (e.2.1, e.1) ∈ w.offered
  /-- Offer/Request/Ack in flight belong to a live lease of the client whose session carries them -/
  pktLease : ∀ p ∈ w.net, isLeaseMsg p.typ → (p.yourIp, p.client, false) ∈ w.owner
  /-- a Release in flight belongs to a lease marked as being released -/
  pktRelease : ∀ p ∈ w.net, p.typ = .release → (p.yourIp, p.client, true) ∈ w.owner
  relOnce : w.net.Pairwise relDistinct
  /-- an address a client stores is a live lease of that client -/
  stored : ∀ c a, w.clients[c]? = some (some a) → (a, c, false) ∈ w.owner

/-! equation lemmas (`simp only [serverDemux]` loops on the wildcard arm; these are `rfl`) -/
theorem serverDemux_discover (w : World) (c y : Nat) :
    serverDemux w c .discover y =
      (match fetchIp w.gen with
       | .error e => .error e
       | .ok (_, none) => .error exhaustedPanic
       | .ok (g', some ip) =>
         .ok { w with gen := g', net := w.net ++ [⟨false, c, .offer, ip⟩], offered := (c, ip) :: w.offered, owner := (ip, c, false) :: w.owner }) := by
  unfold serverDemux; rfl
theorem serverDemux_request (w : World) (c y : Nat) :
    serverDemux w c .request y = .ok { w with net := w.net ++ [⟨false, c, .ack, y⟩] } := rfl
theorem serverDemux_release (w : World) (c y : Nat) :
    serverDemux w c .release y =
      (match returnIp w.gen y with
       | .error e => .error e
       | .ok g' => .ok { w with gen := g', owner := w.owner.filter (fun e => e.1 != y) }) := by
  unfold serverDemux; rfl
/-- the server drops Offer, Decline, Ack and Nack (`Err(DemuxError::Other)`) -/
theorem serverDemux_other (w : World) (c y : Nat) {t : MsgType}
    (h : t ≠ .discover ∧ t ≠ .request ∧ t ≠ .release) : serverDemux w c t y = .ok w := by
  cases t with
  | discover => exact absurd rfl h.1
  | request => exact absurd rfl h.2.1
  | release => exact absurd rfl h.2.2
  | _ => rfl

theorem own_unique {l : List (Nat × Nat × Bool)} (hp : l.Pairwise (fun x y => x.1 ≠ y.1))
    {e1 e2 : Nat × Nat × Bool} (h1 : e1 ∈ l) (h2 : e2 ∈ l) (he : e1.1 = e2.1) : e1 = e2 :=
  Decidable.byContradiction fun hne =>
    List.pairwise_rel_others (fun _ _ => Ne.symm) hp (List.perm_cons_erase h1) e2
      ((List.mem_erase_of_ne (Ne.symm hne)).2 h2) he

theorem relDistinct_symm (p q : Packet) (h : relDistinct p q) : relDistinct q p :=
  fun hq hp e => h hp hq e.symm

theorem dinv_sub {pool : Range} {w : World} (h : DInv pool w) (l : List Packet) (hl : l.Sublist w.net) :
    DInv pool { w with net := l } :=
  { h with
    pktLease := fun p hp => h.pktLease p (hl.subset hp)
    pktRelease := fun p hp => h.pktRelease p (hl.subset hp)
    relOnce := h.relOnce.sublist hl }

theorem dinv_app {pool : Range} {w : World} (h : DInv pool w) (q : Packet)
    (h1 : isLeaseMsg q.typ → (q.yourIp, q.client, false) ∈ w.owner)
    (h2 : q.typ = .release → (q.yourIp, q.client, true) ∈ w.owner ∧
          ∀ p ∈ w.net, p.typ = .release → p.yourIp ≠ q.yourIp) :
    DInv pool { w with net := w.net ++ [q] } :=
  { h with
    pktLease := List.forall_mem_append.2 ⟨h.pktLease, List.forall_mem_singleton.2 h1⟩
    pktRelease := List.forall_mem_append.2 ⟨h.pktRelease, List.forall_mem_singleton.2 fun hr => (h2 hr).1⟩
    relOnce := by
      show (w.net ++ [q]).Pairwise relDistinct
      rw [List.pairwise_append]
      refine ⟨h.relOnce, List.pairwise_singleton _ _, ?_⟩
      intro a ha b hb
      rw [List.mem_singleton] at hb; subst hb
      exact fun hra hrb => (h2 hrb).2 a ha hra }

theorem dinv_offer {pool : Range} {w : World} (h : DInv pool w) (c ip : Nat) (g' : Gen)
    (hs : Sorted g') (hb : Bounded g') (hlt : ip < 2 ^ 32) (hav : avail w.gen ip)
    (hg : ∀ a, avail g' a ↔ avail w.gen a ∧ a ≠ ip) :
    DInv pool { w with gen := g', net := w.net ++ [⟨false, c, .offer, ip⟩],
                       offered := (c, ip) :: w.offered, owner := (ip, c, false) :: w.owner } := by
  have h' : DInv pool { w with gen := g', offered := (c, ip) :: w.offered, owner := (ip, c, false) :: w.owner } := by
    refine ⟨hs, hb, ?_, ?_, ?_, ?_, fun p hp hl => List.mem_cons_of_mem _ (h.pktLease p hp hl),
      fun p hp hr => List.mem_cons_of_mem _ (h.pktRelease p hp hr), h.relOnce,
      fun c' a hc => List.mem_cons_of_mem _ (h.stored c' a hc)⟩
    · intro a ha; exact h.availPool a ((hg a).1 ha).1
    · refine List.pairwise_cons.2 ⟨?_, h.ownDistinct⟩
      intro e he heq
      exact (h.ownNotAvail e he).1 (by rw [← heq]; exact hav)
    · intro e he
      rcases List.mem_cons.1 he with rfl | he
      · exact ⟨fun ha => ((hg ip).1 ha).2 rfl, hlt, h.availPool ip hav⟩
      · have := h.ownNotAvail e he
        exact ⟨fun ha => this.1 ((hg _).1 ha).1, this.2⟩
    · intro e he
      rcases List.mem_cons.1 he with rfl | he
      · exact List.mem_cons_self
      · exact List.mem_cons_of_mem _ (h.ownOffered e he)
  exact dinv_app h' ⟨false, c, .offer, ip⟩ (fun _ => List.mem_cons_self) (fun hr => by cases hr)

theorem dinv_server_release {pool : Range} {w : World} (h : DInv pool w) (c y : Nat) (g' : Gen)
    (hown : (y, c, true) ∈ w.owner)
    (hrel : ∀ q ∈ w.net, q.typ = .release → q.yourIp ≠ y)
    (hs : Sorted g') (hb : Bounded g') (hg : ∀ a, avail g' a ↔ avail w.gen a ∨ a = y) :
    DInv pool { w with gen := g', owner := w.owner.filter (fun e => e.1 != y) } := by
  have keep : ∀ e ∈ w.owner, e.1 ≠ y → e ∈ w.owner.filter (fun e => e.1 != y) := by
    intro e he hne; exact List.mem_filter.2 ⟨he, by simpa using hne⟩
  have notlive : ∀ c', (y, c', false) ∉ w.owner := by
    intro c' hm
    have := own_unique h.ownDistinct hm hown rfl
    simp at this
  refine ⟨hs, hb, ?_, ?_, ?_, ?_, ?_, ?_, h.relOnce, ?_⟩
  · intro a ha
    rcases (hg a).1 ha with ha | rfl
    · exact h.availPool a ha
    · exact (h.ownNotAvail _ hown).2.2
  · exact h.ownDistinct.sublist List.filter_sublist
  · intro e he
    obtain ⟨he, hne⟩ := List.mem_filter.1 he
    have hne : e.1 ≠ y := by simpa using hne
    have := h.ownNotAvail e he
    refine ⟨fun ha => ?_, this.2⟩
    rcases (hg _).1 ha with ha | ha
    · exact this.1 ha
    · exact hne ha
  · intro e he; exact h.ownOffered e (List.mem_filter.1 he).1
  · intro p hp hl
    have hm := h.pktLease p hp hl
    refine keep _ hm ?_
    intro heq
    exact notlive p.client (by rw [← heq]; exact hm)
  · intro p hp hr
    exact keep _ (h.pktRelease p hp hr) (hrel p hp hr)
  · intro c' a hc
    have hm := h.stored c' a hc
    refine keep _ hm ?_
    intro heq
    exact notlive c' (by rw [← heq]; exact hm)

theorem dinv_client_ack {pool : Range} {w : World} (h : DInv pool w) (c y : Nat)
    (hown : (y, c, false) ∈ w.owner) :
    DInv pool { w with clients := w.clients.set c (some y) } :=
  { h with
    stored := by
      intro c' a hc
      rcases List.getElem?_set_cases hc with ⟨rfl, e⟩ | ⟨_, hc⟩
      · cases e; exact hown
      · exact h.stored c' a hc }

theorem dinv_release {pool : Range} {w : World} (h : DInv pool w) (c a : Nat)
    (hc : w.clients[c]? = some (some a))
    (hq : ∀ p ∈ w.net, p.typ ≠ .discover → p.yourIp ≠ a) :
    DInv pool { w with clients := w.clients.set c none, net := w.net ++ [⟨true, c, .release, a⟩],
                       owner := w.owner.map (fun e => if e.1 == a then (e.1, e.2.1, true) else e) } := by
  have hlive := h.stored c a hc
  have fst_eq : ∀ e : Nat × Nat × Bool, (if e.1 == a then (e.1, e.2.1, true) else e).1 = e.1 := by
    intro e; split <;> rfl
  have keep : ∀ e ∈ w.owner, e.1 ≠ a → e ∈ w.owner.map (fun e => if e.1 == a then (e.1, e.2.1, true) else e) := by
    intro e he hne
    refine List.mem_map.2 ⟨e, he, ?_⟩
    have : (e.1 == a) = false := by simpa using hne
    simp [this]
  have h' : DInv pool { w with clients := w.clients.set c none,
                               owner := w.owner.map (fun e => if e.1 == a then (e.1, e.2.1, true) else e) } := by
    refine ⟨h.sorted, h.bounded, h.availPool, ?_, ?_, ?_, ?_, ?_, h.relOnce, ?_⟩
    · show (w.owner.map _).Pairwise _
      rw [List.pairwise_map]
      exact h.ownDistinct.imp (fun {x y} hxy => by rw [fst_eq, fst_eq]; exact hxy)
    · intro e he
      obtain ⟨e0, he0, rfl⟩ := List.mem_map.1 he
      rw [fst_eq]; exact h.ownNotAvail e0 he0
    · intro e he
      obtain ⟨e0, he0, rfl⟩ := List.mem_map.1 he
      have := h.ownOffered e0 he0
      split
      · exact this
      · exact this
    · intro p hp hl
      refine keep _ (h.pktLease p hp hl) (hq p hp ?_)
      intro hd; rcases hl with hl | hl | hl <;> rw [hd] at hl <;> cases hl
    · intro p hp hr
      refine List.mem_map.2 ⟨_, h.pktRelease p hp hr, ?_⟩
      split <;> rfl
    · intro c' a' hc'
      rcases List.getElem?_set_cases hc' with ⟨_, e⟩ | ⟨hcc, hc'⟩
      · cases e
      · have hm := h.stored c' a' hc'
        refine keep _ hm ?_
        intro heq
        have := own_unique h.ownDistinct hm hlive heq
        simp at this
        exact hcc this.2
  refine dinv_app h' ⟨true, c, .release, a⟩ (fun hl => by rcases hl with hl | hl | hl <;> cases hl) fun _ => ⟨?_, ?_⟩
  · exact List.mem_map.2 ⟨_, hlive, by simp⟩
  · intro p hp hrp
    exact hq p hp (by rw [hrp]; intro hd; cases hd)

end Elvis.Dhcp
