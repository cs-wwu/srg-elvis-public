import ElvisVerif.Lemmas.TcpConvRound
/-!
# After loss: what is re-sent once the retransmission timer has expired, and calm states (`CalmX`, `Calm`)

`advanceTime_expire`: a tick longer than the retransmission timer flags every entry of the retransmission
queue and touches nothing else but the timer.  `chain_catchRun`: a queue of plain data segments that
satisfies `Chain` is, as a list of segments, a `CatchRun` ending at `SND.NXT`; with `catchRun_append`
and `catchRun_of_dataRun` so is the whole queue followed by the new data of one `segments()` call.
-/
namespace Elvis.Tcp
open Tcb Elvis.ModCmp

namespace Tcb

/-- plain data segments (ACK bit only, non-empty text of at most 65535 bytes) numbered contiguously from `seq` -/
def CatchRun : Seq → List Segment → Prop
  | _, [] => True
  | seq, g :: rest => g.hdr.seq = seq ∧ g.hdr.ctl.rst = false ∧ g.hdr.ctl.syn = false ∧ g.hdr.ctl.fin = false ∧
      g.hdr.ctl.ack = true ∧ g.text ≠ [] ∧ g.text.length ≤ 65535 ∧
      CatchRun (seq + BitVec.ofNat 32 g.text.length) rest

end Tcb

theorem catchRun_append (l1 l2 : List Segment) : ∀ seq, CatchRun seq l1 →
    CatchRun (seq + BitVec.ofNat 32 (segBytes l1)) l2 → CatchRun seq (l1 ++ l2) := by
  induction l1 with
  | nil => intro seq _ h; simpa using h
  | cons g rest ih =>
    intro seq h1 h2
    obtain ⟨a, b, c, d, e, f, g', h⟩ := h1
    refine ⟨a, b, c, d, e, f, g', ih _ h ?_⟩
    rw [segBytes_cons, BitVec.ofNat_add, ← BitVec.add_assoc] at h2
    exact h2

theorem catchRun_of_dataRun (lp rp : U16) (ack : Seq) (wnd : U16) (l : List Segment) :
    ∀ seq, DataRun lp rp ack wnd seq l → (∀ g ∈ l, g.text.length ≤ 65535) → CatchRun seq l := by
  induction l with
  | nil => intro _ _ _; trivial
  | cons g rest ih =>
    intro seq h hl
    obtain ⟨h1, h2, h3⟩ := h
    exact ⟨by rw [h1]; rfl, by rw [h1]; rfl, by rw [h1]; rfl, by rw [h1]; rfl, by rw [h1]; rfl, h2,
      hl g List.mem_cons_self, ih _ h3 (fun x hx => hl x (List.mem_cons_of_mem _ hx))⟩

theorem le_segBytes (l : List Segment) (g : Segment) (h : g ∈ l) : g.text.length ≤ segBytes l := by
  induction l with
  | nil => cases h
  | cons x xs ih =>
    rw [segBytes_cons]
    rcases List.mem_cons.1 h with rfl | h
    · omega
    · have := ih h; omega

theorem chain_catchRun (nxt : Seq) (l : List Transmit) (hc : Chain nxt l)
    (hl : ∀ tr ∈ l, tr.segment.text ≠ [] ∧ tr.segment.text.length ≤ 65535 ∧ tr.segment.hdr.ctl.rst = false ∧
      tr.segment.hdr.ctl.ack = true) :
    CatchRun (nxt - BitVec.ofNat 32 (rtxBytes l)) (l.map (·.segment)) := by
  induction l with
  | nil => trivial
  | cons tr rest ih =>
    obtain ⟨h1, h2, h3, h4⟩ := hl tr List.mem_cons_self
    rcases hc.1 with h0 | ⟨hs, hf, he⟩
    · exact absurd h0 h1
    · simp only [List.map_cons, CatchRun]
      have hseq : tr.segment.hdr.seq = nxt - BitVec.ofNat 32 (rtxBytes (tr :: rest)) := by
        rw [rtxBytes_cons, BitVec.ofNat_add, ← he, BitVec.add_assoc, BitVec.add_sub_cancel]
      refine ⟨hseq, h3, hs, hf, h4, h1, h2, ?_⟩
      have := ih hc.2 (fun x hx => hl x (List.mem_cons_of_mem _ hx))
      have e : nxt - BitVec.ofNat 32 (rtxBytes (tr :: rest)) + BitVec.ofNat 32 tr.segment.text.length
          = nxt - BitVec.ofNat 32 (rtxBytes rest) := by
        rw [rtxBytes_cons, BitVec.ofNat_add, BitVec.add_comm (BitVec.ofNat 32 tr.segment.text.length), ← BitVec.sub_sub,
          BitVec.sub_add_cancel]
      rw [e]
      exact this

structure Flagged (t t1 : Tcb) : Prop where
  st : t1.state = t.state
  snd : t1.snd = t.snd
  rcv : t1.rcv = t.rcv
  inc : t1.incoming = t.incoming
  mtu : t1.mtu = t.mtu
  otext : t1.outgoing.text = t.outgoing.text
  one : t1.outgoing.oneshot = t.outgoing.oneshot
  rtx : t1.outgoing.retransmit = t.outgoing.retransmit.map fun x => { x with needsTransmit := true }
  tmo : t1.timeouts.retransmission = RTO

theorem Flagged.all {t t1 : Tcb} (f : Flagged t t1) : ∀ tr ∈ t1.outgoing.retransmit, tr.needsTransmit = true := by
  intro tr htr
  rw [f.rtx] at htr
  obtain ⟨x, _, rfl⟩ := List.mem_map.1 htr
  rfl

theorem advanceTime_expire (t : Tcb) (dt : Nat) (hdt : dt > t.timeouts.retransmission)
    (htw : t.timeouts.timeWait = none) : ∃ t1, t.advanceTime dt = .ok (t1, .Ignore) ∧ Flagged t t1 := by
  rw [advanceTime_eq, htw]
  refine ⟨_, rfl, ?_⟩
  rw [timerRun_expired hdt]
  exact ⟨rfl, rfl, rfl, rfl, rfl, rfl, rfl, rfl, rfl⟩

/-- a tick of `RTO + 1` on an endpoint outside TIME-WAIT expires its retransmission timer: every queue entry is
    flagged, nothing else changes -/
theorem tick_flag {iss : SideId → Seq} (s : Sys) (hg : Good iss s) (x : SideId) (t : Tcb) (ht : (s.side x).tcb = some t)
    (hst : t.state ≠ .TimeWait) (htmo : t.timeouts.retransmission ≤ RTO) :
    ∃ t1, t.advanceTime (RTO + 1) = .ok (t1, .Ignore) ∧
      s.step (.tick x (RTO + 1)) = .ok (s.setSide x { s.side x with tcb := some t1 }, .tick .Ignore) ∧
      PlainRun s (s.setSide x { s.side x with tcb := some t1 }) ∧
      Good iss (s.setSide x { s.side x with tcb := some t1 }) ∧ Flagged t t1 := by
  obtain ⟨t1, e1, k1⟩ := advanceTime_expire t (RTO + 1) (Nat.lt_succ_of_le htmo) (hg.timeWait_none x t ht hst)
  have e := step_iff.2 (Sys.Step.tick (s := s) ht e1)
  have r01 : PlainRun s (s.setSide x { s.side x with tcb := some t1 }) := .step (op := .tick x (RTO + 1)) (.refl _) trivial e
  exact ⟨t1, e1, e, r01, hg.of_run r01 (by cases x <;> exact hg.room), k1⟩

theorem filter_all_flagged (l new : List Transmit) (hn : ∀ tr ∈ new, tr.needsTransmit = true) :
    ((l.map fun x => ({ x with needsTransmit := true } : Transmit)) ++ new).filter (·.needsTransmit) =
      (l.map fun x => { x with needsTransmit := true }) ++ new := by
  apply List.filter_eq_self.2
  intro tr htr
  rcases List.mem_append.1 htr with h | h
  · obtain ⟨x, _, rfl⟩ := List.mem_map.1 h
    rfl
  · exact hn tr h

theorem map_flag_segment (l : List Transmit) (b : Bool) :
    (l.map fun x => ({ x with needsTransmit := b } : Transmit)).map (·.segment) = l.map (·.segment) := by
  induction l with
  | nil => rfl
  | cons x xs ih => simp [ih]

end Elvis.Tcp

/-!
## Calm states, and where a re-sent retransmission queue starts

`CalmX t`: ESTABLISHED, reorder heap, receive buffer and one-shot queue empty, the SYN acknowledged
(`SND.UNA ≠ ISS`), MTU with room for text, retransmission timer at most RTO.  Anything may be on the
retransmission queue and anything may be unsent: segments and acknowledgments may have been lost.

`rtx_entry_facts`, `queue_start`: once the SYN is acknowledged every queue entry is a plain data segment, and the
queue, as one run, begins at or before `SND.UNA` and ends at `SND.NXT`.  What a receiver makes of that run is
`Full.side_outcome_roughL` (`Lemmas/TcpFullPhase.lean`), for any reorder heap; a calm state is the case of empty heaps.
-/
namespace Elvis.Tcp
open Tcb Elvis.ModCmp

structure CalmX (t : Tcb) : Prop where
  st : t.state = .Established
  heap : t.incoming.segments = []
  buf : t.incoming.text = []
  one : t.outgoing.oneshot = []
  una : t.snd.una ≠ t.snd.iss
  mtu : SPACE_FOR_HEADERS < t.mtu.toNat
  tmo : t.timeouts.retransmission ≤ RTO

structure Calm (s : Sys) (ta tb : Tcb) : Prop where
  ha : s.a.tcb = some ta
  hb : s.b.tcb = some tb
  a : CalmX ta
  b : CalmX tb

section
variable {iss : SideId → Seq} {s : Sys}

theorem rtx_entry_facts (hg : Good iss s) (x : SideId) (t : Tcb) (ht : (s.side x).tcb = some t) (hu : t.snd.una ≠ t.snd.iss) :
    ∀ tr ∈ t.outgoing.retransmit, tr.segment.text ≠ [] ∧ tr.segment.text.length ≤ 65535 ∧
      tr.segment.hdr.ctl.rst = false ∧ tr.segment.hdr.ctl.ack = true := by
  intro tr htr
  obtain ⟨v, _⟩ := (hg.tinv x t ht).rtx tr.segment (List.mem_map.2 ⟨tr, htr, rfl⟩)
  obtain ⟨hpos, hk⟩ := (hg.ext.tcb x t ht).keep tr htr
  have hN := hg.sent_lt x t ht
  have hiss := hg.iss_eq x t ht
  have hule := hg.una_le x t ht
  have hsyn : tr.segment.hdr.ctl.syn = false := by
    cases h : tr.segment.hdr.ctl.syn with
    | false => rfl
    | true =>
      exfalso
      obtain ⟨hseq, htext⟩ := v.syn h
      have hsl : tr.segment.segLen = 1 := by rw [Segment.segLen_eq, htext, h, v.fin]; rfl
      unfold keepFor at hk
      rw [hsl, hseq] at hk
      have o1 : off (iss x) (iss x + BitVec.ofNat 32 1) = 1 := by
        rw [off_add _ _ _ (by rw [off_self]; omega), off_self]
      have := (modLt_iff_off (iss x) t.snd.una _ (by omega) (by rw [o1]; omega)).1 hk
      rw [o1] at this
      exact hu (off_inj (base := iss x) (by rw [hiss, off_self]; omega))
  have htext : tr.segment.text ≠ [] := by
    intro h0
    rw [Segment.segLen_eq, h0, hsyn, v.fin] at hpos
    simp at hpos
  have hlen := ((hg.ext.wf.side x).1 t ht).2.2 tr htr
  have hlen' : tr.segment.text.length ≤ 65535 := by
    have : MAX_PAYLOAD = 65515 := rfl
    omega
  refine ⟨htext, hlen', (hg.conv.nr.tcb x t ht).rtx tr htr, ?_⟩
  rcases (hg.ext.tcb x t ht).rtxa tr htr with h | h
  · exact h
  · rw [hsyn] at h; cases h

theorem queue_start (hg : Good iss s) (x : SideId) (t : Tcb) (ht : (s.side x).tcb = some t) (hst : t.state = .Established)
    (hu : t.snd.una ≠ t.snd.iss) :
    off (iss x) (t.snd.nxt - BitVec.ofNat 32 (rtxBytes t.outgoing.retransmit)) + rtxBytes t.outgoing.retransmit = t.sent ∧
    off (iss x) (t.snd.nxt - BitVec.ofNat 32 (rtxBytes t.outgoing.retransmit)) ≤ off (iss x) t.snd.una ∧
    rtxBytes t.outgoing.retransmit ≤ 65535 := by
  have hN := hg.sent_lt x t ht
  have hiss := hg.iss_eq x t ht
  have si := hg.sndInv x t ht hst
  have hule := hg.una_le x t ht
  have hsent := hg.sent_eq x t ht
  have hB := si.bytes
  have hsum : off (iss x) (t.snd.nxt - BitVec.ofNat 32 (rtxBytes t.outgoing.retransmit)) + rtxBytes t.outgoing.retransmit = t.sent := by
    cases hl : t.outgoing.retransmit with
    | nil =>
      simp only [rtxBytes_nil, BitVec.sub_zero, Nat.add_zero]
      exact hsent
    | cons tr rest =>
      have facts := rtx_entry_facts hg x t ht hu
      have cr := chain_catchRun t.snd.nxt t.outgoing.retransmit si.chain facts
      rw [hl] at cr
      simp only [List.map_cons, CatchRun] at cr
      have hm : tr ∈ t.outgoing.retransmit := by rw [hl]; exact List.mem_cons_self
      obtain ⟨hpos, _⟩ := (hg.ext.tcb x t ht).keep tr hm
      have hb := ((hg.below x t ht).queue tr hm).len hpos
      rw [hiss, cr.1] at hb
      rw [← hl]
      have e : t.snd.nxt - BitVec.ofNat 32 (rtxBytes t.outgoing.retransmit) + BitVec.ofNat 32 (rtxBytes t.outgoing.retransmit)
          = t.snd.nxt := BitVec.sub_add_cancel _ _
      have := off_add (iss x) (t.snd.nxt - BitVec.ofNat 32 (rtxBytes t.outgoing.retransmit)) (rtxBytes t.outgoing.retransmit)
        (by rw [hl] at hB ⊢; omega)
      rw [e] at this
      rw [← hsent, this]
  refine ⟨hsum, ?_, hB⟩
  have hc := si.cover
  have hsp : synPending t = 0 := by unfold synPending; rw [if_neg hu]
  rw [hsp, sub_toNat_off (iss x) t.snd.nxt t.snd.una (hsent ▸ hule)] at hc
  omega

end

end Elvis.Tcp
