import ElvisVerif.Lemmas.Dns
import ElvisVerif.Lemmas.ListSet
/-!
The invariant of the DNS exchange (`Elvis.Dns.step`) used by the C20 theorems, and its
preservation by every step.  What is said of a delivery takes `hb : sourceBudget = none` (the
responder reads the whole request datagram), which `Props/C20.lean` discharges from the
certificate regenerated from the source (`c20_server_reads_whole_datagram`).
-/
namespace Elvis.Dns

/-- names the wire format can carry and both sides accept: no delimiter byte, valid UTF-8 (the
    client API takes a Rust `String`) -/
def NameOk (n : Bytes) : Prop := delim ∉ n ∧ utf8Valid n = true

instance (n : Bytes) : Decidable (NameOk n) := by unfold NameOk; exact inferInstance

def ChoiceOk : Choice → Prop
  | .lookup _ name id => NameOk name ∧ id < 65536
  | .deliver _ => True

theorem respondWith_ok {b : Option Nat} {t : Table} {d r : Bytes} (h : respondWith b t d = .ok r) :
    ∃ req a, fromBytes (serverRead b d) = some req ∧ utf8Valid req.question.qname = true ∧
      t.get req.question.qname = some a ∧ r = (createResponse req a).build := by
  unfold respondWith at h
  split at h
  · cases h
  · rename_i req hreq
    split at h
    · rename_i hu
      split at h
      · cases h
      · rename_i a ha
        cases h
        exact ⟨req, a, hreq, hu, ha, rfl⟩
    · cases h

theorem respondWith_query {t : Table} {name : Bytes} {id : Nat} (hn : NameOk name) (hid : id < 65536) :
    respondWith none t (queryBytes name id) =
      match t.get name with
      | none => .error "err:Cache:server_unknown_name"
      | some a => .ok (createResponse (createRequest name id) a).build := by
  have hp : fromBytes (queryBytes name id) = some (createRequest name id) := fromBytes_build' _ (createRequest_wf hn.1 hid)
  have hq : (createRequest name id).question.qname = name := rfl
  unfold respondWith serverRead
  simp only [hp, hq, hn.2, if_true]
  cases t.get name <;> rfl

theorem respond_query (hb : sourceBudget = none) {t : Table} {name : Bytes} {id : Nat} (hn : NameOk name)
    (hid : id < 65536) :
    respond t (queryBytes name id) =
      match t.get name with
      | none => .error "err:Cache:server_unknown_name"
      | some a => .ok (createResponse (createRequest name id) a).build := by
  unfold respond; rw [hb]; exact respondWith_query hn hid

theorem onReply_response {cache : Table} {name : Bytes} {id : Nat} (a : Addr) (hn : NameOk name) (hid : id < 65536) :
    onReply cache name (createResponse (createRequest name id) a).build =
      (cache.put name a, .ok (createResponse (createRequest name id) a, a)) := by
  have hp := fromBytes_build' _ (createResponse_wf (createRequest_wf hn.1 hid) a)
  have h1 : (createResponse (createRequest name id) a).answer.name = name := rfl
  have h2 : (createResponse (createRequest name id) a).answer.rdata = a.toBytes := rfl
  unfold onReply
  simp only [hp, h1, h2, hn.2, if_true, addrOfRdata_toBytes, Table.get_put]

theorem mem_markDone {socks : List Sock} {c p : Nat} {so : Sock} (h : so ∈ markDone socks c p) :
    ∃ so0 ∈ socks, (so0.client = c ∧ so0.port = p ∧ so = { so0 with done := true }) ∨
      (¬ (so0.client = c ∧ so0.port = p) ∧ so = so0) := by
  unfold markDone at h
  obtain ⟨so0, h0, rfl⟩ := List.mem_map.1 h
  refine ⟨so0, h0, ?_⟩
  by_cases hk : so0.client = c ∧ so0.port = p
  · exact .inl ⟨hk.1, hk.2, if_pos (by simpa using hk)⟩
  · exact .inr ⟨hk, if_neg (by simpa using hk)⟩

def EvOk (t : Table) (cls : List ClientSt) : Event → Prop
  | .resolved c n a _ => t.get n = some a ∧ ∃ cl, cls[c]? = some cl ∧ cl.cache.get n = some a
  | .accepted _ n id m => m.header.id = id ∧ m.question.qname = n ∧ m.answer.name = n
  -- with the authoritative server no lookup ever returns an error
  | .failed .. => False
  | _ => True

structure Inv (s : Sys) : Prop where
  cache : ∀ (c : Nat) (cl : ClientSt) (n : Bytes) (a : Addr), s.clients[c]? = some cl → cl.cache.get n = some a → s.table.get n = some a
  /-- ports in use are below the machine's ephemeral counter -/
  fresh : ∀ so ∈ s.socks, ∀ cl, s.clients[so.client]? = some cl → so.port < cl.nextPort
  sock : ∀ so ∈ s.socks, NameOk so.name ∧ so.id < 65536
  /-- a datagram on its way to the server is the query of the socket it left from -/
  netQ : ∀ d ∈ s.net, d.dst = .server →
    ∃ c p so, d.src = .client c p ∧ findSock s.socks c p = some so ∧ d.payload = queryBytes so.name so.id
  /-- a datagram on its way to a socket is the server's answer to that socket's query -/
  netR : ∀ d ∈ s.net, ∀ c p, d.dst = .client c p →
    ∃ so a, findSock s.socks c p = some so ∧ s.table.get so.name = some a ∧
      d.payload = (createResponse (createRequest so.name so.id) a).build
  ev : ∀ e ∈ s.events, EvOk s.table s.clients e

theorem init_inv (table : Table) (n : Nat) : Inv (init table n) := by
  refine ⟨?_, nofun, nofun, nofun, nofun, nofun⟩
  intro c cl nm a hc hg
  simp only [init, List.getElem?_replicate] at hc
  split at hc
  · cases hc; simp [Table.get] at hg
  · cases hc

/-! Each elementary change of the state keeps the invariant; a step is a composition of them. -/

theorem Inv.log {s : Sys} (h : Inv s) {es : List Event} (hes : ∀ e ∈ es, EvOk s.table s.clients e) :
    Inv { s with events := s.events ++ es } :=
  ⟨h.cache, h.fresh, h.sock, h.netQ, h.netR, fun e he => (List.mem_append.1 he).elim (h.ev e) (hes e)⟩

theorem Inv.drop_net {s : Sys} (h : Inv s) (net' : List Datagram) (cr : Option String)
    (hsub : ∀ d ∈ net', d ∈ s.net) : Inv { s with net := net', crashed := cr } :=
  ⟨h.cache, h.fresh, h.sock, fun d hd => h.netQ d (hsub d hd), fun d hd => h.netR d (hsub d hd), h.ev⟩

theorem Inv.setClient {s : Sys} {c : Nat} {cl cl' : ClientSt} (h : Inv s) (hcl : s.clients[c]? = some cl)
    (hp : cl.nextPort ≤ cl'.nextPort) (hin : ∀ n a, cl'.cache.get n = some a → s.table.get n = some a)
    (hkeep : ∀ n a, cl.cache.get n = some a → cl'.cache.get n = some a) :
    Inv { s with clients := s.clients.set c cl' } := by
  refine ⟨?_, ?_, h.sock, h.netQ, h.netR, ?_⟩
  · intro c' x n a hc' hg
    rcases List.getElem?_set_cases hc' with ⟨_, rfl⟩ | ⟨_, hc'⟩
    · exact hin n a hg
    · exact h.cache c' x n a hc' hg
  · intro so hso x hc'
    rcases List.getElem?_set_cases hc' with ⟨e, rfl⟩ | ⟨_, hc'⟩
    · exact Nat.lt_of_lt_of_le (h.fresh so hso cl (by rw [e]; exact hcl)) hp
    · exact h.fresh so hso x hc'
  · intro e he
    have := h.ev e he
    cases e with
    | resolved c' n a k =>
      obtain ⟨h1, cl0, h2, h3⟩ := this
      refine ⟨h1, ?_⟩
      by_cases hcc : c = c'
      · subst hcc
        rw [hcl] at h2; cases h2
        exact ⟨cl', List.getElem?_set_self_of_some hcl, hkeep n a h3⟩
      · exact ⟨cl0, by rw [List.getElem?_set_ne hcc]; exact h2, h3⟩
    | _ => exact this

theorem Inv.port_unused {s : Sys} {c : Nat} {cl : ClientSt} (h : Inv s) (hcl : s.clients[c]? = some cl) :
    ∀ so ∈ s.socks, so.client = c → so.port ≠ cl.nextPort := by
  intro so hso hc
  exact Nat.ne_of_lt (h.fresh so hso cl (by rw [hc]; exact hcl))

theorem Inv.addSock {s : Sys} (h : Inv s) (so : Sock) (hso : NameOk so.name ∧ so.id < 65536)
    (hport : ∀ cl, s.clients[so.client]? = some cl → so.port < cl.nextPort)
    (hnew : ∀ so' ∈ s.socks, so'.client = so.client → so'.port ≠ so.port) :
    Inv { s with socks := s.socks ++ [so],
                 net := s.net ++ [{ src := .client so.client so.port, dst := .server, payload := queryBytes so.name so.id }] } := by
  refine ⟨h.cache, List.forall_mem_append.2 ⟨h.fresh, List.forall_mem_singleton.2 hport⟩,
    List.forall_mem_append.2 ⟨h.sock, List.forall_mem_singleton.2 hso⟩,
    List.forall_mem_append.2 ⟨fun d hd hdst => ?_, List.forall_mem_singleton.2 fun _ => ?_⟩,
    List.forall_mem_append.2 ⟨fun d hd c' p' hdst => ?_, List.forall_mem_singleton.2 nofun⟩, h.ev⟩
  · obtain ⟨c', p', so', h1, h2, h3⟩ := h.netQ d hd hdst
    exact ⟨c', p', so', h1, findSock_append_of_some h2 _, h3⟩
  · exact ⟨so.client, so.port, so, rfl, findSock_append_new _ ⟨rfl, rfl⟩ hnew, rfl⟩
  · obtain ⟨so', a, h1, h2, h3⟩ := h.netR d hd c' p' hdst
    exact ⟨so', a, findSock_append_of_some h1 _, h2, h3⟩

theorem Inv.addReply {s : Sys} {c p : Nat} {so : Sock} {a : Addr} (h : Inv s)
    (hfind : findSock s.socks c p = some so) (hget : s.table.get so.name = some a) :
    Inv { s with net := s.net ++ [{ src := .server, dst := .client c p,
                                    payload := (createResponse (createRequest so.name so.id) a).build }] } := by
  refine ⟨h.cache, h.fresh, h.sock, List.forall_mem_append.2 ⟨h.netQ, List.forall_mem_singleton.2 nofun⟩,
    List.forall_mem_append.2 ⟨h.netR, List.forall_mem_singleton.2 fun c' p' hdst => ?_⟩, h.ev⟩
  cases hdst
  exact ⟨so, a, hfind, hget, rfl⟩

theorem Inv.mark {s : Sys} (h : Inv s) (c p : Nat) : Inv { s with socks := markDone s.socks c p } := by
  refine ⟨h.cache, List.forall_mem_map.2 fun so0 hso0 => ?_, List.forall_mem_map.2 fun so0 hso0 => ?_, ?_, ?_, h.ev⟩
  · split <;> exact h.fresh so0 hso0
  · split <;> exact h.sock so0 hso0
  · intro d hd hdst
    obtain ⟨c', p', so1, h1, h2, h3⟩ := h.netQ d hd hdst
    obtain ⟨so2, g1, g2, g3⟩ := findSock_markDone (c' := c) (p' := p) h2
    exact ⟨c', p', so2, h1, g1, by rw [g2, g3]; exact h3⟩
  · intro d hd c' p' hdst
    obtain ⟨so1, a1, h1, h2, h3⟩ := h.netR d hd c' p' hdst
    obtain ⟨so2, g1, g2, g3⟩ := findSock_markDone (c' := c) (p' := p) h1
    exact ⟨so2, a1, g1, by rw [g2]; exact h2, by rw [g2, g3]; exact h3⟩

theorem step_frame (s : Sys) (ch : Choice) :
    (step s ch).table = s.table ∧ ∀ e ∈ s.events, e ∈ (step s ch).events := by
  unfold step
  split
  · exact ⟨rfl, fun _ he => he⟩
  · cases ch with
    | lookup c name id =>
      simp only [stepLookup]
      repeat' split
      all_goals exact ⟨rfl, fun _ he => by first | exact he | exact List.mem_append_left _ he⟩
    | deliver k =>
      simp only [stepDeliver]
      repeat' split
      all_goals exact ⟨rfl, fun _ he => by first | exact he | exact List.mem_append_left _ he⟩

theorem run_table (s : Sys) (cs : List Choice) : (run s cs).table = s.table :=
  List.foldlRecOn (motive := fun s' => s'.table = s.table) cs step rfl fun s' h ch _ => (step_frame s' ch).1.trans h

theorem run_events_mono (s0 : Sys) (l : List Choice) (e : Event) (he : e ∈ s0.events) : e ∈ (run s0 l).events :=
  List.foldlRecOn (motive := fun s' => e ∈ s'.events) l step he fun s' h ch _ => (step_frame s' ch).2 e h

theorem step_lookup_hit {s : Sys} {c : Nat} {name : Bytes} {id : Nat} {cl : ClientSt} {a : Addr}
    (hal : s.crashed = none) (hcl : s.clients[c]? = some cl) (hget : cl.cache.get name = some a) :
    step s (.lookup c name id) = { s with events := s.events ++ [.resolved c name a true] } := by
  unfold step stepLookup
  rw [hal]
  simp only [hcl, hget]

def Belongs (d : Datagram) (c p : Nat) : Prop := (d.src = .client c p ∧ d.dst = .server) ∨ d.dst = .client c p

structure Live (s : Sys) : Prop where
  uniq : ∀ so ∈ s.socks, ∀ so' ∈ s.socks, so.client = so'.client → so.port = so'.port → so = so'
  valid : ∀ so ∈ s.socks, ∃ cl, s.clients[so.client]? = some cl
  /-- unless a panic ended the process, a socket still waiting for a name the server has a record
      of has a datagram in flight -/
  pending : s.crashed = none → ∀ so ∈ s.socks, so.done = false → (∃ a, s.table.get so.name = some a) →
    ∃ d ∈ s.net, Belongs d so.client so.port
  /-- a socket that consumed its reply made its lookup return -/
  doneRes : ∀ so ∈ s.socks, so.done = true → ∃ a, Event.resolved so.client so.name a false ∈ s.events

theorem init_live (table : Table) (n : Nat) : Live (init table n) := by
  refine ⟨?_, ?_, ?_, ?_⟩ <;> intros <;> simp_all [init]

theorem mem_eraseIdx_of_ne {l : List Datagram} {k : Nat} {d x : Datagram} (hk : l[k]? = some d) (hx : x ∈ l) (hne : x ≠ d) :
    x ∈ l.eraseIdx k :=
  (List.mem_cons.1 ((List.perm_cons_eraseIdx hk).mem_iff.1 hx)).resolve_left hne

theorem belongs_key {d : Datagram} {c p c' p' : Nat} (h : Belongs d c p) (h' : Belongs d c' p') : c = c' ∧ p = p' := by
  rcases h with ⟨h1, h2⟩ | h1 <;> rcases h' with ⟨h3, h4⟩ | h3
  · rw [h1] at h3; cases h3; exact ⟨rfl, rfl⟩
  · rw [h2] at h3; cases h3
  · rw [h4] at h1; cases h1
  · rw [h1] at h3; cases h3; exact ⟨rfl, rfl⟩

theorem Live.log {s : Sys} (h : Live s) (es : List Event) : Live { s with events := s.events ++ es } :=
  ⟨h.uniq, h.valid, h.pending, fun so hso hd => (h.doneRes so hso hd).imp fun _ ha => List.mem_append_left _ ha⟩

theorem Live.setClient {s : Sys} (h : Live s) (c : Nat) (cl' : ClientSt) :
    Live { s with clients := s.clients.set c cl' } := by
  refine ⟨h.uniq, ?_, h.pending, h.doneRes⟩
  intro so hso
  obtain ⟨cl0, h0⟩ := h.valid so hso
  by_cases hcc : c = so.client
  · exact ⟨cl', by rw [← hcc] at h0 ⊢; exact List.getElem?_set_self_of_some h0⟩
  · exact ⟨cl0, by rw [List.getElem?_set_ne hcc]; exact h0⟩

theorem Live.addSock {s : Sys} (h : Live s) (so : Sock) (hv : ∃ cl, s.clients[so.client]? = some cl)
    (hnew : ∀ so' ∈ s.socks, so'.client = so.client → so'.port ≠ so.port) (hd : so.done = false)
    (d : Datagram) (hb : Belongs d so.client so.port) :
    Live { s with socks := s.socks ++ [so], net := s.net ++ [d] } := by
  refine ⟨?_, ?_, ?_, ?_⟩
  · intro s1 hs1 s2 hs2 e1 e2
    rcases List.mem_append.1 hs1 with m1 | m1 <;> rcases List.mem_append.1 hs2 with m2 | m2
    · exact h.uniq s1 m1 s2 m2 e1 e2
    · rw [List.mem_singleton.1 m2] at e1 e2
      exact absurd e2 (hnew s1 m1 e1)
    · rw [List.mem_singleton.1 m1] at e1 e2
      exact absurd e2.symm (hnew s2 m2 e1.symm)
    · rw [List.mem_singleton.1 m1, List.mem_singleton.1 m2]
  · exact List.forall_mem_append.2 ⟨h.valid, List.forall_mem_singleton.2 hv⟩
  · refine fun hcr => List.forall_mem_append.2 ⟨fun s1 m1 hd1 hreg => ?_, List.forall_mem_singleton.2 fun _ _ =>
      ⟨d, List.mem_append_right _ (List.mem_singleton.2 rfl), hb⟩⟩
    obtain ⟨d1, hdm, hb1⟩ := h.pending hcr s1 m1 hd1 hreg
    exact ⟨d1, List.mem_append_left _ hdm, hb1⟩
  · exact List.forall_mem_append.2 ⟨h.doneRes, List.forall_mem_singleton.2 fun hd1 => by rw [hd] at hd1; cases hd1⟩

theorem Live.drop {s : Sys} {k : Nat} {d : Datagram} (h : Live s) (hk : s.net[k]? = some d)
    (hnone : ∀ so ∈ s.socks, so.done = false → (∃ a, s.table.get so.name = some a) → ¬ Belongs d so.client so.port) :
    Live { s with net := s.net.eraseIdx k } := by
  refine ⟨h.uniq, h.valid, ?_, h.doneRes⟩
  intro hcr so hso hd hreg
  obtain ⟨d2, hd2, hb⟩ := h.pending hcr so hso hd hreg
  refine ⟨d2, mem_eraseIdx_of_ne hk hd2 ?_, hb⟩
  intro e; subst e; exact hnone so hso hd hreg hb

theorem Live.swap {s : Sys} {k : Nat} {d : Datagram} (h : Live s) (hk : s.net[k]? = some d) (d' : Datagram)
    (hb : ∀ c p, Belongs d c p → Belongs d' c p) : Live { s with net := s.net.eraseIdx k ++ [d'] } := by
  refine ⟨h.uniq, h.valid, ?_, h.doneRes⟩
  intro hcr so hso hd hreg
  obtain ⟨d2, hd2, hbl⟩ := h.pending hcr so hso hd hreg
  by_cases e : d2 = d
  · exact ⟨d', List.mem_append_right _ (List.mem_singleton.2 rfl), hb _ _ (e ▸ hbl)⟩
  · exact ⟨d2, List.mem_append_left _ (mem_eraseIdx_of_ne hk hd2 e), hbl⟩

theorem Live.finish {s : Sys} {k c p : Nat} {d : Datagram} {so : Sock} (h : Live s) (hk : s.net[k]? = some d)
    (hdst : d.dst = .client c p) (hfind : findSock s.socks c p = some so) (a : Addr) (es : List Event)
    (hres : Event.resolved c so.name a false ∈ es) :
    Live { s with net := s.net.eraseIdx k, socks := markDone s.socks c p, events := s.events ++ es } := by
  obtain ⟨hsom, hsc, hsp⟩ := findSock_mem hfind
  refine ⟨?_, ?_, ?_, ?_⟩
  · -- marking keeps the key, so two marked sockets with one key are the marks of one socket
    intro s1 hs1 s2 hs2 e1 e2
    obtain ⟨a1, ha1, rfl⟩ := List.mem_map.1 hs1
    obtain ⟨a2, ha2, rfl⟩ := List.mem_map.1 hs2
    rw [h.uniq a1 ha1 a2 ha2 (by split at e1 <;> split at e1 <;> exact e1) (by split at e2 <;> split at e2 <;> exact e2)]
  · refine List.forall_mem_map.2 fun a1 ha1 => ?_
    split <;> exact h.valid a1 ha1
  · intro hcr s1 hs1 hnd hreg
    obtain ⟨a1, ha1, ⟨_, _, rfl⟩ | ⟨hne, rfl⟩⟩ := mem_markDone hs1
    · cases hnd
    · obtain ⟨d2, hd2, hbl⟩ := h.pending hcr s1 ha1 hnd hreg
      refine ⟨d2, mem_eraseIdx_of_ne hk hd2 ?_, hbl⟩
      intro e; subst e
      exact hne (belongs_key hbl (.inr hdst))
  · intro s1 hs1 hdn
    obtain ⟨a1, ha1, ⟨x1, x2, rfl⟩ | ⟨_, rfl⟩⟩ := mem_markDone hs1
    · have := h.uniq a1 ha1 so hsom (by rw [x1, hsc]) (by rw [x2, hsp])
      subst this
      exact ⟨a, List.mem_append_right _ (by rw [hsc]; exact hres)⟩
    · exact (h.doneRes s1 ha1 hdn).imp fun _ ha' => List.mem_append_left _ ha'

theorem stepLookup_inv_live {s : Sys} {c : Nat} {name : Bytes} {id : Nat} (hn : NameOk name) (hid : id < 65536)
    (hi : Inv s) : Inv (stepLookup s c name id) ∧ (Live s → Live (stepLookup s c name id)) := by
  unfold stepLookup
  cases hcl : s.clients[c]? with
  | none => exact ⟨hi, fun h => h⟩
  | some cl =>
    simp only
    cases hg : cl.cache.get name with
    | some a =>
      exact ⟨hi.log (by exact List.forall_mem_singleton.2 ⟨hi.cache c cl name a hcl hg, cl, hcl, hg⟩), fun h => h.log _⟩
    | none =>
      simp only
      split
      · exact ⟨hi.drop_net s.net _ fun _ hd => hd, fun h => ⟨h.uniq, h.valid, nofun, h.doneRes⟩⟩
      · refine ⟨((hi.setClient (cl' := { cl with nextPort := cl.nextPort + 1 }) hcl (Nat.le_succ _)
            (fun n a => hi.cache c cl n a hcl) fun _ _ hx => hx).addSock
            ⟨c, cl.nextPort, name, id, false⟩ ⟨hn, hid⟩ ?_ (hi.port_unused hcl)).log
            (by exact List.forall_mem_singleton.2 trivial),
          fun h => ((h.setClient c _).addSock ⟨c, cl.nextPort, name, id, false⟩ ⟨_, List.getElem?_set_self_of_some hcl⟩
            (hi.port_unused hcl) rfl _ (.inl ⟨rfl, rfl⟩)).log _⟩
        intro cl' hc'
        rw [List.getElem?_set_self_of_some hcl] at hc'
        cases hc'
        exact Nat.lt_succ_self _

theorem stepDeliver_inv_live {s : Sys} {k : Nat} (hb : sourceBudget = none) (hi : Inv s) :
    Inv (stepDeliver s k) ∧ (Live s → Live (stepDeliver s k)) := by
  unfold stepDeliver
  cases hd : s.net[k]? with
  | none => exact ⟨hi, fun h => h⟩
  | some d =>
    simp only
    have hdm : d ∈ s.net := List.mem_of_getElem? hd
    have hi' := hi.drop_net (s.net.eraseIdx k) s.crashed fun x hx => List.mem_of_mem_eraseIdx hx
    cases hdst : d.dst with
    | server =>
      simp only
      obtain ⟨c, p, so, hsrc, hfind, hpay⟩ := hi.netQ d hdm hdst
      obtain ⟨hsom, hsc, hsp⟩ := findSock_mem hfind
      have hso := hi.sock so hsom
      rw [hpay, respond_query hb hso.1 hso.2, hsrc]
      cases hget : s.table.get so.name with
      | none =>
        refine ⟨hi'.log (by exact List.forall_mem_singleton.2 trivial), fun h => (h.drop hd ?_).log _⟩
        -- the query belongs to `so` only, and the server has no record of its name
        intro so1 hso1 _ hreg hbl
        obtain ⟨e1, e2⟩ := belongs_key hbl (.inl ⟨hsrc, hdst⟩)
        have := h.uniq so1 hso1 so hsom (e1.trans hsc.symm) (e2.trans hsp.symm)
        subst this
        obtain ⟨a, ha⟩ := hreg
        rw [hget] at ha; cases ha
      | some a =>
        refine ⟨(hi'.addReply hfind hget).log (by exact List.forall_mem_singleton.2 trivial), fun h =>
          (h.swap hd _ fun c' p' hbl => hbl.elim (fun h1 => .inr (hsrc.symm.trans h1.1)) fun h1 => ?_).log _⟩
        rw [hdst] at h1; cases h1
    | client c p =>
      simp only
      have hkey : ∀ c' p', Belongs d c' p' → c' = c ∧ p' = p := fun c' p' hbl => belongs_key hbl (.inr hdst)
      cases hfind : findSock s.socks c p with
      | none =>
        refine ⟨hi', fun h => h.drop hd ?_⟩
        intro so hso _ _ hbl
        have hn := List.find?_eq_none.1 hfind so hso
        simp [hkey _ _ hbl] at hn
      | some so =>
        obtain ⟨hsom, hsc, hsp⟩ := findSock_mem hfind
        cases hcl : s.clients[c]? with
        | none =>
          refine ⟨hi', fun h => ?_⟩
          obtain ⟨cl, h1⟩ := h.valid so hsom
          rw [hsc, hcl] at h1; cases h1
        | some cl =>
          simp only
          split
          · rename_i hdone
            refine ⟨hi', fun h => h.drop hd ?_⟩
            intro so2 hso2 hnd _ hbl
            obtain ⟨e1, e2⟩ := hkey _ _ hbl
            have := h.uniq so2 hso2 so hsom (by rw [e1, hsc]) (by rw [e2, hsp])
            subst this
            rw [hdone] at hnd; cases hnd
          · obtain ⟨so', a, hfind', hget, hpay⟩ := hi.netR d hdm c p hdst
            rw [hfind] at hfind'; cases hfind'
            have hso := hi.sock so hsom
            rw [hpay, onReply_response a hso.1 hso.2]
            refine ⟨((hi'.setClient (cl' := { cl with cache := cl.cache.put so.name a }) hcl (Nat.le_refl _) ?_ ?_).mark c p).log
                (by exact List.forall_mem_cons.2 ⟨⟨rfl, rfl, rfl⟩, List.forall_mem_singleton.2
                  ⟨hget, _, List.getElem?_set_self_of_some hcl, by rw [Table.get_put, if_pos rfl]⟩⟩),
              fun h => (h.finish hd hdst hfind a _ (List.mem_cons_of_mem _ List.mem_cons_self)).setClient c _⟩
            · intro n x hx
              rw [Table.get_put] at hx
              split at hx
              · rename_i e; cases hx; rw [← e]; exact hget
              · exact hi.cache c cl n x hcl hx
            · intro n x hx
              rw [Table.get_put]
              split
              · rename_i e; subst e; rw [← hget, hi.cache c cl _ x hcl hx]
              · exact hx

theorem run_inv_live {s : Sys} {cs : List Choice} (hb : sourceBudget = none) (hc : ∀ ch ∈ cs, ChoiceOk ch)
    (hi : Inv s) : Inv (run s cs) ∧ (Live s → Live (run s cs)) := by
  refine List.foldlRecOn (motive := fun s' => Inv s' ∧ (Live s → Live s')) cs step ⟨hi, id⟩ fun s' h ch hm => ?_
  have hstep : Inv (step s' ch) ∧ (Live s' → Live (step s' ch)) := by
    unfold step
    split
    · exact ⟨h.1, id⟩
    · cases ch with
      | lookup c name id => exact stepLookup_inv_live (hc _ hm).1 (hc _ hm).2 h.1
      | deliver k => exact stepDeliver_inv_live hb h.1
  exact ⟨hstep.1, hstep.2 ∘ h.2⟩

theorem run_inv {s : Sys} {cs : List Choice} (hb : sourceBudget = none) (hc : ∀ ch ∈ cs, ChoiceOk ch) (h : Inv s) :
    Inv (run s cs) :=
  (run_inv_live hb hc h).1

theorem run_live {s : Sys} {cs : List Choice} (hb : sourceBudget = none) (hc : ∀ ch ∈ cs, ChoiceOk ch)
    (hi : Inv s) (h : Live s) : Live (run s cs) :=
  (run_inv_live hb hc hi).2 h

theorem run_append (s : Sys) (a b : List Choice) : run s (a ++ b) = run (run s a) b := by
  simp [run, List.foldl_append]

end Elvis.Dns
