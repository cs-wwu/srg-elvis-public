import ElvisVerif.Lemmas.TcpFinInv
import ElvisVerif.Lemmas.TcbEff
/-!
# The stream invariant with `close()`: what each change `process_segment` makes does to it

ACK and RST replies, the taking of an ACK and of a window update, and the moves SYN-RECEIVED → ESTABLISHED,
FIN-WAIT-1 → FIN-WAIT-2, CLOSING → TIME-WAIT are frame steps (`FrF`): none of them changes `finSent`,
`finRcvd`, acknowledged queue entries disappear, ACK / RST headers are queued.  The SYN,ACK of a simultaneous open
joins the retransmission queue at ISS (`TInvG.enqSyn`).  The peer's SYN establishes the
receive facts with nothing received; text is taken only in states that do not show FIN received, and the
acceptance arithmetic (`Lemmas/C01Seq.lean`) keeps them.  The FIN is not taken change by change — between
`RCV.NXT` stepping over it and the state showing it the invariant does not hold —: block 6 is `finBlock_invF`
of `Lemmas/TcpFinProc.lean`.
-/
namespace Elvis.Tcp.Fin
open Elvis.ModCmp Elvis.Tcp.Tcb Elvis.Tcp.C01

theorem seqCheck_frF {t t' : Tcb} {seg : Hdr} {tl : Seq} {r : Option ProcessSegmentResult}
    (e : seqCheck t seg tl = .ok (t', r)) : FrF t t' := by
  rcases seqCheck_ok e with ⟨rfl, -, -⟩ | ⟨-, -, rfl, -⟩
  · exact FrF.refl _
  · exact FrF.enqAck _

theorem synBlock_frF {t t' : Tcb} {seg : Hdr} {r : Option ProcessSegmentResult} (hns : t.state ≠ .SynSent)
    (e : synBlock t seg = .ok (t', r)) : FrF t t' := by
  rcases synBlock_ok e with ⟨-, rfl, -⟩ | ⟨-, -, rfl, -⟩ | ⟨-, h, -⟩ | ⟨-, h, -⟩
  · exact FrF.refl _
  · exact FrF.enqAck _
  · exact absurd h hns
  · exact absurd h hns

theorem removeAcked_state (t : Tcb) (una : Seq) : (t.removeAckedFromRetransmission una).state = t.state := rfl

theorem ackTaken_frF (t : Tcb) (a : Seq) : FrF t (Tcb.ackTaken t a) :=
  FrF.of_same rfl rfl rfl rfl rfl rfl rfl (fun g hg => mem_map_filter _ _ _ g hg) (fun _ h => Or.inl h)

theorem finSent_of_finAcked {t : Tcb} (h : t.isFinAcked = true)
    (hs : t.state = .FinWait1 ∨ t.state = .Closing ∨ t.state = .LastAck) : finSent t = true := by
  rw [finSent_eq_not_pending hs]
  have : (!t.finPending && t.snd.nxt == t.snd.una) = true := h
  rw [Bool.and_eq_true, Bool.not_eq_true'] at this
  rw [this.1]; rfl

theorem FrF.move {t : Tcb} {st' : State} (tmo : Timeouts) (ss : st' = .SynSent ↔ t.state = .SynSent)
    (fs : finSent ({ t with state := st', timeouts := tmo } : Tcb) = finSent t) (fr : finRcvd st' = finRcvd t.state) :
    FrF t { t with state := st', timeouts := tmo } :=
  ⟨rfl, rfl, rfl, rfl, rfl, rfl, ss, fs, fr, fun _ h => h, fun _ h => Or.inl h⟩

section
variable {port : U16} {issX issY : Seq} {subX subY delX : List UInt8} {finY : Bool}

theorem TInvG.enqSyn {fx : Bool} {t : Tcb} (h : TInvG port issX issY subX subY delX fx finY t) (hd : Hdr)
    (hsyn : hd.ctl.syn = true) (hfin : hd.ctl.fin = false) (hseq : hd.seq = issX) (hp : hd.srcPort = port) :
    TInvG port issX issY subX subY delX fx finY (t.enqueueBuilt hd) := by
  rw [enqueueBuilt_retransmit t hd (Or.inl hsyn)]
  refine ⟨h.lp, h.iss, h.out, fun g hg => ?_, h.one, h.heap, h.rcv0, h.rcv1, h.eof, h.irs⟩
  simp only [List.map_append, List.map_cons, List.map_nil, List.mem_append, List.mem_singleton] at hg
  rcases hg with hg | rfl
  · exact h.rtx g hg
  · exact ⟨⟨(fun hf => by have hf' : hd.ctl.fin = true := hf; rw [hfin] at hf'; cases hf'), fun _ => ⟨hseq, rfl⟩,
      fun hne => absurd rfl hne⟩, hp⟩

/-- the reorder gate, as every change finds it, in terms of what has been delivered and buffered: the text of `g` is
    a slice of `subY` that does not start beyond it, and a FIN comes when everything has been received (both stay
    true as more is buffered) -/
def Gate (issY : Seq) (subY delX : List UInt8) (g : Segment) (s : Tcb) : Prop :=
  s.state ≠ .SynSent →
    (g.text ≠ [] → ∃ p, g.hdr.seq = issY + 1 + BitVec.ofNat 32 p ∧ p + g.text.length ≤ subY.length ∧
      g.text = (subY.drop p).take g.text.length ∧ p ≤ delX.length + s.incoming.text.length) ∧
    (g.hdr.ctl.fin = true → subY.length ≤ delX.length + s.incoming.text.length)

theorem gate_of_modGt {fx : Bool} {t : Tcb} {g : Segment} (h : TInvG port issX issY subX subY delX fx finY t)
    (hv : ValidF issY subY finY g) (h31 : subY.length < 2147483648)
    (hgate : t.state ≠ .SynSent → modGt g.hdr.seq t.rcv.nxt = false) : Gate issY subY delX g t := by
  intro hns
  obtain ⟨hnxt, hpre⟩ := h.rcv1 hns
  have hqle := hpre.length_le
  rw [List.length_append] at hqle
  have hm := hgate hns
  cases hfr : finRcvd t.state with
  | true =>
    -- everything has been received already
    have hall := congrArg List.length (h.eof hfr).1
    rw [List.length_append] at hall
    refine ⟨fun hne => ?_, fun _ => Nat.le_of_eq hall.symm⟩
    obtain ⟨p, hseq, hlen, htext⟩ := hv.txt hne
    exact ⟨p, hseq, hlen, htext, by omega⟩
  | false =>
    rw [hfr] at hnxt
    refine ⟨fun hne => ?_, fun hfin => ?_⟩
    · obtain ⟨p, hseq, hlen, htext⟩ := hv.txt hne
      rw [hseq, hnxt] at hm
      exact ⟨p, hseq, hlen, htext, gate_le (issY + 1) p _ (by omega) (by omega) hm⟩
    · rw [(hv.fin hfin).2.2.2, hnxt] at hm
      exact gate_le (issY + 1) _ _ h31 (by omega) hm

theorem finRcvd_of_takesText {st : State} (h : takesText st = true) : finRcvd st = false := by
  cases st <;> first | rfl | cases h

theorem _root_.Elvis.Tcp.Tcb.Eff.tinvG {g : Segment} {k : Nat} {s s' : Tcb} (e : Eff g k s s') (hk : k ≤ 5)
    (hv : ValidF issY subY finY g) (h31 : subY.length < 2147483648) {fx : Bool}
    (h : TInvG port issX issY subX subY delX fx finY s) (hf : finSent s = fx) (hg : Gate issY subY delX g s) :
    TInvG port issX issY subX subY delX fx finY s' ∧ finSent s' = fx ∧ Gate issY subY delX g s' := by
  have fr : ∀ {u : Tcb}, FrF s u →
      TInvG port issX issY subX subY delX fx finY u ∧ finSent u = fx ∧ Gate issY subY delX g u := fun f =>
    ⟨h.of_fr f, f.fs.trans hf, fun hne => by rw [f.inc]; exact hg fun h0 => hne (f.ss.2 h0)⟩
  cases e with
  | reply hr =>
    rcases hr.hdr with rfl | rfl | rfl
    · exact fr (FrF.enqAck _)
    · exact fr (FrF.enq _ _ ⟨rfl, rfl, rfl⟩)
    · -- the SYN,ACK of a simultaneous open joins the retransmission queue
      refine ⟨h.enqSyn _ rfl rfl h.iss h.lp, (finSent_enqueueBuilt _ _).trans hf, fun hne => ?_⟩
      rw [(enqueueBuilt_frame _ _).incoming]
      exact hg fun h0 => hne (by rw [state_enqueueBuilt]; exact h0)
  | ack => exact fr (ackTaken_frF s g.hdr.ack)
  | window => exact fr (FrF.of_eq rfl rfl rfl rfl rfl rfl rfl)
  | established _ hst =>
    exact fr (FrF.move s.timeouts (by rw [hst]; exact iff_of_false nofun nofun) (by unfold finSent; rw [hst])
      (by rw [hst]; rfl))
  | finWait2 _ hst hfa =>
    exact fr (FrF.move s.timeouts (by rw [hst]; exact iff_of_false nofun nofun)
      (by rw [finSent_of_finAcked hfa (Or.inl hst)]; rfl) (by rw [hst]; rfl))
  | timeWaitAcked _ hst hfa =>
    exact fr (FrF.move _ (by rw [hst]; exact iff_of_false nofun nofun)
      (by rw [finSent_of_finAcked hfa (Or.inr (Or.inl hst))]; rfl) (by rw [hst]; rfl))
  | syn hsyn _ hst =>
    -- a valid SYN establishes the receive facts with nothing delivered or buffered; it carries neither text nor FIN
    obtain ⟨hdel, hin⟩ := h.rcv0 hst
    obtain ⟨hseq, htext⟩ := hv.syn hsyn
    have hfx : fx = false := by rw [← hf]; unfold finSent; rw [hst]
    have base : ∀ st : State, Ok3 st → st ≠ .SynSent →
        TInvG port issX issY subX subY delX fx finY { synTaken s g.hdr with state := st } := fun st h3 hne => by
      refine ⟨h.lp, h.iss, h.out, h.rtx, h.one, h.heap, fun h0 => absurd h0 hne, fun _ => ⟨?_, ?_⟩,
        (fun hr => by rw [finRcvd_of_ok3 h3] at hr; cases hr), fun _ => hseq⟩
      · show g.hdr.seq + 1 = issY + 1 + BitVec.ofNat 32 (delX.length + s.incoming.text.length + (finRcvd st).toNat)
        rw [hdel, hin, hseq, finRcvd_of_ok3 h3]
        exact (BitVec.add_zero _).symm
      · show delX ++ s.incoming.text <+: subY
        rw [hdel, hin]
        exact List.nil_prefix
    have gate : ∀ u : Tcb, Gate issY subY delX g u := fun u _ =>
      ⟨fun hne => absurd htext hne, fun hfin => by have := (hv.fin hfin).2.1; rw [hsyn] at this; cases this⟩
    split
    · exact ⟨base _ trivial nofun, hfx ▸ rfl, gate _⟩
    · exact ⟨base _ trivial nofun, hfx ▸ rfl, gate _⟩
  | @text _ n _ hns ht hn htx =>
    obtain ⟨p, hseq, hlen, htext, hpq⟩ := (hg hns).1 ht.nonempty
    have hfr := finRcvd_of_takesText ht.state
    have hsyn : g.hdr.ctl.syn = false := by
      cases hs : g.hdr.ctl.syn
      · rfl
      · exact absurd (hv.syn hs).2 ht.nonempty
    obtain ⟨hnxt, hpre⟩ := h.rcv1 hns
    rw [hfr] at hnxt
    simp only [Bool.toNat_false, Nat.add_zero] at hnxt
    generalize hq : delX.length + s.incoming.text.length = q at hnxt hpq
    have hqle : q ≤ subY.length := by
      have := hpre.length_le
      rwa [List.length_append, hq] at this
    have htl : (tl g).toNat = g.text.length := ofNat_toNat_lt _ (by omega)
    have ha : (alreadyReceived s g.hdr (tl g)).toNat = min (q - p) g.text.length := by
      rw [alreadyReceived_toNat, hsyn, sub_zero_ofNat, htl, hnxt, hseq]
      exact congrArg (min · _) (dist_toNat _ _ _ hpq (by omega))
    have hacc' := acceptLen_le s g.hdr (tl g)
    rw [htl, ha, ← hn] at hacc'
    generalize (alreadyReceived s g.hdr (tl g)).toNat = a at ha htx
    subst htx
    have hslice := slice_accept subY p q g.text.length n hpq hacc'
    rw [← htext, ← ha] at hslice
    refine ⟨⟨h.lp, h.iss, h.out, h.rtx, h.one, h.heap, fun hs => absurd hs hns, fun _ => ⟨?_, ?_⟩,
      (fun hr => by rw [show finRcvd s.state = true from hr] at hfr; cases hfr), h.irs⟩, (finSent_congr rfl rfl).trans hf,
      fun _ => ⟨fun _ => ⟨p, hseq, hlen, htext, ?_⟩, fun hfin => absurd (hv.fin hfin).2.2.1 ht.nonempty⟩⟩
    · show s.rcv.nxt + BitVec.ofNat 32 n = issY + 1 + BitVec.ofNat 32
        (delX.length + (s.incoming.text ++ List.take n (List.drop a g.text)).length + (finRcvd s.state).toNat)
      rw [hnxt, add_ofNat_assoc, hfr, hslice, List.length_append, length_drop_take subY q n (by omega), ← Nat.add_assoc, hq]
      rfl
    · show delX ++ (s.incoming.text ++ List.take n (List.drop a g.text)) <+: subY
      rw [hslice, ← List.append_assoc]
      have := prefix_extend (delX ++ s.incoming.text) subY n hpre
      rw [List.length_append, hq] at this
      exact this
    · show p ≤ delX.length + (s.incoming.text ++ List.take n (List.drop a g.text)).length
      rw [List.length_append, ← Nat.add_assoc, hq]
      omega
  | fin | closeWait | closing | timeWaitFin | rto => exact absurd hk (by decide)

end
end Elvis.Tcp.Fin
