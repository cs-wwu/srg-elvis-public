import ElvisVerif.Model.Ndl
/-!
# NDL parser: no panic site is reachable, the loop fuel suffices

`Safe x P`: the outcome `x` is a value satisfying `P` or a *reported* error — never a panic,
never the model's `fuel` marker.  Two measures of a text are carried through the builder: its
length bounds the loop fuel, and `nlCount` (the number of `'\n'` in it) bounds the line counter,
because the only checked addition is `*line_num += num_new_line as i32` and the counter only ever
grows by newline characters the lexer consumes.  Every function of the model is `Safe` provided
`line + nlCount s ≤ i32Max`; result: `parse_total_lines` — every text with fewer than 2^31 − 1
newline characters parses to a value or a reported error, whatever its length.
The facts about the type tags are read off the generated source certificate by `decide`.
Every loop of the builder is the shared head (`entry`, `lexAt`) with a body: one `*_step` equation
per loop, used here and by everything that follows a loop through a text.  The insertion of a
line's arguments and the merge of `core_parser` are one loop over keys (`Fresh`): `insertAll_eq`,
`mergeNets_eq` say what they return.
-/
namespace Elvis.Ndl
open Elvis.Gen.Ndl

def Safe {α : Type} (x : R α) (P : α → Prop) : Prop :=
  match x with
  | .ok a => P a
  | .error (.err _ _) => True
  | .error (.panic _) => False
  | .error .fuel => False

theorem Safe.err {α : Type} {P : α → Prop} (k : ErrKind) (l : Nat) : Safe (.error (.err k l) : R α) P := trivial

@[elab_as_elim]
theorem Safe.elim {α : Type} {x : R α} {P : α → Prop} {C : R α → Prop} (h : Safe x P)
    (err : ∀ k l, C (.error (.err k l))) (ok : ∀ a, P a → C (.ok a)) : C x :=
  match x, h with
  | .ok a, h => ok a h
  | .error (.err k l), _ => err k l

theorem Safe.ite {α : Type} {P : α → Prop} {c : Prop} [Decidable c] {x y : R α}
    (hx : c → Safe x P) (hy : ¬ c → Safe y P) : Safe (if c then x else y) P := by
  split
  · exact hx ‹_›
  · exact hy ‹_›

def nlCount (s : Text) : Nat := s.count '\n'

theorem nlCount_nil : nlCount [] = 0 := rfl

theorem nlCount_cons_nl (r : Text) : nlCount ('\n' :: r) = nlCount r + 1 := by
  unfold nlCount; simp

theorem nlCount_cons_ne (c : Char) (r : Text) (h : c ≠ '\n') : nlCount (c :: r) = nlCount r := by
  unfold nlCount; rw [List.count_cons]; simp [h]

theorem nlCount_cons_ge (c : Char) (r : Text) : nlCount r ≤ nlCount (c :: r) := by
  unfold nlCount; rw [List.count_cons]; omega

theorem nlCount_append (a b : Text) : nlCount (a ++ b) = nlCount a + nlCount b := by
  unfold nlCount; exact List.count_append

theorem nlCount_replicate_space (k : Nat) : nlCount (List.replicate k ' ') = 0 := by
  simp [nlCount, List.count_replicate]

theorem nlCount_drop_le (n : Nat) (s : Text) : nlCount (s.drop n) ≤ nlCount s :=
  (List.drop_sublist n s).count_le _

theorem nlCount_drop_countNl : ∀ s : Text, nlCount (s.drop (countNl s)) + countNl s = nlCount s
  | [] => by simp [countNl]
  | c :: r => by
    by_cases hc : c = '\n'
    · subst hc
      have ih := nlCount_drop_countNl r
      have e : countNl ('\n' :: r) = countNl r + 1 := by simp [countNl, List.takeWhile]
      rw [e, List.drop_succ_cons, nlCount_cons_nl]; omega
    · have e : countNl (c :: r) = 0 := by simp [countNl, List.takeWhile, hc]
      rw [e]; simp

theorem nlCount_le_length (s : Text) : nlCount s ≤ s.length := List.count_le_length

theorem takeUntil_eq (c : Char) : ∀ s a b, takeUntil c s = some (a, b) → s = a ++ b
  | [], a, b, h => by simp [takeUntil] at h
  | x :: r, a, b, h => by
    unfold takeUntil at h
    split at h
    · simp at h; obtain ⟨rfl, rfl⟩ := h; simp
    · split at h
      · rename_i a' b' heq
        simp at h; obtain ⟨rfl, rfl⟩ := h
        have := takeUntil_eq c r a' b' heq
        simp [this]
      · simp at h

theorem sectionP_eq (s inside after : Text) (h : sectionP s = some (inside, after)) :
    ∃ x, s = '[' :: (inside ++ x :: after) := by
  unfold sectionP at h
  split at h
  · rename_i r
    split at h
    · rename_i ins x aft heq
      simp at h; obtain ⟨rfl, rfl⟩ := h
      exact ⟨x, by rw [takeUntil_eq ']' r ins (x :: aft) heq]⟩
    · simp at h
  · simp at h

theorem sectionP_len (s inside after : Text) (h : sectionP s = some (inside, after)) :
    s.length = inside.length + after.length + 2 := by
  obtain ⟨x, rfl⟩ := sectionP_eq s inside after h
  simp; omega

theorem sectionP_nl (s inside after : Text) (h : sectionP s = some (inside, after)) :
    nlCount after ≤ nlCount s := by
  obtain ⟨x, rfl⟩ := sectionP_eq s inside after h
  have h1 := nlCount_cons_ge '[' (inside ++ x :: after)
  have h2 := nlCount_append inside (x :: after)
  have h3 := nlCount_cons_ge x after
  omega

theorem byteDrop_takeWhile (p : Char → Bool) (hp : ∀ c, p c = true → c.utf8Size = 1) :
    ∀ (s : Text) (n : Nat), n ≤ (s.takeWhile p).length → byteDrop n s = some (s.drop n)
  | s, 0, _ => by simp [byteDrop]
  | [], n + 1, h => by simp at h
  | c :: r, n + 1, h => by
    by_cases hc : p c = true
    · simp [List.takeWhile, hc] at h
      have h1 := hp c hc
      simp only [byteDrop, h1]
      have : 1 ≤ n + 1 := by omega
      simp [this, byteDrop_takeWhile p hp r n h]
    · simp [List.takeWhile, hc] at h

theorem byteDrop_tabs (s : Text) (n : Nat) (h : n ≤ countTabs s) : byteDrop n s = some (s.drop n) :=
  byteDrop_takeWhile (· = '\t') (by intro c hc; simp at hc; subst hc; decide) s n h

theorem byteDrop_nl (s : Text) : byteDrop (countNl s) s = some (s.drop (countNl s)) :=
  byteDrop_takeWhile (· = '\n') (by intro c hc; simp at hc; subst hc; decide) s _ (Nat.le_refl _)

theorem keyword_suffix : ∀ (t i r : Text), keyword t i = some r → ∃ p, i = p ++ r
  | [], i, r, h => by simp [keyword] at h; exact ⟨[], by simp [h]⟩
  | _ :: _, [], r, h => by simp [keyword] at h
  | k :: ks, c :: cs, r, h => by
    simp only [keyword] at h
    split at h
    · obtain ⟨p, hp⟩ := keyword_suffix ks cs r h
      exact ⟨c :: p, by simp [hp]⟩
    · cases h

theorem keyword_len (t i rest : Text) (h : keyword t i = some rest) : rest.length ≤ i.length := by
  obtain ⟨p, rfl⟩ := keyword_suffix t i rest h
  simp

/-- every alternative of `get_type` has a case in `DecType::from` (from the source certificate) -/
def tagsCovered : Bool :=
  tagAlt.all fun t => match decTypeFromWith decTypeTable t with
    | .ok _ => true
    | .error _ => false

theorem tagsCovered_true : tagsCovered = true := by decide +kernel
theorem tagMatcher_keyword : tagMatcher = "keyword" := by decide

theorem getTypeWith_safe (ts : List Text) (hts : ∀ t ∈ ts, ∃ d, decTypeFromWith decTypeTable t = .ok d)
    (i : Text) (line : Nat) :
    Safe (getTypeWith "keyword" decTypeTable ts i line) (fun p => p.1.length ≤ i.length) := by
  induction ts with
  | nil => exact Safe.err _ _
  | cons t ts ih =>
    unfold getTypeWith matchTag
    simp only [if_true]
    cases hk : keyword t i with
    | none => simp only []; exact ih (fun t' ht' => hts t' (List.mem_cons_of_mem _ ht'))
    | some rest =>
      obtain ⟨d, hd⟩ := hts t List.mem_cons_self
      simp only [hd]
      exact keyword_len t i rest hk

theorem getType_safe (i : Text) (line : Nat) :
    Safe (getType i line) (fun p => p.1.length ≤ i.length) := by
  unfold getType
  rw [tagMatcher_keyword]
  apply getTypeWith_safe
  intro t ht
  have h := tagsCovered_true
  unfold tagsCovered at h
  rw [List.all_eq_true] at h
  have := h t ht
  split at this
  · rename_i d hd; exact ⟨d, hd⟩
  · simp at this

def Lexed (s : Text) (line : Nat) : R LexOk → Prop
  | .ok r => r.rest.length < s.length ∧ r.line + nlCount r.rest ≤ line + nlCount s
  | .error (.err _ _) => True
  | .error (.panic _) => i32Max < line + nlCount s
  | .error .fuel => False

theorem generalParser_spec (s : Text) (line : Nat) : Lexed s line (generalParser s line) := by
  unfold generalParser
  cases hs : sectionP s with
  | none => trivial
  | some p =>
    obtain ⟨inside, after⟩ := p
    have hl := sectionP_len s inside after hs
    have hnl := sectionP_nl s inside after hs
    simp only []
    refine (getType_safe inside line).elim (fun _ _ => trivial) fun ⟨r1, dt⟩ _ => ?_
    simp only []
    split
    · trivial
    · cases insertAll (arguments r1).2 [] with
      | none => trivial
      | some params =>
        have hd := nlCount_drop_countNl after
        simp only [byteDrop_nl]
        split
        · show i32Max < line + nlCount s
          omega
        · show (after.drop (countNl after)).length < s.length ∧
            line + countNl after + nlCount (after.drop (countNl after)) ≤ line + nlCount s
          rw [List.length_drop]
          constructor <;> omega

theorem generalParser_safe (s : Text) (line : Nat) (hb : line + nlCount s ≤ i32Max) :
    Safe (generalParser s line)
      (fun r => r.rest.length < s.length ∧ r.line + nlCount r.rest ≤ line + nlCount s) := by
  have := generalParser_spec s line
  revert this
  cases generalParser s line with
  | ok r => exact id
  | error e => cases e with
    | err k n => exact id
    | panic p => exact fun h => absurd (show i32Max < line + nlCount s from h) (by omega)
    | fuel => exact id

theorem generalParser_rest_lt (s : Text) (l : Nat) (r : LexOk) (h : generalParser s l = .ok r) :
    r.rest.length < s.length := by
  have := generalParser_spec s l
  rw [h] at this
  exact this.1

def Shrinks (s : Text) (line : Nat) (rest : Text) (line' : Nat) : Prop :=
  rest.length ≤ s.length ∧ line' + nlCount rest ≤ line + nlCount s

theorem Shrinks.refl (s : Text) (line : Nat) : Shrinks s line s line := ⟨Nat.le_refl _, Nat.le_refl _⟩

theorem Shrinks.trans {s s1 s2 : Text} {l l1 l2 : Nat} (h1 : Shrinks s l s1 l1) (h2 : Shrinks s1 l1 s2 l2) :
    Shrinks s l s2 l2 := ⟨Nat.le_trans h2.1 h1.1, Nat.le_trans h2.2 h1.2⟩

theorem Shrinks.bound {s s1 : Text} {l l1 : Nat} (h : Shrinks s l s1 l1) (hb : l + nlCount s ≤ i32Max) :
    l1 + nlCount s1 ≤ i32Max := Nat.le_trans h.2 hb

theorem fuel_ok {fuel : Nat} {s t u : Text} (hf : s.length < fuel + 1) (h1 : t.length < s.length)
    (h2 : u.length ≤ t.length) : u.length < fuel := by omega

theorem exists_fuel {n fuel : Nat} (h : n < fuel) : ∃ f, fuel = f + 1 := ⟨fuel - 1, by omega⟩

/-- the step every loop of the builder takes on a line -/
def lexAt {β : Type} (nt : Nat) (s : Text) (line : Nat) (k : LexOk → R β) : R β :=
  match byteDrop nt s with
  | none => .error (.panic .sliceTabs)
  | some body =>
    match generalParser body line with
    | .error e => .error e
    | .ok r => k r

/-- the head of the three `while` loops over entries at depth `nt` -/
def entry {β : Type} (nt : Nat) (s : Text) (line : Nat) (stop : R β) (k : LexOk → R β) : R β :=
  if s = [] then stop else
    let t := countTabs s
    if t < nt then stop
    else if t > nt then .error (.err .tabs 0)
    else lexAt nt s line k

theorem entry_congr {β : Type} {nt : Nat} {s : Text} {l : Nat} {stop : R β} {k k' : LexOk → R β}
    (h : ∀ r, k r = k' r) : entry nt s l stop k = entry nt s l stop k' := by
  rw [funext h]

theorem lexAt_zero {β : Type} (s : Text) (l : Nat) (k : LexOk → R β) :
    lexAt 0 s l k = match generalParser s l with
      | .error e => .error e
      | .ok r => k r := by
  rw [lexAt, byteDrop]

theorem leafLoop_step (exp : DecType) (nt fuel : Nat) (s : Text) (l : Nat) :
    leafLoop exp nt (fuel + 1) s l =
      if s = [] then .ok ([], s, l) else lexAt nt s l fun r =>
        if r.dectype ≠ exp then .error (.err .wrongType 0)
        else if countTabs r.rest < nt then .ok ([⟨r.dectype, r.params⟩], r.rest, r.line)
        else if countTabs r.rest > nt then .error (.err .tabs 0)
        else match leafLoop exp nt fuel r.rest r.line with
          | .error e => .error e
          | .ok (ls, rest, line') => .ok (⟨r.dectype, r.params⟩ :: ls, rest, line') := by
  rw [leafLoop]; rfl

theorem networksLoop_step (nt fuel : Nat) (s : Text) (l : Nat) (seen : List (Text × Network)) :
    networksLoop nt (fuel + 1) s l seen =
      entry nt s l (.ok (seen, s, l)) fun r =>
        if r.dectype = .network then
          match networkParser r.params (nt + 1) r.rest r.line with
          | .error e => .error e
          | .ok (net, rest, line') =>
            match net.options.get? ['i', 'd'] with
            | none => .error (.err .missingId 0)
            | some id =>
              if seen.any (fun e => e.1 == id) then .error (.err .dupId 0)
              else networksLoop nt fuel rest line' (seen ++ [(id, net)])
        else .error (.err .wrongType 0) := by
  rw [networksLoop]; rfl

theorem machinesLoop_step (nt fuel : Nat) (s : Text) (l : Nat) :
    machinesLoop nt (fuel + 1) s l =
      entry nt s l (.ok ([], s, l)) fun r =>
        if r.dectype = .machine then
          match machineParser r.params (nt + 1) r.rest r.line with
          | .error e => .error e
          | .ok (m, rest, line') =>
            match machinesLoop nt fuel rest line' with
            | .error e => .error e
            | .ok (ms, rest', line'') => .ok (m :: ms, rest', line'')
        else .error (.err .wrongType 0) := by
  rw [machinesLoop]; rfl

def IsSec (k : DecType) : Prop := k = .networks ∨ k = .protocols ∨ k = .applications

instance (k : DecType) : Decidable (IsSec k) := by unfold IsSec; exact inferInstance

def secLeaf : DecType → DecType
  | .networks => .network
  | .protocols => .protocol
  | _ => .application

/-- `machine_parser` files the entries of a section under its kind -/
def MAcc.add (a : MAcc) (k : DecType) (ls : List Leaf) : MAcc :=
  match k with
  | .networks => { a with nets := a.nets ++ ls }
  | .protocols => { a with prots := a.prots ++ ls }
  | _ => { a with apps := a.apps ++ ls }

/-- `req.remove(req.iter().position(|x| x == k).unwrap())` -/
def reqDrop (req : List DecType) (k : DecType) : List DecType :=
  match req.idxOf? k with
  | some i => req.eraseIdx i
  | none => req

theorem idxOf?_of_contains (l : List DecType) (d : DecType) (h : l.contains d = true) :
    ∃ i, l.idxOf? d = some i := by
  cases hi : l.idxOf? d with
  | some i => exact ⟨i, rfl⟩
  | none =>
    exfalso
    rw [List.idxOf?, List.findIdx?_eq_none_iff] at hi
    rw [List.contains_iff_mem] at h
    have := hi d h
    simp at this

/-- the three sections of a machine are one case -/
theorem machineLoop_step (nt fuel : Nat) (s : Text) (l : Nat) (a : MAcc) :
    machineLoop nt (fuel + 1) s l a =
      entry nt s l (.ok (a, s, l)) fun r =>
        if a.req.contains r.dectype ∧ IsSec r.dectype then
          match leafList (secLeaf r.dectype) .formatting (nt + 1) r.rest r.line with
          | .error e => .error e
          | .ok (ls, rest, line') =>
            machineLoop nt fuel rest line' { a.add r.dectype ls with req := reqDrop a.req r.dectype }
        else .error (.err .unexpected 0) := by
  rw [machineLoop]
  refine entry_congr fun r => ?_
  by_cases hc : a.req.contains r.dectype = true
  · obtain ⟨i, hi⟩ := idxOf?_of_contains a.req r.dectype hc
    simp only [hc, if_true, hi, true_and, reqDrop]
    cases r.dectype <;> rfl
  · have hm : ¬ r.dectype ∈ a.req := by simpa using hc
    simp [hm]

theorem coreLoop_step (fuel : Nat) (s : Text) (l : Nat) (nets : List (Text × Network)) (ms : List Machine) :
    coreLoop (fuel + 1) s l nets ms =
      if s = [] then .ok ⟨nets, ms⟩ else lexAt 0 s l fun r =>
        match r.dectype with
        | .template => coreLoop fuel r.rest r.line nets ms
        | .networks =>
          match networksParser 1 r.rest r.line with
          | .error e => .error e
          | .ok (ns, rest, line') =>
            match mergeNets nets ns with
            | .error e => .error e
            | .ok nets' => coreLoop fuel rest line' nets' ms
        | .machines =>
          match machinesParser 1 r.rest r.line with
          | .error e => .error e
          | .ok (m, rest, line') => coreLoop fuel rest line' nets (ms ++ m)
        | _ => .error (.err .cannotDeclare 0) := by
  rw [coreLoop, lexAt_zero]; rfl

theorem lexAt_safe {β : Type} {Q : β → Prop} (nt : Nat) (s : Text) (line : Nat) (k : LexOk → R β)
    (ht : nt ≤ countTabs s) (hb : line + nlCount s ≤ i32Max)
    (hk : ∀ r : LexOk, r.rest.length < s.length → Shrinks s line r.rest r.line → Safe (k r) Q) :
    Safe (lexAt nt s line k) Q := by
  unfold lexAt
  rw [byteDrop_tabs s nt ht]
  have hlen : (s.drop nt).length ≤ s.length := by simp
  have hnl := nlCount_drop_le nt s
  simp only []
  exact (generalParser_safe (s.drop nt) line (by omega)).elim Safe.err fun r ⟨h1, h2⟩ =>
    hk r (by omega) ⟨by omega, by omega⟩

theorem entry_safe {β : Type} {Q : β → Prop} (nt : Nat) (s : Text) (line : Nat) (stop : R β)
    (k : LexOk → R β) (hb : line + nlCount s ≤ i32Max) (hstop : Safe stop Q)
    (hk : ∀ r : LexOk, r.rest.length < s.length → Shrinks s line r.rest r.line → Safe (k r) Q) :
    Safe (entry nt s line stop k) Q :=
  Safe.ite (fun _ => hstop) fun _ =>
  Safe.ite (fun _ => hstop) fun h1 =>
  Safe.ite (fun _ => Safe.err _ _) fun h2 =>
  lexAt_safe nt s line k (by omega) hb hk

theorem leafLoop_safe (exp : DecType) (nt : Nat) : ∀ (fuel : Nat) (s : Text) (line : Nat),
    s.length < fuel → line + nlCount s ≤ i32Max → (s ≠ [] → nt ≤ countTabs s) →
    Safe (leafLoop exp nt fuel s line) (fun p => Shrinks s line p.2.1 p.2.2)
  | 0, s, line, hf, _, _ => by omega
  | fuel + 1, s, line, hf, hb, ht => by
    rw [leafLoop_step]
    refine Safe.ite (fun _ => Shrinks.refl _ _) (fun hs => ?_)
    refine lexAt_safe nt s line _ (ht hs) hb (fun r h1 h2 => ?_)
    refine Safe.ite (fun _ => Safe.err _ _) (fun _ => ?_)
    refine Safe.ite (fun _ => h2) (fun _ => ?_)
    refine Safe.ite (fun _ => Safe.err _ _) (fun _ => ?_)
    exact (leafLoop_safe exp nt fuel r.rest r.line (by omega) (h2.bound hb) (fun _ => by omega)).elim Safe.err
      fun _ ih => h2.trans ih

theorem leafList_safe (exp : DecType) (first : ErrKind) (nt : Nat) (s : Text) (line : Nat)
    (hb : line + nlCount s ≤ i32Max) :
    Safe (leafList exp first nt s line) (fun p => Shrinks s line p.2.1 p.2.2) := by
  unfold leafList
  refine Safe.ite (fun _ => Safe.err _ _) (fun _ => ?_)
  exact leafLoop_safe exp nt (s.length + 1) s line (by omega) hb (fun _ => by omega)

theorem networkParser_safe (args : Params) (nt : Nat) (s : Text) (line : Nat)
    (hb : line + nlCount s ≤ i32Max) :
    Safe (networkParser args nt s line) (fun p => Shrinks s line p.2.1 p.2.2) := by
  unfold networkParser
  exact (leafList_safe .ip .expectedTabs nt s line hb).elim Safe.err fun _ h => h

theorem networksLoop_safe (nt : Nat) : ∀ (fuel : Nat) (s : Text) (line : Nat) (seen : List (Text × Network)),
    s.length < fuel → line + nlCount s ≤ i32Max →
    Safe (networksLoop nt fuel s line seen) (fun p => Shrinks s line p.2.1 p.2.2)
  | 0, s, line, seen, hf, _ => by omega
  | fuel + 1, s, line, seen, hf, hb => by
    rw [networksLoop_step]
    refine entry_safe nt s line _ _ hb (Shrinks.refl _ _) (fun r h1 h2 => ?_)
    refine Safe.ite (fun _ => ?_) (fun _ => Safe.err _ _)
    refine (networkParser_safe r.params (nt + 1) r.rest r.line (h2.bound hb)).elim Safe.err
      fun ⟨net, rest, line'⟩ hn => ?_
    have h3 : Shrinks s line rest line' := h2.trans hn
    simp only []
    cases net.options.get? ['i', 'd'] with
    | none => exact Safe.err _ _
    | some id =>
      refine Safe.ite (fun _ => Safe.err _ _) (fun _ => ?_)
      exact (networksLoop_safe nt fuel rest line' (seen ++ [(id, net)]) (fuel_ok hf h1 hn.1) (h3.bound hb)).elim
        Safe.err fun _ ih => h3.trans ih

theorem networksParser_safe (nt : Nat) (s : Text) (line : Nat) (hb : line + nlCount s ≤ i32Max) :
    Safe (networksParser nt s line) (fun p => Shrinks s line p.2.1 p.2.2) :=
  networksLoop_safe nt (s.length + 1) s line [] (by omega) hb

theorem machineLoop_safe (nt : Nat) : ∀ (fuel : Nat) (s : Text) (line : Nat) (a : MAcc),
    s.length < fuel → line + nlCount s ≤ i32Max →
    Safe (machineLoop nt fuel s line a) (fun p => Shrinks s line p.2.1 p.2.2)
  | 0, s, line, a, hf, _ => by omega
  | fuel + 1, s, line, a, hf, hb => by
    rw [machineLoop_step]
    refine entry_safe nt s line _ _ hb (Shrinks.refl _ _) (fun r h1 h2 => ?_)
    refine Safe.ite (fun _ => ?_) (fun _ => Safe.err _ _)
    refine (leafList_safe _ .formatting (nt + 1) r.rest r.line (h2.bound hb)).elim Safe.err
      fun ⟨ls, rest, line'⟩ hl => ?_
    have h3 : Shrinks s line rest line' := h2.trans hl
    simp only []
    exact (machineLoop_safe nt fuel rest line' _ (fuel_ok hf h1 hl.1) (h3.bound hb)).elim Safe.err
      fun _ ih => h3.trans ih

theorem machineParser_safe (args : Params) (nt : Nat) (s : Text) (line : Nat)
    (hb : line + nlCount s ≤ i32Max) :
    Safe (machineParser args nt s line) (fun p => Shrinks s line p.2.1 p.2.2) := by
  unfold machineParser
  exact (machineLoop_safe nt (s.length + 1) s line ⟨requiredSections, [], [], []⟩ (by omega) hb).elim Safe.err
    fun _ h => Safe.ite (fun _ => Safe.err _ _) (fun _ => h)

theorem machinesLoop_safe (nt : Nat) : ∀ (fuel : Nat) (s : Text) (line : Nat),
    s.length < fuel → line + nlCount s ≤ i32Max →
    Safe (machinesLoop nt fuel s line) (fun p => Shrinks s line p.2.1 p.2.2)
  | 0, s, line, hf, _ => by omega
  | fuel + 1, s, line, hf, hb => by
    rw [machinesLoop_step]
    refine entry_safe nt s line _ _ hb (Shrinks.refl _ _) (fun r h1 h2 => ?_)
    refine Safe.ite (fun _ => ?_) (fun _ => Safe.err _ _)
    refine (machineParser_safe r.params (nt + 1) r.rest r.line (h2.bound hb)).elim Safe.err
      fun ⟨m, rest, line'⟩ hm => ?_
    have h3 : Shrinks s line rest line' := h2.trans hm
    simp only []
    exact (machinesLoop_safe nt fuel rest line' (fuel_ok hf h1 hm.1) (h3.bound hb)).elim Safe.err
      fun _ ih => h3.trans ih

theorem machinesParser_safe (nt : Nat) (s : Text) (line : Nat) (hb : line + nlCount s ≤ i32Max) :
    Safe (machinesParser nt s line) (fun p => Shrinks s line p.2.1 p.2.2) :=
  machinesLoop_safe nt (s.length + 1) s line (by omega) hb

theorem any_id_iff {α : Type} (seen : List (Text × α)) (id : Text) :
    seen.any (fun e => e.1 == id) = true ↔ id ∈ seen.map (·.1) := by
  simp only [List.any_eq_true, beq_iff_eq, List.mem_map]

def Fresh {α : Type} (ids : List Text) (ns : List (Text × α)) : Prop :=
  (ns.map (·.1)).Nodup ∧ ∀ id ∈ ns.map (·.1), id ∉ ids

instance {α : Type} (ids : List Text) (ns : List (Text × α)) : Decidable (Fresh ids ns) := by
  unfold Fresh; exact inferInstance

theorem Fresh.nil {α : Type} {ids : List Text} {ns : List (Text × α)} (h : Fresh ids ns) : Fresh [] ns :=
  ⟨h.1, fun _ _ => List.not_mem_nil⟩

theorem Fresh.cons_iff {α : Type} {acc ns : List (Text × α)} {id : Text} {n : α} (h : id ∉ acc.map (·.1)) :
    Fresh ((acc ++ [(id, n)]).map (·.1)) ns ↔ Fresh (acc.map (·.1)) ((id, n) :: ns) := by
  simp only [Fresh, List.map_append, List.map_cons, List.map_nil, List.mem_append, List.mem_cons,
    List.not_mem_nil, or_false, List.nodup_cons, forall_eq_or_imp, not_or]
  constructor
  · exact fun ⟨h1, h2⟩ => ⟨⟨fun hm => (h2 id hm).2 rfl, h1⟩, h, fun x hx => (h2 x hx).1⟩
  · exact fun ⟨⟨h0, h1⟩, _, h2⟩ => ⟨h1, fun x hx => ⟨h2 x hx, fun e => h0 (e ▸ hx)⟩⟩

theorem insertAll_eq : ∀ (ps acc : Params),
    insertAll ps acc = if Fresh (acc.map (·.1)) ps then some (acc ++ ps) else none
  | [], acc => by simp [insertAll, Fresh]
  | (k, v) :: ps, acc => by
    rw [insertAll, Params.has, insertAll_eq ps]
    by_cases h : k ∈ acc.map (·.1)
    · rw [if_pos ((any_id_iff acc k).2 h), if_neg fun hf => hf.2 k List.mem_cons_self h]
    · rw [if_neg fun hc => h ((any_id_iff acc k).1 hc)]
      simp only [Fresh.cons_iff h, List.append_assoc, List.singleton_append]

theorem mergeNets_eq : ∀ (ns acc : List (Text × Network)),
    mergeNets acc ns = if Fresh (acc.map (·.1)) ns then .ok (acc ++ ns) else .error (.err .dupId 0)
  | [], acc => by simp [mergeNets, Fresh]
  | (id, n) :: ns, acc => by
    rw [mergeNets, mergeNets_eq ns]
    by_cases h : id ∈ acc.map (·.1)
    · rw [if_pos ((any_id_iff acc id).2 h), if_neg fun hf => hf.2 id List.mem_cons_self h]
    · rw [if_neg fun hc => h ((any_id_iff acc id).1 hc)]
      simp only [Fresh.cons_iff h, List.append_assoc, List.singleton_append]

theorem mergeNets_dup {ns acc : List (Text × Network)} {id : Text} (ha : id ∈ acc.map (·.1))
    (hn : id ∈ ns.map (·.1)) : mergeNets acc ns = .error (.err .dupId 0) := by
  rw [mergeNets_eq, if_neg fun hf => hf.2 id hn ha]

theorem mergeNets_safe (ns acc : List (Text × Network)) : Safe (mergeNets acc ns) (fun _ => True) := by
  rw [mergeNets_eq]
  exact Safe.ite (fun _ => trivial) (fun _ => Safe.err _ _)

theorem coreLoop_safe : ∀ (fuel : Nat) (s : Text) (line : Nat) (nets : List (Text × Network))
    (ms : List Machine), s.length < fuel → line + nlCount s ≤ i32Max →
    Safe (coreLoop fuel s line nets ms) (fun _ => True)
  | 0, s, line, nets, ms, hf, _ => by omega
  | fuel + 1, s, line, nets, ms, hf, hb => by
    rw [coreLoop_step]
    refine Safe.ite (fun _ => trivial) fun _ => lexAt_safe 0 s line _ (Nat.zero_le _) hb fun r h1 h2 => ?_
    split
    · exact coreLoop_safe fuel r.rest r.line nets ms (by omega) (h2.bound hb)
    · refine (networksParser_safe 1 r.rest r.line (h2.bound hb)).elim Safe.err fun ⟨ns, rest, line'⟩ hn => ?_
      have h3 : Shrinks s line rest line' := h2.trans hn
      simp only []
      exact (mergeNets_safe ns nets).elim Safe.err fun nets' _ =>
        coreLoop_safe fuel rest line' nets' ms (fuel_ok hf h1 hn.1) (h3.bound hb)
    · refine (machinesParser_safe 1 r.rest r.line (h2.bound hb)).elim Safe.err fun ⟨m, rest, line'⟩ hm => ?_
      have h3 : Shrinks s line rest line' := h2.trans hm
      exact coreLoop_safe fuel rest line' nets (ms ++ m) (fuel_ok hf h1 hm.1) (h3.bound hb)
    · exact Safe.err _ _

theorem nlCount_dropCR (s : Text) : nlCount (dropCR s) = nlCount s := List.count_filter (by decide)

theorem nlCount_fourSpFrom : ∀ (s : Text) (k : Nat), nlCount (fourSpFrom k s) = nlCount s
  | [], k => by simp [fourSpFrom, nlCount_replicate_space, nlCount_nil]
  | c :: r, k => by
    unfold fourSpFrom
    split
    · rename_i hc
      subst hc
      rw [nlCount_cons_ne ' ' r (by decide)]
      split
      · rw [nlCount_cons_ne '\t' _ (by decide)]; exact nlCount_fourSpFrom r 0
      · exact nlCount_fourSpFrom r (k + 1)
    · rw [nlCount_append, nlCount_replicate_space, Nat.zero_add]
      by_cases hn : c = '\n'
      · subst hn; rw [nlCount_cons_nl, nlCount_cons_nl, nlCount_fourSpFrom r 0]
      · rw [nlCount_cons_ne _ _ hn, nlCount_cons_ne _ _ hn, nlCount_fourSpFrom r 0]

theorem nlCount_normalise (s : Text) : nlCount (normalise s) = nlCount s := by
  unfold normalise fourSp
  rw [nlCount_fourSpFrom, nlCount_dropCR]

theorem build_safe (s : Text) (h : nlCount s < i32Max) : Safe (build s) (fun _ => True) :=
  coreLoop_safe (s.length + 1) s 1 [] [] (by omega) (by omega)

theorem parse_total_lines (text : Text) (h : nlCount text < i32Max) :
    (∃ sim, parse text = .ok sim) ∨ (∃ k l, parse text = .error (.err k l)) := by
  unfold parse
  exact (build_safe (normalise text) (by rw [nlCount_normalise]; exact h)).elim (fun k l => .inr ⟨k, l, rfl⟩)
    fun sim _ => .inl ⟨sim, rfl⟩

end Elvis.Ndl
