import ElvisVerif.Model.Arp
/-! The 28-byte wire form of an ARP packet: `from_bytes ∘ build = id` (helper lemmas for C06). -/
namespace Elvis.Arp
open Elvis.Gen.Arp

theorem be_length (w n : Nat) : (be w n).length = w := by
  induction w with
  | zero => rfl
  | succ w ih => simp [be, ih]

theorem fromBe_be (w n : Nat) : fromBe (be w n) = n % 256 ^ w := by
  induction w with
  | zero => simp [be, fromBe, Nat.mod_one]
  | succ w ih =>
    have h1 : (UInt8.ofNat (n / 256 ^ w % 256)).toNat = n / 256 ^ w % 256 := by
      rw [UInt8.toNat_ofNat']
      exact Nat.mod_mod _ _
    simp only [be, fromBe, be_length, ih, h1]
    rw [Nat.mod_pow_succ (b := 256), Nat.mul_comm, Nat.add_comm]

theorem rd_be (w n : Nat) (rest : List UInt8) : rd w (be w n ++ rest) = .ok (n % 256 ^ w, rest) := by
  unfold rd
  have hl : ¬ (be w n ++ rest).length < w := by simp [be_length]
  simp only [hl, if_false]
  rw [List.take_left' (be_length w n), List.drop_left' (be_length w n), fromBe_be]

structure Packet.WF (p : Packet) : Prop where
  htype : p.htype < 256 ^ 2
  ptype : p.ptype < 256 ^ 2
  hlen : p.hlen < 256 ^ 1
  plen : p.plen < 256 ^ 1
  smac : p.smac < 256 ^ 6
  sip : p.sip < 256 ^ 4
  tmac : p.tmac < 256 ^ 6
  tip : p.tip < 256 ^ 4

theorem build_length (p : Packet) : (build p).length = packetSize := by
  simp [build, be_length, packetSize]

theorem fromBytes_build (p : Packet) (h : p.WF) (rest : List UInt8) : fromBytes (build p ++ rest) = .ok p := by
  unfold fromBytes build
  simp only [List.append_assoc, rd_be]
  rw [Nat.mod_eq_of_lt h.htype, Nat.mod_eq_of_lt h.ptype, Nat.mod_eq_of_lt h.hlen, Nat.mod_eq_of_lt h.plen,
    Nat.mod_eq_of_lt h.smac, Nat.mod_eq_of_lt h.sip, Nat.mod_eq_of_lt h.tmac, Nat.mod_eq_of_lt h.tip]
  obtain ⟨a1, a2, a3, a4, oper, a6, a7, a8, a9⟩ := p
  cases oper <;> simp [Oper.code, operRequest, operReply]

end Elvis.Arp
