import ElvisVerif.Lemmas.ModCmp
/-!
# Sequence-number arithmetic in offset form

`off base x` = how far `x` is ahead of `base` on the circle.  A wrapped difference of two points is first
rewritten as the difference of their distances from `base` (`sub_sub_sub_cancel`); what is left is
arithmetic over naturals with at most one `% 2^32` term, or none (`sub_toNat_off`, `sub_toNat_off_lt`).
-/
namespace Elvis.Tcp
open Elvis.ModCmp

def off (base x : BitVec 32) : Nat := (x - base).toNat

theorem off_lt (base x : BitVec 32) : off base x < 4294967296 := (x - base).isLt

theorem off_self (base : BitVec 32) : off base base = 0 := by
  unfold off
  rw [BitVec.sub_self]; rfl

theorem sub_sub_sub_cancel (a b c : BitVec 32) : c - b = (c - a) - (b - a) := by
  rw [BitVec.sub_sub, BitVec.add_comm, BitVec.sub_add_cancel]

theorem off_add (base x : BitVec 32) (k : Nat) (h : off base x + k < 4294967296) :
    off base (x + BitVec.ofNat 32 k) = off base x + k := by
  unfold off at *
  rw [← BitVec.sub_add_comm]
  generalize x - base = d at h ⊢
  simp only [BitVec.toNat_add, BitVec.toNat_ofNat]
  omega

theorem off_add_one (base x : BitVec 32) (h : off base x + 1 < 4294967296) :
    off base (x + 1) = off base x + 1 := by
  have := off_add base x 1 h
  simpa using this

theorem off_succ (a : BitVec 32) : off a (a + 1) = 1 := by
  rw [off_add_one _ _ (by rw [off_self]; omega), off_self]

theorem off_inj {base a b : BitVec 32} (h : off base a = off base b) : a = b := by
  unfold off at h
  have h' : a - base = b - base := BitVec.eq_of_toNat_eq h
  rw [← BitVec.sub_add_cancel a base, h', BitVec.sub_add_cancel]

theorem Tcb.off_eq_zero {base x : BitVec 32} (h : off base x = 0) : x = base := off_inj (h.trans (off_self base).symm)

theorem Tcb.off_eq_one {base x : BitVec 32} (h : off base x = 1) : x = base + 1 :=
  off_inj (by rw [h, off_succ])

theorem modGt_iff_off (base a b : BitVec 32) (ha : off base a < 2147483648) (hb : off base b < 2147483648) :
    modGt a b = true ↔ off base b < off base a := by
  unfold modGt
  rw [modLt_iff]
  unfold off at *
  rw [sub_sub_sub_cancel base b a]
  generalize a - base = x at ha ⊢
  generalize b - base = y at hb ⊢
  simp only [BitVec.toNat_sub]
  omega

theorem modLt_iff_off (base a b : BitVec 32) (ha : off base a < 2147483648) (hb : off base b < 2147483648) :
    modLt a b = true ↔ off base a < off base b := modGt_iff_off base b a hb ha

theorem Tcb.modLeq_iff_off (base a b : BitVec 32) (ha : off base a < 2147483648) (hb : off base b < 2147483648) :
    modLeq a b = true ↔ off base a ≤ off base b := by
  unfold modLeq
  rw [Bool.or_eq_true, modLt_iff_off base a b ha hb]
  constructor
  · rintro (h | h)
    · have : a = b := by simpa using h
      rw [this]; exact Nat.le_refl _
    · omega
  · intro h
    rcases Nat.lt_or_ge (off base a) (off base b) with hlt | hge
    · exact Or.inr hlt
    · left
      rw [off_inj (Nat.le_antisymm h hge)]; simp

theorem sub_toNat_off (base a b : BitVec 32) (h : off base b ≤ off base a) :
    (a - b).toNat = off base a - off base b := by
  rw [sub_sub_sub_cancel base b a]
  exact BitVec.toNat_sub_of_le (BitVec.le_def.2 h)

theorem sub_toNat_off_lt (base a b : BitVec 32) (h : off base a < off base b) :
    (a - b).toNat = 4294967296 - (off base b - off base a) := by
  rw [sub_sub_sub_cancel base b a]
  exact BitVec.toNat_sub_of_lt (BitVec.lt_def.2 h)

/-- `SND.UNA < SEG.ACK =< SND.NXT` in offsets, for `SND.UNA =< SND.NXT` less than 2^31 ahead of `base` -/
theorem bounded_iff_off (base una ack nxt : BitVec 32) (hn : off base nxt < 2147483648)
    (hun : off base una ≤ off base nxt) :
    modBounded una .Lt ack .Leq nxt = true ↔ off base una < off base ack ∧ off base ack ≤ off base nxt := by
  unfold modBounded
  rw [cyc_iff]
  simp only [Cmp.offset]
  have e2 : nxt + 1 - una = (nxt - una) + 1 := by
    simp only [BitVec.sub_eq_add_neg]; ac_rfl
  have hd := sub_toNat_off base nxt una hun
  have h1 : ((nxt - una) + 1).toNat = (nxt - una).toNat + 1 := by
    have h1' : (1 : BitVec 32).toNat = 1 := rfl
    simp only [BitVec.toNat_add, h1']
    omega
  rw [show una - 0 = una from BitVec.sub_zero una, e2, h1, hd]
  constructor
  · intro h
    generalize hk : (ack - una).toNat = k at h
    have hack : ack = una + BitVec.ofNat 32 k := by
      rw [← hk, BitVec.ofNat_toNat, BitVec.setWidth_eq, BitVec.add_comm, BitVec.sub_add_cancel]
    have ho : off base ack = off base una + k := by
      rw [hack]; exact off_add base una k (by omega)
    omega
  · intro h
    rw [sub_toNat_off base ack una (by omega)]
    omega

theorem Tcb.bounded_of_off (base una ack nxt : BitVec 32) (hn : off base nxt < 2147483648)
    (h1 : off base una < off base ack) (h2 : off base ack ≤ off base nxt) :
    modBounded una .Lt ack .Leq nxt = true :=
  (bounded_iff_off base una ack nxt hn (by omega)).2 ⟨h1, h2⟩

theorem Tcb.bounded_succ (iss : BitVec 32) : modBounded iss .Lt (iss + 1) .Leq (iss + 1) = true := by
  have o1 := off_succ iss
  exact Tcb.bounded_of_off iss iss (iss + 1) (iss + 1) (by rw [o1]; omega) (by rw [off_self, o1]; omega) (Nat.le_refl _)

theorem Tcb.not_bounded_self (a c : BitVec 32) : modBounded a .Lt a .Leq c = false := by
  cases h : modBounded a .Lt a .Leq c with
  | false => rfl
  | true =>
    unfold modBounded at h
    rw [cyc_iff] at h
    simp only [Cmp.offset] at h
    have e0 : a - (a - 0) = 0 := by bv_omega
    rw [e0] at h
    simp at h

/-- the acceptance arithmetic of the text block, in offsets.  `r` = RCV.NXT, `p` = SEG.SEQ,
    `syn` ∈ {0,1}, `tl` = text length; `a` = `RCV.NXT − SEG.SEQ − syn` as the code computes it
    (wrapping), clamped to `tl`; whatever is accepted, the new RCV.NXT does not pass the end of
    the segment (or stays where it was) -/
theorem accept_off (base nxt seq : BitVec 32) (syn tl acc N : Nat) (hsyn : syn ≤ 1)
    (hN : N < 2147483648) (hr : off base nxt ≤ N) (hp : off base seq + syn + tl ≤ N)
    (hgate : off base seq ≤ off base nxt)
    (hacc : acc ≤ tl - min (nxt - seq - BitVec.ofNat 32 syn).toNat tl) :
    off base nxt ≤ off base (nxt + BitVec.ofNat 32 acc) ∧ off base (nxt + BitVec.ofNat 32 acc) ≤ N := by
  rw [off_add base nxt acc (by omega)]
  refine ⟨Nat.le_add_right _ _, ?_⟩
  -- `RCV.NXT − SEG.SEQ − syn` is the wrapped distance from the first text octet `q = SEG.SEQ + syn` to `RCV.NXT`
  have hq : off base (seq + BitVec.ofNat 32 syn) = off base seq + syn := off_add base seq syn (by omega)
  rw [BitVec.sub_sub] at hacc
  by_cases hle : off base seq + syn ≤ off base nxt
  · rw [sub_toNat_off base nxt _ (by rw [hq]; exact hle), hq] at hacc
    omega
  · -- `RCV.NXT` is on the SYN itself: the difference wraps to `2^32 − 1`, nothing is accepted
    rw [sub_toNat_off_lt base nxt _ (by rw [hq]; omega), hq] at hacc
    omega

namespace Tcb

theorem succ_sub (a : BitVec 32) : (a + 1 - a).toNat = 1 := off_succ a

theorem succ_sub_self (a : BitVec 32) : a + 1 - a = 1 := BitVec.eq_of_toNat_eq (succ_sub a)

end Tcb

end Elvis.Tcp
