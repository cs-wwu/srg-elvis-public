import ElvisVerif.Lemmas.TcpFullRound
import ElvisVerif.Lemmas.TcpFullEst
import ElvisVerif.Lemmas.TcpFullTmo
import ElvisVerif.Lemmas.TcpHsFwd
import ElvisVerif.Lemmas.TcpFullHsTcb
/-!
# Invariants of the closed system nobody closes that convergence from ANY reachable state needs

`FInv iss mt s` (over plain steps, on top of `Good`):

* `seq` — **(a)** every history element sent from `x`'s port has `SEG.SEQ − ISS_x ≤ SND.NXT_x − ISS_x`, text-free
  segments included (`C01.Valid` / `SegBelow` say nothing about the sequence number of a pure ACK);
* `heapSeq` — the same for every segment parked in the peer's reorder heap;
* `none` — while a side has no TCB (the passive side before the SYN arrives) nothing in the history comes
  from its port and the peer's reorder heap is empty;
* `tcb` — **(b)** for every TCB: the reorder heap is a binary heap for the offset order (`HeapOk`), at rest in
  ESTABLISHED every parked segment is strictly ahead of `RCV.NXT` (`Ahead`); the retransmission timer is at most
  RTO (so a tick of `RTO + 1` always expires it); the MTU is the one given at `open` / `listen`;
* `lis` — the MTU of the LISTEN binding.

`LiveStep s s'`: what is left of `Sys.Step` (`Lemmas/TcpSys.lean`) for a plain op between two states that satisfy `NoRst`
(no deletion, no answer from LISTEN or CLOSED): nothing, or ONE side is touched (`Touch`: a local call, an arrival of an
addressed history element, a TCB created by LISTEN).  The invariants of this and the following files are proved over
`LiveStep` (`*_step`; those about single TCBs through `LiveStep.tcbs`) and carried along plain runs by `good_run`, from
the initial system (`init_tcbs`).
-/
namespace Elvis.Tcp.Full
open Elvis.ModCmp Elvis.Tcp.Tcb

structure FTcb (base : Seq) (m : U16) (t : Tcb) : Prop where
  hk : HeapOk base t
  ahead : Ahead base t
  tmo : t.timeouts.retransmission ≤ RTO
  mtu : t.mtu = m

structure FInv (iss : SideId → Seq) (mt : SideId → U16) (s : Sys) : Prop where
  seq : ∀ x t, (s.side x).tcb = some t → ∀ σ ∈ s.history, σ.hdr.srcPort = x.port → off (iss x) σ.hdr.seq ≤ t.sent
  none : ∀ x, (s.side x).tcb = none → (∀ σ ∈ s.history, σ.hdr.srcPort ≠ x.port) ∧
    (∀ u, (s.side x.peer).tcb = some u → u.incoming.segments = [])
  heapSeq : ∀ x t u, (s.side x).tcb = some t → (s.side x.peer).tcb = some u →
    ∀ σ ∈ u.incoming.segments, off (iss x) σ.hdr.seq ≤ t.sent
  tcb : ∀ y u, (s.side y).tcb = some u → FTcb (iss y.peer) (mt y) u
  lis : ∀ y i m, (s.side y).listen = some (i, m) → m = mt y

theorem send_tmo (t : Tcb) (m : List UInt8) : (t.send m).timeouts = t.timeouts := by
  rw [send_eq]; split <;> rfl

theorem receive_tmo (t : Tcb) : t.receive.1.timeouts = t.timeouts := by
  rw [receive_eq]; split <;> rfl

theorem advanceTime_tmo (t : Tcb) (dt : Nat) (t' : Tcb) (r : AdvanceTimeResult) (e : t.advanceTime dt = .ok (t', r))
    (h : t.timeouts.retransmission ≤ RTO) : t'.timeouts.retransmission ≤ RTO := by
  have k1 : (timerRun t dt).timeouts.retransmission ≤ RTO := by
    by_cases hdt : dt > t.timeouts.retransmission
    · rw [timerRun_expired hdt]
      exact Nat.le_refl _
    · rw [timerRun_running hdt]
      show t.timeouts.retransmission - dt ≤ RTO
      omega
  rcases advanceTime_ok e with ⟨-, rfl, -⟩ | ⟨tw, -, ⟨-, rfl, -⟩ | ⟨-, rfl, -⟩⟩ <;> exact k1

theorem segments_tmo (t t' : Tcb) (out : List Segment) (e : t.segments = .ok (t', out)) (hst : C01.Ok3 t.state)
    (h : t.timeouts.retransmission ≤ RTO) : t'.timeouts.retransmission ≤ RTO := by
  obtain ⟨v, s2, tmo, hv, rfl, -, rfl, htmo⟩ := segments_ok e
  rcases htmo with rfl | rfl
  · -- the timer is left alone: no FIN is pending, and cutting segments does not touch it
    rw [C01.Ok3.finPending hst, Bool.false_and, if_neg Bool.false_ne_true]
    show v.timeouts.retransmission ≤ RTO
    rw [(segmentizeIfOpen_frame hv).timeouts]
    exact h
  · exact Nat.le_refl _

theorem segmentArrives_mtu (s : Tcb) (g : Segment) (s' : Tcb) (r : SegmentArrivesResult)
    (e : s.segmentArrives g = .ok (s', r)) : s'.mtu = s.mtu :=
  segmentArrives_lift (R := fun s s' => s'.mtu = s.mtu) (fun _ => rfl) (fun h1 h2 => h2.trans h1) (fun _ _ => rfl)
    (fun h => h.rx.mtu) e

theorem listen_created (σ : Segment) (issl : Seq) (mtu : U16) (tcb : Tcb)
    (h1 : segmentArrivesListen σ issl mtu = .ok (some (.Tcb tcb))) :
    σ.hdr.ctl.syn = true ∧ tcb = listenT σ issl mtu :=
  ⟨(segmentArrivesListen_tcb h1).2.2.1, (segmentArrivesListen_tcb h1).2.2.2⟩

/-- a call of the application or the clock on one TCB, and what it emits: `send`, `receive`, `advance_time` (not
    closing), `segments` -/
inductive LocalCall : Tcb → Tcb → List Segment → Prop
  | send (t : Tcb) (b : List UInt8) : LocalCall t (t.send b) []
  | receive (t : Tcb) : LocalCall t t.receive.1 []
  | tick {t t' : Tcb} {ms : Nat} : t.advanceTime ms = .ok (t', .Ignore) → LocalCall t t' []
  | emit {t t' : Tcb} {segs : List Segment} : t.segments = .ok (t', segs) → LocalCall t t' segs

theorem send_rtx (t : Tcb) (m : List UInt8) : (t.send m).outgoing.retransmit = t.outgoing.retransmit := by
  rw [send_eq]; split <;> rfl

theorem receive_rtx (t : Tcb) : t.receive.1.outgoing.retransmit = t.outgoing.retransmit := by
  rw [receive_eq]; split <;> rfl

theorem advanceTime_rtxseg (t : Tcb) (dt : Nat) (t' : Tcb) (r : AdvanceTimeResult) (e : t.advanceTime dt = .ok (t', r)) :
    t'.outgoing.retransmit.map (·.segment) = t.outgoing.retransmit.map (·.segment) := by
  obtain ⟨tmo, rfl | rfl⟩ := advanceTime_flags e
  · rfl
  · show (t.outgoing.retransmit.map _).map _ = _
    rw [List.map_map]
    rfl

theorem _root_.Elvis.Tcp.Tcb.Segs.sup {m : Nat} {p : Bool} {s s' : Tcb} (h : Segs m p s s') : Sup s s' := by
  induction h with
  | done _ => exact Sup.refl _
  | fin _ _ _ => rw [finQueued_eq]; exact fun tr htr => List.mem_append_left _ htr
  | cut _ _ _ _ _ _ _ ih => exact fun tr htr => ih tr (List.mem_append_left _ htr)

theorem segments_rtxseg (t t' : Tcb) (out : List Segment) (e : t.segments = .ok (t', out)) :
    ∀ g ∈ t.outgoing.retransmit.map (·.segment), g ∈ t'.outgoing.retransmit.map (·.segment) := by
  obtain ⟨s2, tmo, hs, rfl⟩ := segments_segs e
  intro g hg
  obtain ⟨tr, htr, rfl⟩ := List.mem_map.1 hg
  show _ ∈ (s2.outgoing.retransmit.map _).map _
  rw [List.map_map]
  exact List.mem_map.2 ⟨tr, hs.sup tr htr, rfl⟩

/-- what every local call leaves alone (of the retransmission queue: the segments, not their flags) -/
structure Kept (t t' : Tcb) : Prop where
  state : t'.state = t.state
  rcv : t'.rcv = t.rcv
  heap : t'.incoming.segments = t.incoming.segments
  text : t'.incoming.text = t.incoming.text ∨ t'.incoming.text = []
  mtu : t'.mtu = t.mtu
  sent : t.sent ≤ t'.sent
  una : t'.snd.una = t.snd.una
  tmo : t.timeouts.retransmission ≤ RTO → t'.timeouts.retransmission ≤ RTO
  queue : ∀ g ∈ t.outgoing.retransmit.map (·.segment), g ∈ t'.outgoing.retransmit.map (·.segment)

theorem LocalCall.kept_tcb {t t' : Tcb} {new : List Segment} (l : LocalCall t t' new) (hr : Room t)
    (h3 : C01.Ok3 t.state) (hF : SynSentFresh t) : Kept t t' := by
  cases l with
  | send b =>
    obtain ⟨fr, hs, -⟩ := send_local t b
    exact ⟨(send_keep t b).state, fr.rcv, fr.heap, Or.inl (by rw [(send_same t b).1.incoming]), (send_same t b).1.mtu,
      Nat.le_of_eq hs.symm, (send_l t b).una, fun h => by rw [send_tmo]; exact h, by rw [send_rtx]; exact fun _ h => h⟩
  | receive =>
    obtain ⟨fr, hs, -⟩ := receive_local t
    refine ⟨(receive_keep t).state, fr.rcv, fr.heap, ?_, (receive_rx t).1.mtu, Nat.le_of_eq hs.symm, (receive_l t).una,
      fun h => by rw [receive_tmo]; exact h, by rw [receive_rtx]; exact fun _ h => h⟩
    rcases receive_cases t with h | h <;> rw [h]
    · exact Or.inr rfl
    · exact Or.inl rfl
  | tick h1 =>
    obtain ⟨fr, hs, -⟩ := advanceTime_local _ _ _ h1
    obtain ⟨t2, r2, e2, same, hst⟩ := advanceTime_spec t _
    rw [h1] at e2
    cases e2
    exact ⟨hst, fr.rcv, fr.heap, Or.inl (by rw [same.incoming]), same.mtu, Nat.le_of_eq hs.symm,
      (advanceTime_l _ _ _ h1).una, advanceTime_tmo _ _ _ _ h1, by rw [advanceTime_rtxseg _ _ _ _ h1]; exact fun _ h => h⟩
  | emit h1 =>
    obtain ⟨same, hst⟩ := segments_same h1
    exact ⟨hst, same.rcv, by rw [same.incoming], Or.inl (by rw [same.incoming]), same.mtu,
      (segments_snd _ _ _ h1).1.mono hr, (segments_l _ _ _ h1 hF).1.una, segments_tmo _ _ _ h1 h3,
      segments_rtxseg _ _ _ h1⟩

theorem FTcb.kept {base : Seq} {m : U16} {t t' : Tcb} (f : FTcb base m t) (k : Kept t t') : FTcb base m t' :=
  ⟨⟨by rw [k.heap]; exact f.hk.win, by rw [k.heap]; exact f.hk.heap⟩,
    fun hs g hgm => by rw [k.rcv]; exact f.ahead (by rw [← k.state]; exact hs) g (by rw [← k.heap]; exact hgm),
    k.tmo f.tmo, k.mtu.trans f.mtu⟩

variable {iss : SideId → Seq} {mt : SideId → U16}

/-- the hypotheses of `kept_tcb` are invariants -/
theorem LocalCall.kept {s : Sys} {x : SideId} {t t' : Tcb} {new : List Segment} (l : LocalCall t t' new)
    (hg : Good iss s) (ht : (s.side x).tcb = some t) : Kept t t' :=
  l.kept_tcb (room_of_inv hg.conv.c01 hg.room x t ht) (hg.tinv x t ht).st (hg.conv.full.fresh x t ht).fresh

theorem finv_set (s : Sys) (h : FInv iss mt s) (x : SideId) (t' : Tcb) (sd' : Side) (new : List Segment)
    (hsd : sd'.tcb = some t') (hl : sd'.listen = (s.side x).listen)
    (hmono : ∀ t, (s.side x).tcb = some t → t.sent ≤ t'.sent)
    (hnew : ∀ σ ∈ new, σ.hdr.srcPort = x.port ∧ off (iss x) σ.hdr.seq ≤ t'.sent)
    (hheap : ∀ g ∈ t'.incoming.segments, (∃ t, (s.side x).tcb = some t ∧ g ∈ t.incoming.segments) ∨
      ∃ σ ∈ s.history, σ.hdr.srcPort = x.peer.port ∧ g.hdr.seq = σ.hdr.seq)
    (hf : FTcb (iss x.peer) (mt x) t') : FInv iss mt ((s.setSide x sd').record new) := by
  have hxx : ∀ t, (s.side x).tcb = some t → (s.side x.peer.peer).tcb = some t := fun t ht => by
    rw [SideId.peer_peer]; exact ht
  -- what `x` had out there stays below its `SND.NXT`; without a TCB it had nothing out there
  have hseq : ∀ σ ∈ s.history, σ.hdr.srcPort = x.port → off (iss x) σ.hdr.seq ≤ t'.sent := fun σ hσ hs => by
    cases hq : (s.side x).tcb with
    | none => exact absurd hs ((h.none x hq).1 σ hσ)
    | some t => exact Nat.le_trans (h.seq x t hq σ hσ hs) (hmono t hq)
  have hpeer : ∀ u, (s.side x.peer).tcb = some u → ∀ σ ∈ u.incoming.segments, off (iss x) σ.hdr.seq ≤ t'.sent :=
    fun u hu σ hσ => by
      cases hq : (s.side x).tcb with
      | none => rw [(h.none x hq).2 u hu] at hσ; cases hσ
      | some t => exact Nat.le_trans (h.heapSeq x t u hq hu σ hσ) (hmono t hq)
  -- what `x` has parked is below the peer's `SND.NXT`; a peer without TCB has nothing out there
  have hown : ∀ tp, (s.side x.peer).tcb = some tp → ∀ σ ∈ t'.incoming.segments, off (iss x.peer) σ.hdr.seq ≤ tp.sent :=
    fun tp htp g hg => by
      rcases hheap g hg with ⟨t, ht, hin⟩ | ⟨σ, hσ, hsrc, e⟩
      · exact h.heapSeq x.peer tp t htp (hxx t ht) g hin
      · rw [e]; exact h.seq x.peer tp htp σ hσ hsrc
  have hnone : (s.side x.peer).tcb = none → t'.incoming.segments = [] := fun hn =>
    List.eq_nil_iff_forall_not_mem.2 fun g hg => by
      rcases hheap g hg with ⟨t, ht, hin⟩ | ⟨σ, hσ, hsrc, -⟩
      · rw [(h.none x.peer hn).2 t (hxx t ht)] at hin; cases hin
      · exact (h.none x.peer hn).1 σ hσ hsrc
  have hhist := mem_history_touched s x sd' new
  have e1 := side_touched s x sd' new
  have e2 := side_untouched s x sd' new
  refine ⟨x.both ?_ ?_, x.both ?_ ?_, x.both ?_ ?_,
    tcbs_touched h.tcb x sd' new fun u hu => by cases hsd.symm.trans hu; exact hf, x.both ?_ ?_⟩
  -- `seq`
  · intro u hu σ hσ hsrc
    rw [e1, hsd] at hu; cases hu
    rcases (hhist σ).1 hσ with hn | ho
    · exact (hnew σ hn).2
    · exact hseq σ ho hsrc
  · intro u hu σ hσ hsrc
    rw [e2] at hu
    rcases (hhist σ).1 hσ with hn | ho
    · exact absurd (hsrc.symm.trans (hnew σ hn).1) (SideId.port_ne x)
    · exact h.seq x.peer u hu σ ho hsrc
  -- `none`
  · intro hy
    rw [e1, hsd] at hy; cases hy
  · intro hy
    rw [e2] at hy
    refine ⟨fun σ hσ => ?_, fun u hu => ?_⟩
    · rcases (hhist σ).1 hσ with hn | ho
      · rw [(hnew σ hn).1]; exact fun e => SideId.port_ne x e.symm
      · exact (h.none x.peer hy).1 σ ho
    · rw [SideId.peer_peer, e1, hsd] at hu; cases hu
      exact hnone hy
  -- `heapSeq`
  · intro a u ha hu σ hσ
    rw [e1, hsd] at ha; cases ha
    rw [e2] at hu
    exact hpeer u hu σ hσ
  · intro a u ha hu σ hσ
    rw [e2] at ha
    rw [SideId.peer_peer, e1, hsd] at hu; cases hu
    exact hown a ha σ hσ
  -- `lis`
  · intro i m hy
    rw [e1, hl] at hy
    exact h.lis x i m hy
  · intro i m hy
    rw [e2] at hy
    exact h.lis x.peer i m hy

theorem FInv.sender {s : Sys} (h : FInv iss mt s) {σ : Segment} {x : SideId} (hmem : σ ∈ s.history)
    (hsrc : σ.hdr.srcPort = x.port) : ∃ t, (s.side x).tcb = some t := by
  cases hq : (s.side x).tcb with
  | some t => exact ⟨t, rfl⟩
  | none => exact absurd hsrc ((h.none x hq).1 σ hmem)

/-- How side `x` comes by the TCB `t'` in a plain step between two states with `NoRst`, from what it had (`o`), and what it
    emits: a local call, the arrival of an addressed history element, or LISTEN creating a TCB for a SYN.
    (`segment_arrives` returning `Close` would leave the side without TCB and LISTEN, an answer from LISTEN would put a RST
    into the history, and a side that is CLOSED is not alive.) -/
inductive Touch (s : Sys) (x : SideId) : Option Tcb → Tcb → List Segment → Prop
  | loc {t t' : Tcb} {new : List Segment} : LocalCall t t' new → Touch s x (some t) t' new
  | arrive {t t' : Tcb} {σ : Segment} : σ ∈ s.history → σ.hdr.srcPort = x.peer.port →
      t.segmentArrives σ = .ok (t', .Ok) → Touch s x (some t) t' []
  | create {σ : Segment} {issl : Seq} {mtu : U16} : σ ∈ s.history → σ.hdr.srcPort = x.peer.port →
      (s.side x).listen = some (issl, mtu) → σ.hdr.ctl.syn = true → Touch s x none (listenT σ issl mtu) []

/-- a plain step between two states with `NoRst`: what is left of `Sys.Step`.  Nothing happens, or one side is touched
    and what it emits is recorded (the logs of its side are not looked at: `sd'`). -/
inductive LiveStep (s : Sys) : Sys → Prop
  | same : LiveStep s s
  | touch {x : SideId} {o : Option Tcb} {t' : Tcb} {new : List Segment} {sd' : Side} : (s.side x).tcb = o →
      Touch s x o t' new → sd'.tcb = some t' → sd'.listen = (s.side x).listen →
      LiveStep s ((s.setSide x sd').record new)

theorem noRst_not_gone {s : Sys} {x : SideId} (n : NoRst (s.gone x)) : False := by
  have ha := n.alive x
  rw [side_setSide_same] at ha
  simp at ha

theorem live_arrive {s s' : Sys} {x : SideId} {σ : Segment} {r : Res} (a : s.Arrive x σ s' r) (hmem : σ ∈ s.history)
    (hsrc : σ.hdr.srcPort = x.peer.port) (n : NoRst s) (n' : NoRst s') :
    s' = s ∨ ∃ o t', (s.side x).tcb = o ∧ Touch s x o t' [] ∧ s' = s.withTcb x t' := by
  cases a with
  | tcb ht h => exact Or.inr ⟨_, _, ht, .arrive hmem hsrc h, rfl⟩
  | close => exact (noRst_not_gone n').elim
  | ignore => exact Or.inl rfl
  | create ht hl h =>
    obtain ⟨hsyn, rfl⟩ := listen_created σ _ _ _ h
    exact Or.inr ⟨_, _, ht, .create hmem hsrc hl hsyn, rfl⟩
  | @refuse _ _ hd _ _ h =>
    have := n'.hist ⟨hd, []⟩ (by rw [mem_history_record]; exact Or.inl (List.mem_singleton.2 rfl))
    rw [show hd.ctl.rst = true by rw [(segmentArrivesListen_response h).2.2]; rfl] at this
    cases this
  | closed ht hl | reset ht hl =>
    rcases n.alive x with ha | ha
    · rw [ht] at ha; cases ha
    · rw [hl] at ha; cases ha

theorem live_step {s s' : Sys} {op : Op} {r : Res} (e : s.step op = .ok (s', r)) (hp : Op.Plain s op) (n : NoRst s)
    (n' : NoRst s') : LiveStep s s' := by
  cases step_iff.1 e with
  | «open» | listen | inject | abort | drop | close => exact hp.elim
  | noSeg | noTcb => exact .same
  | write ht => exact .touch (new := []) ht (.loc (.send _ _)) rfl rfl
  | read ht => exact .touch (new := []) ht (.loc (.receive _)) rfl rfl
  | tick ht h => exact .touch (new := []) ht (.loc (.tick h)) rfl rfl
  | expire => exact (noRst_not_gone n').elim
  | emit ht h => exact .touch ht (.loc (.emit h)) rfl rfl
  | deliver hn a =>
    rcases live_arrive a (nth_mem _ _ _ hn) (hp _ hn).1 n n' with rfl | ⟨o, t', ho, c, rfl⟩
    · exact .same
    · exact .touch (new := []) ho c rfl rfl

theorem LiveStep.tcbs {P : SideId → Tcb → Prop} {s s' : Sys} (l : LiveStep s s')
    (h : ∀ x t, (s.side x).tcb = some t → P x t)
    (k : ∀ x o t' new, (s.side x).tcb = o → Touch s x o t' new → (s'.side x).tcb = some t' → P x t') :
    ∀ x t, (s'.side x).tcb = some t → P x t := by
  cases l with
  | same => exact h
  | @touch x o t' new sd' ho c hsd _ =>
    refine tcbs_touched h x sd' new fun u hu => ?_
    cases hsd.symm.trans hu
    exact k x o _ new ho c (by rw [side_touched]; exact hsd)

theorem LiveStep.hist {s s' : Sys} (l : LiveStep s s') {σ : Segment} (hσ : σ ∈ s'.history) :
    σ ∈ s.history ∨ ∃ x t t' new, (s.side x).tcb = some t ∧ t.segments = .ok (t', new) ∧
      (s'.side x).tcb = some t' ∧ σ ∈ new := by
  cases l with
  | same => exact Or.inl hσ
  | @touch x o t' new sd' ho c hsd _ =>
    rw [mem_history_touched] at hσ
    rcases hσ with hn | hold
    · cases c with
      | loc l =>
        cases l with
        | send | receive | tick => cases hn
        | emit h1 => exact Or.inr ⟨x, _, _, _, ho, h1, by rw [side_touched]; exact hsd, hn⟩
      | arrive | create => cases hn
    · exact Or.inl hold

theorem finv_step {s s' : Sys} (hg : Good iss s) (h : FInv iss mt s) (l : LiveStep s s') (hg' : Good iss s') :
    FInv iss mt s' := by
  cases l with
  | same => exact h
  | @touch x o tcb' new sd' htcb c hsd hl =>
    cases c with
    | @loc tcb _ _ l =>
      have k := l.kept hg htcb
      refine finv_set s h x tcb' sd' new hsd hl (fun t ht => by cases htcb.symm.trans ht; exact k.sent) ?_
        (fun g hgm => Or.inl ⟨tcb, htcb, by rw [← k.heap]; exact hgm⟩) ((h.tcb x tcb htcb).kept k)
      -- only `segments()` emits
      cases l with
      | send | receive | tick => exact fun _ hσ => nomatch hσ
      | emit h1 =>
        have hs'x : (((s.setSide x sd').record new).side x).tcb = some tcb' := by rw [side_touched]; exact hsd
        intro σ hσ
        obtain ⟨hbel, hnew, hport, -⟩ := hg.emitted x tcb htcb h1 σ hσ
        refine ⟨hport, ?_⟩
        rcases hnew with ho | ⟨tr, htr, hts⟩
        · -- a pure ACK is numbered `SND.NXT`
          rw [((hg.ext.tcb x tcb htcb).one σ.hdr ho).1, hg.sent_eq x tcb htcb]
          exact k.sent
        · have := hbel.len (hts ▸ ((hg'.ext.tcb x tcb' hs'x).keep tr htr).1)
          omega
    | @arrive tcb _ σ hmem hsrc h1 =>
      have hval := hg.valid hmem hsrc
      have hsub := segmentArrives_heap_sub tcb σ tcb' .Ok h1
      have k := segmentArrives_snd tcb σ tcb' .Ok h1
      have f := h.tcb x tcb htcb
      have ti := hg.tinv x tcb htcb
      -- the peer has a TCB: it has sent something
      obtain ⟨tp, htp⟩ := h.sender hmem hsrc
      have hNp := hg.sent_lt x.peer tp htp
      have hσseq := h.seq x.peer tp htp σ hmem hsrc
      have h31 : (s.side x.peer).submitted.length + 1 < 2147483648 := by
        have := hg.room.side x.peer; omega
      obtain ⟨hk', ha'⟩ := segmentArrives_heapOk ti hval h31 (by unfold InWin; omega) f.hk f.ahead h1
      have hfin : ∀ τ ∈ tcb.incoming.segments, τ.hdr.ctl.fin = false := fun τ hτ => (ti.heap τ hτ).fin
      exact finv_set s h x tcb' sd' [] hsd hl
        (fun t ht => by cases htcb.symm.trans ht; exact Nat.le_of_eq (sent_congr k.iss k.nxt).symm)
        (fun τ hτ => by cases hτ)
        (fun g hgm => (List.mem_cons.1 (hsub g hgm)).elim (fun e => Or.inr ⟨σ, hmem, hsrc, by rw [e]⟩)
          fun hin => Or.inl ⟨tcb, htcb, hin⟩)
        ⟨hk', ha' rfl, by rw [segmentArrives_tmo tcb σ tcb' .Ok hval.fin hfin h1]; exact f.tmo,
          (segmentArrives_mtu tcb σ tcb' .Ok h1).trans f.mtu⟩
    | @create σ issl mtu hmem hsrc hlis _ =>
      obtain ⟨tp, htp⟩ := h.sender hmem hsrc
      have hNp := hg.sent_lt x.peer tp htp
      have hσseq := h.seq x.peer tp htp σ hmem hsrc
      -- the SYN is parked
      have hheap : ∀ g ∈ (listenT σ issl mtu).incoming.segments, g.hdr.seq = σ.hdr.seq := fun g hgm =>
        List.mem_singleton.1 (show g ∈ [parkedSyn σ] from hgm) ▸ rfl
      exact finv_set s h x _ sd' [] hsd hl (fun t ht => by cases htcb.symm.trans ht) (fun τ hτ => by cases hτ)
        (fun g hgm => Or.inr ⟨σ, hmem, hsrc, hheap g hgm⟩)
        ⟨⟨fun g hgm => by unfold InWin; rw [hheap g hgm]; omega, LHeap.isHeap_single _ _⟩, fun hs => (nomatch hs),
          Nat.le_refl _, h.lis x issl mtu hlis⟩

/-- an invariant of live steps between states satisfying `Good` is an invariant of plain runs (H31 is asked of the last
    state only: `submitted` grows along a run) -/
theorem good_run {I : Sys → Prop} (step : ∀ s s', Good iss s → I s → LiveStep s s' → Good iss s' → I s')
    {s s' : Sys} (hc : Conv iss s) (hx : Ext s) (h : I s) (r : PlainRun s s') (hb : RoomH s') : I s' := by
  induction r with
  | refl => exact h
  | step r1 hp e ih =>
    have hb1 := RoomH.of_run (.step (.refl _) hp e) hb
    have g1 := ext_run hc hx r1 hb1
    have g2 := ext_run hc hx (.step r1 hp e) hb
    exact step _ _ ⟨g1.1, g1.2, hb1⟩ (ih hb1) (live_step e hp g1.1.nr g2.1.nr) ⟨g2.1, g2.2, hb⟩

theorem finv_run {s s' : Sys} (hc : Conv iss s) (hx : Ext s) (h : FInv iss mt s) (r : PlainRun s s') (hb : RoomH s') :
    FInv iss mt s' :=
  good_run (fun _ _ hg h l hg' => finv_step hg h l hg') hc hx h r hb

def mtuOf (ma mb : U16) : SideId → U16
  | .A => ma
  | .B => mb

theorem ftcb_open (lp rp : U16) (i : Seq) (m : U16) (base : Seq) : FTcb base m (openT lp rp i m) :=
  ⟨⟨fun _ hg => (nomatch hg), LHeap.isHeap_nil _⟩, fun hs => (nomatch hs), Nat.le_refl _, rfl⟩

theorem init_tcbs {ia ib : Seq} {ma mb : U16} {simultaneous : Bool} {sys : Sys} {rs : List Res}
    (e : Sys.run {} [.open .A ia ma, if simultaneous then .open .B ib mb else .listen .B ib mb] = .ok (sys, rs)) :
    sys.history = [] ∧
    (∀ y t, (sys.side y).tcb = some t → t = openT y.port y.peer.port (issOf ia ib y) (mtuOf ma mb y)) ∧
    (∀ y i m, (sys.side y).listen = some (i, m) → m = mtuOf ma mb y) := by
  obtain ⟨ta, h1, ⟨-, rfl⟩ | ⟨-, tb, h2, rfl⟩⟩ := init_cases e
  all_goals
    rw [open_eq] at h1
    cases h1
  · refine ⟨rfl, fun y t ht => ?_, fun y i m hy => ?_⟩
    · cases y with
      | A => cases ht; rfl
      | B => cases ht
    · cases y with
      | A => cases hy
      | B => cases hy; rfl
  · rw [open_eq] at h2
    cases h2
    refine ⟨rfl, fun y t ht => ?_, fun y i m hy => ?_⟩
    · cases y <;> (cases ht; rfl)
    · cases y <;> cases hy

theorem finv_init (ia ib : Seq) (ma mb : U16) (simultaneous : Bool) (sys : Sys) (rs : List Res)
    (e : Sys.run {} [.open .A ia ma, if simultaneous then .open .B ib mb else .listen .B ib mb] = .ok (sys, rs)) :
    FInv (issOf ia ib) (mtuOf ma mb) sys := by
  obtain ⟨hh, ht, hl⟩ := init_tcbs e
  have none : ∀ σ, σ ∈ sys.history → False := fun σ hσ => by rw [hh] at hσ; cases hσ
  have heap : ∀ y u, (sys.side y).tcb = some u → u.incoming.segments = [] := fun y u hu => by rw [ht y u hu]; rfl
  refine ⟨fun _ _ _ σ hσ => (none σ hσ).elim, fun _ _ => ⟨fun σ hσ => (none σ hσ).elim, fun u hu => heap _ u hu⟩,
    fun _ _ u _ hu σ hσ => ?_, fun y u hu => ?_, hl⟩
  · rw [heap _ u hu] at hσ; cases hσ
  · rw [ht y u hu]; exact ftcb_open _ _ _ _ _

theorem FInv.heapFit {s : Sys} (hf : FInv iss mt s) (y : SideId) (ty tx : Tcb) (hty : (s.side y).tcb = some ty)
    (htx : (s.side y.peer).tcb = some tx) : HeapFit (iss y.peer) tx.sent ty :=
  ⟨(hf.tcb y ty hty).hk, (hf.tcb y ty hty).ahead,
    hf.heapSeq y.peer tx ty htx (by rw [SideId.peer_peer]; exact hty)⟩

/-- an ESTABLISHED endpoint that has received everything its peer `x` has numbered holds nothing in its reorder heap: what
    is parked lies ahead of `RCV.NXT` (`FTcb.ahead`) and not beyond the peer's `SND.NXT` (`heapSeq`) -/
theorem heap_nil_of_sync {s : Sys} (hg : Good iss s) (hf : FInv iss mt s) {x : SideId} {t u : Tcb}
    (ht : (s.side x).tcb = some t) (hu : (s.side x.peer).tcb = some u) (eu : u.state = .Established)
    (hsync : u.rcv.nxt = t.snd.nxt) : u.incoming.segments = [] := by
  apply List.eq_nil_iff_forall_not_mem.2
  intro g hgm
  have h1 : off (iss x.peer.peer) u.rcv.nxt < off (iss x.peer.peer) g.hdr.seq := (hf.tcb x.peer u hu).ahead eu g hgm
  have h2 := hf.heapSeq x t u ht hu g hgm
  rw [SideId.peer_peer, hsync, hg.sent_eq x t ht] at h1
  omega

theorem side_outcome_rough {s s2 : Sys} (hg : Good iss s) (hf : FInv iss mt s) (hg2 : Good iss s2) (y : SideId)
    (ty ty1 tx tx1 : Tcb) (newY newX : List Transmit) (outY outX : List Segment)
    (hty : (s.side y).tcb = some ty) (htx : (s.side y.peer).tcb = some tx)
    (hty1 : (s2.side y).tcb = some ty1) (htx1 : (s2.side y.peer).tcb = some tx1)
    (fY : EmitFx ty newY ty1 outY) (fX : EmitFx tx newX tx1 outX) (RY : RoughX ty) (RX : RoughX tx)
    (hflag : ∀ tr ∈ tx.outgoing.retransmit, tr.needsTransmit = true) :
    ∃ ty2, ty1.arriveList outX = .ok ty2 ∧ ty2.state = .Established ∧ ty2.incoming.segments = [] ∧
      ty2.rcv.nxt = tx1.snd.nxt ∧ ty2.snd.nxt = ty1.snd.nxt ∧ ty2.mtu = ty.mtu ∧
      (∀ tr ∈ ty2.outgoing.retransmit, tr.needsTransmit = false) ∧
      ty2.outgoing.text = ty.outgoing.text.drop (emitAmount ty) ∧
      off (iss y) ty1.snd.una ≤ off (iss y) ty2.snd.una ∧ off (iss y) ty2.snd.una ≤ ty1.sent ∧
      (LastAck ty2 ∨ (tx.snd.una = tx.snd.nxt ∧ tx1.snd.nxt = tx.snd.nxt)) := by
  obtain ⟨ty2, e, k, lo, hi, la⟩ := side_outcome_roughL hg hg2 y ty ty1 tx tx1 newY newX outY outX hty htx hty1 htx1
    fY fX RY RX hflag (hf.heapFit y ty tx hty htx)
  exact ⟨ty2, e, k.st, k.heap, k.rcv, k.nxt, k.mtu, k.unflag, k.text, lo, hi, la⟩

theorem phase_rough (s : Sys) (hg : Good iss s) (hf : FInv iss mt s) (ta tb : Tcb) (hc : Rough s ta tb)
    (hfa : ∀ tr ∈ ta.outgoing.retransmit, tr.needsTransmit = true)
    (hfb : ∀ tr ∈ tb.outgoing.retransmit, tr.needsTransmit = true) :
    ∃ s' ta' tb', phase s = .ok s' ∧ PlainRun s s' ∧ Good iss s' ∧ Steady s' ta' tb' ∧
      ta'.outgoing.text = ta.outgoing.text.drop (emitAmount ta) ∧
      tb'.outgoing.text = tb.outgoing.text.drop (emitAmount tb) :=
  phase_roughL s hg ta tb hc (hf.heapFit .A ta tb hc.ha hc.hb) (hf.heapFit .B tb ta hc.hb hc.ha) hfa hfb

theorem fairRound_rough (n : Nat) (s : Sys) (ta tb : Tcb) (hg : Good iss s) (hf : FInv iss mt s) (hc : Rough s ta tb)
    (wa : ta.outgoing.text.length ≤ 65535 * n) (wb : tb.outgoing.text.length ≤ 65535 * n) :
    ∃ s' ta' tb', fairRound (2 * n + 2) s = .ok s' ∧ PlainRun s s' ∧ Good iss s' ∧ Done s' ta' tb' :=
  fairRound_roughL n s ta tb hg hc (hf.heapFit .A ta tb hc.ha hc.hb) (hf.heapFit .B tb ta hc.hb hc.ha) wa wb

end Elvis.Tcp.Full
