import ElvisVerif.Model.Message
/-! Helper lemmas for C07: each chunk-level loop of `Message` refines `drop`/`take` on bytes. -/
namespace Elvis.Msg

def Chunk.WF (c : Chunk) : Prop := c.start ≤ c.stop ∧ c.stop ≤ c.bytes.length

theorem Chunk.view_length (c : Chunk) (h : c.WF) : c.view.length = c.len := by
  unfold Chunk.view Chunk.len Chunk.WF at *; simp [List.length_take, List.length_drop]; omega

theorem Chunk.new_WF (b : List UInt8) : (Chunk.new b).WF := by simp [Chunk.new, Chunk.WF]
theorem Chunk.new_view (b : List UInt8) : (Chunk.new b).view = b := by simp [Chunk.new, Chunk.view]
theorem Chunk.new_len (b : List UInt8) : (Chunk.new b).len = b.length := by simp [Chunk.new, Chunk.len]

def flat (cs : List Chunk) : List UInt8 := cs.flatMap Chunk.view
def total (cs : List Chunk) : Nat := (cs.map Chunk.len).sum
def AllWF (cs : List Chunk) : Prop := ∀ c ∈ cs, c.WF

@[simp] theorem flat_nil : flat [] = [] := rfl
@[simp] theorem flat_cons (c : Chunk) (cs) : flat (c :: cs) = c.view ++ flat cs := by simp [flat]
@[simp] theorem flat_append (a b : List Chunk) : flat (a ++ b) = flat a ++ flat b := by simp [flat]
@[simp] theorem total_nil : total [] = 0 := rfl
@[simp] theorem total_cons (c : Chunk) (cs) : total (c :: cs) = c.len + total cs := by simp [total]
@[simp] theorem total_append (a b : List Chunk) : total (a ++ b) = total a + total b := by simp [total]

theorem AllWF_cons {c : Chunk} {cs} : AllWF (c :: cs) ↔ c.WF ∧ AllWF cs := by simp [AllWF]
theorem AllWF_append {a b : List Chunk} : AllWF (a ++ b) ↔ AllWF a ∧ AllWF b := by
  simp [AllWF, or_imp, forall_and]
theorem AllWF_nil : AllWF [] := by simp [AllWF]

theorem flat_length (cs : List Chunk) (h : AllWF cs) : (flat cs).length = total cs := by
  induction cs with
  | nil => simp
  | cons c cs ih =>
    have hc : c.WF := h c (by simp)
    have hcs : AllWF cs := fun x hx => h x (by simp [hx])
    simp [Chunk.view_length c hc, ih hcs]

theorem Chunk.drop_spec (c : Chunk) (n : Nat) (hc : c.WF) (hn : n < c.len) :
    ({ c with start := c.start + n } : Chunk).view = c.view.drop n ∧
    ({ c with start := c.start + n } : Chunk).WF ∧ ({ c with start := c.start + n } : Chunk).len = c.len - n := by
  unfold Chunk.len Chunk.WF at *
  refine ⟨?_, ?_, ?_⟩
  · simp only [Chunk.view]; rw [List.drop_take, List.drop_drop]; congr 1
    · omega
  · simp; omega
  · simp; omega

theorem dropLeading_spec (cs : List Chunk) (s : Nat) (h : AllWF cs) (hs : s ≤ total cs) :
    let r := dropLeading cs s
    AllWF r.1 ∧ (flat r.1).drop r.2 = (flat cs).drop s ∧ r.2 ≤ total r.1 ∧
    (∀ c cs', r.1 = c :: cs' → r.2 < c.len) ∧ total r.1 - r.2 = total cs - s := by
  fun_induction dropLeading cs s with
  | case1 s => simp [AllWF] at *; omega
  | case2 c cs s hle ih =>
    obtain ⟨hc, hcs⟩ := AllWF_cons.1 h
    have := ih hcs (by simp at hs; omega)
    simp only at this ⊢
    refine ⟨this.1, ?_, this.2.2.1, this.2.2.2.1, ?_⟩
    · rw [this.2.1, flat_cons, List.drop_append]
      have hl := Chunk.view_length c hc
      have hd : List.drop s c.view = [] := by
        apply List.drop_eq_nil_of_le; omega
      simp [hl, hd]
    · simp; omega
  | case3 c cs s hnle =>
    refine ⟨h, rfl, by simpa using hs, ?_, rfl⟩
    intro c' cs' heq
    cases heq; omega

theorem bumpHead_spec (cs : List Chunk) (s : Nat) (h : AllWF cs)
    (hlt : ∀ c cs', cs = c :: cs' → s < c.len) (hs : s ≤ total cs) :
    AllWF (bumpHead cs s) ∧ flat (bumpHead cs s) = (flat cs).drop s ∧
    total (bumpHead cs s) = total cs - s := by
  cases cs with
  | nil => simp [bumpHead, AllWF]
  | cons c cs =>
    obtain ⟨hc, hcs⟩ := AllWF_cons.1 h
    have hl := hlt c cs rfl
    have hv := Chunk.view_length c hc
    obtain ⟨s2, s4, s6⟩ := Chunk.drop_spec c s hc hl
    refine ⟨AllWF_cons.2 ⟨s4, hcs⟩, ?_, ?_⟩
    · simp only [bumpHead, flat_cons, s2]
      rw [List.drop_append_of_le_length (by omega)]
    · simp only [bumpHead, total_cons, s6]; omega

theorem take_cons_of_le {c : Chunk} (hc : c.WF) {cs rest : List Chunk} {k : Nat} (hk : c.len ≤ k)
    (h : AllWF rest ∧ flat rest = (flat cs).take (k - c.len) ∧ total rest = k - c.len) :
    AllWF (c :: rest) ∧ flat (c :: rest) = (flat (c :: cs)).take k ∧ total (c :: rest) = k := by
  have hv := Chunk.view_length c hc
  refine ⟨AllWF_cons.2 ⟨hc, h.1⟩, ?_, ?_⟩
  · simp only [flat_cons, h.2.1]
    rw [List.take_append, hv]
    have : List.take k c.view = c.view := by apply List.take_of_length_le; omega
    rw [this]
  · simp [h.2.2]; omega

theorem take_within {c : Chunk} (hc : c.WF) {k : Nat} (hk : k < c.len) (cs : List Chunk) :
    AllWF [{ c with stop := c.start + k }] ∧ flat [{ c with stop := c.start + k }] = (flat (c :: cs)).take k ∧
      total [{ c with stop := c.start + k }] = k := by
  have hv := Chunk.view_length c hc
  unfold Chunk.len Chunk.WF at *
  refine ⟨AllWF_cons.2 ⟨by simp only [Chunk.WF]; omega, AllWF_nil⟩, ?_, by simp [Chunk.len]⟩
  simp only [flat_cons, flat_nil, List.append_nil]
  rw [List.take_append_of_le_length (by omega)]
  simp only [Chunk.view]
  rw [List.take_take]
  congr 1; omega

theorem keep_spec (cs : List Chunk) (k : Nat) (h : AllWF cs) (hk : k ≤ total cs) :
    AllWF (keep cs k) ∧ flat (keep cs k) = (flat cs).take k ∧ total (keep cs k) = k := by
  fun_induction keep cs k with
  | case1 k => simp [AllWF] at *; omega
  | case2 c cs k hge ih =>
    obtain ⟨hc, hcs⟩ := AllWF_cons.1 h
    exact take_cons_of_le hc hge (ih hcs (by simp at hk; omega))
  | case3 c cs k hlt => exact take_within (AllWF_cons.1 h).1 (by omega) cs

theorem removeFrontChunks_eq (cs : List Chunk) (n : Nat) :
    removeFrontChunks cs n = bumpHead (dropLeading cs n).1 (dropLeading cs n).2 := by
  induction cs generalizing n with
  | nil => rfl
  | cons c cs ih =>
    by_cases h : c.len ≤ n
    · simp only [removeFrontChunks, dropLeading, if_pos h]; exact ih _
    · simp only [removeFrontChunks, dropLeading, if_neg h, bumpHead]

theorem removeFrontChunks_spec (cs : List Chunk) (n : Nat) (h : AllWF cs) (hn : n ≤ total cs) :
    AllWF (removeFrontChunks cs n) ∧ flat (removeFrontChunks cs n) = (flat cs).drop n ∧
    total (removeFrontChunks cs n) = total cs - n := by
  rw [removeFrontChunks_eq]
  have h1 := dropLeading_spec cs n h hn
  simp only at h1
  obtain ⟨w1, e1, le1, lt1, t1⟩ := h1
  obtain ⟨w2, e2, t2⟩ := bumpHead_spec _ _ w1 lt1 le1
  exact ⟨w2, e2.trans e1, t2.trans t1⟩

theorem slice_refines (cs : List Chunk) (s l : Nat) (h : AllWF cs) (hb : s + l ≤ total cs) :
    AllWF (sliceChunks cs s l) ∧
    flat (sliceChunks cs s l) = ((flat cs).drop s).take l ∧
    total (sliceChunks cs s l) = l := by
  obtain ⟨w, e, t⟩ := removeFrontChunks_spec cs s h (by omega)
  have hk := keep_spec (removeFrontChunks cs s) l w (by omega)
  rw [e, removeFrontChunks_eq] at hk
  exact hk

theorem cutChunks_snd (cs : List Chunk) (n : Nat) : (cutChunks cs n).2 = removeFrontChunks cs n := by
  induction cs generalizing n with
  | nil => rfl
  | cons c cs ih =>
    by_cases h : c.len ≤ n
    · simp only [cutChunks, removeFrontChunks, if_pos h]; exact ih _
    · simp only [cutChunks, removeFrontChunks, if_neg h]

theorem cutChunks_fst_spec (cs : List Chunk) (n : Nat) (h : AllWF cs) (hn : n ≤ total cs) :
    AllWF (cutChunks cs n).1 ∧ flat (cutChunks cs n).1 = (flat cs).take n ∧
    total (cutChunks cs n).1 = n := by
  fun_induction cutChunks cs n with
  | case1 n => simp [AllWF] at *; omega
  | case2 c cs n hle r ih =>
    obtain ⟨hc, hcs⟩ := AllWF_cons.1 h
    exact take_cons_of_le hc hle (ih hcs (by simp at hn; omega))
  | case3 c cs n hnle =>
    by_cases hn : n > 0
    · rw [if_pos hn]; exact take_within (AllWF_cons.1 h).1 (by omega) cs
    · rw [if_neg hn, show n = 0 by omega]; exact ⟨AllWF_nil, rfl, rfl⟩

theorem cutChunks_spec (cs : List Chunk) (n : Nat) (h : AllWF cs) (hn : n ≤ total cs) :
    let r := cutChunks cs n
    AllWF r.1 ∧ AllWF r.2 ∧ flat r.1 = (flat cs).take n ∧ flat r.2 = (flat cs).drop n ∧
    total r.1 = n ∧ total r.2 = total cs - n := by
  obtain ⟨a1, a3, a5⟩ := cutChunks_fst_spec cs n h hn
  obtain ⟨a2, a4, a6⟩ := removeFrontChunks_spec cs n h hn
  simp only [cutChunks_snd]
  exact ⟨a1, a2, a3, a4, a5, a6⟩

end Elvis.Msg
