import ElvisVerif.Lemmas.TcpAckDrain
/-!
# The local calls (`send`, `receive`, `advance_time`, `segments`, `close`) and the ACK numbers

`LStep s s'`: what a local call does to the things the acknowledgment invariant reads — every
header newly queued is no RST and acknowledges exactly `RCV.NXT` (outside SYN-SENT); `SND.UNA`,
`RCV.*`, the reorder heap and ISS are untouched; the state is kept or moves from a state other than SYN-SENT to a
synchronised one (`close`: also out of SYN-RECEIVED).  Plus what LISTEN creates (`listen_create_ack`) and what `open`
creates (`open_ack`).
-/
namespace Elvis.Tcp
open Elvis.ModCmp
namespace Tcb

structure LStep (s s' : Tcb) : Prop where
  q : QStep (NewHdr s') (fun _ => False) s s'
  rcv : s'.rcv = s.rcv
  heap : s'.incoming.segments = s.incoming.segments
  st : s'.state = s.state ∨ (s.state ≠ .SynSent ∧ s'.state ≠ .SynSent ∧ s'.state ≠ .SynReceived)
  iss : s'.snd.iss = s.snd.iss

theorem LStep.una {s s' : Tcb} (h : LStep s s') : s'.snd.una = s.snd.una := by
  rcases h.q.una with e | e
  · exact e
  · exact e.elim

theorem LStep.synsent {s s' : Tcb} (h : LStep s s') : s'.state = .SynSent ↔ s.state = .SynSent := by
  rcases h.st with e | ⟨a, b, _⟩
  · rw [e]
  · exact ⟨fun x => absurd x b, fun x => absurd x a⟩

theorem LStep.rcvd {s s' : Tcb} (h : LStep s s') (hs : s'.state = .SynReceived) : s.state = .SynReceived := by
  rcases h.st with e | ⟨_, _, c⟩
  · rw [← e]; exact hs
  · exact absurd hs c

theorem LStep.top {s s' : Tcb} (h : LStep s s') (base : Seq) : top base s' = top base s := by
  unfold Tcb.top
  rw [h.rcv]
  by_cases hs : s.state = .SynSent
  · rw [if_pos hs, if_pos (h.synsent.2 hs)]
  · rw [if_neg hs, if_neg (fun x => hs (h.synsent.1 x))]

theorem LStep.of_flags {s s' : Tcb} (h1 : s'.outgoing.oneshot = s.outgoing.oneshot)
    (h2 : ∀ tr ∈ s'.outgoing.retransmit, ∃ t0 ∈ s.outgoing.retransmit, t0.segment = tr.segment)
    (h3 : s'.snd = s.snd) (h4 : s'.rcv = s.rcv) (h5 : s'.incoming.segments = s.incoming.segments)
    (h6 : s'.state = s.state) : LStep s s' :=
  ⟨⟨fun _ h => Or.inl (h1 ▸ h), fun tr h => Or.inl (h2 tr h), Or.inl (by rw [h3])⟩, h4, h5, Or.inl h6, by rw [h3]⟩

theorem LStep.refl (s : Tcb) : LStep s s := LStep.of_flags rfl (fun tr h => ⟨tr, h, rfl⟩) rfl rfl rfl rfl

theorem LStep.trans {a b c : Tcb} (h1 : LStep a b) (h2 : LStep b c) : LStep a c := by
  refine ⟨?_, h2.rcv.trans h1.rcv, h2.heap.trans h1.heap, ?_, h2.iss.trans h1.iss⟩
  · refine (h1.q.mono (fun _ hx => hx.congr (by rw [h2.rcv]) (fun hb hc => hb (h2.synsent.1 hc))) (fun _ hx => hx)).trans h2.q
  · rcases h2.st with e2 | ⟨a2, b2, c2⟩
    · rcases h1.st with e1 | ⟨a1, b1, c1⟩
      · exact Or.inl (e2.trans e1)
      · exact Or.inr ⟨a1, by rw [e2]; exact b1, by rw [e2]; exact c1⟩
    · exact Or.inr ⟨fun hx => a2 (h1.synsent.2 hx), b2, c2⟩

theorem send_l (s : Tcb) (m : List UInt8) : LStep s (s.send m) := by
  rw [send_eq]
  split <;> exact LStep.of_flags rfl (fun tr h => ⟨tr, h, rfl⟩) rfl rfl rfl rfl

theorem receive_l (s : Tcb) : LStep s s.receive.1 := by
  rcases receive_cases s with h | h <;> rw [h] <;> exact LStep.of_flags rfl (fun tr h => ⟨tr, h, rfl⟩) rfl rfl rfl rfl

theorem advanceTime_l (s : Tcb) (dt : Nat) (s' : Tcb) (e : s.advanceTime dt = .ok (s', .Ignore)) : LStep s s' := by
  obtain ⟨tmo, rfl | rfl⟩ := advanceTime_flags e
  · exact LStep.of_flags rfl (fun tr h => ⟨tr, h, rfl⟩) rfl rfl rfl rfl
  · refine LStep.of_flags rfl (fun tr h => ?_) rfl rfl rfl rfl
    obtain ⟨y, hy, rfl⟩ := List.mem_map.1 h
    exact ⟨y, hy, rfl⟩

/-- one round of the segmentization loop queues a data segment under the ACK header -/
theorem cutSegment_l (s : Tcb) (b : Nat) (hst : s.state ≠ .SynSent) : LStep s (cutSegment s b) := by
  refine ⟨⟨fun _ h => Or.inl h, fun tr h => ?_, Or.inl rfl⟩, rfl, rfl, Or.inl rfl, rfl⟩
  rcases List.mem_append.1 h with h | h
  · exact Or.inl ⟨tr, h, rfl⟩
  · rw [List.mem_singleton.1 h]
    exact Or.inr (newHdr_ackHdr _ _ rfl hst)

theorem finQueued_l (s : Tcb) (hst : s.state ≠ .SynSent) : LStep s (finQueued s) := by
  rw [finQueued_eq]
  refine ⟨⟨fun _ h => Or.inl h, fun tr h => ?_, Or.inl rfl⟩, rfl, rfl, Or.inl rfl, rfl⟩
  rcases List.mem_append.1 h with h | h
  · exact Or.inl ⟨tr, h, rfl⟩
  · -- the FIN acknowledges RCV.NXT
    rw [List.mem_singleton.1 h]
    exact Or.inr ⟨rfl, rfl, fun _ => ⟨rfl, hst⟩, Or.inl rfl⟩

/-- the rounds of the loop queue data segments under the ACK header, the FIN acknowledges `RCV.NXT`: outside SYN-SENT,
    where the window is closed and no FIN waits -/
theorem Segs.l {m : Nat} {p : Bool} {s s' : Tcb} (h : Segs m p s s') (hw : s.state = .SynSent → s.snd.wnd = 0) : LStep s s' := by
  induction h with
  | done _ => exact LStep.refl _
  | fin _ hcl _ => exact finQueued_l _ (by rcases hcl with h | h | h <;> rw [h] <;> nofun)
  | @cut s s' b _ h0 _ _ hb _ ih =>
    have hst : s.state ≠ .SynSent := fun hs => by
      rw [hw hs] at hb
      exact absurd (Nat.le_trans hb (Nat.le_of_eq (Nat.zero_sub _))) (Nat.not_le.2 h0)
    exact (cutSegment_l s b hst).trans (ih fun hs => absurd hs hst)

theorem segments_l (s s' : Tcb) (out : List Segment) (e : s.segments = .ok (s', out)) (hF : SynSentFresh s) :
    LStep s s' ∧ ∀ σ ∈ out, σ.hdr ∈ s.outgoing.oneshot ∨ ∃ tr ∈ s'.outgoing.retransmit, tr.segment = σ := by
  obtain ⟨s2, tmo, h, rfl⟩ := segments_segs e
  have l0 : LStep s (clearOneshot s) :=
    ⟨⟨fun _ h => (nomatch h), fun tr h => Or.inl ⟨tr, h, rfl⟩, Or.inl rfl⟩, rfl, rfl, Or.inl rfl, rfl⟩
  refine ⟨(l0.trans (h.l fun hs => (hF hs).2.2)).trans (LStep.of_flags rfl (fun tr h => ?_) rfl rfl rfl rfl),
    fun σ hσ => (segments_out e σ hσ).imp_left fun ⟨hd, hhd, hσ⟩ => hσ ▸ hhd⟩
  obtain ⟨t0, ht0, rfl⟩ := List.mem_map.1 h
  exact ⟨t0, ht0, rfl⟩

theorem close_l (s s' : Tcb) (r : CloseResult) (e : s.close = .ok (s', r)) : LStep s s' := by
  rcases close_cases e with rfl | ⟨st, rfl, hst⟩
  · exact LStep.refl _
  · -- the state change (to FIN-WAIT-1 or LAST-ACK, out of a state that is not SYN-SENT), then the FIN if no text waits
    have h5 : s.state ≠ .SynSent := by rcases hst with ⟨h | h, -⟩ | ⟨h, -⟩ <;> rw [h] <;> nofun
    have h6 : st ≠ .SynSent ∧ st ≠ .SynReceived := by rcases hst with ⟨-, rfl⟩ | ⟨-, rfl⟩ <;> exact ⟨nofun, nofun⟩
    have l1 : LStep s { s with state := st } := ⟨QStep.of_eq rfl rfl rfl, rfl, rfl, Or.inr ⟨h5, h6.1, h6.2⟩, rfl⟩
    split
    · exact l1.trans (finQueued_l _ h6.1)
    · exact l1

theorem listen_create_ack (segment : Segment) (iss : Seq) (mtu : U16) (tcb : Tcb)
    (e : segmentArrivesListen segment iss mtu = .ok (some (.Tcb tcb))) :
    tcb.snd.una = iss ∧ tcb.outgoing.oneshot = [] ∧
      (∀ tr ∈ tcb.outgoing.retransmit, tr.segment.hdr.ack = segment.hdr.seq + 1 ∧ tr.segment.hdr.ctl.rst = false) ∧
      (∀ σ ∈ tcb.incoming.segments, σ.hdr.ctl.ack = false ∧ σ.hdr.ctl.rst = segment.hdr.ctl.rst) := by
  obtain ⟨-, -, -, rfl⟩ := segmentArrivesListen_tcb e
  -- the SYN,ACK is all that is queued, the parked SYN all that waits
  exact ⟨rfl, rfl, fun tr htr => by cases List.mem_singleton.1 htr; exact ⟨rfl, rfl⟩,
    fun σ hσ => by cases List.mem_singleton.1 hσ; exact ⟨rfl, rfl⟩⟩

theorem open_ack (lp rp : U16) (iss : Seq) (mtu : U16) (s : Tcb) (e : Tcb.open lp rp iss mtu = .ok s) :
    s.snd.una = iss ∧ s.outgoing.oneshot = [] ∧
      (∀ tr ∈ s.outgoing.retransmit, tr.segment.hdr.ctl.ack = false ∧ tr.segment.hdr.ctl.rst = false) ∧
      s.incoming.segments = [] ∧ SynSentFresh s := by
  rw [open_eq] at e
  cases e
  exact ⟨rfl, rfl, fun tr htr => by cases List.mem_singleton.1 htr; exact ⟨rfl, rfl⟩, rfl, fun _ => ⟨rfl, rfl, rfl⟩⟩

end Tcb
end Elvis.Tcp
