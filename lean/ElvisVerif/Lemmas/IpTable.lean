import ElvisVerif.Model.IpTable
import ElvisVerif.Lemmas.Subnet
/-!
Helper lemmas for C09 (IP table).  Route: `Obm::cmp` is a strict total order on networks whose
`Equal` is structural equality; the table is a strictly sorted list (invariant of every op), so
membership in the list is a function of the key and coincides with the abstract map the history
denotes; `get_recipient` on a sorted list of well-formed networks returns the first, hence the
longest, containing entry; two well-formed networks of equal mask length containing the same
address are equal, so the longest containing key is unique.
-/
namespace Elvis.IpTable
open Elvis.Subnet Elvis.IpTable.Spec

theorem cmpU32_cases (x y : BitVec 32) :
    (cmpU32 x y = .lt ∧ x.toNat < y.toNat) ∨ (cmpU32 x y = .eq ∧ x.toNat = y.toNat) ∨
    (cmpU32 x y = .gt ∧ y.toNat < x.toNat) := by
  unfold cmpU32
  by_cases h1 : x < y
  · rw [if_pos h1]; exact .inl ⟨rfl, BitVec.lt_def.1 h1⟩
  · rw [if_neg h1]
    by_cases h2 : x = y
    · rw [if_pos h2]; exact .inr (.inl ⟨rfl, by rw [h2]⟩)
    · rw [if_neg h2]
      have := mt BitVec.eq_of_toNat_eq h2
      rw [BitVec.lt_def] at h1
      exact .inr (.inr ⟨rfl, by omega⟩)

theorem obmCmp_iff (a b : Net) :
    (obmCmp a b = .lt ↔ (b.mask.bits.toNat < a.mask.bits.toNat ∨
      (a.mask.bits.toNat = b.mask.bits.toNat ∧ a.id.toNat < b.id.toNat))) ∧
    (obmCmp a b = .gt ↔ (a.mask.bits.toNat < b.mask.bits.toNat ∨
      (a.mask.bits.toNat = b.mask.bits.toNat ∧ b.id.toNat < a.id.toNat))) ∧
    (obmCmp a b = .eq ↔ (a.mask.bits.toNat = b.mask.bits.toNat ∧ a.id.toNat = b.id.toNat)) := by
  unfold obmCmp
  rcases cmpU32_cases a.mask.bits b.mask.bits with ⟨e, h⟩ | ⟨e, h⟩ | ⟨e, h⟩
  · rw [e]; simp; omega
  · rw [e]
    rcases cmpU32_cases a.id b.id with ⟨e', h'⟩ | ⟨e', h'⟩ | ⟨e', h'⟩ <;> (rw [e']; simp; omega)
  · rw [e]; simp; omega

theorem obm_lt_iff (a b : Net) : obmCmp a b = .lt ↔
    (b.mask.bits.toNat < a.mask.bits.toNat ∨
      (a.mask.bits.toNat = b.mask.bits.toNat ∧ a.id.toNat < b.id.toNat)) :=
  (obmCmp_iff a b).1

theorem obm_gt_iff (a b : Net) : obmCmp a b = .gt ↔ obmCmp b a = .lt := by
  rw [obm_lt_iff, (obmCmp_iff a b).2.1]
  omega

theorem net_ext {a b : Net} (h1 : a.mask.bits.toNat = b.mask.bits.toNat)
    (h2 : a.id.toNat = b.id.toNat) : a = b := by
  cases a with
  | mk ia ma =>
    cases b with
    | mk ib mb =>
      cases ma; cases mb
      simp only at h1 h2
      have := BitVec.eq_of_toNat_eq h1
      have := BitVec.eq_of_toNat_eq h2
      subst_vars; rfl

theorem obm_eq_iff (a b : Net) : obmCmp a b = .eq ↔ a = b := by
  rw [(obmCmp_iff a b).2.2]
  constructor
  · intro h; exact net_ext h.1 h.2
  · intro h; subst h; exact ⟨rfl, rfl⟩

theorem obm_irrefl (a : Net) : obmCmp a a ≠ .lt := by
  rw [(obm_eq_iff a a).2 rfl]; intro h; cases h

theorem obm_trans {a b c : Net} (h1 : obmCmp a b = .lt) (h2 : obmCmp b c = .lt) :
    obmCmp a c = .lt := by
  rw [obm_lt_iff] at *; omega

theorem obm_lt_ne {a b : Net} (h : obmCmp a b = .lt) : a ≠ b := by
  intro e; subst e; exact obm_irrefl a h

theorem ne_of_obm_gt {k h : Net} (hgt : obmCmp k h = .gt) : h ≠ k :=
  obm_lt_ne ((obm_gt_iff k h).1 hgt)

theorem obm_lt_mask {a b : Net} (h : obmCmp a b = .lt) : b.mask.bits ≤ a.mask.bits := by
  rw [obm_lt_iff] at h; rw [BitVec.le_def]; omega

def Sorted {V : Type} (t : Table V) : Prop := t.Pairwise (fun x y => obmCmp x.1 y.1 = .lt)

theorem sorted_cons {V : Type} {h : Net} {hv : V} {t : Table V} :
    Sorted ((h, hv) :: t) ↔ (∀ y ∈ t, obmCmp h y.1 = .lt) ∧ Sorted t := List.pairwise_cons

theorem not_mem_of_lt_head {V : Type} {k h : Net} {hv v' : V} {t : Table V}
    (hhd : ∀ y ∈ t, obmCmp h y.1 = .lt) (hlt : obmCmp k h = .lt) : (k, v') ∉ (h, hv) :: t := by
  intro hx
  rw [List.mem_cons] at hx
  cases hx with
  | inl e => injection e with e1 _; subst e1; exact obm_irrefl _ hlt
  | inr e => exact obm_irrefl _ (obm_trans hlt (hhd _ e))

theorem mem_iff_ne_and_mem {V : Type} {k : Net} {t : Table V} (hk : ∀ v, (k, v) ∉ t) (k' : Net) (v' : V) :
    (k', v') ∈ t ↔ k' ≠ k ∧ (k', v') ∈ t :=
  ⟨fun e => ⟨fun ek => hk v' (ek ▸ e), e⟩, And.right⟩

theorem ne_and_mem_cons {V : Type} {k k' : Net} {v' w : V} {t : Table V} :
    (k' ≠ k ∧ (k', v') ∈ (k, w) :: t) ↔ (k' ≠ k ∧ (k', v') ∈ t) := by
  rw [List.mem_cons, Prod.mk.injEq]
  exact and_congr_right fun hne => ⟨fun e => e.resolve_left (fun e' => hne e'.1), Or.inr⟩

theorem ne_and_mem_cons_of_ne {V : Type} {h k k' : Net} {hv v' : V} {t : Table V} (hne : h ≠ k) :
    (k' ≠ k ∧ (k', v') ∈ (h, hv) :: t) ↔ (k', v') = (h, hv) ∨ (k' ≠ k ∧ (k', v') ∈ t) := by
  rw [List.mem_cons, and_or_left]
  exact or_congr_left (and_iff_right_of_imp fun e => by rw [(Prod.mk.inj e).1]; exact hne)

theorem head_not_mem_tail {V : Type} {h : Net} {t : Table V} (hhd : ∀ y ∈ t, obmCmp h y.1 = .lt) (v : V) :
    (h, v) ∉ t :=
  fun e => obm_irrefl _ (hhd _ e)

theorem insert_spec {V : Type} (k : Net) (v : V) (t : Table V) (hs : Sorted t) :
    Sorted (insert k v t) ∧
      ∀ k' v', (k', v') ∈ insert k v t ↔ (k' = k ∧ v' = v) ∨ (k' ≠ k ∧ (k', v') ∈ t) := by
  fun_induction insert k v t with
  | case1 =>
    refine ⟨List.pairwise_singleton _ _, fun k' v' => ?_⟩
    simp only [List.mem_singleton, Prod.mk.injEq, List.not_mem_nil, and_false, or_false]
  | case2 h hv t hlt =>
    obtain ⟨hhd, htl⟩ := sorted_cons.1 hs
    refine ⟨sorted_cons.2 ⟨List.forall_mem_cons.2 ⟨hlt, fun y hy => obm_trans hlt (hhd y hy)⟩, hs⟩,
      fun k' v' => ?_⟩
    rw [List.mem_cons, Prod.mk.injEq]
    exact or_congr_right (mem_iff_ne_and_mem (fun _ => not_mem_of_lt_head hhd hlt) k' v')
  | case3 h hv t heq =>
    obtain ⟨hhd, htl⟩ := sorted_cons.1 hs
    have hk : k = h := (obm_eq_iff k h).1 heq
    subst hk
    refine ⟨sorted_cons.2 ⟨hhd, htl⟩, fun k' v' => ?_⟩
    rw [List.mem_cons, Prod.mk.injEq, ne_and_mem_cons, ← mem_iff_ne_and_mem (head_not_mem_tail hhd)]
  | case4 h hv t hgt ih =>
    obtain ⟨hhd, htl⟩ := sorted_cons.1 hs
    obtain ⟨ihs, ihm⟩ := ih htl
    refine ⟨sorted_cons.2 ⟨?_, ihs⟩, fun k' v' => ?_⟩
    · intro ⟨y, w⟩ hy
      rcases (ihm y w).1 hy with e | e
      · rw [e.1]; exact (obm_gt_iff k h).1 hgt
      · exact hhd _ e.2
    · rw [ne_and_mem_cons_of_ne (ne_of_obm_gt hgt), List.mem_cons, ihm, or_left_comm]

theorem erase_spec {V : Type} (k : Net) (t : Table V) (hs : Sorted t) :
    Sorted (erase k t) ∧ ∀ k' v', (k', v') ∈ erase k t ↔ k' ≠ k ∧ (k', v') ∈ t := by
  fun_induction erase k t with
  | case1 => exact ⟨hs, fun k' v' => by simp⟩
  | case2 h hv t hlt =>
    exact ⟨hs, mem_iff_ne_and_mem (fun _ => not_mem_of_lt_head (sorted_cons.1 hs).1 hlt)⟩
  | case3 h hv t heq =>
    obtain ⟨hhd, htl⟩ := sorted_cons.1 hs
    have hk : k = h := (obm_eq_iff k h).1 heq
    subst hk
    refine ⟨htl, fun k' v' => ?_⟩
    rw [ne_and_mem_cons]
    exact mem_iff_ne_and_mem (head_not_mem_tail hhd) k' v'
  | case4 h hv t hgt ih =>
    obtain ⟨hhd, htl⟩ := sorted_cons.1 hs
    obtain ⟨ihs, ihm⟩ := ih htl
    refine ⟨sorted_cons.2 ⟨fun y hy => hhd y ((ihm y.1 y.2).1 hy).2, ihs⟩, fun k' v' => ?_⟩
    rw [ne_and_mem_cons_of_ne (ne_of_obm_gt hgt), List.mem_cons, ihm]

theorem find_eq_some_iff {V : Type} (t : Table V) (hs : Sorted t) (k : Net) (v : V) :
    find k t = some v ↔ (k, v) ∈ t := by
  fun_induction find k t with
  | case1 => simp
  | case2 h hv t hlt =>
    exact ⟨fun e => (nomatch e), fun hx => absurd hx (not_mem_of_lt_head (sorted_cons.1 hs).1 hlt)⟩
  | case3 h hv t heq =>
    obtain ⟨hhd, htl⟩ := sorted_cons.1 hs
    have hk : k = h := (obm_eq_iff k h).1 heq
    subst hk
    rw [List.mem_cons, Prod.mk.injEq, Option.some.injEq, or_iff_left (head_not_mem_tail hhd v)]
    exact ⟨fun e => ⟨rfl, e.symm⟩, fun e => e.2.symm⟩
  | case4 h hv t hgt ih =>
    have hne : k ≠ h := (ne_of_obm_gt hgt).symm
    rw [ih (sorted_cons.1 hs).2, List.mem_cons, Prod.mk.injEq]
    exact ⟨Or.inr, fun e => e.resolve_left (fun e => hne e.1)⟩

theorem sorted_functional {V : Type} (t : Table V) (hs : Sorted t) (k : Net) (v w : V)
    (h1 : (k, v) ∈ t) (h2 : (k, w) ∈ t) : v = w :=
  Option.some.inj
    (((find_eq_some_iff t hs k v).2 h1).symm.trans ((find_eq_some_iff t hs k w).2 h2))

def Rep {V : Type} (t : Table V) (m : AMap V) : Prop :=
  Sorted t ∧ ∀ k v, (k, v) ∈ t ↔ m k = some v

def MapWF {V : Type} (m : AMap V) : Prop := ∀ k v, m k = some v → k.WF

/-- the networks an op carries are values of the (opaque) type `Ipv4Net` -/
def Op.WF {V : Type} : Op V → Prop
  | .add k _ => k.WF
  | .remove k => k.WF
  | _ => True

theorem rep_insert {V : Type} {t : Table V} {m : AMap V} (h : Rep t m) (k : Net) (v : V) :
    Rep (insert k v t) (update m k (some v)) := by
  obtain ⟨hs, hm⟩ := insert_spec k v t h.1
  refine ⟨hs, ?_⟩
  intro k' v'
  rw [hm, h.2]
  unfold update
  by_cases e : k' = k
  · simp [e]; exact eq_comm
  · simp [e]

theorem rep_erase {V : Type} {t : Table V} {m : AMap V} (h : Rep t m) (k : Net) :
    Rep (erase k t) (update m k none) := by
  obtain ⟨hs, hm⟩ := erase_spec k t h.1
  refine ⟨hs, ?_⟩
  intro k' v'
  rw [hm, h.2]
  unfold update
  by_cases e : k' = k
  · simp [e]
  · simp [e]

theorem rep_step {V : Type} {t t' : Table V} {m : AMap V} (h : Rep t m) (op : Op V)
    (hs : step t op = .ok t') : Rep t' (denoteStep m op) := by
  cases op with
  | add k v | addDirect ip v => cases hs; exact rep_insert h _ v
  | remove k | removeDirect ip => cases hs; exact rep_erase h _
  | addCidr s v =>
    simp only [step] at hs
    simp only [denoteStep]
    cases hc : Net.fromCidr s with
    | ok k => rw [hc] at hs; cases hs; exact rep_insert h k v
    | error e => rw [hc] at hs; cases hs; exact h
  | removeCidr s =>
    simp only [step] at hs
    simp only [denoteStep]
    cases hc : Net.fromCidr s with
    | ok k => rw [hc] at hs; cases hs; exact rep_erase h k
    | error e => rw [hc] at hs; cases hs

theorem mapwf_update {V : Type} {m : AMap V} (h : MapWF m) (k : Net) (r : Option V) (hk : k.WF) :
    MapWF (update m k r) := by
  intro k' v' hm
  unfold update at hm
  by_cases e : k' = k
  · rw [e]; exact hk
  · rw [if_neg e] at hm; exact h k' v' hm

theorem mapwf_step {V : Type} {m : AMap V} (h : MapWF m) (op : Op V) (hop : Op.WF op) :
    MapWF (denoteStep m op) := by
  cases op with
  | add k v | remove k => exact mapwf_update h k _ hop
  | addDirect ip v | removeDirect ip =>
    exact mapwf_update h _ _ (Net.wf_new ip _ (Mask.wf_fromBitcount 32))
  | addCidr s v | removeCidr s =>
    simp only [denoteStep]
    split
    · rename_i k hk; exact mapwf_update h k _ (Net.wf_fromCidr hk)
    · exact h

theorem rep_runFrom {V : Type} (ops : List (Op V)) (t t' : Table V) (m : AMap V) (h : Rep t m)
    (hr : runFrom t ops = .ok t') : Rep t' (denoteFrom m ops) := by
  induction ops generalizing t m with
  | nil => simp only [runFrom] at hr; injection hr with hr; subst hr; exact h
  | cons op ops ih =>
    simp only [runFrom] at hr
    split at hr
    · rename_i t1 h1
      exact ih t1 (denoteStep m op) (rep_step h op h1) hr
    · cases hr

theorem mapwf_denoteFrom {V : Type} (ops : List (Op V)) (m : AMap V) (h : MapWF m)
    (hops : ∀ op ∈ ops, Op.WF op) : MapWF (denoteFrom m ops) := by
  induction ops generalizing m with
  | nil => exact h
  | cons op ops ih =>
    simp only [denoteFrom]
    exact ih _ (mapwf_step h op (hops op List.mem_cons_self))
      (fun o ho => hops o (List.mem_cons_of_mem _ ho))

theorem rep_empty {V : Type} : Rep (new : Table V) (fun _ => none) := by
  refine ⟨List.Pairwise.nil, ?_⟩
  intro k v; simp [new]

theorem mapwf_empty {V : Type} : MapWF (fun _ => none : AMap V) := by
  intro k v h; cases h

theorem len_le_of_mask_le {a b : Net} (ha : a.WF) (hb : b.WF) (h : b.mask.bits ≤ a.mask.bits) :
    len b ≤ len a := by
  obtain ⟨ea, la⟩ := ha.1.eq
  obtain ⟨eb, lb⟩ := hb.1.eq
  rw [ea, eb] at h
  exact (fromBitcount_le_iff lb la).1 h

theorem getRecipient_spec {V : Type} (t : Table V) (hs : Sorted t) (hw : ∀ x ∈ t, x.1.WF) (a : Addr) :
    (getRecipient t a = none ∧ ∀ x ∈ t, x.1.contains a = false) ∨
    (∃ k v, (k, v) ∈ t ∧ k.contains a = true ∧ getRecipient t a = some v ∧
      ∀ x ∈ t, x.1.contains a = true → len x.1 ≤ len k) := by
  fun_induction getRecipient t a with
  | case1 => exact .inl ⟨rfl, fun x hx => nomatch hx⟩
  | case2 n v t a hc =>
    obtain ⟨hwn, hwt⟩ := List.forall_mem_cons.1 hw
    refine .inr ⟨n, v, List.mem_cons_self, hc, rfl, List.forall_mem_cons.2 ⟨fun _ => Nat.le_refl _, ?_⟩⟩
    intro x hx _
    exact len_le_of_mask_le hwn (hwt x hx) (obm_lt_mask ((sorted_cons.1 hs).1 x hx))
  | case3 n v t a hc ih =>
    have hcf : n.contains a = false := by simpa using hc
    rcases ih (sorted_cons.1 hs).2 (List.forall_mem_cons.1 hw).2 with ⟨e, hn⟩ | ⟨k, w, hk1, hk2, e, hk3⟩
    · exact .inl ⟨e, List.forall_mem_cons.2 ⟨hcf, hn⟩⟩
    · refine .inr ⟨k, w, List.mem_cons_of_mem _ hk1, hk2, e, List.forall_mem_cons.2 ⟨?_, hk3⟩⟩
      intro hxc
      rw [hcf] at hxc; cases hxc

theorem getRecipient_isLpm {V : Type} {t : Table V} {m : AMap V} (h : Rep t m) (hw : MapWF m)
    (a : Addr) : IsLpm m a (getRecipient t a) := by
  have hwt : ∀ x ∈ t, x.1.WF := fun x hx => hw x.1 x.2 ((h.2 x.1 x.2).1 hx)
  rcases getRecipient_spec t h.1 hwt a with ⟨e, hn⟩ | ⟨k, v, hk1, hk2, e, hk3⟩
  · exact .inl ⟨e, fun k v hm => hn (k, v) ((h.2 k v).2 hm)⟩
  · exact .inr ⟨k, v, (h.2 k v).1 hk1, hk2, e,
      fun k' v' hm hc => hk3 (k', v') ((h.2 k' v').2 hm) hc⟩

theorem net_unique {a b : Net} {x : Addr} (ha : a.WF) (hb : b.WF) (hl : len a = len b)
    (ca : a.contains x = true) (cb : b.contains x = true) : a = b := by
  have ea := ha.1.eq.1
  have eb := hb.1.eq.1
  have hm : a.mask = b.mask := by
    rw [ea, eb]; unfold len at hl; rw [hl]
  rw [Net.eq_new_of_contains ca, Net.eq_new_of_contains cb, hm]

theorem lpmFrom_spec {V : Type} (m : AMap V) (a : Addr) (n : Nat) :
    match lpmFrom m a n with
    | none => ∀ j, j ≤ n → m (Net.new a (Mask.fromBitcount j)) = none
    | some v => ∃ j, j ≤ n ∧ m (Net.new a (Mask.fromBitcount j)) = some v ∧
        ∀ j', j < j' → j' ≤ n → m (Net.new a (Mask.fromBitcount j')) = none := by
  fun_induction lpmFrom m a n with
  | case1 =>
    split
    · rename_i h
      intro j hj
      rw [Nat.le_zero.1 hj]; exact h
    · rename_i v h
      exact ⟨0, Nat.le_refl 0, h, fun j' h1 h2 => by omega⟩
  | case2 n v hcur => exact ⟨n + 1, Nat.le_refl _, hcur, fun j' h1 h2 => by omega⟩
  | case3 n hcur ih =>
    have hlast : ∀ j, j ≤ n + 1 → ¬ j ≤ n → m (Net.new a (Mask.fromBitcount j)) = none := by
      intro j h1 h2
      rw [show j = n + 1 by omega]; exact hcur
    generalize lpmFrom m a n = r at ih ⊢
    cases r with
    | none => exact fun j hj => if e : j ≤ n then ih j e else hlast j hj e
    | some v =>
      obtain ⟨j, hj, hmj, hrest⟩ := ih
      exact ⟨j, by omega, hmj, fun j' h1 h2 => if e : j' ≤ n then hrest j' h1 e else hlast j' h2 e⟩

theorem lpm_isLpm {V : Type} {m : AMap V} (hw : MapWF m) (a : Addr) : IsLpm m a (lpm m a) := by
  have hsp := lpmFrom_spec m a 32
  have key : ∀ k v, m k = some v → k.contains a = true →
      k = Net.new a (Mask.fromBitcount (len k)) ∧ len k ≤ 32 := by
    intro k v hm hc
    obtain ⟨e, l⟩ := (hw k v hm).1.eq
    refine ⟨?_, l⟩
    have h := Net.eq_new_of_contains hc
    unfold len
    rw [← e]
    exact h
  unfold lpm
  split at hsp
  · rename_i hnone
    left
    refine ⟨hnone, ?_⟩
    intro k v hm
    cases hc : k.contains a with
    | false => rfl
    | true =>
      obtain ⟨e, l⟩ := key k v hm hc
      have := hsp (len k) l
      rw [← e, hm] at this
      cases this
  · rename_i v hsome
    right
    obtain ⟨j, hj, hmj, hrest⟩ := hsp
    refine ⟨_, v, hmj, Net.contains_new a _, hsome, ?_⟩
    intro k' v' hm' hc'
    obtain ⟨e, l⟩ := key k' v' hm' hc'
    have hlen : len (Net.new a (Mask.fromBitcount j)) = j := countOnes_fromBitcount hj
    rw [hlen]
    by_cases hgt : j < len k'
    · have := hrest (len k') hgt l
      rw [← e, hm'] at this
      cases this
    · omega

theorem sorted_ext {V : Type} (t1 t2 : Table V) (h1 : Sorted t1) (h2 : Sorted t2)
    (h : ∀ x, x ∈ t1 ↔ x ∈ t2) : t1 = t2 := by
  have nodup : ∀ {t : Table V}, Sorted t → t.Nodup :=
    fun hs => List.Pairwise.imp (S := (· ≠ ·)) (fun hlt e => obm_lt_ne hlt (congrArg Prod.fst e)) hs
  exact List.Perm.eq_of_pairwise (fun a b _ _ hab hba => absurd (obm_trans hab hba) (obm_irrefl _))
    h1 h2 ((List.perm_ext_iff_of_nodup (nodup h1) (nodup h2)).2 h)

end Elvis.IpTable
