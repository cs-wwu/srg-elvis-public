import ElvisVerif.Lemmas.TcpRelFwd
import ElvisVerif.Lemmas.TcpConvBatch
import ElvisVerif.Lemmas.TcpConvExchange
import ElvisVerif.Lemmas.TcpRelSeq
import ElvisVerif.Lemmas.TcpRelEmit
/-!
# FIN-WAIT-1 / FIN-WAIT-2 take a batch of pure ACKs

The closer has segmentized all its text and numbered its FIN (`outgoing.text = []`); the peer's pure ACKs — of the
data, then of the FIN — arrive in order.  One pure ACK at `RCV.NXT` whose ACK field is old or acceptable moves only
`SND.UNA` and the retransmission queue, and the state is FIN-WAIT-2 as soon as `SND.UNA = SND.NXT` (`arrive_ack_fwx`);
`ackList_fwx`, `ackList_fin` take a list of them (`AcksFor`, `Lemmas/TcpConvBatch.lean`).  `closer_acked`: the closer
after the closing `segments()` takes two lists with an emission between them, the second ending with the ACK of the
FIN: FIN-WAIT-2, at rest.  Sequence numbers are measured as offsets from a base (`iss`, `base`): any number will do
(the ISS where the invariants speak of it, `SND.NXT` before the close from a quiet state).
-/
namespace Elvis.Tcp
open Elvis.ModCmp Elvis.Tcp.Fin
namespace Tcb

structure FwFx (t : Tcb) (seg : Hdr) (t2 : Tcb) : Prop where
  una : t2.snd.una = if modLeq seg.ack t.snd.una then t.snd.una else seg.ack
  rtx : t2.outgoing.retransmit = if modLeq seg.ack t.snd.una then t.outgoing.retransmit
    else t.outgoing.retransmit.filter (keepFor seg.ack)
  rcv : t2.rcv = t.rcv
  inc : t2.incoming = t.incoming
  otext : t2.outgoing.text = t.outgoing.text
  one : t2.outgoing.oneshot = t.outgoing.oneshot
  nxt : t2.snd.nxt = t.snd.nxt
  mtu : t2.mtu = t.mtu
  iss : t2.snd.iss = t.snd.iss
  lp : t2.localPort = t.localPort
  rp : t2.remotePort = t.remotePort
  st : t2.state = .FinWait1 ∨ t2.state = .FinWait2
  done : t2.snd.una = t2.snd.nxt → t2.state = .FinWait2
  keep2 : t.state = .FinWait2 → t2.state = .FinWait2

theorem arrive_ack_fwx (t : Tcb) (g : Segment) (hst : t.state = .FinWait1 ∨ t.state = .FinWait2)
    (hw : t.rcv.wnd = 65535#16) (hheap : t.incoming.segments = []) (ht : t.outgoing.text = [])
    (hp : PureAck g) (hseq : g.hdr.seq = t.rcv.nxt)
    (hg : modLeq g.hdr.ack t.snd.una = true ∨ modBounded t.snd.una .Lt g.hdr.ack .Leq t.snd.nxt = true) :
    ∃ t2, t.segmentArrives g = .ok (t2, .Ok) ∧ FwFx t g.hdr t2 := by
  have hns : t.state ≠ .SynSent := by rcases hst with h | h <;> rw [h] <;> simp
  have hok := C01.isSeqOk_ack hw hp.text hp.syn hp.fin hseq
  obtain ⟨t1, e1, fx⟩ := ackEst_fwd t g.hdr hg
  have hfa : t1.isFinAcked = (t1.snd.nxt == t1.snd.una) := by
    rw [isFinAcked_eq]
    rw [finPending_eq, fx.otext, ht]
    simp
  have fin : ∀ t2 : Tcb, ackBlock t g.hdr = .ok (t2, none) → t2.state ≠ .SynSent →
      t.segmentArrives g = .ok (t2, .Ok) := by
    intro t2 c2 hns2
    exact arrive_pure hns hns2 hheap hok hp.rst hp.syn hp.text hseq c2 (finBlock_pass hp.fin)
  obtain ⟨k1, k2, _⟩ := ackBlock_success t t1 g.hdr hp.ackb e1
  rcases hst with h1 | h2
  · cases hb : t1.isFinAcked with
    | false =>
      have e := fin t1 (by rw [k2 h1, hb]; rfl) (by rw [fx.st, h1]; simp)
      have k := segmentArrives_snd t g t1 .Ok e
      refine ⟨t1, e, fx.una, fx.rtx, fx.rcv, fx.inc, fx.otext, fx.one, fx.nxt, fx.mtu, k.iss, k.lp, k.rp,
        Or.inl (by rw [fx.st, h1]), ?_, fun h => by rw [h1] at h; cases h⟩
      intro hu
      rw [hfa, hu] at hb
      simp at hb
    | true =>
      have e := fin ({ t1 with state := .FinWait2 } : Tcb) (by rw [k2 h1, hb]; rfl) (by simp)
      have k := segmentArrives_snd t g _ .Ok e
      exact ⟨_, e, fx.una, fx.rtx, fx.rcv, fx.inc, fx.otext, fx.one, fx.nxt, fx.mtu, k.iss, k.lp, k.rp,
        Or.inr rfl, fun _ => rfl, fun _ => rfl⟩
  · have e := fin t1 (k1 (Or.inr h2)) (by rw [fx.st, h2]; simp)
    have k := segmentArrives_snd t g t1 .Ok e
    exact ⟨t1, e, fx.una, fx.rtx, fx.rcv, fx.inc, fx.otext, fx.one, fx.nxt, fx.mtu, k.iss, k.lp, k.rp,
      Or.inr (by rw [fx.st, h2]), fun _ => by rw [fx.st, h2], fun _ => by rw [fx.st, h2]⟩

structure FwListFx (iss : Seq) (t : Tcb) (gs : List Segment) (t' : Tcb) : Prop where
  una : off iss t'.snd.una = max (off iss t.snd.una) (maxAck iss gs)
  rtx : ∀ tr ∈ t'.outgoing.retransmit, tr ∈ t.outgoing.retransmit ∧ keepFor t'.snd.una tr = true
  rcv : t'.rcv = t.rcv
  inc : t'.incoming = t.incoming
  otext : t'.outgoing.text = t.outgoing.text
  one : t'.outgoing.oneshot = t.outgoing.oneshot
  nxt : t'.snd.nxt = t.snd.nxt
  mtu : t'.mtu = t.mtu
  iss : t'.snd.iss = t.snd.iss
  lp : t'.localPort = t.localPort
  rp : t'.remotePort = t.remotePort
  st : t'.state = .FinWait1 ∨ t'.state = .FinWait2
  done : gs ≠ [] → t'.snd.una = t'.snd.nxt → t'.state = .FinWait2

theorem ackList_fwx (iss : Seq) (N : Nat) (hN : N < 2147483648) (gs : List Segment) :
    ∀ (t : Tcb), (t.state = .FinWait1 ∨ t.state = .FinWait2) → t.rcv.wnd = 65535#16 → t.incoming.segments = [] →
      t.outgoing.text = [] → off iss t.snd.nxt = N → off iss t.snd.una ≤ N →
      (∀ g ∈ gs, PureAck g ∧ g.hdr.seq = t.rcv.nxt ∧ 1 ≤ off iss g.hdr.ack ∧ off iss g.hdr.ack ≤ N) →
      (∀ tr ∈ t.outgoing.retransmit, keepFor t.snd.una tr = true) →
      ∃ t', arriveList t gs = .ok t' ∧ FwListFx iss t gs t' := by
  induction gs with
  | nil =>
    intro t hst hw hheap htext hsent hu hall hq
    exact ⟨t, rfl, by simp [maxAck], fun tr htr => ⟨htr, hq tr htr⟩, rfl, rfl, rfl, rfl, rfl, rfl, rfl, rfl, rfl, hst,
      fun h => (h rfl).elim⟩
  | cons g rest ih =>
    intro t hst hw hheap htext hsent hu hall hq
    obtain ⟨hp, hseq, ha1, ha2⟩ := hall g List.mem_cons_self
    obtain ⟨t2, e2, fx⟩ := arrive_ack_fwx t g hst hw hheap htext hp hseq
      (ackGood_of_off iss _ _ _ (by omega) (by omega) (by omega))
    obtain ⟨hu2, hr2⟩ := ack_max hN fx.una fx.rtx hu ha2 hq
    have hq2 : ∀ tr ∈ t2.outgoing.retransmit, tr ∈ t.outgoing.retransmit ∧ keepFor t2.snd.una tr = true :=
      fun tr htr => List.mem_filter.1 (hr2 ▸ htr)
    obtain ⟨t', e', lf⟩ := ih t2 fx.st (by rw [fx.rcv]; exact hw) (by rw [fx.inc]; exact hheap)
      (by rw [fx.otext]; exact htext) (by rw [fx.nxt]; exact hsent)
      (by rw [hu2]; omega)
      (fun g' hg' => by
        obtain ⟨a, b, c, d⟩ := hall g' (List.mem_cons_of_mem _ hg')
        exact ⟨a, by rw [fx.rcv]; exact b, c, d⟩)
      (fun tr htr => (hq2 tr htr).2)
    refine ⟨t', by simp only [arriveList, e2]; exact e', ?_, fun tr htr => ?_, by rw [lf.rcv, fx.rcv],
      by rw [lf.inc, fx.inc], by rw [lf.otext, fx.otext], by rw [lf.one, fx.one], by rw [lf.nxt, fx.nxt],
      by rw [lf.mtu, fx.mtu], by rw [lf.iss, fx.iss], by rw [lf.lp, fx.lp], by rw [lf.rp, fx.rp], lf.st, fun _ hd => ?_⟩
    · rw [lf.una, hu2]
      simp only [maxAck]
      omega
    · obtain ⟨h1, h2⟩ := lf.rtx tr htr
      exact ⟨(hq2 tr h1).1, h2⟩
    · cases rest with
      | nil =>
        simp only [arriveList] at e'
        cases e'
        exact fx.done hd
      | cons g' rest' => exact lf.done (by simp) hd

theorem ackList_fin (iss : Seq) (N : Nat) (hN : N < 2147483648) (gs : List Segment) (t : Tcb)
    (hst : t.state = .FinWait1 ∨ t.state = .FinWait2) (hw : t.rcv.wnd = 65535#16) (hheap : t.incoming.segments = [])
    (htext : t.outgoing.text = []) (hsent : off iss t.snd.nxt = N) (hu : off iss t.snd.una ≤ N)
    (hall : AcksFor iss t.rcv.nxt N gs) (hq : ∀ tr ∈ t.outgoing.retransmit, keepFor t.snd.una tr = true)
    (hend : ∀ tr ∈ t.outgoing.retransmit, off iss (txEnd tr) ≤ N)
    (g : Segment) (hg : g ∈ gs) (hfin : off iss g.hdr.ack = N) :
    ∃ t', arriveList t gs = .ok t' ∧ FwListFx iss t gs t' ∧ t'.state = .FinWait2 ∧ t'.snd.una = t'.snd.nxt ∧
      t'.outgoing.retransmit = [] := by
  obtain ⟨t', e, lf⟩ := ackList_fwx iss N hN gs t hst hw hheap htext hsent hu hall hq
  have hmax : maxAck iss gs = N :=
    Nat.le_antisymm hall.maxAck_le (by rw [← hfin]; exact maxAck_ge iss gs g hg)
  have hu' : off iss t'.snd.una = N := by rw [lf.una, hmax]; exact Nat.max_eq_right hu
  have hun : t'.snd.una = t'.snd.nxt := off_inj (base := iss) (by rw [hu', lf.nxt, hsent])
  refine ⟨t', e, lf, lf.done (List.ne_nil_of_mem hg) hun, hun, List.eq_nil_iff_forall_not_mem.2 fun tr htr => ?_⟩
  obtain ⟨k1, k2⟩ := lf.rtx tr htr
  have := (keepFor_iff iss t'.snd.una tr N hN (Nat.le_of_eq hu') (hend tr k1)).1 k2
  rw [hu'] at this
  exact Nat.not_lt.2 (hend tr k1) this

theorem CloseFx.queue {t1 t1' : Tcb} {fin : Hdr} (cf : CloseFx t1 fin t1') (base : Seq) (N : Nat) (hN : N + 1 < 2147483648)
    (hsent : off base t1.snd.nxt = N) (hu : off base t1.snd.una ≤ N)
    (hq : ∀ tr ∈ t1.outgoing.retransmit, keepFor t1.snd.una tr = true ∧ off base (txEnd tr) ≤ N)
    (hunf : ∀ tr ∈ t1.outgoing.retransmit, tr.needsTransmit = false) :
    off base t1'.snd.nxt = N + 1 ∧
    ∀ tr ∈ t1'.outgoing.retransmit, keepFor t1'.snd.una tr = true ∧ off base (txEnd tr) ≤ N + 1 ∧
      tr.needsTransmit = false := by
  have hend : off base (fin.seq + BitVec.ofNat 32 (Segment.segLen ⟨fin, []⟩)) = N + 1 := by
    have hlen : Segment.segLen ⟨fin, []⟩ = 1 := by
      unfold Segment.segLen
      rw [cf.isfin.syn, cf.isfin.fin]
      rfl
    rw [hlen, (cf.isfin.seq : fin.seq = t1.snd.nxt), off_add _ _ _ (by rw [hsent]; exact Nat.lt_trans hN (by decide)), hsent]
  refine ⟨by rw [cf.nxt, off_add_one _ _ (by rw [hsent]; exact Nat.lt_trans hN (by decide)), hsent], fun tr htr => ?_⟩
  rw [cf.una]
  rw [cf.rtx] at htr
  rcases List.mem_append.1 htr with h | h
  · exact ⟨(hq tr h).1, Nat.le_succ_of_le (hq tr h).2, hunf tr h⟩
  · simp only [List.mem_singleton] at h
    subst h
    refine ⟨?_, Nat.le_of_eq hend, rfl⟩
    unfold keepFor
    exact (modLt_iff_off base _ _ (Nat.lt_of_le_of_lt hu (Nat.lt_of_succ_lt hN)) (by rw [hend]; exact hN)).2
      (by rw [hend]; exact Nat.lt_succ_of_le hu)

/-- The closer is acknowledged in two batches with an emission between them.  Its FIN has joined the queue behind what
    the twin `t1` had on it (`CloseFx`; `SND.NXT` of `t1` at `N`), nothing is unsent or waiting.  The first batch are pure ACKs
    below the FIN; the second is what the peer `p` had waiting when it took the FIN, followed by the ACK of the FIN.  The closer
    emits nothing in between and ends in FIN-WAIT-2 at rest. -/
theorem closer_acked {t1 t : Tcb} {fin : Hdr} (cf : CloseFx t1 fin t) (x : SideId) (u p : Tcb) (base : Seq) (N : Nat)
    (hN : N + 1 < 2147483648) (gs1 : List Segment)
    (hw : t1.rcv.wnd = 65535#16) (hheap : t1.incoming.segments = []) (hbuf : t1.incoming.text = [])
    (hm : ¬ t1.mtu.toNat < SPACE_FOR_HEADERS) (lp : t1.localPort = x.port) (rp : t1.remotePort = x.peer.port)
    (sync : u.rcv.nxt = t1.snd.nxt + 1) (hsent : off base t1.snd.nxt = N) (hu : off base t1.snd.una ≤ N)
    (hq : ∀ tr ∈ t1.outgoing.retransmit, keepFor t1.snd.una tr = true ∧ off base (txEnd tr) ≤ N)
    (hunf : ∀ tr ∈ t1.outgoing.retransmit, tr.needsTransmit = false)
    (h1 : AcksFor base t1.rcv.nxt N gs1) (hr : p.rcv.nxt = t1.snd.nxt) (hn : p.snd.nxt = t1.rcv.nxt)
    (h2 : AcksFor base t1.rcv.nxt N (p.outgoing.oneshot.map fun h => (⟨h, []⟩ : Segment))) :
    ∃ t3 t5, t.arriveList gs1 = .ok t3 ∧ t3.receive = (t3, []) ∧ t3.segments = .ok (emitT t3, []) ∧
      (emitT t3).arriveList ((p.outgoing.oneshot ++ [p.finAckHdr]).map fun h => (⟨h, []⟩ : Segment)) = .ok t5 ∧
      t5.receive = (t5, []) ∧ t5.state = .FinWait2 ∧ t5.rcv = t1.rcv ∧ RestX x t5 u := by
  -- the ACK of the FIN acknowledges everything, the FIN included
  have hfin : off base p.finAckHdr.ack = N + 1 := by
    show off base (p.rcv.nxt + 1) = _
    rw [hr, off_add_one _ _ (by rw [hsent]; exact Nat.lt_trans hN (by decide)), hsent]
  have h2 : AcksFor base t1.rcv.nxt (N + 1) ((p.outgoing.oneshot ++ [p.finAckHdr]).map fun h => (⟨h, []⟩ : Segment)) := by
    rw [List.map_append]
    refine (h2.mono (Nat.le_succ _)).append fun g hg => ?_
    simp only [List.map_cons, List.map_nil, List.mem_singleton] at hg
    subst hg
    exact ⟨⟨rfl, rfl, rfl, rfl, rfl⟩, hn, by rw [hfin]; exact Nat.le_add_left 1 _, Nat.le_of_eq hfin⟩
  obtain ⟨hsent', hq'⟩ := cf.queue base N hN hsent hu hq hunf
  have hu' : off base t.snd.una ≤ N := by rw [cf.una]; exact hu
  obtain ⟨t3, e1, lf1⟩ := ackList_fwx base (N + 1) hN gs1 t (Or.inl cf.st) (by rw [cf.rcv]; exact hw)
    (by rw [cf.inc]; exact hheap) cf.text hsent' (Nat.le_succ_of_le hu') (by rw [cf.rcv]; exact h1.mono (Nat.le_succ _))
    (fun tr htr => (hq' tr htr).1)
  have htext3 : t3.outgoing.text = [] := by rw [lf1.otext]; exact cf.text
  have hm3 : ¬ t3.mtu.toNat < SPACE_FOR_HEADERS := by rw [lf1.mtu, cf.mtu]; exact hm
  have eS : t3.segments = .ok (emitT t3, []) := by
    rw [segments_notext_eq t3 htext3 hm3, emitOut_oneshot t3 [] (by rw [lf1.one]; exact cf.one)
      (List.filter_eq_nil_iff.2 fun tr htr => by rw [(hq' tr (lf1.rtx tr htr).1).2.2]; simp)]
    rfl
  obtain ⟨t5, e2, lf, st5, un5, rtx5⟩ := ackList_fin base (N + 1) hN
    ((p.outgoing.oneshot ++ [p.finAckHdr]).map fun h => (⟨h, []⟩ : Segment)) (emitT t3) lf1.st
    (by show t3.rcv.wnd = _; rw [lf1.rcv, cf.rcv]; exact hw)
    (by show t3.incoming.segments = []; rw [lf1.inc, cf.inc]; exact hheap) htext3
    (by show off base t3.snd.nxt = _; rw [lf1.nxt]; exact hsent')
    (by
      show off base t3.snd.una ≤ _
      rw [lf1.una]
      exact Nat.le_succ_of_le (Nat.max_le.2 ⟨hu', (h1.maxAck_le)⟩))
    (by show AcksFor base t3.rcv.nxt _ _; rw [lf1.rcv, cf.rcv]; exact h2)
    (fun tr htr => by
      obtain ⟨t0, h0, rfl⟩ := List.mem_map.1 (show tr ∈ t3.outgoing.retransmit.map _ from htr)
      exact (lf1.rtx t0 h0).2)
    (fun tr htr => by
      obtain ⟨t0, h0, rfl⟩ := List.mem_map.1 (show tr ∈ t3.outgoing.retransmit.map _ from htr)
      exact (hq' t0 (lf1.rtx t0 h0).1).2.1)
    ⟨p.finAckHdr, []⟩ (List.mem_map.2 ⟨_, List.mem_append_right _ (List.mem_singleton.2 rfl), rfl⟩) hfin
  have hinc : t5.incoming = t1.incoming := (lf.inc.trans lf1.inc).trans cf.inc
  have hrcv : t5.rcv = t1.rcv := (lf.rcv.trans lf1.rcv).trans cf.rcv
  have hbuf3 : t3.incoming.text = [] := by rw [lf1.inc, cf.inc]; exact hbuf
  exact ⟨t3, t5, e1, receive_empty t3 hbuf3, eS, e2, receive_empty t5 (by rw [hinc]; exact hbuf), st5, hrcv,
    by rw [hinc]; exact hheap, by rw [hinc]; exact hbuf, by rw [lf.otext]; exact htext3, rtx5,
    by rw [lf.one]; show ([] : List Hdr) = []; rfl, un5, by rw [lf.nxt]; show _ = t3.snd.nxt; rw [lf1.nxt, cf.nxt]; exact sync,
    by rw [hrcv]; exact hw, by rw [lf.mtu]; exact hm3, (lf.lp.trans lf1.lp).trans (cf.lp.trans lp),
    (lf.rp.trans lf1.rp).trans (cf.rp.trans rp)⟩

end Tcb
end Elvis.Tcp
