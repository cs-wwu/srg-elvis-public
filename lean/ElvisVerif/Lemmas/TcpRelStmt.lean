import ElvisVerif.Lemmas.TcpRelLoss
/-!
# The schedule of `C03ReleaseStatement` itself, from quiet states

`C03ReleaseStatement` (`Props/C03Release.lean`) asks for: `close A`, `close B`, `fairRound k` (both retransmission timers
expire, `k` exchange phases), `tick A (2·MSL + RTO + 1)`, `tick B (2·MSL + RTO + 1)`.  `release_statement_quiet`: from a
quiet pair (`QuietX`, `Lemmas/TcpRelFwd.lean`) `k = 2` works: the ticks of the fair round only flag the two FINs again
(`Tcb.advanceTime_closedT`), then the FINs and the ACKs cross as in `release_simultaneous`.
-/
namespace Elvis.Tcp
open Tcb Elvis.ModCmp Elvis.Tcp.Fin

theorem Tcb.QuietX.of_flagged {x : SideId} {t u t1 u1 : Tcb} (q : QuietX x t u) (f : Flagged t t1) (g : Flagged u u1)
    (lp : t1.localPort = t.localPort) (rp : t1.remotePort = t.remotePort) : QuietX x t1 u1 :=
  ⟨by rw [f.st]; exact q.st, by rw [f.inc]; exact q.heap, by rw [f.inc]; exact q.buf, by rw [f.otext]; exact q.text,
    by rw [f.rtx, q.rtx]; rfl, by rw [f.one]; exact q.one, by rw [f.snd]; exact q.una, by rw [g.rcv, f.snd]; exact q.sync,
    by rw [f.rcv]; exact q.wnd, by rw [f.mtu]; exact q.mtu, lp.trans q.lp, rp.trans q.rp⟩

/-- the schedule of `C03ReleaseStatement` -/
def statementRound (k : Nat) (s : Sys) : Except String Sys := do
  let s1 ← Prod.fst <$> s.step (.close .A)
  let s2 ← Prod.fst <$> s1.step (.close .B)
  let s3 ← fairRound k s2
  let s4 ← Prod.fst <$> s3.step (.tick .A (TIME_WAIT + RTO + 1))
  Prod.fst <$> s4.step (.tick .B (TIME_WAIT + RTO + 1))

theorem release_statement_quiet (s : Sys) (ta tb : Tcb) (ha : (s.side .A).tcb = some ta) (hb : (s.side .B).tcb = some tb)
    (qa : QuietX .A ta tb) (qb : QuietX .B tb ta)
    (ma : ta.timeouts.retransmission ≤ RTO) (mb : tb.timeouts.retransmission ≤ RTO)
    (wa : ta.timeouts.timeWait = none) (wb : tb.timeouts.timeWait = none) :
    ∃ s', statementRound 2 s = .ok s' ∧ (s'.side .A).tcb = none ∧ (s'.side .B).tcb = none := by
  obtain ⟨s1, st1, _, v1⟩ := (View.start s .A ta tb ha hb).close (close_fwd ta qa.st qa.text)
  obtain ⟨s0, st2, _, v0⟩ := v1.swap.close (close_fwd tb qb.st qb.text)
  -- both retransmission timers expire: the FINs are flagged again
  obtain ⟨tA, _, fa, eA', lpA, rpA⟩ := advanceTime_closedT ta (RTO + 1) (by omega) wa
  obtain ⟨tB, _, fb, eB', lpB, rpB⟩ := advanceTime_closedT tb (RTO + 1) (by omega) wb
  obtain ⟨s3, hf, _, v3⟩ := v0.unswap.fairRound eA' eB'
  have qA := qa.of_flagged fa fb lpA rpA
  have qB := qb.of_flagged fb fa lpB rpB
  obtain ⟨s4, s5, ta4, tb4, ph1, ph2, _, v5, wA4, wB4⟩ := crossing_close v3 qA qB
  obtain ⟨s6, st5, _, v6⟩ := v5.expire ((advanceTime_timeWait ta4 (TIME_WAIT + RTO + 1) TIME_WAIT wA4).1 (by omega))
  obtain ⟨s7, st6, _, v7⟩ := v6.swap.expire ((advanceTime_timeWait tb4 (TIME_WAIT + RTO + 1) TIME_WAIT wB4).1 (by omega))
  refine ⟨s7, ?_, v7.u, v7.t⟩
  have st2' : s1.step (.close .B) = .ok (s0, .closed .Ok) := st2
  have st6' : s6.step (.tick .B (TIME_WAIT + RTO + 1)) = .ok (s7, .tick .CloseConnection) := st6
  have hfr : fairRound 2 s0 = .ok s5 := by
    rw [hf]
    simp only [phases, ph1, ph2]
  unfold statementRound
  simp only [st1, st2', hfr, st5, st6', Functor.map, Except.map, bind, Except.bind]

end Elvis.Tcp
