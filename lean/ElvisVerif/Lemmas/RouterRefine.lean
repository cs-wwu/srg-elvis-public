import ElvisVerif.Lemmas.Router
/-! The concrete layer (ARP tables, ARP frames, retry budget) refines the abstract token system:
    every `cstep` is matched by at most one abstract `step` on the projected state. -/
namespace Elvis.Router

def crun (topo : Topo) : CState → List CChoice → Except String CState
  | s, [] => .ok s
  | s, c :: cs =>
    match cstep topo s c with
    | .error e => .error e
    | .ok s' => crun topo s' cs

def absChoices (s : CState) : CChoice → List Choice
  | .deliver i => [.deliver i]
  | .send h pkt => [.send h pkt]
  | .inject f => [.inject f]
  | .arp _ => []
  | .task j =>
    match s.tasks[j]? with
    | none => []
    | some t =>
      match ((s.caches[t.p.node]?).getD []).answer t.p.nextHop with
      | some (some mac) => [.resolved j mac]
      | some none => [.unresolved j]
      | none => if t.tries = 0 then [.unresolved j] else []

def absSched (topo : Topo) : CState → List CChoice → List Choice
  | _, [] => []
  | s, c :: cs =>
    absChoices s c ++
      match cstep topo s c with
      | .ok s' => absSched topo s' cs
      | .error _ => []

theorem answer_some {c : Cache} {ip : Addr} {r : Option Mac} (h : c.answer ip = some r) :
    ∃ mac, r = some mac ∧ c.get ip = some (some mac) := by
  unfold Cache.answer at h
  split at h
  · rename_i mac hg
    simp only [Option.some.injEq] at h
    exact ⟨mac, h.symm, hg⟩
  · simp [Elvis.Gen.Arp.cachedFailureIsAnswer] at h
  · cases h

theorem map_p_newTask (ps : List Pending) : (ps.map newTask).map (·.p) = ps := by
  simp [Function.comp_def, newTask]

theorem map_eraseIdx' {α β : Type} (f : α → β) (l : List α) (i : Nat) : (l.eraseIdx i).map f = (l.map f).eraseIdx i := by
  simp [List.eraseIdx_eq_take_drop_succ]

theorem map_set_same {α β : Type} (f : α → β) (l : List α) (i : Nat) (x y : α) (h : l[i]? = some x) (e : f y = f x) :
    (l.set i y).map f = l.map f := by
  obtain ⟨hi, rfl⟩ := List.getElem?_eq_some_iff.1 h
  rw [List.map_set, e, ← List.getElem_map f (h := by simpa using hi), List.set_getElem_self]

theorem run_nil (topo : Topo) (s : State) : run topo s [] = .ok s := rfl

theorem run_single (topo : Topo) (s : State) (c : Choice) : run topo s [c] = step topo s c := by
  simp only [run]
  cases step topo s c <;> rfl

theorem cstep_refines (topo : Topo) (s s' : CState) (c : CChoice) (h : cstep topo s c = .ok s') :
    run topo s.abs (absChoices s c) = .ok s'.abs := by
  cases c with
  | deliver i =>
    simp only [absChoices, run_single, step, CState.abs]
    simp only [cstep] at h
    split at h
    · cases h
    · rename_i fl ps evs hc
      simp only [Except.ok.injEq] at h
      subst h
      simp only [List.map_append, map_p_newTask]
  | send hh pkt =>
    simp only [absChoices, run_single, step, CState.abs]
    simp only [cstep, Except.ok.injEq] at h
    subst h
    simp only [List.map_append, map_p_newTask]
  | inject f =>
    simp only [absChoices, run_single, step, CState.abs]
    simp only [cstep, Except.ok.injEq] at h
    subst h
    rfl
  | arp a =>
    simp only [absChoices, run_nil]
    simp only [cstep] at h
    split at h
    · simp only [Except.ok.injEq] at h; subst h; rfl
    · simp only [Except.ok.injEq] at h; subst h; rfl
  | task j =>
    simp only [cstep] at h
    simp only [absChoices]
    split at h
    · rename_i hn
      simp only [Except.ok.injEq] at h; subst h
      simp only [hn, run_nil]
    · rename_i t ht
      have hp : s.abs.pend[j]? = some t.p := by simp [CState.abs, ht]
      simp only [ht]
      split at h
      · rename_i mac hm
        simp only [hm, run_single, step, hp]
        split at h
        · cases h
        · rename_i fs evs hc
          simp only [Except.ok.injEq] at h
          subst h
          simp only [CState.abs, map_eraseIdx']
      · rename_i hm
        simp only [hm, run_single, step]
        simp only [Except.ok.injEq] at h
        subst h
        simp only [CState.abs, map_eraseIdx']
      · rename_i hm
        simp only [hm]
        split at h
        · rename_i h0
          simp only [h0, if_true, run_single, step]
          simp only [Except.ok.injEq] at h
          subst h
          simp only [CState.abs, map_eraseIdx']
        · rename_i h0
          simp only [h0, if_false, run_nil]
          split at h
          · cases h
          · simp only [Except.ok.injEq] at h
            subst h
            simp only [CState.abs, Except.ok.injEq]
            congr 1
            exact (map_set_same (·.p) s.tasks j t { t with tries := t.tries - 1, started := true } ht rfl).symm

theorem run_append (topo : Topo) : ∀ (a b : List Choice) (s s1 s2 : State),
    run topo s a = .ok s1 → run topo s1 b = .ok s2 → run topo s (a ++ b) = .ok s2
  | [], b, s, s1, s2, h1, h2 => by simp [run] at h1; subst h1; exact h2
  | c :: a, b, s, s1, s2, h1, h2 => by
    simp only [run] at h1
    cases hs : step topo s c with
    | error e => rw [hs] at h1; cases h1
    | ok s' =>
      rw [hs] at h1
      simp only [List.cons_append, run, hs]
      exact run_append topo a b s' s1 s2 h1 h2

def cInputLife (k : Nat) : CChoice → Nat
  | .send _ pkt => if pkt.tok = k then lifeOf pkt.hdr.ttl else 0
  | .inject f => if f.pkt.tok = k then lifeOf f.pkt.hdr.ttl else 0
  | _ => 0

def cBudget (k : Nat) (cs : List CChoice) : Nat := (cs.map (cInputLife k)).sum

theorem budget_absChoices (k : Nat) (s : CState) (c : CChoice) : budget k (absChoices s c) = cInputLife k c := by
  cases c with
  | task j =>
    simp only [absChoices, cInputLife]
    split
    · rfl
    · split
      · simp [budget, inputLife]
      · simp [budget, inputLife]
      · split <;> simp [budget, inputLife]
  | _ => simp [absChoices, cInputLife, budget, inputLife]

theorem budget_absSched (topo : Topo) (k : Nat) : ∀ (cs : List CChoice) (s : CState),
    budget k (absSched topo s cs) ≤ cBudget k cs
  | [], _ => by simp [absSched, budget, cBudget]
  | c :: cs, s => by
    simp only [absSched, cBudget, List.map_cons, List.sum_cons]
    have h1 := budget_absChoices k s c
    simp only [budget, List.map_append, List.sum_append] at *
    rw [h1]
    split
    · rename_i s' _
      have := budget_absSched topo k cs s'
      simp only [budget, cBudget] at this
      omega
    · simp

end Elvis.Router
