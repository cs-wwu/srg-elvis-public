import ElvisVerif.Lemmas.ShiftProcess
/-!
# The API calls of the TCB commute with the shift map (C12)

`open`, `send`, `receive`, `advance_time`, `close`, `abort`, `segments`, and a segment arriving in CLOSED or
LISTEN (`segmentArrivesClosed`, `segmentArrivesListen`).  Two exclusions, stated as hypotheses: `segments()` on a
SYN-SENT TCB whose send window is not 0 (never the case for a TCB made by `open`: the pure-ACK header of a data segment
would carry the unset `RCV.NXT`), and in CLOSED a segment with neither RST nor ACK, which is answered with the constant
`SEQ = 0` (`closed_rst_seq_zero`).
-/
namespace Elvis.Tcp
open Elvis.ModCmp
variable (ka kb : Seq)

theorem shift_open (lp rp : U16) (iss : Seq) (mtu : U16) :
    Tcb.open lp rp (iss + ka) mtu = shiftE ka kb (Tcb.open lp rp iss mtu) := by
  rw [Tcb.open_eq, Tcb.open_eq, shiftE_ok, Tcb.openT, add_add_comm' iss 1 ka]
  rfl

theorem shift_send (s : Tcb) (m : List UInt8) : (s.shift ka kb).send m = (s.send m).shift ka kb := by
  rw [Tcb.send_eq, Tcb.send_eq, Tcb.shift_state, apply_ite (Tcb.shift ka kb)]
  rfl

theorem shift_receive (s : Tcb) :
    (s.shift ka kb).receive = ((s.receive).1.shift ka kb, (s.receive).2) := by
  rw [Tcb.receive_eq, Tcb.receive_eq, Tcb.shift_state]
  split <;> rfl

theorem shift_timerRun (s : Tcb) (dt : Nat) : Tcb.timerRun (s.shift ka kb) dt = (Tcb.timerRun s dt).shift ka kb := by
  by_cases h : dt > s.timeouts.retransmission
  · rw [Tcb.timerRun_expired h, Tcb.timerRun_expired (s := s.shift ka kb) h]
    simp only [Tcb.shift, List.map_map]
    rfl
  · rw [Tcb.timerRun_running h, Tcb.timerRun_running (s := s.shift ka kb) h]; rfl

theorem shift_advanceTime (s : Tcb) (dt : Nat) :
    (s.shift ka kb).advanceTime dt = M.shift ka kb (s.advanceTime dt) := by
  rw [Tcb.advanceTime_eq, Tcb.advanceTime_eq, Tcb.shift_timeouts, shift_timerRun]
  cases s.timeouts.timeWait with
  | none => rfl
  | some tw =>
    dsimp only
    split <;> rfl

/-- the FIN takes `SND.NXT` and acknowledges `RCV.NXT` (set outside SYN-SENT) -/
theorem shift_finQueued (s : Tcb) (h : s.state ≠ .SynSent) :
    Tcb.finQueued (s.shift ka kb) = (Tcb.finQueued s).shift ka kb := by
  unfold Tcb.finQueued
  rw [Tcb.shift_finHdr ka kb s h, Hdr.shift_built, Tcb.shift_enqueueBuilt, Tcb.shift_nxt, add_add_comm']
  rfl

/-- `if fin_pending { queue_fin() }` of `segments()`; a FIN is pending only after `close` -/
theorem shift_finIfPending (b : Bool) (s : Tcb) (h : b = true → s.state ≠ .SynSent) :
    Tcb.finIfPending b (s.shift ka kb) = shiftE ka kb (Tcb.finIfPending b s) := by
  rw [Tcb.finIfPending_eq, Tcb.finIfPending_eq, Tcb.shift_otext]
  split
  · rename_i hc
    rw [shift_finQueued ka kb s (h (Bool.and_eq_true_iff.1 hc).1)]
    rfl
  · rfl

/-- `close` moves to a state other than SYN-SENT, from one, and queues the FIN there -/
theorem shift_close (s : Tcb) : (s.shift ka kb).close = M.shift ka kb s.close := by
  rw [Tcb.close_eq, Tcb.close_eq, Tcb.shift_state, Tcb.shift_otext]
  split
  · rename_i h1
    have hne : s.state ≠ .SynSent := by rcases h1 with h | h <;> rw [h] <;> nofun
    rw [shift_setState_late ka kb s .FinWait1 hne nofun,
      shift_finQueued ka kb ({ s with state := .FinWait1 } : Tcb) nofun]
    split <;> rfl
  · split
    · rename_i h2
      rw [shift_setState_late ka kb s .LastAck (by rw [h2]; nofun) nofun,
        shift_finQueued ka kb ({ s with state := .LastAck } : Tcb) nofun]
      split <;> rfl
    · rfl

theorem shift_abortRst (s : Tcb) : abortRst (s.shift ka kb) = (abortRst s).shift ka kb := by
  unfold abortRst
  rw [show ({ s.shift ka kb with outgoing := {} } : Tcb) = ({ s with outgoing := {} } : Tcb).shift ka kb from rfl,
    Tcb.shift_headerBuilder, Tcb.shift_nxt, Tcb.shift_rcvwnd]
  exact Tcb.shift_enqueueBuilt ka kb _
    ((({ s with outgoing := {} } : Tcb).headerBuilder s.snd.nxt).withRst.withWnd s.rcv.wnd).built

theorem shift_abort (s : Tcb) : (s.shift ka kb).abort = shiftE ka kb s.abort := by
  rw [Tcb.abort_eq, Tcb.abort_eq, Tcb.shift_state, shift_abortRst]
  split <;> rfl

theorem shift_cutSegment (s : Tcb) (n : Nat) (h : s.state ≠ .SynSent) :
    Tcb.cutSegment (s.shift ka kb) n = (Tcb.cutSegment s n).shift ka kb := by
  unfold Tcb.cutSegment
  rw [Tcb.shift_nxt, Tcb.shift_otext, Tcb.shift_ackHdr ka kb s h, Hdr.shift_built, add_add_comm']
  simp only [Tcb.shift, List.map_append, List.map_cons, List.map_nil]
  rfl

theorem shift_cutLen (m : Nat) (s : Tcb) (q : Nat) : Tcb.cutLen m (s.shift ka kb) q = Tcb.cutLen m s q := rfl

theorem shift_segmentize (m : Nat) (hm : m + BASE_HEADER_OCTETS ≤ 65535) (fuel : Nat) (s : Tcb) (q : Nat)
    (hq : s.state = .SynSent → s.snd.wnd = 0) :
    Tcb.segmentize m fuel (s.shift ka kb) q = shiftE ka kb (Tcb.segmentize m fuel s q) := by
  induction fuel generalizing s q with
  | zero => rfl
  | succ n ih =>
    rw [Tcb.segmentize_cut m hm, Tcb.segmentize_cut m hm, shift_cutLen]
    split
    · rfl
    · rename_i h0
      -- something is cut, so the window is open: not SYN-SENT, and the header acknowledges a set `RCV.NXT`
      have hne : s.state ≠ .SynSent := fun hs => h0 (by unfold Tcb.cutLen; rw [hq hs]; simp)
      rw [shift_cutSegment ka kb s _ hne]
      exact ih _ _ fun hs => absurd hs hne

theorem shift_segmentizeIfOpen (s : Tcb) (hq : s.state = .SynSent → s.snd.wnd = 0) :
    Tcb.segmentizeIfOpen (s.shift ka kb) = shiftE ka kb (Tcb.segmentizeIfOpen s) := by
  rw [Tcb.segmentizeIfOpen_eq, Tcb.segmentizeIfOpen_eq]
  simp only [shift_simps]
  split
  · split
    · rfl
    · -- a segment of at most `mtu - SPACE_FOR_HEADERS` bytes never fails to build
      exact shift_segmentize ka kb _ (by have := s.mtu.isLt; show _ - 50 + 20 ≤ 65535; omega) _ s _ hq
  · rfl

theorem shift_markSent (s : Tcb) (b : Bool) : markSent (s.shift ka kb) b = (markSent s b).shift ka kb := by
  unfold markSent
  cases b <;> simp only [Bool.false_eq_true, if_false, if_true, Tcb.shift, List.map_map] <;> rfl

theorem shift_segments (s : Tcb) (hq : s.state = .SynSent → s.snd.wnd = 0) :
    (s.shift ka kb).segments = M.shiftOut ka kb s.segments := by
  rw [segments_eq, segments_eq]
  have e0 : clearOneshot (s.shift ka kb) = (clearOneshot s).shift ka kb := rfl
  rw [e0, shift_segmentizeIfOpen ka kb (clearOneshot s) hq, Tcb.shift_finPending]
  cases hu1 : Tcb.segmentizeIfOpen (clearOneshot s) with
  | error e => rfl
  | ok u1 =>
    simp only [shiftE_ok]
    have hst : u1.state = s.state := (Tcb.segmentizeIfOpen_frame hu1).state
    rw [shift_finIfPending ka kb _ u1 (fun hb => by
      rw [hst]; rcases s.finPending_state hb with e | e | e <;> rw [e] <;> decide)]
    cases Tcb.finIfPending s.finPending u1 with
    | error e => rfl
    | ok u =>
      simp only [shiftE_ok, M.shiftOut]
      have e1 : ((s.shift ka kb).outgoing.oneshot.map fun h => (⟨h, []⟩ : Segment)) ++
          ((u.shift ka kb).outgoing.retransmit.filter (·.needsTransmit)).map (·.segment) =
          ((s.outgoing.oneshot.map fun h => (⟨h, []⟩ : Segment)) ++
            (u.outgoing.retransmit.filter (·.needsTransmit)).map (·.segment)).map (Segment.shift ka kb) := by
        simp only [Tcb.shift_oneshot, Tcb.shift_retransmit, List.map_append, List.map_map, List.filter_map]
        rfl
      rw [e1, shift_markSent]
      simp only [List.isEmpty_map]

/-- CLOSED: the RST for a segment that carries an ACK takes its SEQ from that ACK -/
theorem shift_closed (seg : Hdr) (tl : Seq) (h : seg.ctl.rst = true ∨ seg.ctl.ack = true) :
    segmentArrivesClosed (seg.shift kb ka) tl = (segmentArrivesClosed seg tl).map (Hdr.shift ka kb) := by
  rw [segmentArrivesClosed_eq, segmentArrivesClosed_eq, Hdr.shift_ctl]
  by_cases hr : seg.ctl.rst = true
  · rw [if_pos hr, if_pos hr]; rfl
  · rw [if_neg hr, if_neg hr]
    have ha : seg.ctl.ack = true := h.resolve_left hr
    rw [if_pos ha, if_pos ha, Hdr.shift_ack_of kb ka seg ha]
    rfl

/-- CLOSED, segment without ACK: RFC 9293 3.10.7.1 prescribes `<SEQ=0><ACK=SEG.SEQ+SEG.LEN>`.
    The ACK moves with the peer's space, the SEQ is the constant 0 whatever the ISNs are: the one
    absolute number TCP puts on the wire by design -/
theorem closed_rst_seq_zero (seg : Hdr) (tl : Seq) (hr : seg.ctl.rst = false) (ha : seg.ctl.ack = false) :
    segmentArrivesClosed (seg.shift kb ka) tl = (segmentArrivesClosed seg tl).map (Hdr.shift 0 kb) ∧
    (segmentArrivesClosed (seg.shift kb ka) tl).map (·.seq) = some 0 := by
  rw [segmentArrivesClosed_eq, segmentArrivesClosed_eq, Hdr.shift_ctl, hr, ha]
  simp only [Bool.false_eq_true, if_false, Hdr.shift_seq, Option.map_some]
  rw [add_add_comm' seg.seq tl kb]
  constructor <;> rfl

def ListenResult.shift (ka kb : Seq) : ListenResult → ListenResult
  | .Tcb t => .Tcb (t.shift ka kb)
  | .Response h => .Response (h.shift ka kb)

def shiftL (ka kb : Seq) (x : Except String (Option ListenResult)) : Except String (Option ListenResult) :=
  match x with
  | .error e => .error e
  | .ok o => .ok (o.map (ListenResult.shift ka kb))

/-- the TCB LISTEN creates: ISS in the local space, the peer's SYN in the remote one; the parked copy of the SYN has
    its ACK bit cleared, so its ACK field stays -/
theorem shift_listenT (seg : Segment) (iss : Seq) (mtu : U16) (ha : seg.hdr.ctl.ack = false) :
    Tcb.listenT (seg.shift kb ka) (iss + ka) mtu = (Tcb.listenT seg iss mtu).shift ka kb := by
  unfold Tcb.listenT Tcb.lsnSynAck Tcb.parkedSyn
  dsimp only
  rw [Segment.shift_hdr, Segment.shift_text, Hdr.shift_seq, Hdr.shift_wnd, Hdr.shift_srcPort, Hdr.shift_dstPort,
    Hdr.shift_ctl, Hdr.shift_ack_of_not kb ka seg.hdr ha, add_add_comm' iss 1 ka, add_add_comm' seg.hdr.seq 1 kb]
  rfl

theorem shift_listen (seg : Segment) (iss : Seq) (mtu : U16) :
    segmentArrivesListen (seg.shift kb ka) (iss + ka) mtu = shiftL ka kb (segmentArrivesListen seg iss mtu) := by
  rw [Tcb.segmentArrivesListen_eq, Tcb.segmentArrivesListen_eq, Segment.shift_hdr, Hdr.shift_ctl, Hdr.shift_srcPort,
    Hdr.shift_dstPort]
  cases seg.hdr.ctl.rst
  · cases ha : seg.hdr.ctl.ack
    · cases seg.hdr.ctl.syn
      · rfl
      · exact congrArg (fun t => Except.ok (some (ListenResult.Tcb t))) (shift_listenT ka kb seg iss mtu ha)
    · rw [Hdr.shift_ack_of kb ka seg.hdr ha]
      rfl
  · rfl

end Elvis.Tcp
