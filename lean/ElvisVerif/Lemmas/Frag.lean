import ElvisVerif.Model.Frag
/-!
Helper lemmas for C10 (IPv4 fragmentation).

`Pieces h body l` is the recursive description of a faithful partition of the datagram
`(h, body)`: either the datagram itself, or a first piece of `n > 0` blocks (MF set, TL = 20+8n)
followed by a faithful partition of the rest (TL − 8n, FO + n, original flags).  It composes:
replacing every piece by a faithful partition of that piece gives a faithful partition of the
original (`Pieces.refine`), which is what re-fragmentation along a chain of MTUs does.
`Faithful` (`Props/C10.lean`) is the same fact spelled out index by index (what the property text says).
-/
namespace Elvis.Frag

/-- `MF <- 1` -/
def setMF (flags : Nat) : Nat := setIsLast flags false

theorem setMF_idem (f : Nat) : setMF (setMF f) = setMF f := by
  simp [setMF, setIsLast] <;> omega

theorem isLast_setMF (f : Nat) : isLast (setMF f) = false := by
  simp [setMF, setIsLast, isLast] <;> omega

theorem mayFragment_setMF (f : Nat) : mayFragment (setMF f) = mayFragment f := by
  have : (f / 2 % 2 * 2 + 1) / 2 % 2 = f / 2 % 2 := by omega
  simp [setMF, setIsLast, mayFragment, this]

/-- first piece after a cut at `n` blocks (basic 20-octet header) -/
def cutFirst (h : Hdr) (n : Nat) : Hdr :=
  { h with flags := setMF h.flags, totalLength := 20 + 8 * n }

def cutRest (h : Hdr) (n : Nat) : Hdr :=
  { h with totalLength := h.totalLength - 8 * n, fragOffset := h.fragOffset + n }

theorem firstHdr_eq (h : Hdr) (n : Nat) (hi : h.ihl = 5) : firstHdr h n = cutFirst h n := by
  simp only [firstHdr, cutFirst, setMF, hi]
  congr 1; omega

theorem restHdr_eq (h : Hdr) (n : Nat) : restHdr h n = cutRest h n := by
  simp only [restHdr, cutRest]
  congr 1; omega

inductive Pieces : Hdr → List UInt8 → List Frag → Prop
  | single (h : Hdr) (body : List UInt8) :
      h.totalLength = 20 + body.length → Pieces h body [(h, body)]
  | cons (h : Hdr) (body : List UInt8) (n : Nat) (l : List Frag) :
      0 < n → 8 * n < body.length → h.totalLength = 20 + body.length →
      Pieces (cutRest h n) (body.drop (8 * n)) l →
      Pieces h body ((cutFirst h n, body.take (8 * n)) :: l)

theorem Pieces.ne_nil {h body l} (p : Pieces h body l) : l ≠ [] := by
  cases p <;> simp

theorem Pieces.tl {h body l} (p : Pieces h body l) : h.totalLength = 20 + body.length := by
  cases p <;> assumption

private theorem cutFirst_cutFirst (h : Hdr) (n m : Nat) :
    cutFirst (cutFirst h n) m = cutFirst h m := by
  simp [cutFirst, setMF_idem]

private theorem cutRest_cutFirst (h : Hdr) (n m : Nat) (hm : m ≤ n) :
    cutRest (cutFirst h n) m = cutFirst (cutRest h m) (n - m) := by
  simp only [cutRest, cutFirst]
  congr 1; omega

private theorem cutRest_cutRest (h : Hdr) (n m : Nat) (hm : m ≤ n) (hn : 8 * n ≤ h.totalLength) :
    cutRest (cutRest h m) (n - m) = cutRest h n := by
  simp only [cutRest]
  congr 1 <;> omega

theorem Pieces.append_aux {h1 b1 l1} (p1 : Pieces h1 b1 l1) :
    ∀ (h : Hdr) (body : List UInt8) (n : Nat) (l2 : List Frag), 0 < n → 8 * n < body.length →
      h.totalLength = 20 + body.length → h1 = cutFirst h n → b1 = body.take (8 * n) →
      Pieces (cutRest h n) (body.drop (8 * n)) l2 → Pieces h body (l1 ++ l2) := by
  induction p1 with
  | single h1 b1 _ =>
    intro h body n l2 hn hlt htl e1 e2 p2
    subst e1 e2
    exact Pieces.cons h body n l2 hn hlt htl p2
  | cons h1 b1 m l hm hlt1 htl1 _ ih =>
    intro h body n l2 hn hlt htl e1 e2 p2
    subst e1 e2
    have hmn : m < n := by
      simp only [List.length_take] at hlt1; omega
    have e3 : (body.take (8 * n)).take (8 * m) = body.take (8 * m) := by
      rw [List.take_take]; congr 1; omega
    rw [List.cons_append, cutFirst_cutFirst, e3]
    refine Pieces.cons h body m (l ++ l2) hm (by omega) htl ?_
    refine ih (cutRest h m) (body.drop (8 * m)) (n - m) l2 (by omega) ?_ ?_ ?_ ?_ ?_
    · simp only [List.length_drop]; omega
    · simp only [cutRest, List.length_drop]; omega
    · exact cutRest_cutFirst h n m (by omega)
    · rw [List.drop_take]; congr 1; omega
    · rw [cutRest_cutRest h n m (by omega) (by omega), List.drop_drop]
      have : 8 * m + 8 * (n - m) = 8 * n := by omega
      rw [this]; exact p2

theorem Pieces.append {h body n l1 l2} (hn : 0 < n) (hlt : 8 * n < body.length)
    (htl : h.totalLength = 20 + body.length)
    (p1 : Pieces (cutFirst h n) (body.take (8 * n)) l1)
    (p2 : Pieces (cutRest h n) (body.drop (8 * n)) l2) : Pieces h body (l1 ++ l2) :=
  Pieces.append_aux p1 h body n l2 hn hlt htl rfl rfl p2

theorem Pieces.refine {h body l} (p : Pieces h body l) (sub : Frag → List Frag)
    (hsub : ∀ f ∈ l, Pieces f.1 f.2 (sub f)) : Pieces h body (l.flatMap sub) := by
  induction p with
  | single h body _ =>
    have := hsub (h, body) (by simp)
    simpa using this
  | cons h body n l hn hlt htl _ ih =>
    rw [List.flatMap_cons]
    exact Pieces.append hn hlt htl (hsub (cutFirst h n, body.take (8 * n)) (by simp))
      (ih (fun f hf => hsub f (by simp [hf])))

def payload (l : List Frag) : List UInt8 := l.flatMap (·.2)

@[simp] theorem payload_nil : payload [] = [] := rfl
@[simp] theorem payload_cons (f : Frag) (l : List Frag) : payload (f :: l) = f.2 ++ payload l := by
  simp [payload]

/-- the fields fragmentation must not touch -/
def SameFields (h g : Hdr) : Prop :=
  g.ihl = h.ihl ∧ g.tos = h.tos ∧ g.ident = h.ident ∧ g.ttl = h.ttl ∧ g.proto = h.proto ∧
  g.checksum = h.checksum ∧ g.src = h.src ∧ g.dst = h.dst ∧
  mayFragment g.flags = mayFragment h.flags

theorem SameFields.refl (h : Hdr) : SameFields h h := by simp [SameFields]

theorem SameFields.trans {a b c : Hdr} (x : SameFields a b) (y : SameFields b c) : SameFields a c := by
  obtain ⟨x1, x2, x3, x4, x5, x6, x7, x8, x9⟩ := x
  obtain ⟨y1, y2, y3, y4, y5, y6, y7, y8, y9⟩ := y
  exact ⟨y1.trans x1, y2.trans x2, y3.trans x3, y4.trans x4, y5.trans x5, y6.trans x6,
    y7.trans x7, y8.trans x8, y9.trans x9⟩

theorem sameFields_cutFirst (h : Hdr) (n : Nat) : SameFields h (cutFirst h n) := by
  simp [SameFields, cutFirst, mayFragment_setMF]

theorem sameFields_cutRest (h : Hdr) (n : Nat) : SameFields h (cutRest h n) := by
  simp [SameFields, cutRest]

theorem Pieces.rel {h body l} (p : Pieces h body l) : ∀ f ∈ l,
    SameFields h f.1 ∧ f.1.totalLength = 20 + f.2.length ∧ (0 < body.length → 0 < f.2.length) ∧
    h.fragOffset ≤ f.1.fragOffset ∧
    f.2 = (body.drop (8 * (f.1.fragOffset - h.fragOffset))).take f.2.length ∧
    ((f.1.flags = h.flags ∧ 8 * f.1.fragOffset + f.2.length = 8 * h.fragOffset + body.length) ∨
     (f.1.flags = setMF h.flags ∧ f.2.length % 8 = 0 ∧
      8 * f.1.fragOffset + f.2.length < 8 * h.fragOffset + body.length)) := by
  induction p with
  | single h body htl =>
    intro f hf
    obtain rfl := List.mem_singleton.1 hf
    exact ⟨SameFields.refl _, htl, id, Nat.le_refl _, by simp, Or.inl ⟨rfl, rfl⟩⟩
  | cons h body n l hn hlt htl _ ih =>
    intro f hf
    rcases List.mem_cons.1 hf with rfl | hf
    · have hl : (body.take (8 * n)).length = 8 * n := by rw [List.length_take]; omega
      refine ⟨sameFields_cutFirst h n, ?_, ?_, Nat.le_refl _, ?_, Or.inr ⟨rfl, ?_, ?_⟩⟩
      · simp only [cutFirst, hl]
      · simp only [hl]; omega
      · simp [cutFirst, hl]
      · simp only [hl]; omega
      · simp only [cutFirst, hl]; omega
    · obtain ⟨a1, a2, a3, a4, a5, a6⟩ := ih f hf
      simp only [cutRest, List.length_drop] at a3 a4 a6
      refine ⟨(sameFields_cutRest h n).trans a1, a2, fun _ => a3 (by omega), by omega, ?_, ?_⟩
      · have e : (body.drop (8 * n)).drop (8 * (f.1.fragOffset - (cutRest h n).fragOffset)) =
            body.drop (8 * (f.1.fragOffset - h.fragOffset)) := by
          rw [List.drop_drop]; simp only [cutRest]; congr 1; omega
        rw [e] at a5; exact a5
      · rcases a6 with ⟨b1, b2⟩ | ⟨b1, b2, b3⟩
        · exact Or.inl ⟨b1, by omega⟩
        · exact Or.inr ⟨b1, b2, by omega⟩

theorem Pieces.lengths {h body l} (p : Pieces h body l) :
    ∀ f ∈ l, f.1.totalLength = 20 + f.2.length :=
  fun f hf => (p.rel f hf).2.1

theorem Pieces.concat {h body l} (p : Pieces h body l) : payload l = body := by
  induction p with
  | single h body _ => simp
  | cons h body n l _ _ _ _ ih => simp [ih]

theorem Pieces.fields {h body l} (p : Pieces h body l) : ∀ f ∈ l, SameFields h f.1 :=
  fun f hf => (p.rel f hf).1

theorem Pieces.offsets {h body l} (p : Pieces h body l) :
    ∀ i (hi : i < l.length),
      8 * l[i].1.fragOffset = 8 * h.fragOffset + (payload (l.take i)).length := by
  induction p with
  | single h body _ =>
    intro i hi
    have : i = 0 := by simp at hi; omega
    subst this; simp
  | cons h body n l _ hlt _ _ ih =>
    intro i hi
    cases i with
    | zero => simp [cutFirst]
    | succ i =>
      have := ih i (by simpa using hi)
      simp only [List.getElem_cons_succ, List.take_succ_cons, payload_cons, List.length_append,
        List.length_take]
      simp only [cutRest] at this
      omega

theorem Pieces.blocks {h body l} (p : Pieces h body l) :
    ∀ i (hi : i + 1 < l.length), 0 < l[i].2.length ∧ l[i].2.length % 8 = 0 := by
  induction p with
  | single h body _ => intro i hi; simp at hi
  | cons h body n l hn hlt _ _ ih =>
    intro i hi
    cases i with
    | zero => simp only [List.getElem_cons_zero, List.length_take]; omega
    | succ i => exact ih i (Nat.lt_of_succ_lt_succ hi)

theorem Pieces.mf {h body l} (p : Pieces h body l) :
    ∀ i (hi : i < l.length),
      l[i].1.flags = if i + 1 = l.length then h.flags else setMF h.flags := by
  induction p with
  | single h body _ =>
    intro i hi
    have : i = 0 := by simp at hi; omega
    subst this; simp
  | cons h body n l _ _ _ p' ih =>
    intro i hi
    cases i with
    | zero =>
      have := p'.ne_nil
      have : l.length ≠ 0 := by simpa using this
      simp only [List.getElem_cons_zero, List.length_cons, cutFirst]
      rw [if_neg (by omega)]
    | succ i =>
      have := ih i (by simpa using hi)
      simp only [List.getElem_cons_succ, List.length_cons]
      simp only [cutRest] at this
      rw [this]
      congr 1
      simp

theorem Pieces.end_le {h body l} (p : Pieces h body l) :
    ∀ f ∈ l, 8 * f.1.fragOffset + f.2.length ≤ 8 * h.fragOffset + body.length := by
  intro f hf
  rcases (p.rel f hf).2.2.2.2.2 with ⟨_, e⟩ | ⟨_, _, e⟩ <;> omega

theorem Pieces.pos {h body l} (p : Pieces h body l) (hb : 0 < body.length) :
    ∀ f ∈ l, 0 < f.2.length :=
  fun f hf => (p.rel f hf).2.2.1 hb

theorem payload_append (a b : List Frag) : payload (a ++ b) = payload a ++ payload b := by
  simp [payload]

theorem payload_split (l : List Frag) (i : Nat) (hi : i < l.length) :
    payload l = payload (l.take i) ++ l[i].2 ++ payload (l.drop (i + 1)) := by
  have h1 : l = l.take i ++ l[i] :: l.drop (i + 1) := by
    rw [List.getElem_cons_drop, List.take_append_drop]
  conv => lhs; rw [h1]
  rw [payload_append, payload_cons, List.append_assoc]

/-- what one datagram (or piece) must satisfy for `Fragmentation::fragment` to be safe:
    basic header, payload as long as the header says, everything inside the u16 ranges -/
structure PreG (h : Hdr) (body : List UInt8) : Prop where
  ihl : h.ihl = 5
  tl : h.totalLength = 20 + body.length
  tlmax : h.totalLength ≤ 65535
  fomax : 8 * h.fragOffset + body.length ≤ 131043

theorem fragRec_spec (mtu : Nat) (hmtu : 28 ≤ mtu) :
    ∀ (fuel : Nat) (h : Hdr) (body : List UInt8), PreG h body → h.totalLength < fuel →
      ∃ l, fragRec mtu fuel h body = .ok l ∧ Pieces h body l ∧ ∀ f ∈ l, f.1.totalLength ≤ mtu := by
  intro fuel
  induction fuel with
  | zero => intro h body _ hf; omega
  | succ fuel ih =>
    intro h body pre hf
    obtain ⟨hihl, htl, hmax, hfo⟩ := pre
    unfold fragRec
    by_cases hfit : h.totalLength ≤ mtu
    · simp only [if_pos hfit]
      exact ⟨_, rfl, Pieces.single h body htl, by intro f hf; simp at hf; subst hf; exact hfit⟩
    · simp only [if_neg hfit, hihl]
      have hn1 : 0 < (mtu - 5 * 4) / 8 := by omega
      generalize hnfb : (mtu - 5 * 4) / 8 = nfb at *
      have hn8 : nfb * 8 ≤ mtu - 20 := by omega
      -- none of the five checked operations fails
      obtain ⟨g1, g2, g3, g4, g5⟩ : 5 * 4 ≤ mtu ∧ nfb * 8 ≤ body.length ∧ 5 * 4 + nfb * 8 ≤ 65535 ∧
          nfb * 8 ≤ h.totalLength ∧ h.fragOffset + nfb ≤ 65535 := by omega
      rw [if_neg (Nat.not_lt.2 g1), if_neg (Nat.not_lt.2 g2), if_neg (Nat.not_lt.2 g3),
        if_neg (Nat.not_lt.2 g4), if_neg (Nat.not_lt.2 g5)]
      have hpre' : PreG (restHdr h nfb) (body.drop (nfb * 8)) := by
        refine ⟨hihl, ?_, ?_, ?_⟩ <;> simp only [restHdr, List.length_drop] <;> omega
      obtain ⟨l, e, p, fits⟩ := ih (restHdr h nfb) (body.drop (nfb * 8)) hpre'
        (by simp only [restHdr]; omega)
      rw [e]
      refine ⟨_, rfl, ?_, ?_⟩
      · rw [firstHdr_eq h nfb hihl]
        rw [restHdr_eq] at p
        have e8 : nfb * 8 = 8 * nfb := by omega
        rw [e8] at p ⊢
        exact Pieces.cons h body nfb l hn1 (by omega) htl p
      · intro f hf
        simp only [List.mem_cons] at hf
        rcases hf with rfl | hf
        · simp only [firstHdr, hihl]; omega
        · exact fits f hf

theorem fragment_spec (h : Hdr) (body : List UInt8) (mtu : Nat) (hmtu : 28 ≤ mtu)
    (pre : PreG h body) (hdf : mayFragment h.flags = true) :
    ∃ r, fragment h body mtu = .ok r ∧ Pieces h body r.pieces ∧
      ∀ f ∈ r.pieces, f.1.totalLength ≤ mtu := by
  unfold fragment
  by_cases hfit : h.totalLength ≤ mtu
  · simp only [if_pos hfit]
    exact ⟨_, rfl, Pieces.single h body pre.tl, by
      intro f hf; simp [Fragments.pieces] at hf; subst hf; exact hfit⟩
  · simp only [if_neg hfit, hdf]
    obtain ⟨l, e, p, fits⟩ := fragRec_spec mtu hmtu (fuelFor h) h body pre (by simp [fuelFor])
    simp only [Bool.not_true, Bool.false_eq_true, if_false, e]
    exact ⟨_, rfl, p, fits⟩

theorem Pieces.piece_pre {h body l} (p : Pieces h body l) (pre : PreG h body) :
    ∀ f ∈ l, PreG f.1 f.2 := by
  intro f hf
  obtain ⟨hs, hl, _, ho, _, _⟩ := p.rel f hf
  have he := p.end_le f hf
  obtain ⟨a, b, c, d⟩ := pre
  exact ⟨by rw [hs.1, a], hl, by omega, by omega⟩

theorem hop_eq_flatMap (mtu : Nat) (l : List Frag)
    (hok : ∀ f ∈ l, ∃ r, fragment f.1 f.2 mtu = .ok r) :
    hop mtu l = .ok (l.flatMap fun f =>
      match fragment f.1 f.2 mtu with | .ok r => r.pieces | .error _ => []) := by
  induction l with
  | nil => rfl
  | cons f fs ih =>
    obtain ⟨r, hr⟩ := hok f (by simp)
    have := ih (fun g hg => hok g (by simp [hg]))
    simp only [hop, hr, this, List.flatMap_cons]

theorem chain_nil (mtus : List Nat) : chain mtus [] = .ok [] := by
  induction mtus with
  | nil => rfl
  | cons m ms ih => simp [chain, hop, ih]

theorem hop_pieces {h : Hdr} {body : List UInt8} (pre : PreG h body) (hdf : mayFragment h.flags = true)
    {m : Nat} (hm : 28 ≤ m) {l : List Frag} (p : Pieces h body l) :
    ∃ l', hop m l = .ok l' ∧ Pieces h body l' ∧ ∀ f ∈ l', f.1.totalLength ≤ m := by
  have hpiece : ∀ f ∈ l, ∃ r, fragment f.1 f.2 m = .ok r ∧ Pieces f.1 f.2 r.pieces ∧
      ∀ g ∈ r.pieces, g.1.totalLength ≤ m := fun f hf =>
    fragment_spec f.1 f.2 m hm (p.piece_pre pre f hf) (by rw [(p.fields f hf).2.2.2.2.2.2.2.2, hdf])
  refine ⟨_, hop_eq_flatMap m l fun f hf => let ⟨r, e, _⟩ := hpiece f hf; ⟨r, e⟩,
    p.refine _ fun f hf => ?_, fun g hg => ?_⟩
  · obtain ⟨r, e, q, _⟩ := hpiece f hf
    simp only [e]; exact q
  · obtain ⟨f, hf, hgf⟩ := List.mem_flatMap.1 hg
    obtain ⟨r, e, _, fits⟩ := hpiece f hf
    simp only [e] at hgf
    exact fits g hgf

theorem chain_pieces (h : Hdr) (body : List UInt8) (pre : PreG h body)
    (hdf : mayFragment h.flags = true) :
    ∀ (mtus : List Nat) (l : List Frag) (bound : Nat), (∀ m ∈ mtus, 28 ≤ m) → Pieces h body l →
      (∀ f ∈ l, f.1.totalLength ≤ bound) →
      ∃ l', chain mtus l = .ok l' ∧ Pieces h body l' ∧
        ∀ f ∈ l', f.1.totalLength ≤ mtus.getLast?.getD bound := by
  intro mtus
  induction mtus with
  | nil => intro l bound _ p hb; exact ⟨l, rfl, p, by simpa using hb⟩
  | cons m ms ih =>
    intro l bound hm p _
    obtain ⟨l1, e1, p1, fits1⟩ := hop_pieces pre hdf (hm m (by simp)) p
    obtain ⟨l', e', q, fits⟩ := ih l1 m (fun k hk => hm k (by simp [hk])) p1 fits1
    refine ⟨l', by simp only [chain, e1]; exact e', q, ?_⟩
    rw [List.getLast?_cons]
    simpa using fits

theorem chain_df (h : Hdr) (body : List UInt8) (hdf : mayFragment h.flags = false) :
    ∀ mtus : List Nat, chain mtus [(h, body)] =
      .ok (if mtus.all (fun m => decide (h.totalLength ≤ m)) then [(h, body)] else []) := by
  intro mtus
  induction mtus with
  | nil => rfl
  | cons m ms ih =>
    by_cases hfit : h.totalLength ≤ m
    · simp [chain, hop, fragment, hfit, Fragments.pieces, ih]
    · simp [chain, hop, fragment, hfit, hdf, Fragments.pieces, chain_nil]


end Elvis.Frag
