import ElvisVerif.Lemmas.TcpFullEst
/-!
# The first exchange phase from a ROUGH state: any reorder heaps, any one-shot queues

`RoughX t`: ESTABLISHED with the SYN acknowledged, empty receive buffer, MTU above `SPACE_FOR_HEADERS`, timer at
most RTO.  NOTHING is assumed about the reorder heap (segments parked after loss or reordering, pure ACKs that
overtook data), the one-shot queue (ACKs not yet emitted), the retransmission queue or the unsent text.

`side_outcome_roughL`: the peer (rough, every queue entry flagged) emits `oneshot ++ queue ++ new`; delivered in
order to a rough endpoint, `RCV.NXT` reaches the peer's `SND.NXT`, the reorder heap ends EMPTY (every parked
segment was at or below the peer's `SND.NXT`: `HeapFit.seq`; what stays parked is ahead of `RCV.NXT`: `ER.ahead`),
and the last header queued acknowledges `RCV.NXT` unless the peer had nothing outstanding.
-/
namespace Elvis.Tcp.Full
open Elvis.ModCmp Elvis.Tcp.Tcb

structure RoughX (t : Tcb) : Prop where
  st : t.state = .Established
  buf : t.incoming.text = []
  una : t.snd.una ≠ t.snd.iss
  mtu : SPACE_FOR_HEADERS < t.mtu.toNat
  tmo : t.timeouts.retransmission ≤ RTO

structure Rough (s : Sys) (ta tb : Tcb) : Prop where
  ha : s.a.tcb = some ta
  hb : s.b.tcb = some tb
  a : RoughX ta
  b : RoughX tb

theorem catchRun_mem (l : List Segment) : ∀ seq, CatchRun seq l → ∀ g ∈ l,
    g.hdr.ctl.rst = false ∧ g.hdr.ctl.syn = false ∧ g.hdr.ctl.fin = false ∧ g.hdr.ctl.ack = true ∧ g.text ≠ [] ∧
      g.text.length ≤ 65535 ∧ ∃ k, g.hdr.seq = seq + BitVec.ofNat 32 k ∧ k + g.text.length ≤ segBytes l := by
  induction l with
  | nil => intro _ _ g hg; cases hg
  | cons x rest ih =>
    intro seq h g hg
    obtain ⟨h1, h2, h3, h4, h5, h6, h7, h8⟩ := h
    rcases List.mem_cons.1 hg with rfl | hg
    · refine ⟨h2, h3, h4, h5, h6, h7, 0, by rw [h1]; simp, by rw [segBytes_cons]; omega⟩
    · obtain ⟨a1, a2, a3, a4, a5, a6, k, a7, a8⟩ := ih _ h8 g hg
      refine ⟨a1, a2, a3, a4, a5, a6, x.text.length + k, ?_, by rw [segBytes_cons]; omega⟩
      rw [a7, BitVec.add_assoc, ← BitVec.ofNat_add]

variable {iss : SideId → Seq}

structure HeapFit (base : Seq) (Np : Nat) (t : Tcb) : Prop where
  hk : HeapOk base t
  ahead : Ahead base t
  seq : ∀ g ∈ t.incoming.segments, off base g.hdr.seq ≤ Np

theorem HeapFit.of_empty {base : Seq} {Np : Nat} {t : Tcb} (h : t.incoming.segments = []) : HeapFit base Np t := by
  have none : ∀ g ∈ t.incoming.segments, False := fun g hm => by rw [h] at hm; cases hm
  refine ⟨⟨fun g hm => (none g hm).elim, ?_⟩, fun _ g hm => (none g hm).elim, fun g hm => (none g hm).elim⟩
  rw [h]
  exact Heap.isHeap_empty _

theorem ack_le_sent {s : Sys} (hg : Good iss s) {y : SideId} {t tp : Tcb} (ht : (s.side y).tcb = some t)
    (htp : (s.side y.peer).tcb = some tp) :
    (∀ σ ∈ s.history, σ.hdr.srcPort = y.peer.port → AckLe (iss y) t.sent σ.hdr) ∧
    (∀ g ∈ t.incoming.segments, AckLe (iss y) t.sent g.hdr) := by
  have hA := ackLink_tcbs hg ht htp
  have htop : top t.snd.iss tp ≤ t.sent := top_le ((hg.conv.full.inv.link y).rcv t tp ht htp).1
  rw [← hg.iss_eq y t ht]
  exact ⟨fun σ hmem hsrc => (hA.hist t tp rfl rfl σ hmem hsrc).mono htop, fun g hgm => (hA.heap t tp rfl rfl g hgm).mono htop⟩

theorem er_of_goodL {s : Sys} (hg : Good iss s) (y : SideId) (ty tx : Tcb) (hh : HeapFit (iss y.peer) tx.sent ty)
    (hty : (s.side y).tcb = some ty) (htx : (s.side y.peer).tcb = some tx)
    (sty : ty.state = .Established)
    (hroom : ty.incoming.text.length + (tx.sent - off (iss y.peer) ty.rcv.nxt) ≤ 65535) :
    ER (iss y) ty.sent (iss y.peer) tx.sent ty := by
  have hxx : (s.side y.peer.peer).tcb = some ty := by rw [SideId.peer_peer]; exact hty
  have sqX := squeeze_facts hg y.peer tx ty htx hxx sty
  have hissX := hg.iss_eq y.peer tx htx
  refine ⟨⟨sty, hg.wnd y ty hty, hg.iss_eq y ty hty, rfl, ?_, sqX.2, hroom⟩, hh.hk, ?_, hh.ahead sty⟩
  · exact hg.una_le y ty hty
  · intro g hg'
    have hv := (hg.tinv y ty hty).heap g hg'
    have hah := hh.ahead sty g hg'
    have hsq := hh.seq g hg'
    refine ⟨(hg.conv.nr.tcb y ty hty).heap g hg', ?_, hv.fin, (ack_le_sent hg hty htx).2 g hg', ?_, hsq, fun hne => ?_⟩
    · cases hsyn : g.hdr.ctl.syn with
      | false => rfl
      | true =>
        exfalso
        have := (hv.syn hsyn).1
        rw [this, off_self] at hah
        exact absurd hah (Nat.not_lt_zero _)
    · exact Nat.le_trans ((wf_of_sysWf hg.ext.wf y ty hty).heap_text g hg') (by decide)
    · exact hissX ▸ (((hg.conv.full.inv.link y.peer).rcv tx ty htx hxx).2 g hg').text hne

/-- the batch a rough side `tx` with every queue entry flagged emits: its pure ACKs, then its whole queue and its new
    data as one run of consecutive segments; every member is `Nice` for the peer `ty` -/
theorem rough_batch {s : Sys} (hg : Good iss s) (y : SideId) (ty tx tx1 : Tcb) (newX : List Transmit)
    (outX : List Segment) (hty : (s.side y).tcb = some ty) (htx : (s.side y.peer).tcb = some tx)
    (fX : EmitFx tx newX tx1 outX) (RX : RoughX tx) (hflag : ∀ tr ∈ tx.outgoing.retransmit, tr.needsTransmit = true)
    (hNp : tx.sent + emitAmount tx < 2147483648) {M : Nat} (hM : ty.sent ≤ M) :
    outX = (tx.outgoing.oneshot.map fun h => (⟨h, []⟩ : Segment)) ++ (tx.outgoing.retransmit ++ newX).map (·.segment) ∧
    CatchRun (tx.snd.nxt - BitVec.ofNat 32 (rtxBytes tx.outgoing.retransmit))
      ((tx.outgoing.retransmit ++ newX).map (·.segment)) ∧
    segBytes ((tx.outgoing.retransmit ++ newX).map (·.segment)) = rtxBytes tx.outgoing.retransmit + emitAmount tx ∧
    ∀ g ∈ outX, Nice (iss y) M (iss y.peer) (tx.sent + emitAmount tx) g := by
  have hD : ((tx.outgoing.retransmit ++ newX).filter (·.needsTransmit)) = tx.outgoing.retransmit ++ newX :=
    List.filter_eq_self.2 (fun tr htr => by
      rcases List.mem_append.1 htr with h | h
      · exact hflag tr h
      · exact fX.flagged tr h)
  have houtX : outX = (tx.outgoing.oneshot.map fun h => (⟨h, []⟩ : Segment)) ++
      (tx.outgoing.retransmit ++ newX).map (·.segment) := by rw [fX.out, hD]
  obtain ⟨qsum, -, -⟩ := queue_start hg y.peer tx htx RX.st RX.una
  have factsX := rtx_entry_facts hg y.peer tx htx RX.una
  have siX := hg.sndInv y.peer tx htx RX.st
  have hnewlen : ∀ g ∈ newX.map (·.segment), g.text.length ≤ 65535 := fun g hg' =>
    Nat.le_trans (le_segBytes _ g hg') (fX.bytes ▸ emitAmount_le tx)
  have hrun : CatchRun (tx.snd.nxt - BitVec.ofNat 32 (rtxBytes tx.outgoing.retransmit))
      ((tx.outgoing.retransmit ++ newX).map (·.segment)) := by
    rw [List.map_append]
    refine catchRun_append _ _ _ (chain_catchRun tx.snd.nxt tx.outgoing.retransmit siX.chain factsX) ?_
    rw [← rtxBytes_eq_segBytes]
    rw [BitVec.sub_add_cancel]
    exact catchRun_of_dataRun _ _ _ _ _ _ fX.run hnewlen
  have hsb : segBytes ((tx.outgoing.retransmit ++ newX).map (·.segment)) = rtxBytes tx.outgoing.retransmit + emitAmount tx := by
    rw [List.map_append, segBytes_append, ← rtxBytes_eq_segBytes, fX.bytes]
  refine ⟨houtX, hrun, hsb, fun g hg' => ?_⟩
  have hsentXo := hg.sent_eq y.peer tx htx
  have sqY := (squeeze_facts hg y ty tx hty htx RX.st).2
  have hnsx : tx.state ≠ .SynSent := by rw [RX.st]; simp
  obtain ⟨-, hone⟩ := oneshot_facts hg y ty tx hty htx RX.st
  have q := (ackLink_tcbs hg hty htx).q ty tx rfl rfl
  rw [hg.iss_eq y ty hty] at q
  rw [houtX] at hg'
  rcases List.mem_append.1 hg' with h | h
  · obtain ⟨p, e1, e6, e7⟩ := hone g h
    refine ⟨p.rst, p.syn, p.fin, fun _ => ⟨e6, Nat.le_trans e7 (Nat.le_trans sqY hM)⟩, by rw [p.text]; simp, ?_,
      fun hne => absurd p.text hne⟩
    rw [e1, hsentXo]
    exact Nat.le_add_right _ _
  · obtain ⟨a1, a2, a3, a4, a5, a6, k, a7, a8⟩ := catchRun_mem _ _ hrun g h
    rw [hsb] at a8
    have hoffg : off (iss y.peer) g.hdr.seq =
        off (iss y.peer) (tx.snd.nxt - BitVec.ofNat 32 (rtxBytes tx.outgoing.retransmit)) + k := by
      rw [a7, off_add _ _ _ (by omega)]
    refine ⟨a1, a2, a3, fun _ => ?_, a6, by omega, fun _ => by omega⟩
    rw [List.map_append] at h
    rcases List.mem_append.1 h with h | h
    · obtain ⟨tr, htr, rfl⟩ := List.mem_map.1 h
      have := q.rtx tr htr (factsX tr htr).2.2.2
      rw [top_of_ne hnsx] at this
      exact ⟨this.1, Nat.le_trans this.2 (Nat.le_trans sqY hM)⟩
    · have := ackLe_dataRun (iss y) (off (iss y) tx.rcv.nxt) _ _ _ _ (q.pos hnsx) (Nat.le_refl _) _ _ fX.run g h
      exact ⟨this.1, Nat.le_trans this.2 (Nat.le_trans sqY hM)⟩

/-- the peer's queue starts at or below `RCV.NXT = q` and fits, with what is emitted next, one window -/
theorem rough_window {sent emit rtx start una q : Nat} (qsum : start + rtx = sent) (qle : start ≤ una) (h1 : una ≤ q)
    (hΔ : rtx + emit ≤ 65535) : sent - q ≤ 65535 ∧ sent + emit - q ≤ 65535 ∧ start ≤ q := by
  omega

/-- `RCV.NXT`, moving from `q` to `q2`, reaches the peer's `SND.NXT`: past the whole run, or the peer had nothing
    outstanding and `RCV.NXT` was there already -/
theorem rough_reach {sent emit rtx start una q q2 : Nat} (qsum : start + rtx = sent) (qle : start ≤ una) (h1 : una ≤ q)
    (h2 : q ≤ sent) (mono : q ≤ q2) (hup : q2 ≤ sent + emit) (h : (rtx = 0 ∧ emit = 0) ∨ start + (rtx + emit) ≤ q2) :
    q2 = sent + emit ∧ (rtx = 0 → emit = 0 → una = sent) := by
  omega

theorem side_outcome_roughL {s s2 : Sys} (hg : Good iss s) (hg2 : Good iss s2) (y : SideId)
    (ty ty1 tx tx1 : Tcb) (newY newX : List Transmit) (outY outX : List Segment)
    (hty : (s.side y).tcb = some ty) (htx : (s.side y.peer).tcb = some tx)
    (hty1 : (s2.side y).tcb = some ty1) (htx1 : (s2.side y.peer).tcb = some tx1)
    (fY : EmitFx ty newY ty1 outY) (fX : EmitFx tx newX tx1 outX) (RY : RoughX ty) (RX : RoughX tx)
    (hflag : ∀ tr ∈ tx.outgoing.retransmit, tr.needsTransmit = true)
    (hh : HeapFit (iss y.peer) tx.sent ty) :
    ∃ ty2, ty1.arriveList outX = .ok ty2 ∧ Took ty ty1 tx1 ty2 ∧
      off (iss y) ty1.snd.una ≤ off (iss y) ty2.snd.una ∧ off (iss y) ty2.snd.una ≤ ty1.sent ∧
      (LastAck ty2 ∨ (tx.snd.una = tx.snd.nxt ∧ tx1.snd.nxt = tx.snd.nxt)) := by
  have hxx : (s.side y.peer.peer).tcb = some ty := by rw [SideId.peer_peer]; exact hty
  have sqX := squeeze_facts hg y.peer tx ty htx hxx RY.st
  have hrcv1 : ty1.rcv.nxt = ty.rcv.nxt := by rw [fY.rcv]
  have hsentXo := hg.sent_eq y.peer tx htx
  have hN1 := hg2.sent_lt y ty1 hty1
  have hsent1 := sent_emit hg y ty ty1 newY outY hty fY (hg2.iss_eq y ty1 hty1)
  -- what the peer has outstanding and emits fits one window
  obtain ⟨qsum, qle, qB⟩ := queue_start hg y.peer tx htx RX.st RX.una
  have hΔX : rtxBytes tx.outgoing.retransmit + emitAmount tx ≤ 65535 := by
    rw [emitAmount_eq hg y.peer tx htx RX.st]; omega
  obtain ⟨w1, w2, w3⟩ := rough_window qsum qle sqX.1 hΔX
  have hsentX1 := sent_emit hg y.peer tx tx1 newX outX htx fX (hg2.iss_eq y.peer tx1 htx1)
  have hNpo : off (iss y.peer) tx1.snd.nxt = tx.sent + emitAmount tx := (hg2.sent_eq y.peer tx1 htx1).trans hsentX1
  have hNp : tx.sent + emitAmount tx < 2147483648 := hsentX1 ▸ hg2.sent_lt y.peer tx1 htx1
  have er1 : ER (iss y) ty1.sent (iss y.peer) (tx.sent + emitAmount tx) ty1 := by
    have er := er_of_goodL hg y ty tx hh hty htx RY.st (by rw [RY.buf, List.length_nil, Nat.zero_add]; exact w1)
    refine er.mono fY.st fY.rcv fY.inc (hg2.iss_eq y ty1 hty1) rfl (Nat.le.intro hsent1.symm) (hg2.una_le y ty1 hty1)
      (Nat.le_add_right _ _) ?_
    rw [fY.inc, RY.buf, hrcv1, List.length_nil, Nat.zero_add]
    exact w2
  obtain ⟨houtX, hrun, hsb, hniceX⟩ := rough_batch hg y ty tx tx1 newX outX hty htx fX RX hflag hNp
    (Nat.le.intro hsent1.symm)
  obtain ⟨ty2, e2, er2, k2, -, prog2⟩ := arriveList_est hN1 hNp outX ty1 er1 hniceX
  -- with nothing queued and nothing new the peer has nothing outstanding; else the run ends at its `SND.NXT`
  have hrest : (off (iss y.peer) ty2.rcv.nxt = tx.sent + emitAmount tx) ∧
      (LastAck ty2 ∨ (tx.snd.una = tx.snd.nxt ∧ tx1.snd.nxt = tx.snd.nxt)) := by
    have hup := er2.el.q
    have mono := k2.qmono
    rw [hrcv1] at mono
    by_cases hDn : (tx.outgoing.retransmit ++ newX).map (·.segment) = []
    · obtain ⟨l1, l2⟩ := List.append_eq_nil_iff.1 (List.map_eq_nil_iff.1 hDn)
      have hr0 : rtxBytes tx.outgoing.retransmit = 0 := by rw [l1]; rfl
      have hb0 : emitAmount tx = 0 := by rw [← fX.bytes, l2]; rfl
      obtain ⟨r1, r2⟩ := rough_reach qsum qle sqX.1 sqX.2 mono hup (Or.inl ⟨hr0, hb0⟩)
      exact ⟨r1, Or.inr ⟨off_inj (base := iss y.peer) ((r2 hr0 hb0).trans hsentXo.symm), by rw [fX.nxt, hb0]; simp⟩⟩
    · obtain ⟨p1, p2⟩ := prog2 _ _ _ houtX hrun hDn (by rw [hrcv1]; exact w3)
      rw [hsb] at p1
      exact ⟨(rough_reach qsum qle sqX.1 sqX.2 mono hup (Or.inr p1)).1, Or.inl p2⟩
  have hheap2 : ty2.incoming.segments = [] := by
    apply List.eq_nil_iff_forall_not_mem.2
    intro g hg'
    have h1 := er2.ahead g hg'
    rw [hrest.1] at h1
    exact absurd (er2.nice g hg').seq (Nat.not_le.2 h1)
  refine ⟨ty2, e2, ⟨er2.el.st, hheap2, ?_, k2.snxt, by rw [k2.mtu, fY.mtu], ?_, by rw [k2.otext, fY.text]⟩, k2.umono,
    er2.el.una, hrest.2⟩
  · apply off_inj (base := iss y.peer)
    rw [hrest.1, hNpo]
  · exact fun tr htr => fY.unflagged tr (k2.rtx tr htr)

end Elvis.Tcp.Full
