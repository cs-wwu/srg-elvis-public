import ElvisVerif.Lemmas.Reasm
/-!
# C11 — IPv4 reassembly rebuilds exactly the datagrams that were fragmented

The model has two behaviours: `Cfg.fixed` is the code in the repository (after the two `fix:`
commits), `Cfg.orig` the code before them.  The full theorems are about `Cfg.fixed`; the two
counterexample theorems show what is wrong in `Cfg.orig`.

Setting of the theorems: `Datagram H B` is an original datagram (basic header, offset 0, MF clear,
payload `B` of 1…65515 octets) with identifier `id = (src, dst, protocol, identification)`.
`PieceOf H B f` says `f` is a fragment of it — C10 shows that every piece produced by the
fragmenter along any chain of MTUs is one (`c11_fragments_are_pieces`).  An operation sequence is
*any* list of packets and expiry callbacks in which the packets addressed to `id` are fragments
of `(H, B)` (`GoodOp`) — repeated, overlapping (from different chains), in any order, interleaved
with arbitrary traffic for other identifiers and with arbitrary expiry callbacks.
-/
namespace Elvis.Reasm
open Elvis.Frag

/-- a 16-octet datagram and its two 8-octet fragments -/
def exH : Hdr :=
  { ihl := 5, tos := 0, totalLength := 36, ident := 7, fragOffset := 0, flags := 0, ttl := 64,
    proto := 17, checksum := 0, src := 1, dst := 2 }
def exB : List UInt8 := [1, 2, 3, 4, 5, 6, 7, 8, 9, 10, 11, 12, 13, 14, 15, 16]
def exF1 : Hdr := { exH with totalLength := 28, flags := 1 }
def exF2 : Hdr := { exH with totalLength := 28, fragOffset := 1 }
def exId : BufId := BufId.ofHdr exH

def returnedLengths (os : List Out) : List Nat :=
  os.map fun o => match o with | .res (.complete _ b) => b.length | _ => 0

def cullEffects (os : List Out) : List (Bool × Bool) :=
  os.filterMap fun o => match o with | .culled a b => some (a, b) | _ => none

/-- the hypotheses are satisfiable: the example is a datagram and its fragments are pieces of it -/
example : Datagram exH exB := ⟨rfl, rfl, by decide, by decide, rfl, Or.inl rfl⟩
example : PieceOf exH exB (exF1, exB.take 8) :=
  ⟨by unfold SameFields; decide, rfl, by decide, by decide, by decide, by decide, by decide, by decide⟩
example : PieceOf exH exB (exF2, exB.drop 8) :=
  ⟨by unfold SameFields; decide, rfl, by decide, by decide, by decide, by decide, by decide, by decide⟩

/-- **F-C11-1** (`Cfg.orig`): the first fragment delivered twice is appended twice — a
    24-octet payload is returned for a 16-octet datagram.  `Cfg.fixed`: 16 octets. -/
theorem c11_duplicate_counterexample :
    returnedLengths (run Cfg.orig Reassembly.new
      [.pkt exF1 (exB.take 8), .pkt exF1 (exB.take 8), .pkt exF2 (exB.drop 8)]).2 = [0, 0, 24] ∧
    returnedLengths (run Cfg.fixed Reassembly.new
      [.pkt exF1 (exB.take 8), .pkt exF1 (exB.take 8), .pkt exF2 (exB.drop 8)]).2 = [0, 0, 16] := by
  decide

/-- **F-C11-2** (`Cfg.orig`): datagram A completes (its first arrival issued the token
    `(id, 1)`); datagram B reuses the identification and its first arrival gets epoch 1 again; A's
    stale timer frees B's buffer and B is never returned although all of it arrived.
    `Cfg.fixed`: the stale token frees nothing and B is returned. -/
theorem c11_stale_token_counterexample :
    let ops : List Op :=
      [.pkt exF2 (exB.drop 8), .pkt exF1 (exB.take 8),          -- A: token (id,1), then complete
       .pkt exF2 (exB.drop 8),                                  -- B: first arrival
       .cull exId 1,                                            -- A's timer
       .pkt exF1 (exB.take 8)]                                  -- rest of B
    (cullEffects (run Cfg.orig Reassembly.new ops).2 = [(true, false)] ∧
      returnedLengths (run Cfg.orig Reassembly.new ops).2 = [0, 16, 0, 0, 0]) ∧
    (cullEffects (run Cfg.fixed Reassembly.new ops).2 = [(true, true)] ∧
      returnedLengths (run Cfg.fixed Reassembly.new ops).2 = [0, 16, 0, 0, 16]) := by
  decide

/-- **What the fragmenter produces is what the reassembler is proved correct for**: every piece
    that arrives after any chain of MTUs ≥ 68 is a `PieceOf` the original datagram. -/
theorem c11_fragments_are_pieces (H : Hdr) (B : List UInt8) (mtus : List Nat) (l : List Frag)
    (dg : Datagram H B) (hdf : mayFragment H.flags = true) (hm : ∀ m ∈ mtus, 68 ≤ m)
    (e : chain mtus [(H, B)] = .ok l) : ∀ f ∈ l, PieceOf H B f := by
  have pre : PreG H B := ⟨dg.ihl, dg.tl, by have := dg.tl; have := dg.max; omega,
    by have := dg.fo; have := dg.max; omega⟩
  obtain ⟨l', e', p, _⟩ := chain_pieces H B pre hdf mtus [(H, B)] H.totalLength
    (fun m hmm => by have := hm m hmm; omega) (Pieces.single H B dg.tl) (by simp)
  rw [e] at e'; cases e'
  exact Pieces.pieceOf dg p

/-- **A datagram is returned exactly when the pieces received since its last completion cover
    it.**  After any operation sequence `ops`, let `g` be the fragments received for `id` since its
    buffer was last freed (by a completion, a flush or an expiry — `track` reads this off the
    results of the run).  The next fragment `(h, b)` for `id` makes `receive_packet` return a
    datagram iff `g ++ [(h, b)]` contains a last fragment and covers every block of the datagram;
    otherwise it returns `Incomplete` for this `id`.  It never panics. -/
theorem c11_complete_iff {H : Hdr} {B : List UInt8} {id : BufId} (dg : Datagram H B)
    (ops : List Op) (good : ∀ op ∈ ops, GoodOp H B id op)
    (h : Hdr) (b : List UInt8) (hid : BufId.ofHdr h = id) (pf : PieceOf H B (h, b)) :
    let rg := track id (Reassembly.new, []) ops
    let o := (step Cfg.fixed rg.1 (.pkt h b)).2
    ((∃ hd msg, o = .res (.complete hd msg)) ↔ Covered B.length (rg.2 ++ [(h, b)])) ∧
    ((∃ t e, o = .res (.incomplete t id e)) ↔ ¬ Covered B.length (rg.2 ++ [(h, b)])) := by
  intro rg o
  have inv := track_inv dg ops (Reassembly.new, []) (rinv_new H B id) good
  rcases receive_id dg inv h b hid pf with ⟨r', e, hc, _⟩ | ⟨r', t, ep, e, hnc, _⟩
  · have ho : o = .res (.complete H B) := by
      show (step Cfg.fixed (track id (Reassembly.new, []) ops).1 (.pkt h b)).2 = _
      simp only [step, e]
    constructor
    · exact ⟨fun _ => hc, fun _ => ⟨H, B, ho⟩⟩
    · constructor
      · rintro ⟨t, ep, h'⟩; rw [ho] at h'; cases h'
      · intro hn; exact absurd hc hn
  · have ho : o = .res (.incomplete t id ep) := by
      show (step Cfg.fixed (track id (Reassembly.new, []) ops).1 (.pkt h b)).2 = _
      simp only [step, e]
    constructor
    · constructor
      · rintro ⟨hd, msg, h'⟩; rw [ho] at h'; cases h'
      · intro hc; exact absurd hc hnc
    · exact ⟨fun _ => hnc, fun _ => ⟨t, ep, ho⟩⟩

/-- **What is returned is the original header and payload, byte for byte** — for every arrival
    order, every interleaving with other datagrams and expiry callbacks, fragments arriving any
    number of times, and fragments of the same datagram made by different MTU chains. -/
theorem c11_correct {H : Hdr} {B : List UInt8} {id : BufId} (dg : Datagram H B)
    (ops : List Op) (good : ∀ op ∈ ops, GoodOp H B id op)
    (h : Hdr) (b : List UInt8) (hid : BufId.ofHdr h = id) (pf : PieceOf H B (h, b))
    (hd : Hdr) (msg : List UInt8)
    (e : (step Cfg.fixed (track id (Reassembly.new, []) ops).1 (.pkt h b)).2 =
      .res (.complete hd msg)) : hd = H ∧ msg = B := by
  have inv := track_inv dg ops (Reassembly.new, []) (rinv_new H B id) good
  rcases receive_id dg inv h b hid pf with ⟨r', e', _, _⟩ | ⟨r', t, ep, e', _, _⟩
  · simp only [step, e'] at e
    cases e; exact ⟨rfl, rfl⟩
  · simp only [step, e'] at e
    cases e

/-- **Fragments of datagrams that differ in source, destination, protocol or identification
    never mix**: an operation that does not address `id` (a packet with another identifier, an
    expiry for another identifier) leaves the buffer of `id` exactly as it was; and what a packet
    returns depends on nothing but the buffer of its own identifier (and the epoch floor, which
    only numbers the expiry tokens).  Together with `c11_correct`, which allows arbitrary foreign
    traffic, no piece ever crosses from one identifier to another. -/
theorem c11_isolation (cfg : Cfg) (r : Reassembly) (op : Op) (id : BufId) (hne : ¬ op.concerns id) :
    lookup id (step cfg r op).1.segments = lookup id r.segments :=
  step_lookup_ne cfg r op id hne

theorem c11_isolation_run (cfg : Cfg) (id : BufId) : ∀ (ops : List Op) (r : Reassembly),
    (∀ op ∈ ops, ¬ op.concerns id) →
    lookup id (run cfg r ops).1.segments = lookup id r.segments := by
  intro ops
  induction ops with
  | nil => intro r _; rfl
  | cons op ops ih =>
    intro r h
    simp only [run]
    rw [ih _ (fun o ho => h o (by simp [ho]))]
    exact step_lookup_ne cfg r op id (h op (by simp))

theorem c11_isolation_result (cfg : Cfg) (r1 r2 : Reassembly) (h : Hdr) (b : List UInt8)
    (hl : lookup (BufId.ofHdr h) r1.segments = lookup (BufId.ofHdr h) r2.segments)
    (hf : r1.floor = r2.floor) :
    (step cfg r1 (.pkt h b)).2 = (step cfg r2 (.pkt h b)).2 := by
  simp only [step, Reassembly.receive, Reassembly.bufferFor, hl, hf]
  by_cases hs : (isLast h.flags && decide (h.fragOffset = 0)) = true
  · simp only [hs, if_true]
  · simp only [hs]
    unfold Reassembly.receiveInto
    cases (match lookup (BufId.ofHdr h) r2.segments with
      | some s => s
      | none => Segment.newAt (if cfg.floor = true then r2.floor else 0)).receive cfg h b with
    | error _ => rfl
    | ok p =>
      obtain ⟨seg', res⟩ := p
      cases res with
      | none => rfl
      | some q => rfl

/-- An expiry callback frees the buffer exactly when its token is live, and then only that one. -/
theorem c11_cull_iff (cfg : Cfg) (r : Reassembly) (id : BufId) (e : Nat) :
    ((r.contains id = true ∧ (r.maybeCull cfg id e).contains id = false) ↔ Live r id e) ∧
    (¬ Live r id e → r.maybeCull cfg id e = r) ∧
    (∀ k, k ≠ id → lookup k (r.maybeCull cfg id e).segments = lookup k r.segments) := by
  refine ⟨?_, maybeCull_not_live, fun k hk => maybeCull_lookup_ne cfg r id k e (Ne.symm hk)⟩
  simp only [Reassembly.contains]
  constructor
  · intro ⟨h1, h2⟩
    apply Classical.byContradiction
    intro n
    rw [maybeCull_not_live n, h1] at h2
    cases h2
  · intro l
    rw [maybeCull_live l, free_lookup_self]
    obtain ⟨s, hs, _⟩ := l
    rw [hs]
    exact ⟨rfl, rfl⟩

/-- **An incomplete datagram is discarded once its timer expires without new fragments, but not
    while fragments keep arriving.**  Let an arrival for `id` (in any state `r`) return
    `Incomplete(timeout, id, e)`.  After any further operations `post`, the callback
    `maybe_cull_segment(id, e)` frees the buffer iff no fragment for `id` arrived in `post` and the
    token was not already used; every later arrival makes the token harmless for ever — also
    across completion and re-use of the identification (F-C11-2). -/
theorem c11_expiry (r : Reassembly) (h : Hdr) (b : List UInt8) (r' : Reassembly) (t e : Nat)
    (id : BufId) (hstep : step Cfg.fixed r (.pkt h b) = (r', .res (.incomplete t id e)))
    (post : List Op) :
    id = BufId.ofHdr h ∧ Live r' id e ∧
    (Live (run Cfg.fixed r' post).1 id e ↔
      ∀ p ∈ post.zip (run Cfg.fixed r' post).2, ¬ Disturbs id e p.1 p.2) := by
  have hl : id = BufId.ofHdr h ∧ Live r' id e := by
    simp only [step] at hstep
    cases hr : r.receive Cfg.fixed h b with
    | error _ => simp [hr] at hstep
    | ok p =>
      obtain ⟨r2, o⟩ := p
      simp only [hr, Prod.mk.injEq, Out.res.injEq] at hstep
      obtain ⟨rfl, rfl⟩ := hstep
      exact receive_incomplete hr
  exact ⟨hl.1, hl.2, live_run post r' hl.2⟩

end Elvis.Reasm
