import ElvisVerif.Lemmas.NdlTotal
/-!
# C14, NDL clause — no text presented to the network description parser makes it panic

`parse` models `core_parser` from the file's text on (normalisation,
line lexer, tree builder; every `unimplemented!`, `unwrap`, byte-index slice and checked addition
is a `Panic` constructor; the loops' fuel is a `Fail.fuel` constructor).

* `c14_ndl_total`: for every text shorter than 2^31 − 1 characters the outcome is a `Sim` or a
  reported `Err` — no panic site is reachable and the model's loop fuel always suffices.
  The hypothesis is about the `i32` line counter only (`c14_ndl_line_counter_witness`).
* Findings F-C14-2 and F-C14-2b are stated over `getTypeWith` with nom's `tag_no_case` and the
  alternatives `tagAltBefore` (with `IPtype`); the source's `get_type` uses its own `keyword`
  matcher and has no such alternative (`Generated/NdlCert.lean`).  `hfull c14-ndl` sends both
  texts through the real code (`iptype`, `kelvin-*`).
-/
namespace Elvis.Ndl

theorem c14_ndl_total (text : Text) (h : text.length < i32Max) :
    (∃ sim, parse text = .ok sim) ∨ (∃ k l, parse text = .error (.err k l)) :=
  parse_total_lines text (Nat.lt_of_le_of_lt (nlCount_le_length text) h)

/-- the lexer alone: a value (having consumed at least `[]`) or a reported error -/
theorem c14_ndl_lexer_total (s : Text) (line : Nat) (h : line + s.length ≤ i32Max) :
    (∃ r, generalParser s line = .ok r ∧ r.rest.length < s.length) ∨
    (∃ k l, generalParser s line = .error (.err k l)) :=
  (generalParser_safe s line (Nat.le_trans (Nat.add_le_add_left (nlCount_le_length s) line) h)).elim
    (fun k l => .inr ⟨k, l, rfl⟩) fun r hr => .inl ⟨r, rfl, hr.1⟩

/-- non-vacuity: a concrete description parses to a value, a broken one to a reported error -/
example : (parse ['[','N','e','t','w','o','r','k','s',']','\n','\t','[','N','e','t','w','o','r','k',' ','i','d','=','\'','1','\'',']','\n','\t','\t','[','I','P',']']).toOption.map (·.networks.length) = some 1 := by
  decide +kernel
example : parse ['[','I','P','t','y','p','e',' ','v','=','\'','4','\'',']'] = .error (.err .extraArg 1) := by decide +kernel
example : parse ['[','N','e','t','w','o','r',Char.ofNat 0x212A,'s',']'] = .error (.err .dectype 1) := by decide +kernel

/-- why `c14_ndl_total` bounds the text: the line counter is an `i32` -/
theorem c14_ndl_line_counter_witness :
    generalParser ['[','T','e','m','p','l','a','t','e',']','\n'] i32Max = .error (.panic .lineOverflow) := by
  decide +kernel

/-- alternatives of `get_type` that include `IPtype`, and a table of `DecType::from` without a case
    for it: the setting of F-C14-2 and F-C14-2b -/
def tagAltBefore : List Text :=
  [['T','e','m','p','l','a','t','e'], ['N','e','t','w','o','r','k','s'], ['N','e','t','w','o','r','k'],
   ['I','P','t','y','p','e'], ['I','P'], ['M','a','c','h','i','n','e','s'], ['M','a','c','h','i','n','e'],
   ['P','r','o','t','o','c','o','l','s'], ['P','r','o','t','o','c','o','l'],
   ['A','p','p','l','i','c','a','t','i','o','n','s'], ['A','p','p','l','i','c','a','t','i','o','n']]
def tableBefore : List (Text × Text) := DecType.all.map fun d => (lowerText d.name, d.name)

/-- F-C14-2: `[IPtype …]` matches a tag `DecType::from` has no case for → `unimplemented!` -/
theorem c14_ndl_iptype_regression :
    getTypeWith "tag_no_case" tableBefore tagAltBefore ['I','P','t','y','p','e',' ','v','=','\'','4','\''] 1
      = .error (.panic .decTypeFrom) := by decide +kernel

/-- F-C14-2b: nom's `tag_no_case` accepts U+212A KELVIN SIGN for `k` (Unicode lowercase)
    and then splits the input at the tag's *byte* length, inside the 3-byte character → panic -/
theorem c14_ndl_kelvin_regression :
    getTypeWith "tag_no_case" tableBefore tagAltBefore ['N','e','t','w','o','r',Char.ofNat 0x212A,'s'] 1
      = .error (.panic .tagSplit) ∧
    getTypeWith "tag_no_case" tableBefore tagAltBefore ['n','e','t','w','o','r',Char.ofNat 0x212A,' ','i','d','=','\'','1','\''] 1
      = .error (.panic .tagSplit) := by decide +kernel

/-- the matcher the source uses cannot split inside a character: it never panics -/
theorem c14_ndl_keyword_never_panics (tag i : Text) : matchTag "keyword" tag i ≠ .panic := by
  unfold matchTag; simp only [if_true]; split <;> simp

end Elvis.Ndl
