import ElvisVerif.Lemmas.Checksum
/-!
# C18 — With checksums enabled, emitted checksums are valid and corruption is caught

The algebra of the accumulator (`Checksum::add_u16`, `as_u16`) against the RFC 1071 specification
`Spec/Rfc1071.lean`.  The three codecs — emitted checksums verify, reference checksums are
accepted, corruption that changes the one's-complement sum is rejected — are in
`Props/C18Codec.lean`.
-/
namespace Elvis.Ck
open Elvis.Rfc1071

theorem c18_add_comm (a b : Nat) : addU16 a b = addU16 b a := addU16_comm a b

theorem c18_add_assoc (a b c : Nat) (ha : a < 65536) (hb : b < 65536) (hc : c < 65536) :
    addU16 (addU16 a b) c = addU16 a (addU16 b c) := addU16_assoc a b c ha hb hc

/-- the accumulator stays a `u16`: the checked `sum + carry` of `add_u16` cannot overflow -/
theorem c18_add_lt (a b : Nat) (ha : a < 65536) (hb : b < 65536) : addU16 a b < 65536 :=
  addU16_lt a b ha hb

/-- **accumulator = RFC 1071 one's-complement sum**: after adding any list of 16-bit words the
    accumulator is exactly `onesSum` of the words (so ≡ Σ words mod 65535), and it is `0x0000`
    only if every word is zero -/
theorem c18_sum_spec (ws : List Nat) (hw : ∀ w ∈ ws, w < 65536) :
    ws.foldl addU16 0 = onesSum ws ∧
    (ws.foldl addU16 0) % 65535 = ws.sum % 65535 ∧
    (ws.foldl addU16 0 = 0 ↔ ∀ w ∈ ws, w = 0) := by
  have t := fold_tracks ws Tracks.zero hw
  simp only [Nat.zero_add] at t
  refine ⟨t.eq, t.2.1, ?_⟩
  rw [t.2.2]
  exact List.sum_eq_zero_iff_forall_eq_nat

/-- **order irrelevant**: any permutation of the words gives the same accumulator (encoder and
    decoder add header, pseudo header and payload in different orders) -/
theorem c18_fold_perm (a : Nat) (ws ws' : List Nat) (ha : a < 65536)
    (hw : ∀ w ∈ ws, w < 65536) (hp : ws.Perm ws') :
    ws.foldl addU16 a = ws'.foldl addU16 a := by
  have hw' : ∀ w ∈ ws', w < 65536 := fun w h => hw w (hp.mem_iff.mpr h)
  have t := fold_tracks ws (Tracks.of_lt ha) hw
  have t' := fold_tracks ws' (Tracks.of_lt ha) hw'
  rw [t.eq, t'.eq, hp.sum_nat]

/-- **grouping irrelevant**: summing two parts separately and adding the results equals summing
    the concatenation -/
theorem c18_fold_append (xs ys : List Nat) (hx : ∀ w ∈ xs, w < 65536) (hy : ∀ w ∈ ys, w < 65536) :
    (xs ++ ys).foldl addU16 0 = addU16 (xs.foldl addU16 0) (ys.foldl addU16 0) := by
  have tx := fold_tracks xs Tracks.zero hx
  have ty := fold_tracks ys Tracks.zero hy
  have txy := fold_tracks (xs ++ ys) Tracks.zero
    (fun w h => by rcases List.mem_append.mp h with h | h; exact hx w h; exact hy w h)
  have t2 := tx.add_tracks ty
  simp only [Nat.zero_add] at txy t2
  rw [txy.eq, t2.eq, List.sum_append]

/-- `accumulate_remainder` adds the big-endian words of the bytes, an odd last byte padded with
    zero (RFC 1071 s4.1) -/
theorem c18_accumulate_remainder (bs : List UInt8) :
    accumulateRemainder true 0 bs = onesSum (wordsOf bs) := by
  have t := accumulateRemainder_tracks bs Tracks.zero
  simp only [Nat.zero_add] at t
  exact t.eq

/-- the emitted field is the RFC 1071 checksum up to the representation of zero … -/
theorem c18_as_u16_spec (ws : List Nat) (hw : ∀ w ∈ ws, w < 65536) :
    sameValue (asU16 true (ws.foldl addU16 0)) (checksum ws) := by
  have t := fold_tracks ws Tracks.zero hw
  simp only [Nat.zero_add] at t
  have := t.eq
  obtain ⟨h1, h2, h3⟩ := t
  unfold sameValue checksum onesSum asU16
  simp only [if_true]
  rw [← this]
  split <;> omega

/-- … and differs from it exactly when the sum is `0xffff`: the code emits `0xffff`, RFC 791 /
    RFC 9293 say `0x0000` (F-C18-1: both verify; the decoder must accept both) -/
theorem c18_as_u16_eq_rfc_iff (ws : List Nat) (hw : ∀ w ∈ ws, w < 65536) :
    asU16 true (ws.foldl addU16 0) = checksum ws ↔ onesSum ws ≠ 65535 := by
  have t := fold_tracks ws Tracks.zero hw
  simp only [Nat.zero_add] at t
  have := t.eq
  unfold checksum onesSum asU16 at *
  simp only [if_true]
  rw [← this]
  have := t.1
  split <;> omega

/-- a verifying word list: the accumulator over all words including the checksum is `0xffff` -/
theorem c18_verifies_iff (ws : List Nat) (hw : ∀ w ∈ ws, w < 65536) :
    verifies ws ↔ ws.foldl addU16 0 = 65535 := by
  unfold verifies; rw [(c18_sum_spec ws hw).1]

/-- appending the emitted checksum to the data makes it verify -/
theorem c18_emitted_verifies_words (ws : List Nat) (hw : ∀ w ∈ ws, w < 65536) :
    verifies (ws ++ [asU16 true (ws.foldl addU16 0)]) := by
  have hlt := asU16_lt true (ws.foldl addU16 0)
  rw [c18_verifies_iff _ (fun w h => by
    rcases List.mem_append.mp h with h | h
    · exact hw w h
    · simp at h; omega)]
  rw [List.foldl_append]
  simp only [List.foldl_cons, List.foldl_nil]
  exact addU16_asU16 _ (fold_tracks ws Tracks.zero hw).1

example : verifies [0x4500, 0x0014, 0x9ed7, 0, 0x1e11, 0xffff, 0x7f00, 1, 0x7f00, 1] := by decide
example : verifies [0x4500, 0x0014, 0x9ed7, 0, 0x1e11, 0x0000, 0x7f00, 1, 0x7f00, 1] := by decide

end Elvis.Ck
