import ElvisVerif.Lemmas.CodecB
/-!
# C14 (ARP, DNS, DHCP part) — malformed input is rejected with an error, never with a crash

`NoPanic r` says the outcome `r` is none of the panic sites of the model; every `unwrap`,
`unreachable!` and checked addition of the Rust functions is such a site.  The `*_total` theorems
hold for EVERY byte string.  The `demux` functions that hand a datagram from the network to these
decoders (`Arp::demux`, `DhcpClient::demux`, `DhcpServer::demux`) drop an undecodable one without
any other effect.  The `…V0` models are the code before the `fix:` commits (findings F-C14-1,
F-C14-3, F-C14-4); the `*_v0_counterexample` theorems are concrete inputs on which it panics,
replayed on the real code by the harness (`corpus/C14/*`).
-/
namespace Elvis.CodecB

/-- one `let (v, bs) ← orShort (reader bs)` step of a decoder -/
local macro "np_short" : tactic =>
  `(tactic| (refine noPanic_bind (noPanic_orShort _) ?_; rintro ⟨_, _⟩ -; dsimp only))

theorem c14_arp_total (bs : Bytes) : NoPanic (Arp.fromBytes bs) := by
  unfold Arp.fromBytes
  np_short; np_short; np_short; np_short; np_short
  refine noPanic_bind ?_ ?_
  · intro s h; split at h
    · cases h
    · split at h <;> cases h
  · intro _ _
    np_short; np_short; np_short; np_short
    exact noPanic_pure _

/-- `Arp::demux` never panics on a datagram -/
theorem c14_arp_demux_total (bs : Bytes) : NoPanic (Arp.demux bs) := by
  have h := c14_arp_total bs
  unfold Arp.demux
  cases hr : Arp.fromBytes bs with
  | ok p => exact noPanic_ok _
  | error e =>
    cases e with
    | panic s => exact absurd hr (h s)
    | _ => exact noPanic_ok _

/-- a datagram the decoder rejects is dropped: the ARP table is not touched (`dropped`) -/
theorem c14_arp_drop_on_header_error (bs : Bytes) (e : DecErr) (h : Arp.fromBytes bs = .error e) :
    Arp.demux bs = .ok .dropped := by
  have hp := c14_arp_total bs
  unfold Arp.demux
  rw [h]
  cases e with
  | panic s => exact absurd h (hp s)
  | _ => rfl

theorem c14_dns_total (bs : Bytes) : NoPanic (Dns.fromBytes bs) := by
  unfold Dns.fromBytes
  np_short; np_short; np_short; np_short; np_short; np_short   -- header
  np_short; np_short; np_short                                 -- question
  np_short; np_short; np_short; np_short                       -- answer up to ttl
  refine noPanic_bind (noPanic_orShort _) ?_
  rintro ⟨rdlength, bs'⟩ hrd
  dsimp only
  have hlt := (nextU16_inv (orShort_ok.1 hrd)).2
  refine noPanic_bind (rdataLoop_noPanic (by omega) _) ?_
  rintro ⟨_, _⟩ -
  exact noPanic_pure _

/-- `DnsQuestion::query_name` reports a non-UTF-8 name as an error -/
theorem c14_dns_query_name_total (q : Dns.DnsQuestion) : NoPanic (Dns.queryName q) := by
  unfold Dns.queryName
  intro s h
  split at h <;> cases h

/-- `queryNameV0` is `query_name` before the `fix:` commit (F-C14-3), which unwraps: the one-byte
    name `ff` crashes the caller (the DNS responder) -/
theorem c14_dns_query_name_v0_counterexample :
    Dns.queryNameV0 (Dns.newQuestion [0xff]) = .error (.panic "panic:unwrap:dns_query_name") := by
  decide

/-- `DnsServer::respond_to_query` on ANY datagram: a reply is sent or the task ends
    with a logged error; no panic site is reached -/
theorem c14_dns_server_respond_total (d : Bytes) : NoPanic (Dns.serverRespond d) := by
  have h := c14_dns_total (d.take 80)
  unfold Dns.serverRespond
  cases hr : Dns.fromBytes (d.take 80) with
  | error e =>
    cases e with
    | panic s => exact absurd hr (h s)
    | _ => exact noPanic_ok _
  | ok p =>
    obtain ⟨m, r⟩ := p
    dsimp only
    have hq := c14_dns_query_name_total m.question
    cases hn : Dns.queryName m.question with
    | error e =>
      cases e with
      | panic s => exact absurd hn (hq s)
      | _ => exact noPanic_ok _
    | ok name =>
      dsimp only
      cases Dns.serverTable.lookup name <;> exact noPanic_ok _

/-- the response handling of `DnsClient::get_host_by_name` on ANY response
    datagram: `Ok(address)` or `Err(DnsClientError)`; no panic site is reached -/
theorem c14_dns_client_handle_total (name resp : Bytes) : NoPanic (Dns.clientHandle name resp) := by
  have h := c14_dns_total resp
  unfold Dns.clientHandle
  cases hr : Dns.fromBytes resp with
  | error e =>
    cases e with
    | panic s => exact absurd hr (h s)
    | _ => exact noPanic_ok _
  | ok p =>
    obtain ⟨m, r⟩ := p
    dsimp only
    split
    · split
      · split <;> exact noPanic_ok _
      · exact noPanic_ok _
    · exact noPanic_ok _

/-- the code before the `fix:` commit (F-C14-4): an empty datagram (at shutdown), a truncated
    query, a query name that is not UTF-8 and a query for an unknown name each panic the DNS
    server; a truncated response, an answer name that is not UTF-8, a record shorter than 4 bytes
    and an answer for another name each panic the client.  (12 header bytes, `name SP type class`,
    `name SP type class ttl rdlength rdata`.) -/
theorem c14_dns_responder_v0_counterexample :
    Dns.serverRespondV0 [] = .error (.panic "panic:unwrap:dns_server_recv")
    ∧ Dns.serverRespondV0 [1, 2, 3] = .error (.panic "panic:unwrap:dns_server_from_bytes")
    ∧ Dns.serverRespondV0 (Dns.toMessage { Dns.example1 with question := Dns.newQuestion [0xff] })
        = .error (.panic "panic:unwrap:dns_server_query_name")
    ∧ Dns.serverRespondV0 (Dns.toMessage { Dns.example1 with question := Dns.newQuestion [0x78] })
        = .error (.panic "panic:unwrap:dns_server_task")
    ∧ Dns.clientHandleV0 [0x78] [] = .error (.panic "panic:unwrap:dns_client_from_bytes")
    ∧ Dns.clientHandleV0 [0x78] (Dns.toMessage { Dns.example1 with answer := Dns.newRecord [0xff] 0 1 })
        = .error (.panic "panic:unwrap:dns_client_answer_name")
    ∧ Dns.clientHandleV0 [0x78] (Dns.toMessage { Dns.example1 with
          answer := { Dns.newRecord [0x78] 0 1 with rdlength := 3, rdata := [1, 2, 3] } })
        = .error (.panic "panic:index:dns_client_rdata")
    ∧ Dns.clientHandleV0 [0x78] (Dns.toMessage { Dns.example1 with answer := Dns.newRecord [0x79] 0 1 })
        = .error (.panic "panic:unwrap:dns_client_get_mapping") := by
  decide +kernel

/-- non-vacuity: a well-formed exchange still resolves -/
example : Dns.serverRespond (Dns.toMessage Dns.example1)
    = .ok (some (Dns.toMessage (Dns.createResponse Dns.example1 2066563900))) := by decide
example : Dns.clientHandle Dns.example1.question.qname
    (Dns.toMessage (Dns.createResponse Dns.example1 2066563900)) = .ok (some 2066563900) := by decide

theorem c14_dhcp_total (bs : Bytes) : NoPanic (Dhcp.fromBytes bs) := by
  unfold Dhcp.fromBytes
  np_short; np_short; np_short; np_short; np_short; np_short; np_short
  np_short; np_short; np_short; np_short; np_short; np_short
  refine noPanic_bind (noPanic_msgTypeTryFrom _) ?_
  intro _ _
  np_short
  refine noPanic_bind (noPanic_stringFromUtf8 _) ?_
  intro _ _
  np_short
  refine noPanic_bind (noPanic_stringFromUtf8 _) ?_
  intro _ _
  exact noPanic_pure _

/-- Four witnesses of F-C14-1 on `fromBytesV0` (the code before the `fix:` commit):
    message type 0 reaches `unreachable!()`, type 9 an `unwrap()` of `Err(InvalidDhcpType)`,
    a server name containing the byte `ff` and a boot file name `c0 80` an `unwrap()` of
    `Err(FromUtf8Error)`.  (29 header bytes, the type byte, then the two NUL-terminated strings.) -/
theorem c14_dhcp_v0_counterexample :
    Dhcp.fromBytesV0 (List.replicate 29 1 ++ [0] ++ [0x53, 0] ++ [0x42, 0])
        = .error (.panic "panic:unreachable:dhcp_msg_type")
    ∧ Dhcp.fromBytesV0 (List.replicate 29 1 ++ [9] ++ [0x53, 0] ++ [0x42, 0])
        = .error (.panic "panic:unwrap:dhcp_msg_type")
    ∧ Dhcp.fromBytesV0 (List.replicate 29 1 ++ [1] ++ [0xff, 0] ++ [0x42, 0])
        = .error (.panic "panic:unwrap:dhcp_server_name")
    ∧ Dhcp.fromBytesV0 (List.replicate 29 1 ++ [1] ++ [0x53, 0] ++ [0xc0, 0x80, 0])
        = .error (.panic "panic:unwrap:dhcp_boot_file") := by
  decide +kernel

/-- the same four byte strings on `fromBytes`: reported errors -/
theorem c14_dhcp_witnesses_rejected :
    Dhcp.fromBytes (List.replicate 29 1 ++ [0] ++ [0x53, 0] ++ [0x42, 0]) = .error .invalidDhcpType
    ∧ Dhcp.fromBytes (List.replicate 29 1 ++ [9] ++ [0x53, 0] ++ [0x42, 0]) = .error .invalidDhcpType
    ∧ Dhcp.fromBytes (List.replicate 29 1 ++ [1] ++ [0xff, 0] ++ [0x42, 0]) = .error .invalidString
    ∧ Dhcp.fromBytes (List.replicate 29 1 ++ [1] ++ [0x53, 0] ++ [0xc0, 0x80, 0])
        = .error .invalidString := by
  decide +kernel

/-- `DhcpClient::demux` never panics on a datagram -/
theorem c14_dhcp_client_demux_total (bs : Bytes) : NoPanic (Dhcp.clientDemux bs) := by
  have h := c14_dhcp_total bs
  unfold Dhcp.clientDemux
  cases hr : Dhcp.fromBytes bs with
  | ok p =>
    obtain ⟨m, r⟩ := p
    dsimp only
    cases m.msgType <;> exact noPanic_ok _
  | error e =>
    cases e with
    | panic s => exact absurd hr (h s)
    | _ => exact noPanic_ok _

/-- a datagram the decoder rejects is dropped by the client: `Err(DemuxError::Header)`, nothing
    sent, no address assigned -/
theorem c14_dhcp_client_drop_on_header_error (bs : Bytes) (e : DecErr)
    (h : Dhcp.fromBytes bs = .error e) : Dhcp.clientDemux bs = .ok .errHeader := by
  have hp := c14_dhcp_total bs
  unfold Dhcp.clientDemux
  rw [h]
  cases e with
  | panic s => exact absurd h (hp s)
  | _ => rfl

/-- `DhcpServer::demux` never panics on a datagram as long as the address pool is not exhausted
    (`fetch_ip()` returns `Some`; the `unwrap()` of an exhausted pool is reached by a well-formed
    Discover and belongs to C15, not to malformed input) -/
theorem c14_dhcp_server_demux_total (bs : Bytes) (ip : Nat) :
    NoPanic (Dhcp.serverDemux (some ip) bs) := by
  have h := c14_dhcp_total bs
  unfold Dhcp.serverDemux
  cases hr : Dhcp.fromBytes bs with
  | ok p =>
    obtain ⟨m, r⟩ := p
    dsimp only
    cases m.msgType <;> exact noPanic_ok _
  | error e =>
    cases e with
    | panic s => exact absurd hr (h s)
    | _ => exact noPanic_ok _

/-- … and an undecodable datagram never reaches the address generator, whatever its state -/
theorem c14_dhcp_server_drop_on_header_error (bs : Bytes) (e : DecErr) (fetch : Option Nat)
    (h : Dhcp.fromBytes bs = .error e) : Dhcp.serverDemux fetch bs = .ok .errHeader := by
  have hp := c14_dhcp_total bs
  unfold Dhcp.serverDemux
  rw [h]
  cases e with
  | panic s => exact absurd h (hp s)
  | _ => rfl

/-- before the `fix:` commit (F-C14-3) both `demux` functions unwrap the decode result: the empty
    datagram (or any truncated one) crashes the client and the server -/
theorem c14_dhcp_client_demux_v0_counterexample :
    Dhcp.clientDemuxV0 [] = .error (.panic "panic:unwrap:dhcp_client_demux")
    ∧ Dhcp.serverDemuxV0 (some 1) [1, 2, 3] = .error (.panic "panic:unwrap:dhcp_server_demux") := by
  decide +kernel

/-! Non-vacuity: the decoders do accept packets and do report errors. -/

example : Arp.fromBytes (Arp.build (Arp.newReply 1337 2130706433 70368744177664 168496141) ++ [7])
    = .ok (Arp.newReply 1337 2130706433 70368744177664 168496141, [7]) := by decide
example : Arp.fromBytes [0, 1, 8, 0, 6, 4, 0, 3] = .error .invalidOperation := by decide
example : Arp.fromBytes [1, 2, 3, 4, 5, 6, 7] = .error .tooShort := by decide
example : Dhcp.fromBytes (Dhcp.toMessage Dhcp.default) = .ok (Dhcp.default, []) := by decide
example : Dhcp.clientDemux (Dhcp.toMessage { Dhcp.default with msgType := .ack, yourIp := 7 })
    = .ok (.assigned 7) := by decide

end Elvis.CodecB
