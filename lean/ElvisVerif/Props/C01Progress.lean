import ElvisVerif.Lemmas.C01Progress
import ElvisVerif.Lemmas.C01Run
/-!
# C01 — progress (liveness), partial

The local progress facts from which the convergence clause of C01 ("after a loss-free phase everything
submitted is delivered, the retransmission queues are empty and both sides are silent") is built.  The
clause itself is proved in `Props/C01Full.lean` (`c01_converges_full`, for `C01ConvergesFullStatement` of
`Props/C01Converge.lean`); the formulation by op lists instead of fair rounds, `C01ConvergesStatement` below, is
stated only.
-/
namespace Elvis.Tcp
open Elvis.Tcp.C01 Elvis.ModCmp

/-- **receive progress (partial convergence).**  In any state satisfying the stream invariant
    (every reachable state does: `C01.run_inv`) and H31: let `x` be ESTABLISHED with an empty
    reorder heap and `|buffered| < 65535 = RCV.WND`; let history element `i` be a plain data
    segment of the peer addressed to `x` that carries `submitted_peer[p, p+len)` and covers the next
    expected offset `q = |delivered_x| + |buffered_x|` (`p ≤ q < p + len`, `len ≤ 65535`), with an
    ACK field that does not acknowledge unsent data.  Then `deliver x i` succeeds, the TCB stays
    ESTABLISHED with an empty heap, nothing is delivered or lost, and the buffered text grows by
    exactly `submitted_peer[q, q+k)` with `k = min (p + len - q) (65535 - |buffered|) > 0`:
    the undelivered part of the peer's stream strictly shrinks. -/
theorem c01_progress_receive_partial (iss : SideId → Seq) (s : Sys) (hinv : Inv iss s) (h31 : Lt31 s)
    (x : SideId) (i : Nat) (g : Segment) (t : Tcb)
    (ht : (s.side x).tcb = some t) (hst : t.state = .Established) (hw : t.rcv.wnd = 65535#16)
    (hroom : t.incoming.text.length < 65535) (hheap : t.incoming.segments = [])
    (hn : s.nth i = some g) (ha : Addressed x g) (hg : PlainData t g) (hlen : g.text.length ≤ 65535)
    (p : Nat) (hseq : g.hdr.seq = iss x.peer + 1 + BitVec.ofNat 32 p)
    (hpq : p ≤ (s.side x).delivered.length + t.incoming.text.length)
    (hcov : (s.side x).delivered.length + t.incoming.text.length < p + g.text.length) :
    ∃ s' t' k, s.step (.deliver x i) = .ok (s', .arrived .Ok) ∧
      (s'.side x).tcb = some t' ∧ (s'.side x).delivered = (s.side x).delivered ∧
      (s'.side x.peer) = (s.side x.peer) ∧
      t'.state = .Established ∧ t'.incoming.segments = [] ∧
      0 < k ∧ k = min (p + g.text.length - ((s.side x).delivered.length + t.incoming.text.length))
                      (65535 - t.incoming.text.length) ∧
      t'.incoming.text = t.incoming.text ++
        ((s.side x.peer).submitted.drop ((s.side x).delivered.length + t.incoming.text.length)).take k := by
  have hsd := hinv.side x
  have ti := hsd.tcb t ht
  have hns : t.state ≠ .SynSent := by rw [hst]; simp
  obtain ⟨hnxt, hpre⟩ := ti.rcv1 hns
  have hmem := nth_mem s i g hn
  have hval : Valid (iss x.peer) (s.side x.peer).submitted g := hinv.hist g hmem x.peer ha.1
  have hne : g.text ≠ [] := by
    intro h0; rw [h0] at hcov; simp at hcov; omega
  obtain ⟨p', hseq', hlen', htext⟩ := hval.txt hne
  generalize hq : (s.side x).delivered.length + t.incoming.text.length = q at *
  have hqle : q ≤ (s.side x.peer).submitted.length := by
    have := hpre.length_le
    rw [List.length_append, hq] at this
    exact this
  have hb := h31.side x.peer
  obtain ⟨t', e, _, x', sg, st⟩ := segmentArrives_accept (t := t) (g := g) (base := iss x.peer + 1) hst hw
    (Nat.le_of_lt hroom) hheap hg hseq hnxt hpq (Nat.lt_of_le_of_lt hqle hb) hcov hlen
  -- the two offsets of the segment agree
  have hpp : p' = p := add_ofNat_inj (by omega) (by omega) (hseq'.symm.trans hseq)
  subst hpp
  have hm : min (q - p') g.text.length = q - p' := Nat.min_eq_left (by omega)
  have hslice := slice_accept (s.side x.peer).submitted p' q g.text.length (acceptLen t p' q g.text.length) hpq
    (by rw [hm]; exact Nat.min_le_left _ _)
  rw [← htext, hm] at hslice
  refine ⟨s.setSide x { s.side x with tcb := some t' }, t', acceptLen t p' q g.text.length, ?_, ?_, ?_, ?_, st, sg,
    acceptLen_pos hpq hcov hroom, acceptLen_eq t _ hpq, ?_⟩
  · exact step_iff.2 (.deliver hn (.tcb ht e))
  · rw [side_setSide_same]
  · rw [side_setSide_same]
  · exact side_setSide_peer s x _
  · rw [x', hslice]

/-! ### non-vacuity of `c01_progress_receive_partial` -/

def c01StateAfter (ops : List Op) : Sys :=
  match Sys.run {} ops with
  | .ok (s, _) => s
  | .error _ => {}

theorem c01StateAfter_run {ops : List Op} (h : (Sys.run {} ops).toBool = true) :
    ∃ rs, Sys.run {} ops = .ok (c01StateAfter ops, rs) := by
  unfold c01StateAfter
  cases h' : Sys.run {} ops with
  | error e => rw [h'] at h; cases h
  | ok p => exact ⟨p.2, rfl⟩

/-- handshake A → B, A writes 3 bytes and emits (history: 0 SYN, 1 SYN-ACK, 2 ACK, 3 data), the
    ACK reaches B -/
def c01ExOps : List Op :=
  [.open .A 1000 1500, .listen .B 5000 1500, .emit .A, .deliver .B 0, .emit .B, .deliver .A 1,
   .write .A [1, 2, 3], .emit .A, .deliver .B 2]
def c01ExIss : SideId → Seq | .A => 1000 | .B => 5000
def c01ExTcb : Tcb := ((c01StateAfter c01ExOps).side .B).tcb.getD default
def c01ExSeg : Segment := ((c01StateAfter c01ExOps).nth 3).getD default

/-- the hypotheses of `c01_progress_receive_partial` hold in that reachable state for the data
    segment (history element 3), and the theorem yields: delivering it puts `[1, 2, 3]` into B's
    buffer -/
example : ∃ s' t' k, (c01StateAfter c01ExOps).step (.deliver .B 3) = .ok (s', .arrived .Ok) ∧
    (s'.side .B).tcb = some t' ∧ 0 < k ∧ t'.incoming.text = [] ++ ([1, 2, 3] : List UInt8).take k := by
  obtain ⟨rs, hrun⟩ := c01StateAfter_run (ops := c01ExOps) (by decide)
  have h31 : Lt31 (c01StateAfter c01ExOps) := by unfold Lt31; decide
  have hinv : Inv c01ExIss (c01StateAfter c01ExOps) :=
    run_inv (Inv.init _) (runOkB_sound (by decide)) hrun h31
  obtain ⟨s', t', k, e, ht', _, _, _, _, hk, _, htext⟩ :=
    c01_progress_receive_partial c01ExIss (c01StateAfter c01ExOps) hinv h31 .B 3 c01ExSeg c01ExTcb
      (by decide) (by decide) (by decide) (by decide) (by decide) (by decide) ⟨by decide, by decide⟩
      ⟨by decide, by decide, by decide, by decide⟩ (by decide) 0 (by decide) (by decide) (by decide)
  refine ⟨s', t', k, e, ht', hk, ?_⟩
  rw [htext]
  have h1 : c01ExTcb.incoming.text = [] := by decide
  have h2 : ((c01StateAfter c01ExOps).side SideId.B.peer).submitted = [1, 2, 3] := by decide
  have h3 : ((c01StateAfter c01ExOps).side .B).delivered.length + c01ExTcb.incoming.text.length = 0 := by decide
  rw [h3, h1, h2]
  rfl

open Elvis.Tcp.Tcb in
/-- **retransmission progress.**  Whatever the state of the TCB: once the retransmission timer has
    expired (`dt` exceeds what is left of it) the next `segments()` returns every segment that is on
    the retransmission queue — unacknowledged data is offered to the network again after each RTO. -/
theorem c01_progress_retransmit_partial (t t1 t2 : Tcb) (dt : Nat) (r : AdvanceTimeResult) (out : List Segment)
    (hdt : dt > t.timeouts.retransmission) (e1 : t.advanceTime dt = .ok (t1, r))
    (e2 : t1.segments = .ok (t2, out)) :
    ∀ tr ∈ t.outgoing.retransmit, tr.segment ∈ out := by
  -- after the tick every entry is flagged
  have h1 : t1.outgoing.retransmit = t.outgoing.retransmit.map fun tr => { tr with needsTransmit := true } := by
    have hq : (timerRun t dt).outgoing.retransmit =
        t.outgoing.retransmit.map fun tr => { tr with needsTransmit := true } := by
      rw [timerRun_expired hdt]
    rw [advanceTime_eq] at e1
    split at e1
    · split at e1 <;> (cases e1; exact hq)
    · cases e1; exact hq
  obtain ⟨s1, s2, tmo, hs, h2, rfl, -, -⟩ := segments_ok e2
  -- segmentizing and forming a pending FIN only append to the queue
  have k1 : ({ t1 with outgoing.oneshot := [] } : Tcb).outgoing.retransmit <+: s1.outgoing.retransmit := by
    rcases segmentizeIfOpen_ok hs with rfl | ⟨-, -, hs⟩
    · exact List.prefix_refl _
    · exact segmentize_lift (R := fun s s' => s.outgoing.retransmit <+: s'.outgoing.retransmit)
        (fun _ => List.prefix_refl _) (fun _ _ _ k => (List.prefix_append _ _).trans k) _ _ hs
  have k2 : t1.outgoing.retransmit <+: s2.outgoing.retransmit := by
    rw [h2]
    split
    · rw [finQueued_retransmit]; exact k1.trans (List.prefix_append _ _)
    · exact k1
  intro tr htr
  refine List.mem_append_right _ (List.mem_map.2 ⟨{ tr with needsTransmit := true }, ?_, rfl⟩)
  refine List.mem_filter.2 ⟨k2.subset ?_, rfl⟩
  rw [h1]
  exact List.mem_map.2 ⟨tr, htr, rfl⟩

open Elvis.Tcp.Tcb in
/-- **acknowledgment progress.**  At an ESTABLISHED endpoint with an empty reorder heap, a pure ACK
    at `RCV.NXT` with `SND.UNA < SEG.ACK ≤ SND.NXT` (circular) is accepted, sets `SND.UNA = SEG.ACK`
    and removes from the retransmission queue exactly the segments with `SEG.SEQ + SEG.LEN ≤ SEG.ACK`
    (`remove_acked_from_retransmission` keeps `mod_lt(SEG.ACK, seq + len)`); receive side, unsent text, `SND.NXT`, the
    one-shot queue and the state are untouched. -/
theorem c01_progress_ack_partial (t : Tcb) (g : Segment)
    (hst : t.state = .Established) (hw : t.rcv.wnd = 65535#16) (hheap : t.incoming.segments = [])
    (htext : g.text = []) (hrst : g.hdr.ctl.rst = false) (hsyn : g.hdr.ctl.syn = false)
    (hfin : g.hdr.ctl.fin = false) (hack : g.hdr.ctl.ack = true) (hseq : g.hdr.seq = t.rcv.nxt)
    (hnew : modLeq g.hdr.ack t.snd.una = false)
    (hok : modBounded t.snd.una .Lt g.hdr.ack .Leq t.snd.nxt = true) :
    ∃ t', t.segmentArrives g = .ok (t', .Ok) ∧ t'.snd.una = g.hdr.ack ∧
      t'.outgoing.retransmit = t.outgoing.retransmit.filter
        (fun tr => modLt g.hdr.ack (tr.segment.hdr.seq + BitVec.ofNat 32 tr.segment.segLen)) ∧
      t'.snd.nxt = t.snd.nxt ∧ t'.snd.iss = t.snd.iss ∧ t'.rcv = t.rcv ∧ t'.incoming = t.incoming ∧
      t'.state = .Established ∧ t'.outgoing.text = t.outgoing.text ∧ t'.outgoing.oneshot = t.outgoing.oneshot := by
  obtain ⟨t1, e, fx⟩ := arrive_ack_fwd t g hst hw hheap ⟨hrst, hsyn, hfin, hack, .inr hok⟩ htext hseq
  have hn : ¬ modLeq g.hdr.ack t.snd.una = true := by rw [hnew]; nofun
  exact ⟨t1, e, by rw [fx.una, if_neg hn], by rw [fx.rtx, if_neg hn]; rfl, fx.nxt, fx.iss, fx.rcv, fx.inc,
    fx.st.trans hst, fx.otext, fx.one⟩

/-- A's TCB after the example run: the 3-byte data segment waits on its retransmission queue -/
def c01ExTcbA : Tcb := ((c01StateAfter c01ExOps).side .A).tcb.getD default

/-- non-vacuity (retransmission): the timer (100 ms) has expired after 101 ms, both calls succeed, one
    segment is queued, and A's `segments()` re-emits the data segment -/
example : (match c01ExTcbA.advanceTime 101 with
    | .ok (t1, _) => (match t1.segments with
      | .ok (_, out) => out.map (·.text) == [[1, 2, 3]]
      | .error _ => false)
    | .error _ => false) = true ∧
    101 > c01ExTcbA.timeouts.retransmission ∧ c01ExTcbA.outgoing.retransmit.length = 1 := by decide

/-- B's data is acknowledged: the run continues with the data segment reaching B and B's ACK
    (history element 4) being emitted -/
def c01ExOps2 : List Op := c01ExOps ++ [.deliver .B 3, .emit .B]
def c01ExTcbA2 : Tcb := ((c01StateAfter c01ExOps2).side .A).tcb.getD default
def c01ExAck : Segment := ((c01StateAfter c01ExOps2).nth 4).getD default

/-- non-vacuity (acknowledgment): the hypotheses hold for A and B's ACK in that reachable state; the
    theorem yields that A's retransmission queue is empty afterwards -/
example : ∃ t', c01ExTcbA2.segmentArrives c01ExAck = .ok (t', .Ok) ∧ t'.outgoing.retransmit = [] ∧
    t'.snd.una = t'.snd.nxt := by
  obtain ⟨t', e, u, r, n, _⟩ := c01_progress_ack_partial c01ExTcbA2 c01ExAck (by decide) (by decide) (by decide)
    (by decide) (by decide) (by decide) (by decide) (by decide) (by decide) (by decide) (by decide)
  refine ⟨t', e, ?_, ?_⟩
  · rw [r]; decide
  · rw [u, n]; decide

/-- The convergence clause, stated by op lists (NOT proved in this form — what is proved is
    `C01ConvergesFullStatement`, see `Props/C01Full.lean`; checked by the native oracle of the `sched`
    run on the real code).  Claim: from every state a run of C01 ops (`C01.RunOk`: no close/abort/inject) ends in,
    with H31 and every TCB ESTABLISHED, some list of ticks, emissions, addressed deliveries and reads leads to a
    state in which everything submitted has been handed to the peer's TCB (delivered or buffered) and the
    retransmission queue, the one-shot queue and the unsent text are empty on both sides. -/
def C01ConvergesStatement : Prop :=
  ∀ (iss : SideId → Seq) (ops : List Op), RunOk iss {} ops →
    ∀ (s : Sys) (rs : List Res), Sys.run {} ops = .ok (s, rs) → Lt31 s →
      (∀ x t, (s.side x).tcb = some t → t.state = .Established) →
      ∃ (ops' : List Op) (s' : Sys) (rs' : List Res),
        (∀ op ∈ ops', ∃ x, (∃ ms, op = .tick x ms) ∨ op = .emit x ∨ (∃ i, op = .deliver x i) ∨ op = .read x) ∧
        RunOk iss s ops' ∧ s.run ops' = .ok (s', rs') ∧
        (∀ x t, (s'.side x).tcb = some t →
          (s'.side x).delivered ++ t.incoming.text = (s'.side x.peer).submitted ∧
          t.outgoing.retransmit = [] ∧ t.outgoing.text = [] ∧ t.outgoing.oneshot = [])

end Elvis.Tcp
