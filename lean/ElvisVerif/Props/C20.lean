import ElvisVerif.Lemmas.DnsInv
/-!
# C20 — Name resolution returns the registered address and caches it

Model: `ElvisVerif/Model/Dns.lean` (wire format of `dns_parsing.rs`, `DnsServer::respond_to_query`
/ `create_response`, `DnsClient::get_host_by_name`, and the exchange of one server and N clients
as a transition system whose `Choice` list is the interleaving of lookups and datagram arrivals).

* `c20_response_echo`     whatever request datagram the server answers, the answer parses, carries
                          the request's id, question name and answer name, and its address is the
                          table's record of the question name.
* `c20_resolve_correct`   for EVERY record table, number of clients and interleaving of lookups,
                          query arrivals and reply arrivals: an address returned by
                          `get_host_by_name(name)` is the server's record of `name`; the reply a
                          client consumes echoes id and name of the query of that very socket.
* `c20_cache_silent`      once a client resolved a name, each later lookup of it — after any
                          further activity — returns the same address and changes nothing but the
                          result log: no datagram, no socket.
* `c20_unregistered`      an unknown name yields a reported error (`Err(Cache)`, logged by the
                          responder task; no reply is sent) and is never resolved to an address.

ASSUMED, not proved here (stated in the header of `Model/Dns.lean`): `FourTupleIsolation` (a
datagram reaches only the socket with its 4-tuple; ephemeral ports are handed out once) —
properties C04/C02; `EveryQueryAccepted` (for `c20_completes`); tokio (tasks, channels).
-/
namespace Elvis.Dns

deriving instance DecidableEq for Except

/-! ## certificates regenerated from the source on every check -/

/-- `respond_to_query` reads its request with `recv_msg()`: the whole datagram, whatever its size -/
theorem c20_server_reads_whole_datagram : sourceBudget = none := by decide

/-- `DnsServer::start` keeps configured records: its stand-in names are inserted only if absent -/
theorem c20_standins_do_not_override : Elvis.Gen.dnsBuiltinOverrides = false := by decide

/-- `get_host_by_name` has the shape the model gives it (cache first; one fresh datagram socket,
    one send, one receive, cache insert, lookup) and talks to the port the server listens on -/
theorem c20_client_shape_certificate :
    Elvis.Gen.dnsClientShape = true ∧ Elvis.Gen.dnsClientRemotePort = Elvis.Gen.dnsServerPort := by decide

/-- failures are values, not panics: the responder task logs what `respond_to_query` returns and
    unwraps nothing before the reply is built; the resolver unwraps nothing after `recv_msg` -/
theorem c20_errors_reported_certificate :
    Elvis.Gen.dnsServerReportsErrors = true ∧ Elvis.Gen.dnsClientReportsErrors = true := by decide

theorem c20_response_echo (t : Table) (d r : Bytes) (h : respond t d = .ok r) :
    ∃ req resp a, fromBytes d = some req ∧ fromBytes r = some resp ∧
      resp.header.id = req.header.id ∧
      resp.question.qname = req.question.qname ∧
      resp.answer.name = req.answer.name ∧
      t.get req.question.qname = some a ∧ resp.answer.rdata = a.toBytes := by
  unfold respond at h
  rw [c20_server_reads_whole_datagram] at h
  obtain ⟨req, a, hreq, _, ha, rfl⟩ := respondWith_ok h
  simp only [serverRead] at hreq
  exact ⟨req, createResponse req a, a, hreq, fromBytes_build' _ (createResponse_wf (fromBytes_wf hreq) a), rfl, rfl, rfl, ha, rfl⟩

theorem c20_response_to_query (t : Table) (name : Bytes) (id : Nat) (a : Addr)
    (hn : NameOk name) (hid : id < 65536) (ha : t.get name = some a) :
    ∃ r resp, respond t (queryBytes name id) = .ok r ∧ fromBytes r = some resp ∧
      resp.header.id = id ∧ resp.question.qname = name ∧ resp.answer.name = name ∧
      addrOfRdata resp.answer.rdata = some a := by
  refine ⟨_, createResponse (createRequest name id) a, ?_,
    fromBytes_build' _ (createResponse_wf (createRequest_wf hn.1 hid) a), rfl, rfl, rfl, rfl⟩
  rw [respond_query c20_server_reads_whole_datagram hn hid, ha]

/-- "名.x" is a carriable name, "a b" is not -/
example : NameOk [0xe5, 0x90, 0x8d, 0x2e, 0x78] ∧ ¬ NameOk [0x61, 0x20, 0x62] := by decide

theorem c20_resolve_correct (table : Table) (n : Nat) (cs : List Choice) (hcs : ∀ ch ∈ cs, ChoiceOk ch) :
    let s := run (init table n) cs
    (∀ c name a cached, Event.resolved c name a cached ∈ s.events → table.get name = some a) ∧
    (∀ c name id reply, Event.accepted c name id reply ∈ s.events →
        reply.header.id = id ∧ reply.question.qname = name ∧ reply.answer.name = name) := by
  intro s
  have hinv : Inv s := run_inv c20_server_reads_whole_datagram hcs (init_inv table n)
  have ht : s.table = table := run_table _ _
  refine ⟨fun c name a k he => ?_, fun c name id m he => hinv.ev _ he⟩
  rw [← ht]; exact (hinv.ev _ he).1

/-- with the authoritative server (and `FourTupleIsolation`) no lookup ever returns an error: a
    lookup returns the record, or — unknown name, discarded query — does not return -/
theorem c20_never_fails (table : Table) (n : Nat) (cs : List Choice) (hcs : ∀ ch ∈ cs, ChoiceOk ch) :
    ∀ c name e, Event.failed c name e ∉ (run (init table n) cs).events :=
  fun _ _ _ => (run_inv c20_server_reads_whole_datagram hcs (init_inv table n)).ev _

/-- the table built from the registrations answers a registered name with its last registration,
    stand-in name or not (`c20_standins_do_not_override`) -/
theorem c20_configured_record_wins (configured : List (Bytes × Addr)) (name : Bytes) (a : Addr)
    (h : registered configured name = some a) : (serverTable configured).get name = some a := by
  unfold serverTable serverTableWith
  rw [c20_standins_do_not_override]
  simp only [Bool.false_eq_true, if_false, Table.get_append]
  unfold registered at h
  rw [h]

/-- end to end over the registrations: a client that completes the resolution of a registered
    name obtains exactly the registered address -/
theorem c20_resolve_registered (configured : List (Bytes × Addr)) (n : Nat) (cs : List Choice)
    (hcs : ∀ ch ∈ cs, ChoiceOk ch) (c : Nat) (name : Bytes) (a reg : Addr) (cached : Bool)
    (hreg : registered configured name = some reg)
    (hres : Event.resolved c name a cached ∈ (run (init (serverTable configured) n) cs).events) :
    a = reg := by
  have h1 := (c20_resolve_correct (serverTable configured) n cs hcs).1 c name a cached hres
  rw [c20_configured_record_wins configured name reg hreg] at h1
  cases h1; rfl

/-- non-vacuity: two clients, replies arriving in the opposite order of the queries, a repeated
    lookup answered from the cache -/
example :
    let na : Bytes := [0x61, 0x2e, 0x78]   -- "a.x"
    let nb : Bytes := [0x62, 0x2e, 0x78]   -- "b.x"
    let t : Table := serverTable [(na, ⟨10, 0, 0, 1⟩), (nb, ⟨10, 0, 0, 2⟩)]
    let s := run (init t 2) [.lookup 0 na 7, .lookup 1 nb 8, .deliver 0, .deliver 0, .deliver 1, .deliver 0, .lookup 0 na 9]
    s.crashed = none ∧ s.net = [] ∧
      (s.events.filterMap fun e => match e with | .resolved c _ a k => some (c, a, k) | _ => none)
        = [(1, ⟨10, 0, 0, 2⟩, false), (0, ⟨10, 0, 0, 1⟩, false), (0, ⟨10, 0, 0, 1⟩, true)] := by
  decide

theorem c20_cache_silent (table : Table) (n : Nat) (cs cs' : List Choice)
    (hcs : ∀ ch ∈ cs ++ cs', ChoiceOk ch) (c : Nat) (name : Bytes) (a : Addr) (cached : Bool) (id : Nat)
    (hres : Event.resolved c name a cached ∈ (run (init table n) cs).events)
    (halive : (run (init table n) (cs ++ cs')).crashed = none) :
    let s := run (init table n) (cs ++ cs')
    step s (.lookup c name id) = { s with events := s.events ++ [.resolved c name a true] } := by
  intro s
  have hinv : Inv s := run_inv c20_server_reads_whole_datagram hcs (init_inv table n)
  have hres' : Event.resolved c name a cached ∈ s.events := by
    show _ ∈ (run (init table n) (cs ++ cs')).events
    rw [run_append]; exact run_events_mono _ _ _ hres
  obtain ⟨_, cl, hcl, hget⟩ := hinv.ev _ hres'
  exact step_lookup_hit halive hcl hget

/-- For every interleaving: if no panic occurred and no datagram is left in flight, every socket a
    lookup opened for a name the server has a record of has consumed its reply and its lookup has
    returned that record.  (A delivered query for a known name is answered, a delivered reply is
    consumed by its socket: the model loses nothing; the real stack's bounded queues are exercised
    by the runs only.  A lookup of an unknown name is never answered and never returns.) -/
theorem c20_completes (table : Table) (n : Nat) (cs : List Choice) (hcs : ∀ ch ∈ cs, ChoiceOk ch) :
    let s := run (init table n) cs
    s.crashed = none → s.net = [] →
      ∀ so ∈ s.socks, ∀ a, table.get so.name = some a →
        so.done = true ∧ Event.resolved so.client so.name a false ∈ s.events := by
  intro s hcr hnet so hso a hreg
  have hb := c20_server_reads_whole_datagram
  have hlive : Live s := run_live hb hcs (init_inv table n) (init_live table n)
  have ht : s.table = table := run_table _ _
  have hdone : so.done = true := by
    cases hd : so.done with
    | true => rfl
    | false =>
      obtain ⟨d, hdm, _⟩ := hlive.pending hcr so hso hd ⟨a, by rw [ht]; exact hreg⟩
      rw [hnet] at hdm; cases hdm
  obtain ⟨a', ha'⟩ := hlive.doneRes so hso hdone
  have := (c20_resolve_correct table n cs hcs).1 _ _ _ _ ha'
  rw [hreg] at this; cases this
  exact ⟨hdone, ha'⟩

theorem c20_unregistered (t : Table) (name : Bytes) (id : Nat) (hn : NameOk name) (hid : id < 65536)
    (h : t.get name = none) :
    respond t (queryBytes name id) = .error "err:Cache:server_unknown_name" ∧
    ∀ (n : Nat) (cs : List Choice), (∀ ch ∈ cs, ChoiceOk ch) →
      ∀ c a cached, Event.resolved c name a cached ∉ (run (init t n) cs).events := by
  constructor
  · rw [respond_query c20_server_reads_whole_datagram hn hid, h]
  · intro n cs hcs c a cached hmem
    have := (c20_resolve_correct t n cs hcs).1 c name a cached hmem
    rw [h] at this; cases this

/-- an unknown name in a run: the query is logged as unanswered, nothing comes back, the lookup
    neither resolves nor fails -/
example :
    let t : Table := [([97], ⟨1, 2, 3, 4⟩)]
    let s := run (init t 1) [.lookup 0 [98] 5, .deliver 0]
    s.crashed = none ∧ s.net = [] ∧ s.events.getLast? = some (.unanswered (.client 0 49152) "err:Cache:server_unknown_name") := by
  decide

example : Table.get [([97], ⟨1, 2, 3, 4⟩)] [98] = none ∧ NameOk [98] := by decide

/-- F-C20-1, the request read with `recv(80)`: for a registered name of 25 bytes the 82-byte query
    is cut to 80 and the parse fails (before commit a879cfce the responder also unwrapped the
    result and the process ended; without the unwrap the query would go unanswered and the lookup
    would never return) -/
theorem c20_recv80_regression :
    -- "abcdefghijklmnopqrstuvwxy"
    let name : Bytes := [97, 98, 99, 100, 101, 102, 103, 104, 105, 106, 107, 108, 109, 110, 111, 112, 113, 114, 115, 116, 117, 118, 119, 120, 121]
    NameOk name ∧
    respondWith (some 80) [(name, ⟨10, 9, 8, 7⟩)] (queryBytes name 7) = .error "err:Other:server_from_bytes" ∧
    (respondWith none [(name, ⟨10, 9, 8, 7⟩)] (queryBytes name 7)).toOption.isSome = true := by
  decide

/-- with `recv(budget)` names of at most `(budget - 32) / 2` bytes (24 for `recv(80)`) are
    answered as if the whole datagram had been read -/
theorem c20_recv_budget_partial (budget : Nat) (t : Table) (name : Bytes) (id : Nat)
    (h : 32 + 2 * name.length ≤ budget) :
    respondWith (some budget) t (queryBytes name id) = respondWith none t (queryBytes name id) := by
  unfold respondWith serverRead
  simp only
  rw [List.take_of_length_le (by rw [length_queryBytes]; exact h)]

example : 32 + 2 * (List.replicate 24 (97 : UInt8)).length ≤ 80 := by decide

/-! F-C20-2: before commit 5687df6b the stand-in records replaced configured ones
(`serverTableWith true`). -/

theorem c20_standin_override_regression :
    let g : Bytes := [103, 111, 111, 103, 108, 101, 46, 99, 111, 109]   -- "google.com"
    let configured : List (Bytes × Addr) := [(g, ⟨9, 9, 9, 9⟩)]
    registered configured g = some ⟨9, 9, 9, 9⟩ ∧
    (serverTableWith true builtinRecords configured).get g = some ⟨123, 45, 67, 60⟩ ∧
    (serverTableWith false builtinRecords configured).get g = some ⟨9, 9, 9, 9⟩ := by
  decide

end Elvis.Dns
