import ElvisVerif.Lemmas.Message
/-!
# C07 — Message behaves as an immutable byte string under all operations

Refinement: `toBytes : Msg → List UInt8` maps every `Message` operation to the same operation
on a plain byte vector (`Spec`), including *when* it panics.  `c07_history` lifts this to every
operation sequence over a pool of messages by induction on the sequence.
-/
namespace Elvis.Msg

/-- representation invariant of `Message` -/
def Msg.WF (m : Msg) : Prop := AllWF m.chunks ∧ m.len = total m.chunks
def PoolWF (pool : List Msg) : Prop := ∀ m ∈ pool, m.WF

theorem c07_len (m : Msg) (h : m.WF) : m.len = (toBytes m).length := by
  have := flat_length m.chunks h.1
  unfold toBytes; unfold flat at this; rw [this, h.2]

theorem c07_new (b : List UInt8) : (new b).WF ∧ toBytes (new b) = b := by
  refine ⟨⟨?_, ?_⟩, ?_⟩
  · intro c hc; simp [new] at hc; subst hc; exact Chunk.new_WF b
  · simp [new, Chunk.new_len]
  · simp [toBytes, new, Chunk.new_view]

theorem c07_header (m : Msg) (h : List UInt8) (hm : m.WF) :
    (header m h).WF ∧ toBytes (header m h) = h ++ toBytes m := by
  refine ⟨⟨?_, ?_⟩, ?_⟩
  · exact AllWF_cons.2 ⟨Chunk.new_WF h, hm.1⟩
  · simp [header, Chunk.new_len, hm.2]; omega
  · simp [toBytes, header, Chunk.new_view]

theorem c07_concat (m o : Msg) (hm : m.WF) (ho : o.WF) :
    (concatenate m o).WF ∧ toBytes (concatenate m o) = toBytes m ++ toBytes o := by
  refine ⟨⟨?_, ?_⟩, ?_⟩
  · exact AllWF_append.2 ⟨hm.1, ho.1⟩
  · simp [concatenate, hm.2, ho.2]
  · simp [toBytes, concatenate]

/-- `slice` by any of the six range forms: same bytes as on a vector, same panic condition. -/
theorem c07_slice (m : Msg) (f : RangeForm) (hm : m.WF) :
    match slice m f with
    | .ok m' => m'.WF ∧ Spec.slice (toBytes m) f = .ok (toBytes m')
    | .error e => Spec.slice (toBytes m) f = .error e := by
  have hl := c07_len m hm
  unfold slice Spec.slice
  cases hr : f.toSliceRange with
  | error e => simp
  | ok r =>
    simp only [sliceInner, ← hl]
    by_cases hle : r.start + r.len.getD 0 ≤ m.len
    · have hb : r.start + r.len.getD (m.len - r.start) ≤ total m.chunks := by
        rw [← hm.2]; cases hlen : r.len with
        | none => simp; omega
        | some l => simp [hlen] at hle ⊢; omega
      obtain ⟨w, e, t⟩ := slice_refines m.chunks r.start (r.len.getD (m.len - r.start)) hm.1 hb
      simp only [if_pos hle]
      refine ⟨⟨w, t.symm⟩, ?_⟩
      simp only [toBytes]; unfold flat at e; rw [e]
    · simp only [if_neg hle]

theorem c07_cut (m : Msg) (n : Nat) (hm : m.WF) :
    match cut m n with
    | .ok (rest, removed) => rest.WF ∧ removed.WF ∧ n ≤ (toBytes m).length ∧
        toBytes removed = (toBytes m).take n ∧ toBytes rest = (toBytes m).drop n
    | .error e => e = "panic:assert:cut" ∧ (toBytes m).length < n := by
  have hl := c07_len m hm
  unfold cut
  by_cases hle : n ≤ m.len
  · obtain ⟨a1, a2, a3, a4, a5, a6⟩ := cutChunks_spec m.chunks n hm.1 (by rw [← hm.2]; exact hle)
    simp only [if_pos hle]
    refine ⟨⟨a2, ?_⟩, ⟨a1, a5.symm⟩, by omega, ?_, ?_⟩
    · simp [a6, hm.2]
    · unfold toBytes; unfold flat at a3; exact a3
    · unfold toBytes; unfold flat at a4; exact a4
  · simp only [if_neg hle, true_and]; omega

theorem c07_remove_front (m : Msg) (n : Nat) (hm : m.WF) :
    match removeFront m n with
    | .ok m' => m'.WF ∧ n ≤ (toBytes m).length ∧ toBytes m' = (toBytes m).drop n
    | .error e => e = "panic:assert:remove_front" ∧ (toBytes m).length < n := by
  have hl := c07_len m hm
  unfold removeFront
  by_cases hle : n ≤ m.len
  · obtain ⟨a1, a2, a3⟩ := removeFrontChunks_spec m.chunks n hm.1 (by rw [← hm.2]; exact hle)
    simp only [if_pos hle]
    refine ⟨⟨a1, ?_⟩, by omega, ?_⟩
    · simp [a3, hm.2]
    · unfold toBytes; unfold flat at a2; exact a2
  · simp only [if_neg hle, true_and]; omega

theorem c07_eq_iff (a b : Msg) : beq a b = true ↔ toBytes a = toBytes b := by
  simp [beq]

/-- What each range form denotes (for endpoints inside the message).  Note `a..b` with `b < a`
    denotes the empty string at `a` (Rust `Vec` indexing would panic; `Message::slice` does not). -/
theorem c07_ranges (v : List UInt8) (a b : Nat) :
    (a ≤ b → b ≤ v.length → Spec.slice v (.range a b) = .ok ((v.drop a).take (b - a))) ∧
    (b < a → a ≤ v.length → Spec.slice v (.range a b) = .ok []) ∧
    (a ≤ v.length → Spec.slice v (.rangeFrom a) = .ok (v.drop a)) ∧
    (Spec.slice v .rangeFull = .ok v) ∧
    (a ≤ b + 1 → b + 1 ≤ v.length → Spec.slice v (.rangeIncl a b) = .ok ((v.drop a).take (b + 1 - a))) ∧
    (b ≤ v.length → Spec.slice v (.rangeTo b) = .ok (v.take b)) ∧
    (b + 1 ≤ v.length → Spec.slice v (.rangeToIncl b) = .ok (v.take (b + 1))) ∧
    (v.length < a → ∃ e, Spec.slice v (.rangeFrom a) = .error e) ∧
    (v.length < b → ∃ e, Spec.slice v (.rangeTo b) = .error e) := by
  refine ⟨?_, ?_, ?_, ?_, ?_, ?_, ?_, ?_, ?_⟩
  · intro h1 h2; simp [Spec.slice, RangeForm.toSliceRange]; omega
  · intro h1 h2
    have : b - a = 0 := by omega
    simp [Spec.slice, RangeForm.toSliceRange, this, h2]
  · intro h; simp [Spec.slice, RangeForm.toSliceRange, h, List.take_of_length_le]
  · simp [Spec.slice, RangeForm.toSliceRange]
  · intro h1 h2
    have : ¬ (b + 1 < a) := by omega
    simp [Spec.slice, RangeForm.toSliceRange, this]; omega
  · intro h; simp [Spec.slice, RangeForm.toSliceRange, h]
  · intro h; simp [Spec.slice, RangeForm.toSliceRange]; omega
  · intro h; refine ⟨"panic:assert:slice_inner", ?_⟩
    simp only [Spec.slice, RangeForm.toSliceRange]; rw [if_neg]; simp; omega
  · intro h; refine ⟨"panic:assert:slice_inner", ?_⟩
    simp only [Spec.slice, RangeForm.toSliceRange]; rw [if_neg]; simp; omega

theorem PoolWF_append {p : List Msg} {m : Msg} (hp : PoolWF p) (hm : m.WF) : PoolWF (p ++ [m]) := by
  intro x hx; simp at hx; rcases hx with hx | rfl
  · exact hp x hx
  · exact hm

theorem PoolWF_set {p : List Msg} {m : Msg} {i : Nat} (hp : PoolWF p) (hm : m.WF) : PoolWF (p.set i m) := by
  intro x hx
  rcases List.mem_or_eq_of_mem_set hx with hx | rfl
  · exact hp x hx
  · exact hm

theorem PoolWF_get {p : List Msg} {m : Msg} {i : Nat} (hp : PoolWF p) (h : p[i]? = some m) : m.WF :=
  hp m (List.mem_of_getElem? h)

theorem c07_step (pool : List Msg) (op : Op) (hp : PoolWF pool) :
    match step pool op with
    | .ok p' => PoolWF p' ∧ Spec.step (pool.map toBytes) op = .ok (p'.map toBytes)
    | .error e => Spec.step (pool.map toBytes) op = .error e := by
  cases op <;> simp only [step, Spec.step, List.getElem?_map]
  case new b =>
    exact ⟨PoolWF_append hp (c07_new b).1, by simp [(c07_new b).2]⟩
  case header i h =>
    cases hi : pool[i]? with
    | none => simp
    | some m =>
      have := c07_header m h (PoolWF_get hp hi)
      simp only [Option.map_some]
      exact ⟨PoolWF_set hp this.1, by simp [List.map_set, this.2]⟩
  case concat i j =>
    cases hi : pool[i]? with
    | none => simp
    | some m =>
      cases hj : pool[j]? with
      | none => simp
      | some o =>
        have := c07_concat m o (PoolWF_get hp hi) (PoolWF_get hp hj)
        simp only [Option.map_some]
        exact ⟨PoolWF_set hp this.1, by simp [List.map_set, this.2]⟩
  case slice i f =>
    cases hi : pool[i]? with
    | none => simp
    | some m =>
      have := c07_slice m f (PoolWF_get hp hi)
      simp only [Option.map_some]
      cases hs : slice m f with
      | error e => simp only [hs] at this ⊢; simp [this]
      | ok m' =>
        simp only [hs] at this ⊢
        exact ⟨PoolWF_set hp this.1, by simp [this.2, List.map_set]⟩
  case cut i n =>
    cases hi : pool[i]? with
    | none => simp
    | some m =>
      have := c07_cut m n (PoolWF_get hp hi)
      simp only [Option.map_some]
      cases hs : cut m n with
      | error e =>
        simp only [hs] at this ⊢
        have hne : ¬ n ≤ (toBytes m).length := by omega
        simp [hne, this.1]
      | ok r =>
        obtain ⟨rest, removed⟩ := r
        simp only [hs] at this ⊢
        obtain ⟨w1, w2, hle, e1, e2⟩ := this
        exact ⟨PoolWF_append (PoolWF_set hp w1) w2, by simp [hle, e1, e2, List.map_set]⟩
  case removeFront i n =>
    cases hi : pool[i]? with
    | none => simp
    | some m =>
      have := c07_remove_front m n (PoolWF_get hp hi)
      simp only [Option.map_some]
      cases hs : removeFront m n with
      | error e =>
        simp only [hs] at this ⊢
        have hne : ¬ n ≤ (toBytes m).length := by omega
        simp [hne, this.1]
      | ok m' =>
        simp only [hs] at this ⊢
        obtain ⟨w1, hle, e1⟩ := this
        exact ⟨PoolWF_set hp w1, by simp [hle, e1, List.map_set]⟩
  case clone i =>
    cases hi : pool[i]? with
    | none => simp
    | some m =>
      simp only [Option.map_some]
      exact ⟨PoolWF_append hp (PoolWF_get hp hi), by simp⟩

/-- C07, all histories: for every operation sequence from any well-formed pool (in
    particular the empty one) the bytes of *every* pool member equal those obtained by running
    the same sequence on plain byte vectors.  Unbounded: induction on the sequence. -/
theorem c07_history (ops : List Op) (pool : List Msg) (hp : PoolWF pool) :
    PoolWF (run pool ops) ∧ (run pool ops).map toBytes = Spec.run (pool.map toBytes) ops := by
  induction ops generalizing pool with
  | nil => exact ⟨hp, rfl⟩
  | cons op ops ih =>
    have h := c07_step pool op hp
    unfold run Spec.run
    cases hs : step pool op with
    | error e => simp only [hs] at h ⊢; rw [h]; exact ih pool hp
    | ok p' => simp only [hs] at h ⊢; rw [h.2]; exact ih p' h.1

theorem c07_history_from_empty (ops : List Op) :
    (run [] ops).map toBytes = Spec.run [] ops :=
  (c07_history ops [] (by intro m hm; cases hm)).2

def Op.target : Op → Option Nat
  | .new _ => none | .header i _ => some i | .concat i _ => some i | .slice i _ => some i
  | .cut i _ => some i | .removeFront i _ => some i | .clone _ => none

/-- Independence of derived messages: an op aimed at pool slot `i` leaves every other existing
    slot's value untouched (clone/cut/new only append). -/
theorem c07_independent (pool p' : List Msg) (op : Op) (j : Nat) (hj : j < pool.length)
    (hne : op.target ≠ some j) (hs : step pool op = .ok p') : p'[j]? = pool[j]? := by
  have hij : ∀ i, op.target = some i → i ≠ j := fun i h e => hne (e ▸ h)
  cases op <;> simp only [step] at hs
  case new b => cases hs; simp [List.getElem?_append_left hj]
  case header i h =>
    split at hs <;> cases hs
    simp [List.getElem?_set_ne (hij i rfl)]
  case concat i k =>
    split at hs <;> cases hs
    simp [List.getElem?_set_ne (hij i rfl)]
  case slice i f =>
    split at hs
    · split at hs <;> cases hs
      simp [List.getElem?_set_ne (hij i rfl)]
    · cases hs
  case cut i n =>
    split at hs
    · split at hs <;> cases hs
      rw [List.getElem?_append_left (by simpa using hj)]
      simp [List.getElem?_set_ne (hij i rfl)]
    · cases hs
  case removeFront i n =>
    split at hs
    · split at hs <;> cases hs
      simp [List.getElem?_set_ne (hij i rfl)]
    · cases hs
  case clone i =>
    split at hs <;> cases hs
    simp [List.getElem?_append_left hj]

/-! non-vacuity: a concrete multi-chunk, partly sliced message is well-formed -/
example : (header (new [1, 2, 3]) [9, 8]).WF := (c07_header _ _ (c07_new _).1).1
example : toBytes (header (new [1, 2, 3]) [9, 8]) = [9, 8, 1, 2, 3] := by decide

end Elvis.Msg
