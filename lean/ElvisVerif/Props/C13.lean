import ElvisVerif.Model.Sim
import ElvisVerif.Generated.SimCert
import ElvisVerif.Lemmas.ListSet
/-!
# C13 — A simulation starts behind a barrier and ends with the requested status

* `c13_barrier` : for EVERY interleaving of the start routines (every schedule, any numbers of
  pre/post effects), if the barrier size equals the number of routines, no effect after the
  barrier of any routine precedes an initialisation effect of any routine.
* `c13_start_waits_once`, `c13_start_certificate_partial` : every `Protocol::start` in the source
  waits on the barrier exactly once, and all but `Forward::start` (F-C13-2) do nothing
  frame-producing before it (regenerated from the source on every check).
* `c13_status_*`, `c13_timeout_bound` : the run returns the first request's status (any number of
  requests in the same instant), `TimedOut` if no request precedes the timeout, and not later
  than `d + 1 s`.
-/
namespace Elvis.Sim

def AllPre (l : List Ev) : Prop := ∀ e ∈ l, e.isPre = true
def AllPost (l : List Ev) : Prop := ∀ e ∈ l, e.isPre = false
def SplitLog (l : List Ev) : Prop := ∃ a b, l = a ++ b ∧ AllPre a ∧ AllPost b

structure Phase1 (s : Sys) : Prop where
  len : s.st.length = s.prog.length
  size : s.size = s.prog.length
  notRel : ∀ x ∈ s.st, x.released = false
  wait : ∀ (i : Nat) (r : Routine) (x : RState), s.prog[i]? = some r → s.st[i]? = some x → x.waiting = true → r.pre ≤ x.donePre
  log : AllPre s.log

structure Phase2 (s : Sys) : Prop where
  len : s.st.length = s.prog.length
  size : s.size = s.prog.length
  rel : ∀ x ∈ s.st, x.released = true ∧ x.waiting = false
  done : ∀ (i : Nat) (r : Routine) (x : RState), s.prog[i]? = some r → s.st[i]? = some x → r.pre ≤ x.donePre
  log : SplitLog s.log

theorem init_phase1 (prog : List Routine) : Phase1 (init prog prog.length) := by
  refine ⟨by simp [init], rfl, ?_, ?_, ?_⟩
  · intro x hx; simp [init] at hx; obtain ⟨_, _, rfl⟩ := hx; rfl
  · intro i r x _ hx hw
    simp [init] at hx
    obtain ⟨_, _, rfl⟩ := hx
    cases hw
  · intro e he; cases he

theorem mem_releaseAll {st : List RState} {y : RState} (h : y ∈ releaseAll st) :
    ∃ x ∈ st, y = if x.waiting then { x with waiting := false, released := true } else x := by
  simp [releaseAll] at h
  obtain ⟨x, hx, rfl⟩ := h
  exact ⟨x, hx, rfl⟩

theorem phase1_split {s : Sys} (h : Phase1 s) : SplitLog s.log :=
  ⟨s.log, [], by simp, h.log, by intro e he; cases he⟩

/-- the last arrival: everybody is waiting, so everybody has finished initialising and is released -/
theorem Phase1.release {s : Sys} (h : Phase1 s) (hc : waitingCount s.st = s.size) :
    Phase2 { s with st := releaseAll s.st } := by
  have hall : ∀ y ∈ s.st, y.waiting = true := by
    have : (List.filter (·.waiting) s.st).length = s.st.length := by
      unfold waitingCount at hc; rw [hc, h.size, ← h.len]
    exact List.length_filter_eq_length_iff.1 this
  refine ⟨by simp [releaseAll, h.len], h.size, ?_, ?_, (phase1_split h :)⟩
  · intro y hy
    obtain ⟨z, hz, rfl⟩ := mem_releaseAll hy
    simp [hall z hz]
  · intro j r y hr hy
    simp only [releaseAll, List.getElem?_map] at hy
    cases hz : s.st[j]? with
    | none => simp [hz] at hy
    | some z =>
      simp only [hz, Option.map_some] at hy
      have hzw := hall z (List.mem_of_getElem? hz)
      cases hy
      simp only [hzw, if_true]
      exact h.wait j r z hr hz hzw

theorem step_phase1 (s : Sys) (i : Nat) (h : Phase1 s) : Phase1 (step s i) ∨ Phase2 (step s i) := by
  unfold step
  cases hr : s.prog[i]? with
  | none => simp only; exact .inl h
  | some r =>
    cases hx : s.st[i]? with
    | none => simp only; exact .inl h
    | some x =>
      simp only
      have hxr := h.notRel x (List.mem_of_getElem? hx)
      -- the routine's own entry rewritten: still nobody released
      have hset : ∀ x' : RState, x'.released = false → ∀ y ∈ s.st.set i x', y.released = false := by
        intro x' hx' y hy
        rcases List.mem_or_eq_of_mem_set hy with hy | rfl
        · exact h.notRel y hy
        · exact hx'
      by_cases hlt : x.donePre < r.pre
      · -- an initialisation effect
        rw [if_pos hlt]
        left
        refine ⟨by simpa using h.len, h.size, hset _ hxr, ?_, ?_⟩
        · intro j r' y hr' hy hw
          rcases List.getElem?_set_cases hy with ⟨rfl, rfl⟩ | ⟨_, hy⟩
          · have := h.wait j r x hr hx hw
            omega
          · exact h.wait j r' y hr' hy hw
        · intro e he
          simp at he
          rcases he with he | rfl
          · exact h.log e he
          · rfl
      · rw [if_neg hlt]
        by_cases hw : (!x.waiting && !x.released) = true
        · -- arrival at the barrier: still phase 1, and the last one releases everybody
          rw [if_pos hw]
          have h' : Phase1 { s with st := s.st.set i { x with waiting := true } } := by
            refine ⟨by simpa using h.len, h.size, hset _ hxr, ?_, h.log⟩
            intro j r' y hr' hy hyw
            rcases List.getElem?_set_cases hy with ⟨rfl, rfl⟩ | ⟨_, hy⟩
            · rw [hr] at hr'; cases hr'
              simp only; omega
            · exact h.wait j r' y hr' hy hyw
          by_cases hc : waitingCount (s.st.set i { x with waiting := true }) = s.size
          · rw [if_pos hc]; exact .inr (h'.release hc)
          · rw [if_neg hc]; exact .inl h'
        · rw [if_neg hw]
          -- a post effect is impossible before release
          have : ¬ ((x.released && decide (x.donePost < r.post)) = true) := by simp [hxr]
          rw [if_neg this]
          exact .inl h

theorem step_phase2 (s : Sys) (i : Nat) (h : Phase2 s) : Phase2 (step s i) := by
  unfold step
  cases hr : s.prog[i]? with
  | none => simp only; exact h
  | some r =>
    cases hx : s.st[i]? with
    | none => simp only; exact h
    | some x =>
      simp only
      have hxm : x ∈ s.st := List.mem_of_getElem? hx
      obtain ⟨hxr, hxw⟩ := h.rel x hxm
      have hd := h.done i r x hr hx
      rw [if_neg (by omega)]
      rw [if_neg (by simp [hxr])]
      by_cases hp : (x.released && decide (x.donePost < r.post)) = true
      · rw [if_pos hp]
        refine ⟨by simpa using h.len, h.size, ?_, ?_, ?_⟩
        · intro y hy
          rcases List.mem_or_eq_of_mem_set hy with hy | rfl
          · exact h.rel y hy
          · exact ⟨hxr, hxw⟩
        · intro j r' y hr' hy
          rcases List.getElem?_set_cases hy with ⟨rfl, rfl⟩ | ⟨_, hy⟩
          · rw [hr] at hr'; cases hr'
            exact hd
          · exact h.done j r' y hr' hy
        · obtain ⟨a, b, hab, ha, hb⟩ := h.log
          refine ⟨a, b ++ [.post i], by simp [hab], ha, ?_⟩
          intro e he
          simp at he
          rcases he with he | rfl
          · exact hb e he
          · rfl
      · rw [if_neg hp]; exact h

theorem run_phase (sched : List Nat) (s : Sys) (h : Phase1 s) :
    Phase1 (run s sched) ∨ Phase2 (run s sched) :=
  List.foldlRecOn (motive := fun s => Phase1 s ∨ Phase2 s) sched step (.inl h) fun s h i _ =>
    h.elim (step_phase1 s i) fun h => .inr (step_phase2 s i h)

/-- **C13 barrier safety, all interleavings.**  Any programs, any schedule: with the barrier
    sized to the number of start routines (as `run_internet` does), the effect log is always
    "initialisation effects first, post-barrier effects afterwards": nothing that can put a frame
    on a network happens before every protocol of every machine finished initialising. -/
theorem c13_barrier (prog : List Routine) (sched : List Nat) :
    SplitLog (run (init prog prog.length) sched).log := by
  rcases run_phase sched _ (init_phase1 prog) with h | h
  · exact phase1_split h
  · exact h.log

/-- every branch of `step` is a record update of `st` and `log` -/
theorem step_prog (s : Sys) (i : Nat) : (step s i).prog = s.prog := by
  unfold step
  cases s.prog[i]? <;> cases s.st[i]? <;> simp only [apply_ite Sys.prog, ite_self]

theorem run_prog (s : Sys) (sched : List Nat) : (run s sched).prog = s.prog :=
  List.foldlRecOn (motive := fun s' => s'.prog = s.prog) sched step rfl fun s' h j _ =>
    (step_prog s' j).trans h

/-- and when any post-barrier effect has happened, every routine has completed initialisation -/
theorem c13_barrier_all_initialised (prog : List Routine) (sched : List Nat)
    (hpost : ∃ e ∈ (run (init prog prog.length) sched).log, e.isPre = false) :
    ∀ (i : Nat) (r : Routine) (x : RState), prog[i]? = some r →
      (run (init prog prog.length) sched).st[i]? = some x → r.pre ≤ x.donePre := by
  rcases run_phase sched _ (init_phase1 prog) with h | h
  · obtain ⟨e, he, hf⟩ := hpost
    have := h.log e he
    rw [this] at hf; cases hf
  · intro i r x hr hx
    exact h.done i r x (by rw [run_prog]; exact hr) hx

/-- The size matters: a barrier smaller than the number of routines lets a post effect overtake
    another routine's initialisation (why `total_protocols` must count every `start`). -/
theorem c13_barrier_too_small_counterexample :
    ¬ SplitLog (run (init [⟨0, 1⟩, ⟨1, 0⟩] 1) [0, 0, 1]).log := by
  intro ⟨a, b, hab, ha, hb⟩
  have hl : (run (init [⟨0, 1⟩, ⟨1, 0⟩] 1) [0, 0, 1]).log = [.post 0, .pre 1] := by decide
  rw [hl] at hab
  match a, hab with
  | [], hab =>
    have := hb (.pre 1) (by simp at hab; rw [← hab]; simp)
    cases this
  | e :: a', hab =>
    simp at hab
    have := ha e (by simp)
    rw [← hab.1] at this
    cases this

/-- every `Protocol::start` implementation found in the source waits on the barrier exactly once
    (certificate regenerated from the source on every run) -/
theorem c13_start_waits_once : ∀ c ∈ Elvis.Gen.startRoutines, c.waits = 1 := by decide

/-- the only routine that may act before the barrier is the recorded one -/
theorem c13_start_certificate_exceptions :
    ∀ c ∈ Elvis.Gen.startRoutines, c.sendBeforeWait = true →
      c.name = "elvis/src/applications/forward.rs::Forward" := by decide

/-- no `Protocol::start` performs a frame-producing call (send / open / connect / spawn / resolve)
    before its barrier wait — **partial**: `Forward::start` opens its outgoing session before the
    barrier, which with ARP on the machine broadcasts an ARP request (finding F-C13-2, replayed on
    the real code by the harness). The full statement is
    `∀ c ∈ startRoutines, c.sendBeforeWait = false`. -/
theorem c13_start_certificate_partial :
    ∀ c ∈ Elvis.Gen.startRoutines, c.name ≠ "elvis/src/applications/forward.rs::Forward" →
      c.sendBeforeWait = false := by
  intro c hc hn
  cases h : c.sendBeforeWait with
  | false => rfl
  | true => exact absurd (c13_start_certificate_exceptions c hc h) hn

/-- the barrier is created with the sum of the machines' protocol counts, and each machine
    spawns one start task per protocol (certificate regenerated from source) -/
theorem c13_barrier_size_certificate :
    Elvis.Gen.barrierSizedByProtocolCount = true ∧ Elvis.Gen.machineSpawnsStartPerProtocol = true ∧
    Elvis.Gen.shutdownReceiverCreatedBeforeStart = true := by decide

/-- "one second of simulated time": the outer guard of `run_internet_with_timeout` -/
theorem c13_outer_slack_is_one_second : Elvis.Gen.outerTimeoutSlackMs = 1000 := by decide

theorem c13_get_status_first (cap : Nat) (s : Status) (rest : List Status) (closed : Bool)
    (h : (s :: rest).length ≤ cap) : getStatus cap (s :: rest) closed = some s := by
  simp [getStatus] at h ⊢; omega

theorem c13_get_status_closed (cap : Nat) : getStatus cap [] true = some .exited := rfl

theorem takeWhile_insertTimeout (t d : Nat) (h : t < d) (l : List Req) :
    (insertTimeout d l).takeWhile (fun x => x.1 == t) = l.takeWhile (fun x => x.1 == t) := by
  induction l with
  | nil =>
    have : (d == t) = false := by simp; omega
    simp [insertTimeout, this]
  | cons r rs ih =>
    unfold insertTimeout
    by_cases hr : r.1 < d
    · rw [if_pos hr]
      simp only [List.takeWhile_cons, ih]
    · rw [if_neg hr]
      have h1 : (d == t) = false := by simp; omega
      have h2 : (r.1 == t) = false := by simp; omega
      simp [h1, h2]

/-- the source uses the set-once first-status cell (F-C13-1; regenerated from source) -/
theorem c13_first_status_cell_certificate : Elvis.Gen.firstStatusCellUsed = true := by decide

theorem getStatus_cons_isSome (cap : Nat) (hcap : 1 ≤ cap) (s : Status) (l : List Status) :
    ∃ x, getStatus cap (s :: l) false = some x := by
  unfold getStatus
  simp only [List.isEmpty_cons, Bool.false_eq_true, if_false]
  split
  · exact ⟨s, rfl⟩
  · rename_i hgt
    have : (s :: l).length - cap < (s :: l).length := by simp; omega
    exact ⟨_, List.getElem?_eq_getElem this⟩

theorem runInternet_head (cap : Nat) (hcap : 1 ≤ cap) {reqs : List Req} {timeout : Option Nat} {r : Req}
    {rs : List Req} (h : withTimeout reqs timeout = r :: rs) (closes : Bool) :
    runInternet cap reqs timeout closes = some r := by
  unfold runInternet
  simp only [h, firstBurst, List.map_cons]
  obtain ⟨x, hx⟩ := getStatus_cons_isSome cap hcap r.2 ((rs.takeWhile (fun x => x.1 == r.1)).map (·.2))
  simp only [hx, c13_first_status_cell_certificate, if_true]

/-- **First request wins** (no timeout configured): the run returns the status of the first
    shutdown request, at the instant of that request — for ANY number of requests issued in the
    same instant (more than the broadcast channel retains included). -/
theorem c13_status_first_request (cap t : Nat) (s : Status) (rest : List Req) (closes : Bool)
    (hcap : 1 ≤ cap) :
    runInternet cap ((t, s) :: rest) none closes = some (t, s) :=
  runInternet_head cap hcap rfl closes

/-- … and with a timeout `d`: a request issued strictly before the timeout still wins. -/
theorem c13_status_request_before_timeout (cap t d : Nat) (s : Status) (rest : List Req) (closes : Bool)
    (hcap : 1 ≤ cap) (hbefore : t < d) :
    runInternet cap ((t, s) :: rest) (some d) closes = some (t, s) := by
  refine runInternet_head (rs := insertTimeout d rest) cap hcap ?_ closes
  exact if_pos hbefore

theorem c13_capacity_positive : 1 ≤ Elvis.Gen.shutdownChannelCapacity := by decide

/-- Without a request before the timeout the run returns `TimedOut`, at the timeout instant. -/
theorem c13_status_timed_out (cap d : Nat) (reqs : List Req) (closes : Bool) (hcap : 1 ≤ cap)
    (hlate : ∀ r ∈ reqs, d < r.1) :
    runInternet cap reqs (some d) closes = some (d, .timedOut) := by
  cases reqs with
  | nil => exact runInternet_head cap hcap rfl closes
  | cons r rs =>
    have h1 : ¬ r.1 < d := Nat.not_lt_of_gt (hlate r List.mem_cons_self)
    refine runInternet_head (rs := r :: rs) cap hcap ?_ closes
    exact if_neg h1

/-- a run given a timeout returns no later than one second after it, whatever the machines do -/
theorem c13_timeout_bound (cap d : Nat) (reqs : List Req) (closes : Bool) :
    (runInternetWithTimeout cap reqs d closes).1 ≤ d + Elvis.Gen.outerTimeoutSlackMs := by
  unfold runInternetWithTimeout
  split
  · split
    · assumption
    · exact Nat.le_refl _
  · exact Nat.le_refl _

/-- every run with a timeout returns (exactly one result value; never pending) — by totality of
    `runInternetWithTimeout`; and the inner run returns whenever the capacity is positive -/
theorem c13_returns_with_timeout (cap d : Nat) (reqs : List Req) (closes : Bool) (hcap : 1 ≤ cap) :
    ∃ r, runInternet cap reqs (some d) closes = some r := by
  have hne : ∃ r rs, insertTimeout d reqs = r :: rs := by
    cases reqs with
    | nil => exact ⟨_, _, rfl⟩
    | cons a as => unfold insertTimeout; split <;> exact ⟨_, _, rfl⟩
  obtain ⟨r, rs, h⟩ := hne
  exact ⟨r, runInternet_head (timeout := some d) cap hcap h closes⟩

/-- F-C13-1: 17 requests in one burst over the 16-slot channel —
    the receiver lags, yet the first request's status is returned.  (The raw channel alone would
    yield the second request's status: `c13_channel_alone_lags`.) -/
theorem c13_lag_regression :
    runInternet 16 ((List.range 17).map fun i => (5, Status.status i)) none false
      = some (5, .status 0) := by decide

theorem c13_channel_alone_lags :
    getStatus 16 ((List.range 17).map Status.status) false = some (.status 1) := by decide

example : runInternet 16 [(5, .status 7), (5, .status 8), (9, .exited)] (some 20) false = some (5, .status 7) := by decide
example : runInternet 16 [(30, .status 7)] (some 20) false = some (20, .timedOut) := by decide
example : (run (init [⟨1, 1⟩, ⟨2, 1⟩] 2) [0, 0, 1, 0, 1, 1, 0, 1]).log = [.pre 0, .pre 1, .pre 1, .post 0, .post 1] := by decide

end Elvis.Sim
