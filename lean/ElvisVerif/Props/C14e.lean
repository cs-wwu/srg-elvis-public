import ElvisVerif.Props.C14a
import ElvisVerif.Lemmas.DemuxDrop
import ElvisVerif.Lemmas.TcbBlocks
import ElvisVerif.Props.C04
/-!
# C14, second sentence, for IPv4 / UDP / TCP

"A frame whose headers fail to decode at some layer is dropped at that layer: it reaches no
application, changes no connection, and the simulation keeps running."

Stated over the composed receive path of `Model/RecvPath.lean`
(`PciSession::receive → Ipv4::demux → Ipv4Session::receive → Udp::demux / Tcp::demux` over the
byte-level decoders), for EVERY byte string, every machine state (binding tables, TCP session
table with every TCB and every session's channel), every link context, checksum feature on or
off.  "Dropped at that layer": that layer's `demux` returns `Err(DemuxError::Header)`, the machine
is the one it was, nothing is done (no application called, nothing sent, nothing spawned), and no
`demux` above that layer was entered.  "Keeps running" (`c14_demux_total`) needs every IPv4 / UDP
binding to name a protocol of the machine (`BindingsPresent`; the two `expect("No such protocol")`
sites — witness `c14_demux_panics_without_upstream`).  The `remove_front` preconditions are
discharged from what an accepting decoder says about its input; they are stated over the strip
lengths EXTRACTED from the sources, so "strip more than the segment holds" (seeded change C14-2)
breaks the proof.
-/
namespace Elvis.Recv
open Elvis.Codec Elvis.Demux

/-- the constants of the model are the extracted ones, and the extracted ones are what the
    proofs below need (a change of `remove_front(20)` / `remove_front(8)` / `ihl * 4` or of the
    guard's factors in the sources stops this theorem) -/
theorem c14_recv_consts :
    tcpStrip = 20 ∧ udpStripN = 8 ∧ ipStripFactor = 4 ∧ guardWord = 4 ∧ guardUnit = 8 ∧
    udpStripN = Demux.udpStrip ∧ ipStripFactor = Demux.ipWordOctets ∧
    Elvis.Gen.Recv.ipv4ProtoTcp = 6 := by decide

/-- IPv4: the decoder rejects ⇒ `Ipv4::demux` returns `Err(Header)`; machine unchanged, nothing
    done, neither `Udp::demux` nor `Tcp::demux` entered -/
theorem c14_ipv4_demux_drop (env : Env) (m : Machine) (lk : Link) (bytes : Bytes)
    (e : Fail Ipv4.ParseError) (h : Ipv4.fromBytes env.ck bytes = .error e) :
    ipv4Demux env m lk bytes =
      .ok { machine := m, ret := .error .header, effects := [], calls := [pidIpv4] } := by
  obtain ⟨k, rfl⟩ := error_is_err (c14_ipv4_total _ _) h
  unfold ipv4Demux
  rw [h]
  rfl

/-- what `Ipv4::demux` hands up: the octets of the datagram (the first `total length` octets of the
    frame — link padding behind them is cut off, finding F-C14-S3) behind the 20-octet header -/
def datagramBody (hd : Ipv4.Header) (bytes : Bytes) : Bytes := (bytes.take hd.totalLength).drop 20

theorem datagramBody_exact (hd : Ipv4.Header) (bytes : Bytes) (h : hd.totalLength = bytes.length) :
    datagramBody hd bytes = bytes.drop 20 := by
  unfold datagramBody
  rw [h, List.take_length]

/-- `Ipv4::demux` behind an accepting decoder.  The checked subtraction and the `remove_front`
    assertion cannot fail (`ipv4_ok_guards`), so what is left is: the fragment guard, the frame that
    ends before its datagram, the binding, the fresh reassembler, the upstream protocol. -/
theorem ipv4Demux_decoded {env : Env} {m : Machine} {lk : Link} {bytes : Bytes} {hd : Ipv4.Header}
    (h : Ipv4.fromBytes env.ck bytes = .ok hd) :
    ipv4Demux env m lk bytes =
      if hd.fragmentOffset * 8 + (hd.totalLength - 20) > 65515 then .ok (dropped m .header [pidIpv4])
      else if bytes.length < hd.totalLength then .ok (dropped m .header [pidIpv4])
      else
        match ipv4Upstream m.dm hd.destination (protoNumber hd.protocol) with
        | none => .ok (dropped m .missingSession [pidIpv4])
        | some up =>
          match Elvis.Reasm.Reassembly.receive .fixed .new (fragHdr hd) (datagramBody hd bytes) with
          | .error e => .error e
          | .ok (_, .incomplete timeout _ _) =>
            .ok { machine := m, ret := .ok (), effects := [.reassemblyTimer timeout], calls := [pidIpv4] }
          | .ok (_, .complete _ body') =>
            if up ∈ m.dm.protocols then
              if up = pidUdp then entered pidIpv4 (udpDemux env m lk (some hd) body')
              else if up = pidTcp then entered pidIpv4 (tcpDemux env m lk (some hd) body')
              else .ok { machine := m, ret := .ok (), effects := [.handUp up body'], calls := [pidIpv4] }
            else .error "panic:expect:Ipv4Session::receive:No such protocol" := by
  obtain ⟨_, hl, htl, _⟩ := ipv4_ok_facts h
  obtain ⟨a, hs, b⟩ := ipv4_ok_guards h
  unfold ipv4Demux
  rw [h]
  dsimp only
  rw [if_neg a, b, hs]
  simp only [decide_eq_true_eq]
  -- the datagram holds its header: both the frame and the total length have 20 octets
  rw [if_neg (show ¬ (bytes.take hd.totalLength).length < 20 by rw [List.length_take]; omega)]
  rfl

/-- IPv4, commit 2a82fb5c: a fragment whose data would end beyond octet 65535 is dropped the same way -/
theorem c14_ipv4_fragment_guard_drop (env : Env) (m : Machine) (lk : Link) (bytes : Bytes)
    (hd : Ipv4.Header) (h : Ipv4.fromBytes env.ck bytes = .ok hd)
    (hg : hd.fragmentOffset * 8 + (hd.totalLength - 20) > 65515) :
    ipv4Demux env m lk bytes =
      .ok { machine := m, ret := .error .header, effects := [], calls := [pidIpv4] } := by
  rw [ipv4Demux_decoded h, if_pos hg]
  rfl

/-- IPv4, finding F-C14-S3: a frame that ends before the total length of its datagram (a datagram cut
    short in transit) is dropped the same way, whatever it carries -/
theorem c14_ipv4_truncated_frame_drop (env : Env) (m : Machine) (lk : Link) (bytes : Bytes)
    (hd : Ipv4.Header) (h : Ipv4.fromBytes env.ck bytes = .ok hd) (hl : bytes.length < hd.totalLength) :
    ipv4Demux env m lk bytes =
      .ok { machine := m, ret := .error .header, effects := [], calls := [pidIpv4] } := by
  rw [ipv4Demux_decoded h, if_pos hl, ite_self]
  rfl

theorem ipv4_fromBytes_append {ck : Bool} {bs : Bytes} {hd : Ipv4.Header} (pad : Bytes)
    (h : Ipv4.fromBytes ck bs = .ok hd) : Ipv4.fromBytes ck (bs ++ pad) = .ok hd := by
  obtain ⟨b0, b1, b2, b3, b4, b5, b6, b7, b8, b9, b10, b11, b12, b13, b14, b15, b16, b17, b18, b19,
    rest, rfl, _⟩ := Ipv4.fromBytes_ok_inv h
  simp only [List.cons_append, Ipv4.fromBytes_cons20] at h ⊢
  exact h

/-- IPv4, finding F-C14-S3: link padding behind the datagram never matters — a frame that holds its
    whole datagram is answered exactly as the frame that ends where the total length says (same
    result, same machine, same effects, same payload handed up), whatever follows -/
theorem c14_ipv4_padding_ignored (env : Env) (m : Machine) (lk : Link) (bytes pad : Bytes)
    (hd : Ipv4.Header) (h : Ipv4.fromBytes env.ck bytes = .ok hd) (hl : hd.totalLength ≤ bytes.length) :
    ipv4Demux env m lk (bytes ++ pad) = ipv4Demux env m lk bytes := by
  rw [ipv4Demux_decoded (ipv4_fromBytes_append pad h), ipv4Demux_decoded h]
  have t : ((bytes ++ pad).length < hd.totalLength) = (bytes.length < hd.totalLength) := by
    rw [List.length_append]; exact propext (by omega)
  simp only [datagramBody, List.take_append_of_le_length hl, t]

/-- UDP: the decoder rejects ⇒ `Udp::demux` returns `Err(Header)`; machine unchanged, nothing
    done, no application entered -/
theorem c14_udp_demux_drop (env : Env) (m : Machine) (lk : Link) (ih : Ipv4.Header) (msg : Bytes)
    (e : Fail Udp.ParseError)
    (h : Udp.fromBytes env.ck msg msg.length ih.source ih.destination = .error e) :
    udpDemux env m lk (some ih) msg =
      .ok { machine := m, ret := .error .header, effects := [], calls := [pidUdp] } := by
  obtain ⟨k, rfl⟩ := error_is_err (c14_udp_total _ _ _ _ _) h
  unfold udpDemux
  dsimp only
  rw [h]
  rfl

/-- TCP: the decoder rejects ⇒ `Tcp::demux` returns `Err(Header)`; the session table (every TCB,
    every session's channel) and the listen bindings are unchanged, nothing is sent -/
theorem c14_tcp_demux_drop (env : Env) (m : Machine) (lk : Link) (ih : Ipv4.Header) (msg : Bytes)
    (e : Fail Codec.Tcp.ParseError)
    (h : Codec.Tcp.fromBytes env.ck msg msg.length ih.source ih.destination = .error e) :
    tcpDemux env m lk (some ih) msg =
      .ok { machine := m, ret := .error .header, effects := [], calls := [pidTcp] } := by
  obtain ⟨k, rfl⟩ := error_is_err (c14_tcp_total _ _ _ _ _) h
  unfold tcpDemux
  dsimp only
  rw [h]
  rfl

/-- commit bdf9f0be (UDP; `Tcp::demux` has the same branch): a frame that names a transport protocol
    at the link layer carries no IPv4 context and is dropped with `Err(MissingContext)` before any
    decoding -/
theorem c14_missing_context_drop (env : Env) (m : Machine) (lk : Link) (msg : Bytes) :
    udpDemux env m lk none msg =
      .ok { machine := m, ret := .error .missingContext, effects := [], calls := [pidUdp] } ∧
    tcpDemux env m lk none msg =
      .ok { machine := m, ret := .error .missingContext, effects := [], calls := [pidTcp] } :=
  ⟨rfl, rfl⟩

structure ReachesTransport (env : Env) (m : Machine) (bytes : Bytes) (hd : Ipv4.Header) (up : Pid) : Prop where
  hasIp : pidIpv4 ∈ m.dm.protocols
  decodes : Ipv4.fromBytes env.ck bytes = .ok hd
  whole : (Elvis.Frag.isLast hd.flags && hd.fragmentOffset == 0) = true
  bound : ipv4Upstream m.dm hd.destination (protoNumber hd.protocol) = some up
  present : up ∈ m.dm.protocols
  /-- the frame is not shorter than the datagram it announces (finding F-C14-S3) -/
  arrived : hd.totalLength ≤ bytes.length

theorem ipv4Demux_datagram {env : Env} {m : Machine} {lk : Link} {bytes : Bytes} {hd : Ipv4.Header}
    (hdec : Ipv4.fromBytes env.ck bytes = .ok hd)
    (hw : (Elvis.Frag.isLast hd.flags && hd.fragmentOffset == 0) = true) (harr : hd.totalLength ≤ bytes.length) :
    ipv4Demux env m lk bytes =
      match ipv4Upstream m.dm hd.destination (protoNumber hd.protocol) with
      | none => .ok (dropped m .missingSession [pidIpv4])
      | some up =>
        if up ∈ m.dm.protocols then
          if up = pidUdp then entered pidIpv4 (udpDemux env m lk (some hd) (datagramBody hd bytes))
          else if up = pidTcp then entered pidIpv4 (tcpDemux env m lk (some hd) (datagramBody hd bytes))
          else .ok { machine := m, ret := .ok (), effects := [.handUp up (datagramBody hd bytes)], calls := [pidIpv4] }
        else .error "panic:expect:Ipv4Session::receive:No such protocol" := by
  obtain ⟨_, _, _, htl⟩ := ipv4_ok_facts hdec
  have hfo : hd.fragmentOffset = 0 := by
    simp only [Bool.and_eq_true, beq_iff_eq] at hw; exact hw.2
  obtain ⟨rr, hr⟩ := fresh_receive_whole (fragHdr hd) (datagramBody hd bytes) hw
  rw [ipv4Demux_decoded hdec, if_neg (by rw [hfo]; omega), if_neg (Nat.not_lt.2 harr), hr]

theorem ipv4Demux_reaches {env : Env} {m : Machine} {lk : Link} {bytes : Bytes} {hd : Ipv4.Header} {up : Pid}
    (r : ReachesTransport env m bytes hd up) :
    ipv4Demux env m lk bytes =
      if up = pidUdp then entered pidIpv4 (udpDemux env m lk (some hd) (datagramBody hd bytes))
      else if up = pidTcp then entered pidIpv4 (tcpDemux env m lk (some hd) (datagramBody hd bytes))
      else .ok { machine := m, ret := .ok (), effects := [.handUp up (datagramBody hd bytes)], calls := [pidIpv4] } := by
  rw [ipv4Demux_datagram r.decodes r.whole r.arrived, r.bound]
  exact if_pos r.present

/-- a frame whose IPv4 header is fine and whose UDP header does not decode: `PciSession::receive`
    returns `Err(Demux(Header))`, the machine is unchanged, nothing is done, and the `demux`
    functions entered are exactly `Ipv4::demux`, `Udp::demux` -/
theorem c14_udp_drop_through_stack (env : Env) (m : Machine) (lk : Link) (bytes : Bytes) (hd : Ipv4.Header)
    (r : ReachesTransport env m bytes hd pidUdp) (e : Fail Udp.ParseError)
    (h : Udp.fromBytes env.ck (datagramBody hd bytes) (datagramBody hd bytes).length hd.source hd.destination = .error e) :
    receive env m lk ⟨pidIpv4, bytes⟩ =
      .ok { machine := m, ret := .error .header, effects := [], calls := [pidIpv4, pidUdp] } := by
  unfold receive
  rw [if_pos r.hasIp, if_pos rfl, ipv4Demux_reaches r, if_pos rfl, c14_udp_demux_drop env m lk hd _ e h]
  rfl

/-- the same for a TCP header that does not decode: no session's channel receives anything, no
    TCB, no binding changes, no reset is sent -/
theorem c14_tcp_drop_through_stack (env : Env) (m : Machine) (lk : Link) (bytes : Bytes) (hd : Ipv4.Header)
    (r : ReachesTransport env m bytes hd pidTcp) (e : Fail Codec.Tcp.ParseError)
    (h : Codec.Tcp.fromBytes env.ck (datagramBody hd bytes) (datagramBody hd bytes).length hd.source hd.destination = .error e) :
    receive env m lk ⟨pidIpv4, bytes⟩ =
      .ok { machine := m, ret := .error .header, effects := [], calls := [pidIpv4, pidTcp] } := by
  unfold receive
  have ne : pidTcp ≠ pidUdp := by decide
  rw [if_pos r.hasIp, if_pos rfl, ipv4Demux_reaches r, if_neg ne, if_pos rfl,
    c14_tcp_demux_drop env m lk hd _ e h]
  rfl

/-- and for the IPv4 header itself, from the tap -/
theorem c14_ipv4_drop_through_stack (env : Env) (m : Machine) (lk : Link) (bytes : Bytes)
    (hp : pidIpv4 ∈ m.dm.protocols) (e : Fail Ipv4.ParseError) (h : Ipv4.fromBytes env.ck bytes = .error e) :
    receive env m lk ⟨pidIpv4, bytes⟩ =
      .ok { machine := m, ret := .error .header, effects := [], calls := [pidIpv4] } := by
  unfold receive
  rw [if_pos hp, if_pos rfl, c14_ipv4_demux_drop env m lk bytes e h]

/-- the only effect an erroring call can have had: the reset of the CLOSED state -/
def Effect.isReply : Effect → Bool
  | .reply .. => true
  | .loopReply .. => true
  | _ => false

/-- What all returns of the receive path have in common: the binding tables and the protocol list
    are those of `m`; behind an error the whole machine is `m` and nothing but resets went out. -/
structure Tame (m : Machine) (r : Result) : Prop where
  dm : r.machine.dm = m.dm
  quiet : ∀ e, r.ret = .error e → r.machine = m ∧ ∀ x ∈ r.effects, x.isReply = true

/-- every IPv4 binding and every UDP binding names a protocol the machine has (they are made by
    `Ipv4::listen` / `Udp::listen`, which protocols of the machine call with their own id) -/
structure BindingsPresent (m : Machine) : Prop where
  ip : ∀ key up, lookup key m.dm.ip = some up → up ∈ m.dm.protocols
  udp : ∀ e app, lookup e m.dm.udp = some app → app ∈ m.dm.protocols

/-- What every call of the receive path does: it returns, tamely; or it panics, and then some binding
    names a protocol the machine does not have (the two `expect("No such protocol")`).  Every other
    panic site is dead (they are listed at `c14_demux_total`). -/
def Sound (m : Machine) : Except String Result → Prop
  | .error _ => ¬ BindingsPresent m
  | .ok r => Tame m r

theorem tame_dropped (m : Machine) (e : Err) (c : List Pid) : Tame m (dropped m e c) :=
  ⟨rfl, fun _ _ => ⟨rfl, fun _ hx => by cases hx⟩⟩

theorem tame_ok {m : Machine} {r : Result} (hd : r.machine.dm = m.dm) (hr : r.ret = .ok ()) : Tame m r :=
  ⟨hd, fun e he => by rw [hr] at he; cases he⟩

theorem sound_entered {m : Machine} (p : Pid) {x : Except String Result} (h : Sound m x) :
    Sound m (entered p x) := by
  cases x with
  | error s => exact h
  | ok r => exact ⟨h.dm, h.quiet⟩

theorem sound_ite {m : Machine} {c : Prop} [Decidable c] {a b : Except String Result}
    (ha : Sound m a) (hb : Sound m b) : Sound m (if c then a else b) := by
  split
  · exact ha
  · exact hb

theorem sendReply_isReply {env : Env} {lk : Link} {ih : Ipv4.Header} {resp : Elvis.Tcp.Hdr} {eff : Effect}
    (h : sendReply env lk ih resp = some eff) : eff.isReply = true := by
  unfold sendReply at h
  dsimp only at h
  split at h
  · split at h
    · cases h
    · cases h; rfl
  · split at h
    · split at h
      · cases h; rfl
      · cases h
    · split at h
      · cases h
      · cases h; rfl

theorem udpDemux_sound (env : Env) (m : Machine) (lk : Link) (ip : Option Ipv4.Header) (msg : Bytes) :
    Sound m (udpDemux env m lk ip msg) := by
  unfold udpDemux
  split
  · exact tame_dropped _ _ _
  · rename_i ih
    cases hdec : Udp.fromBytes env.ck msg msg.length ih.source ih.destination with
    | error e =>
      obtain ⟨k, rfl⟩ := error_is_err (c14_udp_total _ _ _ _ _) hdec
      exact tame_dropped _ _ _
    | ok uh =>
      dsimp only
      have hl := udp_ok_len hdec
      rw [if_neg (show ¬ msg.length < udpStripN by show ¬ msg.length < 8; omega)]
      rcases udpDemux_some_cases m.dm (absIp ih) ⟨uh.source, uh.destination⟩ msg lk.slot with ⟨app, hl', hd⟩ | hd
      · rw [hd, udpSessionReceive]
        by_cases hp : app ∈ m.dm.protocols
        · rw [if_pos hp]; exact tame_ok rfl rfl
        · rw [if_neg hp]
          exact fun hb => hp (hl'.elim (hb.udp _ _) (fun h => hb.udp _ _ h.2))
      · rw [hd]; exact tame_dropped _ _ _

theorem tcpDemux_sound (env : Env) (m : Machine) (lk : Link) (ip : Option Ipv4.Header) (msg : Bytes) :
    Sound m (tcpDemux env m lk ip msg) := by
  unfold tcpDemux
  split
  · exact tame_dropped _ _ _
  · rename_i ih
    cases hdec : Codec.Tcp.fromBytes env.ck msg msg.length ih.source ih.destination with
    | error e =>
      obtain ⟨k, rfl⟩ := error_is_err (c14_tcp_total _ _ _ _ _) hdec
      exact tame_dropped _ _ _
    | ok th =>
      dsimp only
      have hl := tcp_ok_len hdec
      rw [if_neg (show ¬ msg.length < tcpStrip by show ¬ msg.length < 20; omega)]
      split
      · exact tame_ok rfl rfl
      · split
        · -- CLOSED: the one error return that has done something
          split
          · exact tame_dropped _ _ _
          · split
            · exact tame_dropped _ _ _
            · rename_i eff hs
              refine ⟨rfl, fun _ _ => ⟨rfl, fun x hx => ?_⟩⟩
              rw [List.mem_singleton.1 hx]
              exact sendReply_isReply hs
        · rw [Elvis.Tcp.Tcb.segmentArrivesListen_eq]
          split
          · rename_i h; cases h
          · exact tame_ok rfl rfl
          · split
            · exact tame_dropped _ _ _
            · exact tame_ok rfl rfl
          · exact sound_ite (tame_ok rfl rfl) (tame_dropped _ _ _)

theorem ipv4Upstream_present {m : Machine} (hb : BindingsPresent m) {a : Addr} {pn : Nat} {up : Pid}
    (h : ipv4Upstream m.dm a pn = some up) : up ∈ m.dm.protocols := by
  unfold ipv4Upstream at h
  split at h
  · rename_i u hl
    cases h
    exact hb.ip _ _ hl
  · exact hb.ip _ _ h

theorem ipv4Demux_sound (env : Env) (m : Machine) (lk : Link) (bytes : Bytes) :
    Sound m (ipv4Demux env m lk bytes) := by
  cases hdec : Ipv4.fromBytes env.ck bytes with
  | error e =>
    rw [c14_ipv4_demux_drop env m lk bytes e hdec]
    exact tame_dropped _ _ _
  | ok hd =>
    obtain ⟨hihl, _, htl, _⟩ := ipv4_ok_facts hdec
    rw [ipv4Demux_decoded hdec]
    by_cases hg : hd.fragmentOffset * 8 + (hd.totalLength - 20) > 65515
    · rw [if_pos hg]; exact tame_dropped _ _ _
    by_cases ht : bytes.length < hd.totalLength
    · rw [if_neg hg, if_pos ht]; exact tame_dropped _ _ _
    rw [if_neg hg, if_neg ht]
    cases hu : ipv4Upstream m.dm hd.destination (protoNumber hd.protocol) with
    | none => exact tame_dropped _ _ _
    | some up =>
      dsimp only
      obtain ⟨rr, res, hr⟩ := fresh_receive_ok (fragHdr hd) (datagramBody hd bytes) hihl htl
        (Nat.le_of_not_lt hg)
      rw [hr]
      cases res with
      | incomplete t i ep => exact tame_ok rfl rfl
      | complete h' body' =>
        dsimp only
        by_cases hp : up ∈ m.dm.protocols
        · rw [if_pos hp]
          refine sound_ite (sound_entered _ (udpDemux_sound _ _ _ _ _)) ?_
          exact sound_ite (sound_entered _ (tcpDemux_sound _ _ _ _ _)) (tame_ok rfl rfl)
        · rw [if_neg hp]
          exact fun hb => hp (ipv4Upstream_present hb hu)

theorem receive_sound (env : Env) (m : Machine) (lk : Link) (f : Frame) : Sound m (receive env m lk f) := by
  unfold receive
  refine sound_ite ?_ (tame_dropped _ _ _)
  refine sound_ite (ipv4Demux_sound _ _ _ _) ?_
  refine sound_ite (udpDemux_sound _ _ _ _ _) ?_
  exact sound_ite (tcpDemux_sound _ _ _ _ _) (tame_ok rfl rfl)

theorem tame_of_ok {env : Env} {m : Machine} {lk : Link} {f : Frame} {r : Result}
    (h : receive env m lk f = .ok r) : Tame m r := by
  have := receive_sound env m lk f
  rw [h] at this
  exact this

/-- WHATEVER error `PciSession::receive` returns for a frame — unknown protocol, header error at
    any layer, missing context, no binding, no session, failed reply — the machine (all binding
    tables, the session table, every TCB, every session's channel) is exactly what it was, no
    application was called, nothing was handed to another protocol, nothing was spawned; at most
    the reset that RFC 9293 3.10.7.1 prescribes for the CLOSED state went out -/
theorem c14_err_state_unchanged (env : Env) (m : Machine) (lk : Link) (f : Frame) (r : Result) (e : Err)
    (h : receive env m lk f = .ok r) (he : r.ret = .error e) :
    r.machine = m ∧ ∀ x ∈ r.effects, x.isReply = true :=
  (tame_of_ok h).quiet e he

/-- NO frame makes the receive path panic: for every byte string, every protocol named at the
    link layer, every machine state whose IPv4 / UDP bindings name protocols of the machine, every
    link context, checksum feature on or off, `PciSession::receive` RETURNS (`Ok` or a reported
    error).  Covered panic sites: the three `remove_front` assertions (the decoders guarantee the
    octets are there), the checked subtraction of the fragment guard, every checked u16 operation
    and the `unwrap` of `reassembly/segment.rs` (behind the guard of commit 2a82fb5c), the two
    `expect("No such protocol")` (by `BindingsPresent`), the `unwrap` inside `Tcb::enqueue` on the
    LISTEN path. -/
theorem c14_demux_total (env : Env) (m : Machine) (lk : Link) (f : Frame) (hb : BindingsPresent m) :
    ∃ r, receive env m lk f = .ok r := by
  have h := receive_sound env m lk f
  cases hr : receive env m lk f with
  | ok r => exact ⟨r, rfl⟩
  | error s => rw [hr] at h; exact absurd hb h

/-- and so does every sequence of frames, one after the other (the invariant is kept: the
    receive path never touches the IPv4 / UDP bindings or the protocol list) -/
theorem c14_demux_total_run (env : Env) (lk : Link) (fs : List Frame) (m : Machine) (hb : BindingsPresent m) :
    ∃ m' rs, runFrames env lk m fs = .ok (m', rs) := by
  induction fs generalizing m with
  | nil => exact ⟨_, _, rfl⟩
  | cons f fs ih =>
    obtain ⟨r, hr⟩ := c14_demux_total env m lk f hb
    have hdm := (tame_of_ok hr).dm
    have hb' : BindingsPresent r.machine := ⟨by rw [hdm]; exact hb.ip, by rw [hdm]; exact hb.udp⟩
    obtain ⟨m', rs, hrun⟩ := ih r.machine hb'
    exact ⟨m', r :: rs, by simp [runFrames, hr, hrun]⟩


/-- `BindingsPresent` is not an assumption about the run: a machine without bindings has it, and
    `Udp::listen` (with the `Ipv4::listen` it makes) by a protocol of the machine keeps it -/
theorem c14_bindings_present_init (ps : List Pid) (lis : List (Endpoint × Pid)) (ss : List (Endpoints × Session)) :
    BindingsPresent { dm := Demux.Machine.init ps, tcpListen := lis, tcpSessions := ss } :=
  ⟨(fun _ _ h => nomatch h), (fun _ _ h => nomatch h)⟩

theorem c14_bindings_present_listen (m : Machine) (up : Pid) (e : Endpoint) (hb : BindingsPresent m)
    (hup : up ∈ m.dm.protocols) (hudp : pidUdp ∈ m.dm.protocols) :
    BindingsPresent { m with dm := (udpListen m.dm up e).1 } := by
  have hu := lookup_cons_forall (k' := e) hb.udp hup
  rcases udpListen_cases m.dm up e with ⟨_, h⟩ | ⟨_, ⟨_, h⟩ | ⟨_, h⟩ | ⟨_, _, h⟩⟩
  · rw [h]; exact hb
  · rw [h]; exact ⟨lookup_cons_forall hb.ip hudp, hu⟩
  · rw [h]; exact ⟨hb.ip, hu⟩
  · rw [h]; exact ⟨hb.ip, hu⟩

def noUpstreamPanic : String := "panic:expect:Ipv4Session::receive:No such protocol"

/-- the hypothesis is needed: an IPv4 binding whose upstream protocol the machine does not have
    makes `Ipv4Session::receive` panic on a perfectly valid datagram (`expect("No such protocol")`) -/
theorem c14_demux_panics_without_upstream :
    ∃ (env : Env) (m : Machine) (lk : Link) (f : Frame),
      (match receive env m lk f with
       | .error s => s == noUpstreamPanic
       | .ok _ => false) = true := by
  refine ⟨⟨false, 0, true⟩,
    { dm := { protocols := [pidIpv4], udp := [], ip := [((anyAddr, 17), 9)] }, tcpListen := [], tcpSessions := [] },
    ⟨0, 1, 1500⟩,
    ⟨pidIpv4, [0x45, 0, 0, 28, 0, 0, 0, 0, 30, 17, 0, 0, 10, 0, 0, 2, 10, 0, 0, 1,
               0x17, 0x70, 0x13, 0x88, 0, 8, 0, 0]⟩, ?_⟩
  decide +kernel

def IsDrop (r : Result) : Prop := (∃ e, r.ret = .error e) ∧ r.effects = []

/-- after a dropped frame every later frame — valid or not — is answered exactly as if the
    dropped one had never arrived (same results, same final machine) -/
theorem c14_dropped_frame_is_forgotten (env : Env) (lk : Link) (m : Machine) (f : Frame) (fs : List Frame)
    (r : Result) (h : receive env m lk f = .ok r) (hd : IsDrop r) :
    runFrames env lk m (f :: fs) =
      (match runFrames env lk m fs with
       | .error e => .error e
       | .ok (m', rs) => .ok (m', r :: rs)) := by
  obtain ⟨⟨e, he⟩, _⟩ := hd
  have hm := (c14_err_state_unchanged env m lk f r e h he).1
  simp only [runFrames, h, hm]
  cases runFrames env lk m fs with
  | error e => rfl
  | ok p => rfl

/-! Non-vacuity: the theorems speak about frames that exist. -/

namespace Example

def env : Env := ⟨false, 7, true⟩
def lk : Link := ⟨0, 1, 1500⟩

/-- a machine with IPv4, UDP, TCP, a recorder (pid 10) bound on 10.0.0.1:5000 and a TCP
    listener (pid 11) on 10.0.0.1:8080 -/
def m : Machine :=
  { dm := { protocols := [pidIpv4, pidUdp, pidTcp, 10, 11],
            udp := [(⟨167772161, 5000⟩, 10)],
            ip := [((167772161, 17), pidUdp), ((167772161, 6), pidTcp)] },
    tcpListen := [(⟨167772161, 8080⟩, 11)], tcpSessions := [] }

theorem m_bindings : BindingsPresent m :=
  ⟨lookup_cons_forall (lookup_cons_forall (fun _ _ h => nomatch h) (by decide)) (by decide),
   lookup_cons_forall (fun _ _ h => nomatch h) (by decide)⟩

/-- 10.0.0.2 → 10.0.0.1, UDP 6000 → 5000, one payload octet -/
def goodUdp : Bytes :=
  [0x45, 0, 0, 29, 0, 0, 0, 0, 30, 17, 0, 0, 10, 0, 0, 2, 10, 0, 0, 1,
   0x17, 0x70, 0x13, 0x88, 0, 9, 0, 0, 0xab]

/-- the same frame with the UDP length field saying 10 -/
def badUdpLen : Bytes :=
  [0x45, 0, 0, 29, 0, 0, 0, 0, 30, 17, 0, 0, 10, 0, 0, 2, 10, 0, 0, 1,
   0x17, 0x70, 0x13, 0x88, 0, 10, 0, 0, 0xab]

/-- a TCP segment whose data offset says 6 words (options this stack refuses) -/
def badTcpOffset : Bytes :=
  [0x45, 0, 0, 44, 0, 0, 0, 0, 30, 6, 0, 0, 10, 0, 0, 2, 10, 0, 0, 1,
   0x9c, 0x40, 0x1f, 0x90, 0, 0, 0, 1, 0, 0, 0, 0, 0x60, 0x02, 0xff, 0xff, 0, 0, 0, 0, 1, 1, 1, 1]

/-- a SYN for the listening port -/
def goodSyn : Bytes :=
  [0x45, 0, 0, 40, 0, 0, 0, 0, 30, 6, 0, 0, 10, 0, 0, 2, 10, 0, 0, 1,
   0x9c, 0x40, 0x1f, 0x90, 0, 0, 0, 1, 0, 0, 0, 0, 0x50, 0x02, 0xff, 0xff, 0, 0, 0, 0]

/-- a lone last fragment at offset 8191 with total length 65535 (the shape of F-C14-S2) -/
def absurdFragment : Bytes :=
  [0x45, 0, 0xff, 0xff, 0, 0, 0x1f, 0xff, 30, 17, 0, 0, 10, 0, 0, 2, 10, 0, 0, 1, 1, 2, 3]

/-- F-C14-S3 witness: total length 29 (one payload octet), UDP length 10, and a second "payload" octet
    behind the end of the IPv4 datagram.  Before commit b400a228 `Ipv4::demux` handed all ten octets up,
    the UDP length matched them and the application received `[0xab, 0xcd]` -/
def udpLenBeyondDatagram : Bytes :=
  [0x45, 0, 0, 29, 0, 0, 0, 0, 30, 17, 0, 0, 10, 0, 0, 2, 10, 0, 0, 1,
   0x17, 0x70, 0x13, 0x88, 0, 10, 0, 0, 0xab, 0xcd]

/-- positive control: the good datagram reaches the recorder, with its payload and endpoints -/
example : (receive env m lk ⟨pidIpv4, goodUdp⟩).toOption.map (fun r => (r.ret, r.calls, r.effects.length)) =
    some (.ok (), [pidIpv4, pidUdp], 1) := by decide

def delivered : Effect → Option Delivered
  | .appDemux d => some d
  | _ => none

example : (receive env m lk ⟨pidIpv4, goodUdp⟩).toOption.map (fun r => r.effects.map delivered) =
    some [some { app := 10, payload := [0xab], loc := ⟨167772161, 5000⟩,
                 rem := ⟨167772162, 6000⟩, slot := 0 }] := by decide +kernel

/-- F-C14-S3: the UDP length field claims an octet beyond the IPv4 datagram: dropped at
    the UDP layer (`Err(Header)`), no application entered -/
theorem c14_udp_length_beyond_datagram_regression :
    (receive env m lk ⟨pidIpv4, udpLenBeyondDatagram⟩).toOption.map (fun r => (r.ret, r.calls, r.effects.length)) =
      some (.error .header, [pidIpv4, pidUdp], 0) := by decide

/-- link padding behind a good datagram is cut off: the recorder gets the datagram's one octet -/
example : (receive env m lk ⟨pidIpv4, goodUdp ++ [0, 0, 0xee]⟩).toOption.map (fun r => r.effects.map delivered) =
    some [some { app := 10, payload := [0xab], loc := ⟨167772161, 5000⟩,
                 rem := ⟨167772162, 6000⟩, slot := 0 }] := by decide +kernel

/-- the good datagram cut short by one octet is dropped by `Ipv4::demux` itself -/
example : (receive env m lk ⟨pidIpv4, goodUdp.take 28⟩).toOption.map (fun r => (r.ret, r.calls)) =
    some (.error .header, [pidIpv4]) := by decide

/-- the UDP decoder rejects the second frame, and the theorem's premises hold for it -/
example : ∃ hd e, ReachesTransport env m badUdpLen hd pidUdp ∧
    Udp.fromBytes env.ck (datagramBody hd badUdpLen) (datagramBody hd badUdpLen).length hd.source hd.destination = .error e := by
  refine ⟨{ ihl := 5, tos := 0, totalLength := 29, identification := 0, fragmentOffset := 0, flags := 0,
            ttl := 30, protocol := 17, checksum := 0, source := 167772162, destination := 167772161 },
          .err .lengthMismatch, ⟨by decide, by decide, by decide, by decide, by decide, by decide⟩, by decide⟩

example : ∃ hd e, ReachesTransport env m badTcpOffset hd pidTcp ∧
    Codec.Tcp.fromBytes env.ck (datagramBody hd badTcpOffset) (datagramBody hd badTcpOffset).length hd.source hd.destination = .error e := by
  refine ⟨{ ihl := 5, tos := 0, totalLength := 44, identification := 0, fragmentOffset := 0, flags := 0,
            ttl := 30, protocol := 6, checksum := 0, source := 167772162, destination := 167772161 },
          .err .unexpectedOptions, ⟨by decide, by decide, by decide, by decide, by decide, by decide⟩, by decide⟩

/-- the SYN creates a session (so `tcpDemux` is not the constant "drop" function) -/
example : (receive env m lk ⟨pidIpv4, goodSyn⟩).toOption.map
    (fun r => (r.ret, r.calls, r.machine.tcpSessions.length)) = some (.ok (), [pidIpv4, pidTcp], 1) := by
  decide +kernel

/-- the absurd fragment is stopped by the guard -/
example : (receive env m lk ⟨pidIpv4, absurdFragment⟩).toOption.map (fun r => (r.ret, r.calls)) =
    some (.error .header, [pidIpv4]) := by decide

end Example

end Elvis.Recv
