import ElvisVerif.Lemmas.TcpFullHsRound
import ElvisVerif.Props.C01Converge
/-!
# C01 — convergence from any reachable state of the closed system nobody closes

System, ops and quantification as in `Props/C01Converge.lean`: `PlainRun` from `open A` + (`listen B` | `open B`),
any ISNs, MTUs ≥ 100: any finite interleaving of `write`, `read`, `tick`, `emit` and deliveries of ANY element of
the history of everything ever emitted (loss, duplication, reordering, arbitrary delay) to the side it is
addressed to; H31 as `RoomH`.
-/
namespace Elvis.Tcp
open Tcb Full

theorem all_of_reach (ia ib : Seq) (ma mb : U16) (simultaneous : Bool) (sys0 s : Sys) (rs : List Res)
    (hma : SPACE_FOR_HEADERS ≤ ma.toNat) (hmb : SPACE_FOR_HEADERS ≤ mb.toNat)
    (h0 : Sys.run {} [.open .A ia ma, if simultaneous then .open .B ib mb else .listen .B ib mb] = .ok (sys0, rs))
    (hrun : PlainRun sys0 s) (h31 : RoomH s) : All (issOf ia ib) (mtuOf ma mb) s :=
  all_run ⟨good_of_reach ia ib ma mb simultaneous sys0 sys0 rs hma hmb h0 (.refl _) (RoomH.of_run hrun h31),
    finv_init ia ib ma mb simultaneous sys0 rs h0, uinv_init ia ib ma mb simultaneous sys0 rs h0,
    hsinv_init ia ib ma mb simultaneous sys0 rs h0⟩ hrun h31

theorem finv_of_reach (ia ib : Seq) (ma mb : U16) (simultaneous : Bool) (sys0 s : Sys) (rs : List Res)
    (hma : SPACE_FOR_HEADERS ≤ ma.toNat) (hmb : SPACE_FOR_HEADERS ≤ mb.toNat)
    (h0 : Sys.run {} [.open .A ia ma, if simultaneous then .open .B ib mb else .listen .B ib mb] = .ok (sys0, rs))
    (hrun : PlainRun sys0 s) (h31 : RoomH s) : FInv (issOf ia ib) (mtuOf ma mb) s :=
  (all_of_reach ia ib ma mb simultaneous sys0 s rs hma hmb h0 hrun h31).f

theorem mtuOf_gt {ma mb : U16} (hma : 100 ≤ ma.toNat) (hmb : 100 ≤ mb.toNat) (x : SideId) :
    SPACE_FOR_HEADERS < (mtuOf ma mb x).toNat := by
  cases x
  · show 50 < ma.toNat; omega
  · show 50 < mb.toNat; omega

/-- the reachable states of the statements that ask for MTUs of at least 100: every TCB has more than
    `SPACE_FOR_HEADERS` of MTU -/
theorem all_of_reach_mtu (ia ib : Seq) (ma mb : U16) (simultaneous : Bool) (sys0 s : Sys) (rs : List Res)
    (hma : 100 ≤ ma.toNat) (hmb : 100 ≤ mb.toNat)
    (h0 : Sys.run {} [.open .A ia ma, if simultaneous then .open .B ib mb else .listen .B ib mb] = .ok (sys0, rs))
    (hrun : PlainRun sys0 s) (h31 : RoomH s) :
    All (issOf ia ib) (mtuOf ma mb) s ∧ ∀ x, SPACE_FOR_HEADERS < (mtuOf ma mb x).toNat :=
  ⟨all_of_reach ia ib ma mb simultaneous sys0 s rs (Nat.le_trans (by decide) hma) (Nat.le_trans (by decide) hmb) h0 hrun h31,
    mtuOf_gt hma hmb⟩

/-- **(a) `SEG.SEQ ≤ SND.NXT` for every segment ever emitted, text-free ones included.**  In every reachable
    state, for side `x` with TCB `t`: every history element sent from `x`'s port — data, SYN, and pure ACKs, whose
    sequence number no earlier invariant constrained — and every segment parked in the peer's reorder heap has
    `SEG.SEQ − ISS_x ≤ SND.NXT_x − ISS_x` (< 2^31); and while a side has no TCB yet, nothing in the history comes
    from its port. -/
theorem c01_seq_le_snd_nxt (ia ib : Seq) (ma mb : U16) (simultaneous : Bool) (sys0 s : Sys) (rs : List Res)
    (hma : SPACE_FOR_HEADERS ≤ ma.toNat) (hmb : SPACE_FOR_HEADERS ≤ mb.toNat)
    (h0 : Sys.run {} [.open .A ia ma, if simultaneous then .open .B ib mb else .listen .B ib mb] = .ok (sys0, rs))
    (hrun : PlainRun sys0 s) (h31 : RoomH s) :
    (∀ x t, (s.side x).tcb = some t → t.sent < 2147483648 ∧
      (∀ σ ∈ s.history, σ.hdr.srcPort = x.port → off (issOf ia ib x) σ.hdr.seq ≤ t.sent) ∧
      (∀ u, (s.side x.peer).tcb = some u → ∀ σ ∈ u.incoming.segments, off (issOf ia ib x) σ.hdr.seq ≤ t.sent)) ∧
    (∀ x, (s.side x).tcb = none → ∀ σ ∈ s.history, σ.hdr.srcPort ≠ x.port) := by
  have a := all_of_reach ia ib ma mb simultaneous sys0 s rs hma hmb h0 hrun h31
  exact ⟨fun x t ht => ⟨a.good.sent_lt x t ht, a.f.seq x t ht, fun u hu => a.f.heapSeq x t u ht hu⟩,
    fun x hx => (a.f.none x hx).1⟩

/-- **(b) the reorder-heap invariant over `Sys.step`.**  In every reachable state, for every TCB `u` (peer's ISS
    `base`): the reorder heap is a binary heap for the offset order `leK base`, on which `Segment::cmp` agrees
    with it (every parked segment is less than 2^31 ahead of `base`), so its root has the least sequence number;
    at rest in ESTABLISHED every parked segment is strictly ahead of `RCV.NXT`; every parked segment is valid
    (`C01.Valid`); the retransmission timer is at most RTO and the MTU is the configured one. -/
theorem c01_reorder_heap_invariant (ia ib : Seq) (ma mb : U16) (simultaneous : Bool) (sys0 s : Sys) (rs : List Res)
    (hma : SPACE_FOR_HEADERS ≤ ma.toNat) (hmb : SPACE_FOR_HEADERS ≤ mb.toNat)
    (h0 : Sys.run {} [.open .A ia ma, if simultaneous then .open .B ib mb else .listen .B ib mb] = .ok (sys0, rs))
    (hrun : PlainRun sys0 s) (h31 : RoomH s) :
    ∀ y u, (s.side y).tcb = some u →
      HeapOk (issOf ia ib y.peer) u ∧ Ahead (issOf ia ib y.peer) u ∧
      (∀ g ∈ u.incoming.segments, C01.Valid (issOf ia ib y.peer) (s.side y.peer).submitted g) ∧
      (∀ top, LHeap.peek u.incoming.segments = some top → ∀ g ∈ u.incoming.segments,
        off (issOf ia ib y.peer) top.hdr.seq ≤ off (issOf ia ib y.peer) g.hdr.seq) ∧
      u.timeouts.retransmission ≤ RTO ∧ u.mtu = mtuOf ma mb y := by
  intro y u hu
  have a := all_of_reach ia ib ma mb simultaneous sys0 s rs hma hmb h0 hrun h31
  have f := a.f.tcb y u hu
  exact ⟨f.hk, f.ahead, (a.good.tinv y u hu).heap, fun top hpeek g hg' => f.hk.root_le hpeek hg', f.tmo, f.mtu⟩

/-- **ESTABLISHED implies the SYN has been acknowledged**: in every reachable state a TCB in ESTABLISHED has
    `1 ≤ SND.UNA − ISS`, i.e. `SND.UNA ≠ ISS` and no SYN waits on its retransmission queue.  (Both ways into ESTABLISHED
    establish it — SYN-RECEIVED → ESTABLISHED moves `SND.UNA` to an ACK number with `SND.UNA < SEG.ACK`, SYN-SENT →
    ESTABLISHED tests `mod_gt(SND.UNA, ISS)` —, afterwards `SND.UNA` moves only to ACK numbers in `[ISS + 1, SND.NXT]`;
    `Lemmas/TcpFullGap.lean`.) -/
theorem c01_established_syn_acked (ia ib : Seq) (ma mb : U16) (simultaneous : Bool) (sys0 s : Sys) (rs : List Res)
    (hma : SPACE_FOR_HEADERS ≤ ma.toNat) (hmb : SPACE_FOR_HEADERS ≤ mb.toNat)
    (h0 : Sys.run {} [.open .A ia ma, if simultaneous then .open .B ib mb else .listen .B ib mb] = .ok (sys0, rs))
    (hrun : PlainRun sys0 s) (h31 : RoomH s) :
    ∀ x t, (s.side x).tcb = some t → t.state = .Established →
      1 ≤ off (issOf ia ib x) t.snd.una ∧ t.snd.una ≠ t.snd.iss ∧
      ∀ tr ∈ t.outgoing.retransmit, tr.segment.hdr.ctl.syn = false ∧ tr.segment.text ≠ [] := by
  intro x t ht hst
  have a := all_of_reach ia ib ma mb simultaneous sys0 s rs hma hmb h0 hrun h31
  have hne := a.u.ne a.good x t ht hst
  refine ⟨a.u x t ht hst, hne, fun tr htr => ?_⟩
  have f := rtx_entry_facts a.good x t ht hne tr htr
  refine ⟨?_, f.1⟩
  cases hs : tr.segment.hdr.ctl.syn with
  | false => rfl
  | true =>
    exfalso
    obtain ⟨v, _⟩ := (a.good.tinv x t ht).rtx tr.segment (List.mem_map.2 ⟨tr, htr, rfl⟩)
    exact f.1 (v.syn hs).2

/-- **C01 convergence from a rough state** (`_partial`: the handshake must be over and the applications must have
    read what is buffered; `c01_converges_established_partial` removes the second restriction).

    Starting state `s`: any reachable state (file header) in which both endpoints are ESTABLISHED (hence their SYN
    acknowledged: `c01_established_syn_acked`) and both receive buffers are empty.  NOTHING else is assumed: the reorder
    heaps may hold any segments parked after loss or reordering (data behind a gap, pure ACKs that overtook data,
    duplicates), the one-shot queues any ACKs not yet emitted, the retransmission queues anything — received by
    the peer or not, acknowledged or not: data and ACKs may have been lost in any number in both directions —,
    any amount of text may be unsent, the timers are anywhere.

    With `unsent ≤ 65535 · n` on both sides, ONE fair round of `2n + 2` phases ends `Done`: everything submitted has
    been delivered to the peer's application (both directions), all queues, heaps, buffers and unsent texts are
    empty, `segments()` returns `[]` on both sides, and every further fair round ends `Done` again with the history
    unchanged.  (The ticks flag every queue entry; in the first phase each side emits `oneshot ++ queue ++ new`;
    delivered in order, the first data segment starts at or before `RCV.NXT` — `c03_synchronised` —, so the drain
    progress lemma `Full.drain_est` moves `RCV.NXT` over it and over every contiguous parked segment, whatever the
    heap holds; by (a) nothing parked lies beyond the peer's `SND.NXT`, by (b) what stays parked is ahead of
    `RCV.NXT`: the heap ends empty; then `phases_done`.) -/
theorem c01_converges_rough_partial (ia ib : Seq) (ma mb : U16) (simultaneous : Bool) (sys0 s : Sys) (rs : List Res)
    (hma : 100 ≤ ma.toNat) (hmb : 100 ≤ mb.toNat)
    (h0 : Sys.run {} [.open .A ia ma, if simultaneous then .open .B ib mb else .listen .B ib mb] = .ok (sys0, rs))
    (hrun : PlainRun sys0 s) (h31 : RoomH s) (ta tb : Tcb) (hta : s.a.tcb = some ta) (htb : s.b.tcb = some tb)
    (ea : ta.state = .Established) (eb : tb.state = .Established)
    (ba : ta.incoming.text = []) (bb : tb.incoming.text = [])
    (n : Nat) (wa : ta.outgoing.text.length ≤ 65535 * n) (wb : tb.outgoing.text.length ≤ 65535 * n) :
    ∃ s' ta' tb', fairRound (2 * n + 2) s = .ok s' ∧ PlainRun s s' ∧ Done s' ta' tb' ∧
      s'.b.delivered = s'.a.submitted ∧ s'.a.delivered = s'.b.submitted ∧
      s.a.submitted <+: s'.a.submitted ∧ s.b.submitted <+: s'.b.submitted ∧
      (∀ x, ∃ s1, s'.step (.emit x) = .ok (s1, .emitted s'.historyLen []) ∧ s1.history = s'.history) ∧
      (∀ k, ∃ s'' ta'' tb'', fairRound k s' = .ok s'' ∧ Done s'' ta'' tb'' ∧ s''.historyLen = s'.historyLen ∧
        s''.b.delivered = s''.a.submitted ∧ s''.a.delivered = s''.b.submitted) := by
  obtain ⟨a, hm⟩ := all_of_reach_mtu ia ib ma mb simultaneous sys0 s rs hma hmb h0 hrun h31
  have hc : Rough s ta tb := ⟨hta, htb, roughX_of_est a.good a.f a.u hm (x := .A) hta ea ba,
    roughX_of_est a.good a.f a.u hm (x := .B) htb eb bb⟩
  obtain ⟨s', ta', tb', hfr, hr, hg', hd⟩ := fairRound_rough n s ta tb a.good a.f hc wa wb
  exact ⟨s', ta', tb', hfr, hr, done_forever hr hg' hd⟩

/-! ### non-vacuity: a non-empty reorder heap, lost data, a lost ACK, a non-empty one-shot queue -/

/-- handshake completed; A writes [1,2,3] and emits them (history element 3) — LOST; A writes [4,5] and emits them
    (element 4), delivered to B TWICE: parked in B's reorder heap behind the gap (two copies); B writes [9,8] and
    emits them (element 5), A receives and reads them and emits its ACK (element 6) — LOST; element 5 is delivered to
    A once more (a duplicate: A queues another ACK, which waits on its one-shot queue); A writes one more byte. -/
def roughOps : List Op :=
  [.emit .A, .deliver .B 0, .emit .B, .deliver .A 1, .emit .A, .deliver .B 2,
   .write .A [1, 2, 3], .emit .A, .write .A [4, 5], .emit .A, .deliver .B 4, .deliver .B 4,
   .write .B [9, 8], .emit .B, .deliver .A 5, .read .A, .emit .A, .deliver .A 5, .write .A [6]]

def reachCheck (ops : List Op) (chk : Sys → Bool) : Bool :=
  match Sys.run {} [.open .A 1000 1500, .listen .B 5000 1500] with
  | .ok (sys0, _) =>
    match plainRunB sys0 ops with
    | some s =>
      decide (s.a.submitted.length + 2 < 2147483648) && decide (s.b.submitted.length + 2 < 2147483648) && chk s
    | none => false
  | .error _ => false

theorem reachCheck_sound {ops : List Op} {chk : Sys → Bool} (h : reachCheck ops chk = true) :
    ∃ sys0 s rs,
      Sys.run {} [.open .A 1000 1500, if false then .open .B 5000 1500 else .listen .B 5000 1500] = .ok (sys0, rs) ∧
      PlainRun sys0 s ∧ RoomH s ∧ chk s = true := by
  unfold reachCheck at h
  split at h
  · rename_i sys0 rs e0
    split at h
    · rename_i s e1
      simp only [Bool.and_eq_true, decide_eq_true_eq] at h
      exact ⟨sys0, s, rs, e0, plainRunB_sound _ _ _ e1, ⟨h.1.1, h.1.2⟩, h.2⟩
    · cases h
  · cases h

def roughCheck : Bool :=
  reachCheck roughOps fun s =>
    (match s.a.tcb, s.b.tcb with
      | some ta, some tb => ta.state == .Established && tb.state == .Established &&
          ta.snd.una != ta.snd.iss && tb.snd.una != tb.snd.iss &&
          ta.incoming.text.isEmpty && tb.incoming.text.isEmpty &&
          tb.incoming.segments.length == 2 && ta.outgoing.oneshot.length == 1 &&
          ta.outgoing.retransmit.length == 2 && tb.outgoing.retransmit.length == 1 &&
          ta.outgoing.text == [6] && tb.outgoing.text == [] &&
          s.b.delivered == [] && s.a.delivered == [9, 8]
      | _, _ => false) &&
    (match fairRound 4 s with
      | .ok s' => s'.b.delivered == [1, 2, 3, 4, 5, 6] && s'.a.delivered == [9, 8]
      | .error _ => false)

/-- the hypotheses of `c01_converges_rough_partial` hold in that reachable state (`n = 1`): two segments are parked
    in B's reorder heap, B has received nothing in order, an ACK waits on A's one-shot queue, both retransmission
    queues are non-empty; the promised round, evaluated, completes both streams -/
example : ∃ sys0 s : Sys, ∃ rs, ∃ ta tb : Tcb,
    Sys.run {} [.open .A 1000 1500, if false then .open .B 5000 1500 else .listen .B 5000 1500] = .ok (sys0, rs) ∧
    PlainRun sys0 s ∧ RoomH s ∧ s.a.tcb = some ta ∧ s.b.tcb = some tb ∧
    ta.state = .Established ∧ tb.state = .Established ∧ ta.snd.una ≠ ta.snd.iss ∧ tb.snd.una ≠ tb.snd.iss ∧
    ta.incoming.text = [] ∧ tb.incoming.text = [] ∧
    tb.incoming.segments.length = 2 ∧ ta.outgoing.oneshot.length = 1 ∧
    ta.outgoing.retransmit.length = 2 ∧ tb.outgoing.retransmit.length = 1 ∧ s.b.delivered = [] ∧
    ta.outgoing.text.length ≤ 65535 * 1 ∧ tb.outgoing.text.length ≤ 65535 * 1 ∧
    ∃ s', fairRound (2 * 1 + 2) s = .ok s' ∧ s'.b.delivered = [1, 2, 3, 4, 5, 6] ∧ s'.a.delivered = [9, 8] := by
  obtain ⟨sys0, s, rs, e0, run, room, key⟩ := reachCheck_sound (show roughCheck = true by decide +kernel)
  simp only [Bool.and_eq_true] at key
  obtain ⟨k1, k2⟩ := key
  split at k1
  · rename_i ta tb hta htb
    simp only [Bool.and_eq_true, beq_iff_eq, bne_iff_ne, ne_eq, List.isEmpty_iff] at k1
    obtain ⟨⟨⟨⟨⟨⟨⟨⟨⟨⟨⟨⟨⟨x1, x2⟩, x3⟩, x4⟩, x5⟩, x6⟩, x7⟩, x8⟩, x9⟩, x10⟩, x11⟩, x12⟩, x13⟩, x14⟩ := k1
    split at k2
    · rename_i s' e2
      simp only [Bool.and_eq_true, beq_iff_eq] at k2
      exact ⟨sys0, s, rs, ta, tb, e0, run, room, hta, htb, x1, x2, x3, x4, x5, x6,
        x7, x8, x9, x10, x13, by rw [x11]; decide, by rw [x12]; decide, s', e2, k2.1, k2.2⟩
    · cases k2
  · cases k1

/-- **(c) the drain progress lemma through a NON-empty reorder heap, at system level.**  In every reachable state in
    which both endpoints are ESTABLISHED: let `t` be `x`'s TCB (ANY reorder heap), `u` the peer's, and let `x`'s receive
    buffer have room for everything the peer has numbered (`|buffered| + (SND.NXT_peer − RCV.NXT) ≤ 65535`; e.g. the
    buffer is empty).  Delivering history element `i` — a text-bearing segment `σ` of the peer that starts at or before
    `RCV.NXT` (a retransmission, or the segment that fills the gap) — succeeds, and afterwards
    * `RCV.NXT ≥ SEG.SEQ + SEG.LEN`: the segment is consumed whatever was parked (the root of the heap is the least,
      so the processing loop cannot stop while it is parked; junk popped before it only moves `RCV.NXT` forward);
    * every segment still parked is one that was parked before (or `σ`) and is STRICTLY AHEAD of the new `RCV.NXT`:
      every contiguous parked segment has been drained in the same call;
    * nothing is lost: the buffer grew by exactly as many bytes as `RCV.NXT` advanced;
    * the endpoint is still ESTABLISHED and the last header on its one-shot queue acknowledges the new `RCV.NXT`.
    (`Full.drain_est`, `Full.arrive_est`; TCB level: `Lemmas/TcpFullEst.lean`.) -/
theorem c01_gap_fill_partial (ia ib : Seq) (ma mb : U16) (simultaneous : Bool) (sys0 s : Sys) (rs : List Res)
    (hma : SPACE_FOR_HEADERS ≤ ma.toNat) (hmb : SPACE_FOR_HEADERS ≤ mb.toNat)
    (h0 : Sys.run {} [.open .A ia ma, if simultaneous then .open .B ib mb else .listen .B ib mb] = .ok (sys0, rs))
    (hrun : PlainRun sys0 s) (h31 : RoomH s) (x : SideId) (t u : Tcb)
    (ht : (s.side x).tcb = some t) (hu : (s.side x.peer).tcb = some u)
    (et : t.state = .Established) (eu : u.state = .Established)
    (hroom : t.incoming.text.length + (u.sent - off (issOf ia ib x.peer) t.rcv.nxt) ≤ 65535)
    (i : Nat) (σ : Segment) (hn : s.nth i = some σ) (hsrc : σ.hdr.srcPort = x.peer.port) (htxt : σ.text ≠ [])
    (hle : off (issOf ia ib x.peer) σ.hdr.seq ≤ off (issOf ia ib x.peer) t.rcv.nxt) :
    ∃ s' t', s.step (.deliver x i) = .ok (s', .arrived .Ok) ∧ (s'.side x).tcb = some t' ∧
      s'.side x.peer = s.side x.peer ∧ t'.state = .Established ∧
      off (issOf ia ib x.peer) σ.hdr.seq + σ.text.length ≤ off (issOf ia ib x.peer) t'.rcv.nxt ∧
      (∀ g ∈ t'.incoming.segments, (g = σ ∨ g ∈ t.incoming.segments) ∧
        off (issOf ia ib x.peer) t'.rcv.nxt < off (issOf ia ib x.peer) g.hdr.seq) ∧
      t'.incoming.text.length + off (issOf ia ib x.peer) t.rcv.nxt =
        t.incoming.text.length + off (issOf ia ib x.peer) t'.rcv.nxt ∧
      (∃ h, t'.outgoing.oneshot.getLast? = some h ∧ h.ack = t'.rcv.nxt) := by
  have a := all_of_reach ia ib ma mb simultaneous sys0 s rs hma hmb h0 hrun h31
  have hmem : σ ∈ s.history := nth_mem s i σ hn
  have hsyn := noSyn_of_text a.good hmem hsrc htxt
  obtain ⟨t', e1, er', k', hs', prog'⟩ := deliver_gap a.good a.f x t u ht hu et hroom i σ hn hsrc hsyn
  obtain ⟨p1, p2⟩ := prog' htxt hle
  exact ⟨_, t', e1, by rw [side_setSide_same], by rw [side_setSide_peer], er'.el.st, p1,
    fun g hg' => ⟨hs' g hg', er'.ahead g hg'⟩, k'.bufq, p2⟩

/-- **(e) the clean-up round.**  From every reachable state in which both endpoints are ESTABLISHED — receive buffers
    full or not, reorder heaps, queues and timers arbitrary — `fairRound 1` (both timers expire; both sides emit;
    everything emitted is delivered in order; both applications read) succeeds, is a run of plain ops, and ends with
    both endpoints ESTABLISHED, BOTH RECEIVE BUFFERS EMPTY, and no more unsent text than before. -/
theorem c01_cleanup_round_partial (ia ib : Seq) (ma mb : U16) (simultaneous : Bool) (sys0 s : Sys) (rs : List Res)
    (hma : 100 ≤ ma.toNat) (hmb : 100 ≤ mb.toNat)
    (h0 : Sys.run {} [.open .A ia ma, if simultaneous then .open .B ib mb else .listen .B ib mb] = .ok (sys0, rs))
    (hrun : PlainRun sys0 s) (h31 : RoomH s) (ta tb : Tcb) (hta : s.a.tcb = some ta) (htb : s.b.tcb = some tb)
    (ea : ta.state = .Established) (eb : tb.state = .Established) :
    ∃ s' ta' tb', fairRound 1 s = .ok s' ∧ PlainRun s s' ∧ RoomH s' ∧ s'.a.tcb = some ta' ∧ s'.b.tcb = some tb' ∧
      ta'.state = .Established ∧ tb'.state = .Established ∧ ta'.incoming.text = [] ∧ tb'.incoming.text = [] ∧
      ta'.outgoing.text.length ≤ ta.outgoing.text.length ∧ tb'.outgoing.text.length ≤ tb.outgoing.text.length := by
  obtain ⟨a, hm⟩ := all_of_reach_mtu ia ib ma mb simultaneous sys0 s rs hma hmb h0 hrun h31
  obtain ⟨s1, ta1, tb1, hf1, hr1, hg1, hc1, la, lb, _⟩ := cleanup_round s a.good a.f a.u hm _ _
    ⟨ta, hta, ea, Nat.le_refl _⟩ ⟨tb, htb, eb, Nat.le_refl _⟩
  exact ⟨s1, ta1, tb1, hf1, hr1, hg1.room, hc1.ha, hc1.hb, hc1.a.st, hc1.b.st, hc1.a.buf, hc1.b.buf, la, lb⟩

/-- **C01 convergence from ANY reachable state in which both endpoints are ESTABLISHED** (`_partial`: everything but
    the handshake after loss, see `C01HandshakeAfterLossStatement`).

    Starting state `s`: any reachable state (file header: any interleaving of writes, reads, ticks, emits and
    deliveries of any history element to its addressee — loss, duplication, reordering, delay —; MTUs ≥ 100; H31) in
    which both TCBs are ESTABLISHED.  NOTHING else is assumed: receive
    buffers may be full, reorder heaps may hold anything that was parked, one-shot and retransmission queues
    anything, any amount of text may be unsent, the timers are anywhere.

    With `n = ⌈max (unsent_A, unsent_B) / 65535⌉` (given as `unsent ≤ 65535 · n`) TWO fair rounds — a clean-up round of
    one phase, `fairRound 1`, then `fairRound (2n + 2)`: `2⌈max unsent / 65535⌉ + 3` exchange phases and four timer
    expiries in all, a bound that depends on the unsent text only (one phase re-sends a whole retransmission queue, at most
    65535 bytes, and drains a whole reorder heap) — end in a `Done` state: `delivered = submitted` in both directions, all queues,
    heaps, buffers and unsent texts empty, `segments()` returns `[]` on both sides, and every further fair round
    ends `Done` again with the history unchanged.

    The clean-up round (`Full.cleanup_round`) is total by `Wf` (`segment_arrives` never panics on a well-formed TCB),
    keeps both sides ESTABLISHED (no RFC 9293 edge leaves ESTABLISHED without RST / FIN) and ends with both
    applications having read: the state is rough, and `c01_converges_rough_partial` applies. -/
theorem c01_converges_established_partial (ia ib : Seq) (ma mb : U16) (simultaneous : Bool) (sys0 s : Sys)
    (rs : List Res) (hma : 100 ≤ ma.toNat) (hmb : 100 ≤ mb.toNat)
    (h0 : Sys.run {} [.open .A ia ma, if simultaneous then .open .B ib mb else .listen .B ib mb] = .ok (sys0, rs))
    (hrun : PlainRun sys0 s) (h31 : RoomH s) (ta tb : Tcb) (hta : s.a.tcb = some ta) (htb : s.b.tcb = some tb)
    (ea : ta.state = .Established) (eb : tb.state = .Established)
    (n : Nat) (wa : ta.outgoing.text.length ≤ 65535 * n) (wb : tb.outgoing.text.length ≤ 65535 * n) :
    ∃ s1 s' ta' tb', fairRound 1 s = .ok s1 ∧ fairRound (2 * n + 2) s1 = .ok s' ∧
      ([1, 2 * n + 2].foldlM (fun st k => fairRound k st) s = .ok s') ∧ PlainRun s s' ∧ Done s' ta' tb' ∧
      s'.b.delivered = s'.a.submitted ∧ s'.a.delivered = s'.b.submitted ∧
      s.a.submitted <+: s'.a.submitted ∧ s.b.submitted <+: s'.b.submitted ∧
      (∀ x, ∃ s2, s'.step (.emit x) = .ok (s2, .emitted s'.historyLen []) ∧ s2.history = s'.history) ∧
      (∀ k, ∃ s'' ta'' tb'', fairRound k s' = .ok s'' ∧ Done s'' ta'' tb'' ∧ s''.historyLen = s'.historyLen ∧
        s''.b.delivered = s''.a.submitted ∧ s''.a.delivered = s''.b.submitted) := by
  obtain ⟨a, hm⟩ := all_of_reach_mtu ia ib ma mb simultaneous sys0 s rs hma hmb h0 hrun h31
  obtain ⟨s1, s', ta', tb', hf1, hfr, hrr, hg', hd, _⟩ := est_converges s a hm n
    ⟨ta, hta, ea, wa⟩ ⟨tb, htb, eb, wb⟩
  refine ⟨s1, s', ta', tb', hf1, hfr, ?_, hrr, done_forever hrr hg' hd⟩
  simp only [List.foldlM, hf1, hfr, bind, Except.bind, pure, Except.pure]

theorem le_ceil_mul {a b : Nat} (h : a ≤ b) : a ≤ 65535 * ((b + 65534) / 65535) := by
  omega

/-- the same with the bound computed from the state: `n = ⌈max (unsent_A, unsent_B) / 65535⌉` -/
theorem c01_converges_established_bound_partial (ia ib : Seq) (ma mb : U16) (simultaneous : Bool) (sys0 s : Sys)
    (rs : List Res) (hma : 100 ≤ ma.toNat) (hmb : 100 ≤ mb.toNat)
    (h0 : Sys.run {} [.open .A ia ma, if simultaneous then .open .B ib mb else .listen .B ib mb] = .ok (sys0, rs))
    (hrun : PlainRun sys0 s) (h31 : RoomH s) (ta tb : Tcb) (hta : s.a.tcb = some ta) (htb : s.b.tcb = some tb)
    (ea : ta.state = .Established) (eb : tb.state = .Established)
    :
    ∃ s' ta' tb',
      ([1, 2 * ((max ta.outgoing.text.length tb.outgoing.text.length + 65534) / 65535) + 2].foldlM
        (fun st k => fairRound k st) s = .ok s') ∧ Done s' ta' tb' ∧
      s'.b.delivered = s'.a.submitted ∧ s'.a.delivered = s'.b.submitted := by
  obtain ⟨_, s', ta', tb', _, _, hfold, _, hd, d1, d2, _⟩ := c01_converges_established_partial ia ib ma mb simultaneous
    sys0 s rs hma hmb h0 hrun h31 ta tb hta htb ea eb
    ((max ta.outgoing.text.length tb.outgoing.text.length + 65534) / 65535) (le_ceil_mul (Nat.le_max_left _ _))
    (le_ceil_mul (Nat.le_max_right _ _))
  exact ⟨s', ta', tb', hfold, hd, d1, d2⟩

/-- **(f) the handshake after loss** (proved below: `c01_handshake_after_loss`).  From every reachable state some fair
    rounds (SYN / SYN-ACK retransmission: every tick of a fair round flags the SYN on the retransmission queue, the next
    phase re-sends and delivers it) lead — by plain ops, within H31 — to a state in which both endpoints are
    ESTABLISHED. -/
def C01HandshakeAfterLossStatement : Prop :=
  ∀ (ia ib : Seq) (ma mb : U16) (simultaneous : Bool) (sys0 s : Sys) (rs : List Res),
    100 ≤ ma.toNat → 100 ≤ mb.toNat →
    Sys.run {} [.open .A ia ma, if simultaneous then .open .B ib mb else .listen .B ib mb] = .ok (sys0, rs) →
    PlainRun sys0 s → RoomH s →
    ∃ (rounds : List Nat) (s1 : Sys) (ta tb : Tcb),
      (rounds.foldlM (fun st k => fairRound k st) s = .ok s1) ∧ PlainRun s s1 ∧ RoomH s1 ∧
      s1.a.tcb = some ta ∧ s1.b.tcb = some tb ∧ ta.state = .Established ∧ tb.state = .Established

/-- **the full statement, modulo (f)**: `C01ConvergesFullStatement` (`Props/C01Converge.lean`: from ANY reachable state
    some fair rounds end `Done`) follows from the handshake after loss alone -/
theorem c01_converges_full_of_handshake (h : C01HandshakeAfterLossStatement) : C01ConvergesFullStatement := by
  intro ia ib ma mb simultaneous sys0 s rs hma hmb h0 hrun h31
  obtain ⟨rounds, s1, ta, tb, hfold, hr1, h31', hta, htb, ea, eb⟩ :=
    h ia ib ma mb simultaneous sys0 s rs hma hmb h0 hrun h31
  obtain ⟨s', ta', tb', hf, hd, _⟩ := c01_converges_established_bound_partial ia ib ma mb simultaneous sys0 s1 rs hma hmb
    h0 (hrun.trans hr1) h31' ta tb hta htb ea eb
  exact ⟨rounds ++ [1, 2 * ((max ta.outgoing.text.length tb.outgoing.text.length + 65534) / 65535) + 2], s', ta', tb',
    by rw [foldlM_fairRound_append _ _ _ _ hfold]; exact hf, hd⟩

/-- **every fair round is defined, from every reachable state**: `fairRound k` never panics, is a run of plain ops (so its
    result is reachable again, within H31: the `submitted` logs do not change), for every `k` -/
theorem c01_fair_round_total (ia ib : Seq) (ma mb : U16) (simultaneous : Bool) (sys0 s : Sys) (rs : List Res)
    (hma : SPACE_FOR_HEADERS ≤ ma.toNat) (hmb : SPACE_FOR_HEADERS ≤ mb.toNat)
    (h0 : Sys.run {} [.open .A ia ma, if simultaneous then .open .B ib mb else .listen .B ib mb] = .ok (sys0, rs))
    (hrun : PlainRun sys0 s) (h31 : RoomH s) (k : Nat) :
    ∃ s', fairRound k s = .ok s' ∧ PlainRun s s' ∧ RoomH s' ∧ s'.a.submitted = s.a.submitted ∧
      s'.b.submitted = s.b.submitted := by
  have a := all_of_reach ia ib ma mb simultaneous sys0 s rs hma hmb h0 hrun h31
  obtain ⟨s', e, p, g, sub⟩ := fairRound_any k s a.good a.f
  exact ⟨s', e, p, g.room, sub .A, sub .B⟩

/-- **(f) the handshake completes after any loss.**  From EVERY reachable state (file header) — TCBs in SYN-SENT,
    SYN-RECEIVED or ESTABLISHED in any reachable combination, the passive side possibly still without TCB, SYNs, SYN-ACKs,
    ACKs and data lost, duplicated or reordered in any way, any reorder heaps — some fair rounds lead, by plain ops and
    within H31, to a state in which both endpoints are ESTABLISHED.  (`Full.handshake_rounds` gives at most
    `meas s ≤ 13` rounds of ONE phase each that do not touch the `submitted` logs; the bound is stated in
    `c01_converges_full_bound`.  The rank none < SYN-SENT < SYN-RECEIVED < ESTABLISHED of a side never
    decreases; in every round the rank of some side increases — the expired timer re-sends the SYN / SYN-ACK that the
    invariants keep on the queue, a SYN-bearing segment moves a listening or SYN-SENT side on, an acceptable ACK-bearing
    segment at `IRS + 1` moves SYN-RECEIVED to ESTABLISHED whatever the reorder heap holds — or, when an ESTABLISHED side has
    nothing at all to send, the peer's retransmitted SYN-ACK makes it queue an ACK, which the next round delivers.) -/
theorem c01_handshake_after_loss : C01HandshakeAfterLossStatement := by
  intro ia ib ma mb simultaneous sys0 s rs hma hmb h0 hrun h31
  obtain ⟨a, hm⟩ := all_of_reach_mtu ia ib ma mb simultaneous sys0 s rs hma hmb h0 hrun h31
  obtain ⟨rounds, s1, hfold, p, a1, h1, h2, _⟩ := handshake_rounds hm (meas s) s a (Nat.le_refl _)
  obtain ⟨ta, hta, ea⟩ := est_of_rk a1.good (Nat.le_of_eq h1.symm)
  obtain ⟨tb, htb, eb⟩ := est_of_rk a1.good (Nat.le_of_eq h2.symm)
  exact ⟨rounds, s1, ta, tb, hfold, p, a1.good.room, hta, htb, ea, eb⟩

/-- **the same with everything explicit**: from any reachable state `s` there are at most 15 fair rounds — at most 13 of
    one phase for the handshake, the clean-up round of one phase, and one round of `2n + 2` phases,
    `n ≤ ⌈max (|submitted_A|, |submitted_B|) / 65535⌉` — after which: `Done` (all queues, heaps, buffers and unsent texts
    empty, both sides ESTABLISHED and silent), `delivered = submitted` in both directions, the `submitted` logs are those
    of `s`, `segments()` returns `[]` on both sides, and every further fair round ends `Done` again with the history
    unchanged.  In all at most `16 + 2⌈max submitted / 65535⌉` exchange phases. -/
theorem c01_converges_full_bound (ia ib : Seq) (ma mb : U16) (simultaneous : Bool) (sys0 s : Sys) (rs : List Res)
    (hma : 100 ≤ ma.toNat) (hmb : 100 ≤ mb.toNat)
    (h0 : Sys.run {} [.open .A ia ma, if simultaneous then .open .B ib mb else .listen .B ib mb] = .ok (sys0, rs))
    (hrun : PlainRun sys0 s) (h31 : RoomH s) :
    ∃ (rounds : List Nat) (s' : Sys) (ta' tb' : Tcb),
      (rounds.foldlM (fun st k => fairRound k st) s = .ok s') ∧ PlainRun s s' ∧ Done s' ta' tb' ∧
      s'.b.delivered = s'.a.submitted ∧ s'.a.delivered = s'.b.submitted ∧
      s'.a.submitted = s.a.submitted ∧ s'.b.submitted = s.b.submitted ∧
      rounds.length ≤ 15 ∧
      rounds.sum ≤ 16 + 2 * ((max s.a.submitted.length s.b.submitted.length + 65534) / 65535) ∧
      (∀ x, ∃ s2, s'.step (.emit x) = .ok (s2, .emitted s'.historyLen []) ∧ s2.history = s'.history) ∧
      (∀ k, ∃ s'' ta'' tb'', fairRound k s' = .ok s'' ∧ Done s'' ta'' tb'' ∧ s''.historyLen = s'.historyLen ∧
        s''.b.delivered = s''.a.submitted ∧ s''.a.delivered = s''.b.submitted) := by
  obtain ⟨a, hm⟩ := all_of_reach_mtu ia ib ma mb simultaneous sys0 s rs hma hmb h0 hrun h31
  -- `n` is kept a variable: the quotient is not to be evaluated
  obtain ⟨n, hn⟩ : ∃ n, n = (max s.a.submitted.length s.b.submitted.length + 65534) / 65535 := ⟨_, rfl⟩
  have wn : ∀ x, (s.side x).submitted.length ≤ 65535 * n := by
    intro x
    rw [hn]
    cases x
    · exact le_ceil_mul (Nat.le_max_left _ _)
    · exact le_ceil_mul (Nat.le_max_right _ _)
  rw [← hn]
  obtain ⟨hs, s', ta', tb', hfold, p, g', hd, hsub, hl, hone⟩ := converges s a hm n wn
  obtain ⟨-, d1, d2, -, -, hsil, hstay⟩ := done_forever p g' hd
  have hmeas : meas s ≤ 13 := Nat.le_trans (meas_bounds s).2 (by omega)
  refine ⟨hs ++ [1, 2 * n + 2], s', ta', tb', hfold, p, hd, d1, d2, hsub .A, hsub .B, ?_, ?_, hsil, hstay⟩
  · simp only [List.length_append, List.length_cons, List.length_nil]
    omega
  · -- the handshake rounds have one phase each
    have : hs.sum = hs.length := by
      rw [List.eq_replicate_iff.2 ⟨rfl, hone⟩, List.sum_replicate_nat, List.length_replicate, Nat.mul_one]
    simp only [List.sum_append, List.sum_cons, List.sum_nil]
    omega

/-- **C01 convergence from ANY reachable state** — `C01ConvergesFullStatement` of `Props/C01Converge.lean`: from every
    reachable state of the closed system nobody closes (any interleaving of writes, reads, ticks, emits and deliveries
    of any history element to its addressee: loss, duplication, reordering, delay; MTUs ≥ 100; H31) some fair rounds end
    in a `Done` state. -/
theorem c01_converges_full : C01ConvergesFullStatement := by
  intro ia ib ma mb simultaneous sys0 s rs hma hmb h0 hrun h31
  obtain ⟨rounds, s', ta', tb', hfold, _, hd, _⟩ :=
    c01_converges_full_bound ia ib ma mb simultaneous sys0 s rs hma hmb h0 hrun h31
  exact ⟨rounds, s', ta', tb', hfold, hd⟩

/-! ### non-vacuity: receive buffers NOT read, parked segments, lost data, a lost ACK -/

/-- as `roughOps`, but nobody reads: A's receive buffer holds [9, 8] -/
def dirtyOps : List Op :=
  [.emit .A, .deliver .B 0, .emit .B, .deliver .A 1, .emit .A, .deliver .B 2,
   .write .A [1, 2, 3], .emit .A, .write .A [4, 5], .emit .A, .deliver .B 4, .deliver .B 4,
   .write .B [9, 8], .emit .B, .deliver .A 5, .emit .A, .deliver .A 5, .write .A [6]]

def dirtyCheck : Bool :=
  match Sys.run {} [.open .A 1000 1500, .listen .B 5000 1500] with
  | .ok (sys0, _) =>
    match plainRunB sys0 dirtyOps with
    | some s =>
      decide (s.a.submitted.length + 2 < 2147483648) && decide (s.b.submitted.length + 2 < 2147483648) &&
      (match s.a.tcb, s.b.tcb with
        | some ta, some tb => ta.state == .Established && tb.state == .Established &&
            ta.snd.una != ta.snd.iss && tb.snd.una != tb.snd.iss &&
            ta.incoming.text == [9, 8] && tb.incoming.segments.length == 2 &&
            ta.outgoing.text == [6] && tb.outgoing.text == [] && s.b.delivered == [] && s.a.delivered == []
        | _, _ => false) &&
      (match [1, 4].foldlM (fun st k => fairRound k st) s with
        | .ok s' => s'.b.delivered == [1, 2, 3, 4, 5, 6] && s'.a.delivered == [9, 8]
        | .error _ => false)
    | none => false
  | .error _ => false

/-- the hypotheses of `c01_converges_established_partial` hold in that reachable state (`n = 1`) — A's receive buffer is
    not empty, two segments are parked in B's reorder heap —, and the two rounds it promises, evaluated, complete
    both streams -/
example : ∃ sys0 s : Sys, ∃ rs, ∃ ta tb : Tcb,
    Sys.run {} [.open .A 1000 1500, if false then .open .B 5000 1500 else .listen .B 5000 1500] = .ok (sys0, rs) ∧
    PlainRun sys0 s ∧ RoomH s ∧ s.a.tcb = some ta ∧ s.b.tcb = some tb ∧
    ta.state = .Established ∧ tb.state = .Established ∧ ta.snd.una ≠ ta.snd.iss ∧ tb.snd.una ≠ tb.snd.iss ∧
    ta.incoming.text = [9, 8] ∧ tb.incoming.segments.length = 2 ∧ s.b.delivered = [] ∧ s.a.delivered = [] ∧
    ta.outgoing.text.length ≤ 65535 * 1 ∧ tb.outgoing.text.length ≤ 65535 * 1 ∧
    ∃ s', [1, 2 * 1 + 2].foldlM (fun st k => fairRound k st) s = .ok s' ∧
      s'.b.delivered = [1, 2, 3, 4, 5, 6] ∧ s'.a.delivered = [9, 8] := by
  have key : dirtyCheck = true := by decide +kernel
  unfold dirtyCheck at key
  split at key
  · rename_i sys0 rs e0
    split at key
    · rename_i s e1
      simp only [Bool.and_eq_true, decide_eq_true_eq] at key
      obtain ⟨⟨⟨r1, r2⟩, k1⟩, k2⟩ := key
      split at k1
      · rename_i ta tb hta htb
        simp only [Bool.and_eq_true, beq_iff_eq, bne_iff_ne, ne_eq] at k1
        obtain ⟨⟨⟨⟨⟨⟨⟨⟨⟨x1, x2⟩, x3⟩, x4⟩, x5⟩, x6⟩, x7⟩, x8⟩, x9⟩, x10⟩ := k1
        split at k2
        · rename_i s' e2
          simp only [Bool.and_eq_true, beq_iff_eq] at k2
          exact ⟨sys0, s, rs, ta, tb, e0, plainRunB_sound _ _ _ e1, ⟨r1, r2⟩, hta, htb, x1, x2, x3, x4, x5, x6, x9, x10,
            by rw [x7]; decide, by rw [x8]; decide, s', e2, k2.1, k2.2⟩
        · simp at k2
      · simp at k1
    · simp at key
  · simp at key

/-! ### non-vacuity of (c) and (e) -/

/-- handshake; A's [1,2,3] (history element 3) is NOT delivered; A's [4,5] (element 4) is delivered to B twice: two copies
    are parked behind the gap -/
def gapOps : List Op :=
  [.emit .A, .deliver .B 0, .emit .B, .deliver .A 1, .emit .A, .deliver .B 2,
   .write .A [1, 2, 3], .emit .A, .write .A [4, 5], .emit .A, .deliver .B 4, .deliver .B 4]

def gapCheck : Bool :=
  reachCheck gapOps fun s =>
    (match s.a.tcb, s.b.tcb, s.nth 3 with
      | some ta, some tb, some σ => ta.state == .Established && tb.state == .Established &&
          decide (tb.incoming.text.length + (ta.sent - off 1000 tb.rcv.nxt) ≤ 65535) &&
          σ.hdr.srcPort == SideId.A.port && σ.text == [1, 2, 3] &&
          decide (off 1000 σ.hdr.seq ≤ off 1000 tb.rcv.nxt) && tb.incoming.segments.length == 2 &&
          decide (off 1000 tb.rcv.nxt = 1)
      | _, _, _ => false) &&
    (match s.step (.deliver .B 3) with
      | .ok (s', _) =>
        (match s'.b.tcb with
          | some tb' => tb'.incoming.segments.isEmpty && decide (off 1000 tb'.rcv.nxt = 6) &&
              tb'.incoming.text == [1, 2, 3, 4, 5]
          | none => false)
      | .error _ => false)

/-- the hypotheses of `c01_gap_fill_partial` hold in that reachable state for `x = B`, `i = 3` (the lost segment [1,2,3]):
    two segments are parked, `RCV.NXT − ISS_A = 1`; the delivery, evaluated, moves `RCV.NXT − ISS_A` to 6, empties the
    heap and leaves [1,2,3,4,5] in the buffer -/
example : ∃ sys0 s : Sys, ∃ rs, ∃ ta tb : Tcb, ∃ σ : Segment,
    Sys.run {} [.open .A 1000 1500, if false then .open .B 5000 1500 else .listen .B 5000 1500] = .ok (sys0, rs) ∧
    PlainRun sys0 s ∧ RoomH s ∧ (s.side .B).tcb = some tb ∧ (s.side SideId.B.peer).tcb = some ta ∧
    tb.state = .Established ∧ ta.state = .Established ∧
    tb.incoming.text.length + (ta.sent - off (issOf 1000 5000 SideId.B.peer) tb.rcv.nxt) ≤ 65535 ∧
    s.nth 3 = some σ ∧ σ.hdr.srcPort = SideId.B.peer.port ∧ σ.text ≠ [] ∧
    off (issOf 1000 5000 SideId.B.peer) σ.hdr.seq ≤ off (issOf 1000 5000 SideId.B.peer) tb.rcv.nxt ∧
    tb.incoming.segments.length = 2 ∧
    ∃ s' tb', s.step (.deliver .B 3) = .ok (s', .arrived .Ok) ∧ s'.b.tcb = some tb' ∧ tb'.incoming.segments = [] ∧
      off 1000 tb'.rcv.nxt = 6 ∧ tb'.incoming.text = [1, 2, 3, 4, 5] := by
  obtain ⟨sys0, s, rs, e0, run, room, key⟩ := reachCheck_sound (show gapCheck = true by decide +kernel)
  simp only [Bool.and_eq_true] at key
  obtain ⟨k1, k2⟩ := key
  split at k1
  · rename_i ta tb σ hta htb hσ
    simp only [Bool.and_eq_true, beq_iff_eq, decide_eq_true_eq] at k1
    obtain ⟨⟨⟨⟨⟨⟨⟨x1, x2⟩, x3⟩, x4⟩, x5⟩, x6⟩, x7⟩, x8⟩ := k1
    split at k2
    · rename_i s' r' e2
      split at k2
      · rename_i tb' htb'
        simp only [Bool.and_eq_true, beq_iff_eq, decide_eq_true_eq, List.isEmpty_iff] at k2
        have hr : r' = .arrived .Ok := by
          obtain ⟨_, _, e3, _⟩ := c01_gap_fill_partial 1000 5000 1500 1500 false sys0 s rs (by decide) (by decide) e0 run room
            .B tb ta htb hta x2 x1 x3 3 σ hσ x4 (by rw [x5]; nofun) x6
          rw [e2] at e3
          cases e3
          rfl
        subst hr
        exact ⟨sys0, s, rs, ta, tb, σ, e0, run, room, htb, hta, x2, x1, x3, hσ, x4,
          by rw [x5]; simp, x6, x7, s', tb', e2, htb', k2.1.1, k2.1.2, k2.2⟩
      · cases k2
    · cases k2
  · cases k1

/-- `c01_cleanup_round_partial` on the state of `dirtyOps` (A's receive buffer holds [9, 8], two segments are parked in
    B's heap): the round, evaluated, leaves both buffers empty and both sides ESTABLISHED -/
def cleanCheck : Bool :=
  match Sys.run {} [.open .A 1000 1500, .listen .B 5000 1500] with
  | .ok (sys0, _) =>
    match plainRunB sys0 dirtyOps with
    | some s =>
      (match s.a.tcb with
        | some ta => ta.incoming.text == [9, 8]
        | none => false) &&
      (match fairRound 1 s with
        | .ok s' =>
          (match s'.a.tcb, s'.b.tcb with
            | some ta', some tb' => ta'.incoming.text.isEmpty && tb'.incoming.text.isEmpty &&
                ta'.state == .Established && tb'.state == .Established && s'.a.delivered == [9, 8]
            | _, _ => false)
        | .error _ => false)
    | none => false
  | .error _ => false

example : cleanCheck = true := by decide +kernel

/-! ### non-vacuity of the full statement: states before ESTABLISHED, after loss -/

def runRounds (s : Sys) : List Nat → Except String Sys
  | [] => .ok s
  | k :: ks =>
    match fairRound k s with
    | .ok s' => runRounds s' ks
    | .error e => .error e

def quietB (s : Sys) : Bool :=
  match s.a.tcb, s.b.tcb with
  | some ta, some tb => ta.state == .Established && tb.state == .Established &&
      ta.outgoing.retransmit.isEmpty && tb.outgoing.retransmit.isEmpty && ta.outgoing.text.isEmpty &&
      tb.outgoing.text.isEmpty && ta.outgoing.oneshot.isEmpty && tb.outgoing.oneshot.isEmpty &&
      ta.incoming.segments.isEmpty && tb.incoming.segments.isEmpty
  | _, _ => false

/-- (1) the SYN is lost (emitted, never delivered) and A's application has written [1,2,3]: A is in SYN-SENT, B has no TCB;
    (2) passive open, the third segment of the handshake (A's ACK) is lost, A is idle, B has written [7]: A ESTABLISHED,
    B in SYN-RECEIVED; (3) simultaneous open, both crossing SYNs lost, data written on both sides: SYN-SENT / SYN-SENT -/
def hsCheck : Bool :=
  (match Sys.run {} [.open .A 1000 1500, .listen .B 5000 1500] with
    | .ok (sys0, _) =>
      (match plainRunB sys0 [.emit .A, .write .A [1, 2, 3]] with
        | some s => s.b.tcb.isNone && decide (meas s = 11) &&
            (match runRounds s [1, 1, 1, 1, 4] with
              | .ok s' => quietB s' && s'.b.delivered == [1, 2, 3]
              | .error _ => false)
        | none => false) &&
      (match plainRunB sys0 [.emit .A, .deliver .B 0, .emit .B, .deliver .A 1, .emit .A, .write .B [7]] with
        | some s => decide (rk s .A = 3) && decide (rk s .B = 2) &&
            (match runRounds s [1, 1, 1, 4] with
              | .ok s' => quietB s' && s'.a.delivered == [7]
              | .error _ => false)
        | none => false)
    | .error _ => false) &&
  (match Sys.run {} [.open .A 1000 1500, .open .B 5000 1500] with
    | .ok (sys0, _) =>
      (match plainRunB sys0 [.emit .A, .emit .B, .write .A [1], .write .B [2]] with
        | some s => decide (rk s .A = 1) && decide (rk s .B = 1) &&
            (match runRounds s [1, 1, 1, 1, 4] with
              | .ok s' => quietB s' && s'.b.delivered == [1] && s'.a.delivered == [2]
              | .error _ => false)
        | none => false)
    | .error _ => false)

/-- in these three reachable pre-ESTABLISHED states rounds as `c01_converges_full_bound` promises them (handshake rounds of
    one phase, the clean-up round, one round of `2·1 + 2` phases) end with both sides ESTABLISHED, everything empty and the
    streams complete -/
example : hsCheck = true := by decide +kernel

end Elvis.Tcp
