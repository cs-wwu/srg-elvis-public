import ElvisVerif.Lemmas.TcpSys
import ElvisVerif.Lemmas.TcbRtx
import ElvisVerif.Props.C17
/-!
# C01 — TCP delivers a reliable, ordered, exactly-once byte stream: the closed system is total

`c01_closed_system_no_panic`: no interleaving of opens, writes, reads, timer ticks, emissions,
deliveries of any segment ever emitted (loss, duplication, reordering, delay), closes, aborts and
raw injections makes any TCB operation panic.  (Of the code without the repair of F-C01-1 it is false:
`corpus/C01/sched/f-c01-1.ops`.)  The stream theorems of DESIGN.md section 8 are in
`Props/C01Safety.lean`, `Props/C01Converge.lean` and the files around them.
-/
namespace Elvis.Tcp
open Tcb

/-- a TCB of the closed system: well-formed, idle heap in SYN-SENT, every queued segment fits an
    IPv4 datagram -/
def TcbOk (t : Tcb) : Prop := Wf t ∧ HeapIdle t ∧ RtxBound t

theorem Tcb.Called.rtxBound {t t' : Tcb} {c : Call} (k : Called t c (some t')) (h : RtxBound t) : RtxBound t' := by
  by_cases ha : c = .abort
  · subst ha
    cases k with
    | abort e => exact h.step (abort_rtx t _ e)
  · exact h.step (k.sndStep ha).rtx

theorem TcbOk.call {t : Tcb} (h : TcbOk t) (c : Call) (hc : c.Valid) :
    ∃ r, Called t c r ∧ ∀ t', r = some t' → TcbOk t' := by
  obtain ⟨r, e, k⟩ := c17_total t h.1 h.2.1 c hc
  have kc := call_iff.1 e
  exact ⟨r, kc, fun t' ht' => by subst ht'; exact ⟨(k t' rfl).1, (k t' rfl).2, kc.rtxBound h.2.2⟩⟩

def SideOk (sd : Side) : Prop :=
  (∀ t, sd.tcb = some t → TcbOk t) ∧ (∀ iss mtu, sd.listen = some (iss, mtu) → SPACE_FOR_HEADERS ≤ mtu.toNat)

/-- invariant of the system: both sides fine, every segment in the history deliverable -/
structure SysWf (sys : Sys) : Prop where
  a : SideOk sys.a
  b : SideOk sys.b
  hist : ∀ seg ∈ sys.history, seg.text.length ≤ MAX_PAYLOAD

/-- MTUs leave room for the headers (the property quantifies over MTU ≥ 100); injected segments
    fit an IPv4 datagram -/
def Op.Valid : Op → Prop
  | .open _ _ mtu => SPACE_FOR_HEADERS ≤ mtu.toNat
  | .listen _ _ mtu => SPACE_FOR_HEADERS ≤ mtu.toNat
  | .inject _ seg => seg.text.length ≤ MAX_PAYLOAD
  | _ => True

theorem SysWf.side {sys : Sys} (h : SysWf sys) (x : SideId) : SideOk (sys.side x) := by
  cases x
  · exact h.a
  · exact h.b

theorem SysWf.setSide {sys : Sys} (h : SysWf sys) (x : SideId) (sd : Side) (hs : SideOk sd) :
    SysWf (sys.setSide x sd) := by
  cases x
  · exact ⟨hs, h.b, h.hist⟩
  · exact ⟨h.a, hs, h.hist⟩

theorem SysWf.record {sys : Sys} (h : SysWf sys) (segs : List Segment)
    (hs : ∀ seg ∈ segs, seg.text.length ≤ MAX_PAYLOAD) : SysWf (sys.record segs) := by
  refine ⟨h.a, h.b, fun seg hm => ?_⟩
  rcases (mem_history_record sys segs seg).1 hm with hm | hm
  · exact hs seg hm
  · exact h.hist seg hm

theorem SideOk.put {sd sd' : Side} {t : Tcb} (h : SideOk sd) (hl : sd'.listen = sd.listen) (ht : sd'.tcb = some t)
    (ok : TcbOk t) : SideOk sd' :=
  ⟨fun t' e => by cases ht.symm.trans e; exact ok, hl ▸ h.2⟩

theorem sideOk_none {sd : Side} (_h : SideOk sd) : SideOk { sd with tcb := none, listen := none } :=
  ⟨fun _ e => (nomatch e), fun _ _ e => nomatch e⟩

theorem arrive_ok (sys : Sys) (h : SysWf sys) (x : SideId) (seg : Segment)
    (hp : seg.text.length ≤ MAX_PAYLOAD) : ∃ sys' r, Sys.Arrive sys x seg sys' r ∧ SysWf sys' := by
  have hsd := h.side x
  have resp : ∀ hd : Hdr, SysWf (sys.record [⟨hd, []⟩]) := fun hd =>
    h.record _ (fun s hs => List.mem_singleton.1 hs ▸ Nat.zero_le _)
  cases htcb : (sys.side x).tcb with
  | some t =>
    obtain ⟨r, k, ok⟩ := (hsd.1 t htcb).call (.segmentArrives seg) hp
    cases k with
    | arrived e => exact ⟨_, _, .tcb htcb e, h.setSide x _ (hsd.put rfl rfl (ok _ rfl))⟩
    | reset e => exact ⟨_, _, .close htcb e, h.setSide x _ (sideOk_none hsd)⟩
  | none =>
    cases hl : (sys.side x).listen with
    | some p =>
      obtain ⟨iss, mtu⟩ := p
      obtain ⟨r, e, hr⟩ := listen_spec seg iss mtu (hsd.2 iss mtu hl) hp
      cases r with
      | none => exact ⟨_, _, .ignore htcb hl e, h⟩
      | some lr =>
        cases lr with
        | Tcb t =>
          exact ⟨_, _, .create htcb hl e,
            h.setSide x _ (hsd.put rfl rfl ⟨(hr t rfl).1, (hr t rfl).2, listen_rtxBound seg iss mtu t e⟩)⟩
        | Response hd => exact ⟨_, _, .refuse htcb hl e, resp hd⟩
    | none =>
      cases hc : segmentArrivesClosed seg.hdr (BitVec.ofNat 32 seg.text.length) with
      | none => exact ⟨_, _, .closed htcb hl hc, h⟩
      | some hd => exact ⟨_, _, .reset htcb hl hc, resp hd⟩

/-- **one step of the closed system never panics** and keeps the invariant: `open`, LISTEN and the arrival of a
    segment apart, an op is a call into the TCB of its side, which returns by `TcbOk.call` -/
theorem c01_step_total (sys : Sys) (h : SysWf sys) (op : Op) (hv : op.Valid) :
    ∃ sys' r, sys.step op = .ok (sys', r) ∧ SysWf sys' := by
  suffices ∃ sys' r, Sys.Step sys op sys' r ∧ SysWf sys' from
    let ⟨sys', r, k, w⟩ := this; ⟨sys', r, step_iff.2 k, w⟩
  have hsd := h.side op.side
  have put : ∀ {sd : Side} {t : Tcb}, sd.listen = (sys.side op.side).listen → sd.tcb = some t → TcbOk t →
      SysWf (sys.setSide op.side sd) := fun hl ht ok => h.setSide _ _ (hsd.put hl ht ok)
  have gone : SysWf (sys.gone op.side) := h.setSide _ _ (sideOk_none hsd)
  -- an op that calls into the TCB of its side finds none, or the call `c` it makes returns
  have onTcb : op.onTcb → ∀ c : Call, c.Valid →
      (∀ t r, (sys.side op.side).tcb = some t → Called t c r → (∀ t', r = some t' → TcbOk t') →
        ∃ sys' r, Sys.Step sys op sys' r ∧ SysWf sys') → ∃ sys' r, Sys.Step sys op sys' r ∧ SysWf sys' := by
    intro ho c hc k
    cases ht : (sys.side op.side).tcb with
    | none => exact ⟨_, _, .noTcb ho ht, h⟩
    | some t =>
      obtain ⟨r, kc, ok⟩ := (hsd.1 t ht).call c hc
      exact k t r ht kc ok
  cases op with
  | «open» x iss mtu =>
    obtain ⟨t, e, wf, idle⟩ := open_spec x.port x.peer.port iss mtu hv
    exact ⟨_, _, .open e, put rfl rfl ⟨wf, idle, open_rtxBound _ _ _ _ t e⟩⟩
  | listen x iss mtu =>
    refine ⟨_, _, .listen, h.setSide x _ ⟨hsd.1, fun i m e => ?_⟩⟩
    cases e
    exact hv
  | deliver x i =>
    cases hn : sys.nth i with
    | none => exact ⟨_, _, .noSeg hn, h⟩
    | some seg =>
      obtain ⟨s', r, a, w⟩ := arrive_ok sys h x seg (h.hist seg (nth_mem sys i seg hn))
      exact ⟨s', r, .deliver hn a, w⟩
  | inject x seg =>
    obtain ⟨s', r, a, w⟩ := arrive_ok sys h x seg hv
    exact ⟨s', r, .inject a, w⟩
  | drop x => exact ⟨_, _, .drop, gone⟩
  | write x bytes =>
    refine onTcb trivial (.send bytes) trivial fun t r ht k ok => ?_
    cases k
    exact ⟨_, _, .write ht, put rfl rfl (ok _ rfl)⟩
  | read x =>
    refine onTcb trivial .receive trivial fun t r ht k ok => ?_
    cases k
    exact ⟨_, _, .read ht, put rfl rfl (ok _ rfl)⟩
  | tick x ms =>
    refine onTcb trivial (.advanceTime ms) trivial fun t r ht k ok => ?_
    cases k with
    | tick e => exact ⟨_, _, .tick ht e, put rfl rfl (ok _ rfl)⟩
    | expire e => exact ⟨_, _, .expire ht e, gone⟩
  | emit x =>
    refine onTcb trivial .segments trivial fun t r ht k ok => ?_
    cases k with
    | @segments t' out e =>
      have w : SysWf (sys.withTcb x t') := put rfl rfl (ok _ rfl)
      exact ⟨_, _, .emit ht e, w.record out (segments_rtx t (hsd.1 t ht).2.2 t' out e).2⟩
  | close x =>
    refine onTcb trivial .close trivial fun t r ht k ok => ?_
    cases k with
    | close e => exact ⟨_, _, .close ht e, put rfl rfl (ok _ rfl)⟩
  | abort x =>
    refine onTcb trivial .abort trivial fun t r ht k ok => ?_
    cases k with
    | abort e => exact ⟨_, _, .abort ht e, put rfl rfl (ok _ rfl)⟩

theorem sysWf_empty : SysWf {} :=
  ⟨⟨fun _ e => (nomatch e), fun _ _ e => nomatch e⟩, ⟨fun _ e => (nomatch e), fun _ _ e => nomatch e⟩, fun _ e => nomatch e⟩

theorem run_total (sys : Sys) (hs : SysWf sys) (ops : List Op) (hv : ∀ op ∈ ops, op.Valid) :
    ∃ sys' rs, sys.run ops = .ok (sys', rs) ∧ SysWf sys' := by
  induction ops generalizing sys with
  | nil => exact ⟨_, _, rfl, hs⟩
  | cons op ops ih =>
    obtain ⟨sys1, r, e, hs1⟩ := c01_step_total sys hs op (hv op (by simp))
    obtain ⟨sys', rs, e', hs'⟩ := ih sys1 hs1 (fun o ho => hv o (by simp [ho]))
    exact ⟨_, _, C01.run_cons_ok e e', hs'⟩

/-- **The closed two-endpoint system never panics**: from the empty system, every finite sequence
    of valid ops runs to completion (T1 `c01_closed_system_no_panic` of DESIGN.md section 8). -/
theorem c01_closed_system_no_panic (ops : List Op) (hv : ∀ op ∈ ops, op.Valid) :
    ∃ r, Sys.run {} ops = .ok r :=
  let ⟨_, _, e, _⟩ := run_total {} sysWf_empty ops hv
  ⟨_, e⟩

def runLastRead (r : Except String (Sys × List Res)) : Option (List UInt8) :=
  match r with
  | .ok (_, rs) => match rs.getLast? with
    | some (.read b) => some b
    | _ => none
  | .error _ => none

/-- non-vacuity: the F-C01-1 schedule (data from SYN-RECEIVED overtakes the SYN-ACK) is a valid op
    list; the unrepaired code panics on it, the repaired one delivers the stream intact -/
example : runLastRead (Sys.run {} [.open .A 1000 1500, .listen .B 5000 1500, .emit .A, .deliver .B 0,
    .write .B [1, 2, 3], .emit .B, .deliver .A 2, .deliver .A 1, .tick .B 150, .emit .B, .deliver .A 4,
    .read .A]) = some [1, 2, 3] := by decide

end Elvis.Tcp
