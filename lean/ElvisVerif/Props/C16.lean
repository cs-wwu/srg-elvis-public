import ElvisVerif.Lemmas.Router
import ElvisVerif.Lemmas.RouterRefine
import ElvisVerif.Lemmas.RouterDelivery
import ElvisVerif.Lemmas.RouterSilence
/-!
# C16 — Routers forward along the route and TTL bounds every packet's life

Model: `ElvisVerif/Model/Router.lean`.  The abstract system (`step`, `run`) has the in-flight IPv4
frames and the forwards waiting for ARP as its state; EVERY nondeterministic thing — which frame
arrives next, when and how each ARP resolution ends (any MAC, or failure) — is an explicit
`Choice`, and every theorem below that mentions `run` holds for ALL choice lists and ALL
topologies (any routing tables: loops and black holes included).  The concrete layer (`cstep`:
ARP tables, ARP frames, retry budget, as coded) is what the driver executes and diffs against the
real stack; `c16_concrete_refines` transfers the theorems to it.
-/
namespace Elvis.Router

/-! ## tie to the source (regenerated by tools/extract.py on every check) -/

/-- `ArpRouter::demux` as the source has it: one `send_pci` site, one spawned task, no loop,
    table lookup by the destination, next hop = gateway or destination, ARP on the outgoing slot;
    `ArpRouter::start` listens on 0.0.0.0 for TCP and UDP and registers its addresses with ARP -/
theorem c16_source_certificate :
    Elvis.Gen.routerDemuxSendSites = 1 ∧ Elvis.Gen.routerDemuxSpawns = 1 ∧ Elvis.Gen.routerDemuxLoops = 0 ∧
    Elvis.Gen.routerLooksUpDestination = true ∧ Elvis.Gen.routerNextHopGatewayOrDestination = true ∧
    Elvis.Gen.routerArpOnOutgoingSlotOneSend = true ∧ Elvis.Gen.routerWildcardListens = [6, 17] ∧
    Elvis.Gen.routerArpListensLocalIps = true ∧ Elvis.Gen.ipv4SerializeSubtractsBaseOctets = true ∧
    Elvis.Gen.ipv4BaseOctets = 20 ∧ 1 ≤ Elvis.Gen.ipv4DefaultTtl := by decide

/-- the TTL handling of the source, in one line: an arriving TTL of 0 or 1 is dropped,
    t >= 2 goes out as t - 1; it never panics -/
theorem c16_ttl_kernel (t : Nat) :
    Elvis.Gen.routerTtlKernel t = if t ≤ 1 then .ok none else .ok (some (t - 1)) :=
  ttlKernel_eq t

/-- the TTL handling `time_to_live -= 1; if time_to_live == 0 { return }` of finding F-C16-1: the
    decrement comes before the test -/
def ttlKernelBeforeFix (ttl : Nat) : Except String (Option Nat) :=
  if ttl < 1 then .error "panic:sub:ArpRouter::demux:time_to_live" else
  let ttl := ttl - 1
  if ttl == 0 then .ok none else
  .ok (some ttl)

/-- F-C16-1: under that handling an arriving TTL of 0 makes `time_to_live -= 1` underflow — a panic
    that ends the simulation in the dev profile; the source's kernel drops the datagram, and the
    two agree on every TTL ≥ 1 (the harness sends the TTL-0 datagram through the real router) -/
theorem c16_ttl0_regression :
    ttlKernelBeforeFix 0 = .error "panic:sub:ArpRouter::demux:time_to_live" ∧
    Elvis.Gen.routerTtlKernel 0 = .ok none ∧
    ∀ t, 1 ≤ t → ttlKernelBeforeFix t = Elvis.Gen.routerTtlKernel t := by
  refine ⟨rfl, by rw [c16_ttl_kernel]; rfl, ?_⟩
  intro t ht
  rw [c16_ttl_kernel]
  unfold ttlKernelBeforeFix
  by_cases h1 : t = 1
  · subst h1; rfl
  · have a : ¬ t < 1 := by omega
    have b : ¬ t - 1 = 0 := by omega
    have c : ¬ t ≤ 1 := by omega
    simp [a, b, c]

/-- the forward spawned by `ArpRouter::demux` carries the received TTL minus one, and at least 1 -/
theorem c16_ttl_decrement (n : Nat) (nd : Node) (pkt : Pkt) (p : Pending)
    (h : routerDemux n nd pkt = .ok (some p)) :
    p.pkt.hdr.ttl + 1 = pkt.hdr.ttl ∧ 1 ≤ p.pkt.hdr.ttl := by
  obtain ⟨v, hp, h1, h2, _⟩ := routerDemux_some h
  simp [hp, Pkt.withTtl, h1, h2]

/-- system level, delivery step: a forward that appears was spawned for the delivered frame and
    carries its TTL minus one -/
theorem c16_ttl_decrement_step (topo : Topo) (s s' : State) (i : Nat) (h : step topo s (.deliver i) = .ok s') :
    ∀ p ∈ s'.pend, p ∈ s.pend ∨
      ∃ f, s.flight[i]? = some f ∧ p.pkt = f.pkt.withTtl (f.pkt.hdr.ttl - 1) ∧ 2 ≤ f.pkt.hdr.ttl := by
  obtain ⟨cf, cp, fs, ps, evs, r, rfl⟩ := step_spec h
  intro p hp'
  rcases List.mem_append.1 hp' with hp | hp
  · exact .inl hp
  · cases r with
    | tap _ f n nd σ d hf _ hd =>
      rcases d with _ | _ | ⟨_ | q⟩
      · cases hp
      · cases hp
      · cases hp
      · obtain rfl := List.mem_singleton.1 hp
        obtain ⟨v, hq, h1, h2, _⟩ := routerDemux_some (ipv4Demux_routed hd)
        refine .inr ⟨f, hf, ?_, by omega⟩
        rw [hq]; congr 1; omega
    | _ => cases hp

/-- system level, resolution step: the frame that leaves is the waiting datagram, unchanged
    (TTL included), addressed to the resolved MAC -/
theorem c16_forward_unchanged (topo : Topo) (s s' : State) (j : Nat) (mac : Mac)
    (h : step topo s (.resolved j mac) = .ok s') :
    ∀ f ∈ s'.flight, f ∈ s.flight ∨ ∃ p, s.pend[j]? = some p ∧ f.pkt = p.pkt ∧ f.dmac = mac := by
  obtain ⟨cf, cp, fs, ps, evs, r, rfl⟩ := step_spec h
  intro f hf'
  rcases List.mem_append.1 hf' with hf | hf
  · exact .inl hf
  · cases r with
    | emit _ _ p g hp he =>
      obtain rfl := List.mem_singleton.1 hf
      exact .inr ⟨p, hp, (emit_some he).1, (emit_some he).2.1⟩
    | _ => cases hf

/-- one received frame gives at most one waiting forward and no frame; one resolved forward gives
    at most one frame: no step that is not an application send / crafted frame increases the
    number of datagrams in the system -/
theorem c16_no_multiplication (topo : Topo) (s s' : State) (c : Choice) (hc : c.isInput = false)
    (h : step topo s c = .ok s') :
    s'.flight.length + s'.pend.length ≤ s.flight.length + s.pend.length := by
  -- counting one per frame and per waiting forward: no rule but the input rules produces more than it consumes
  have hb : RuleBound topo (fun _ => 1) (fun _ => 1) (fun _ => 0) 0 (fun c => c.isInput.toNat) := by
    intro s c cf cp fs ps evs r
    cases r with
    | tap _ _ _ _ _ d _ _ _ => rcases d with _ | _ | ⟨_ | _⟩ <;> simp [Demuxed.pend]
    | _ => simp [Choice.isInput]
  have := step_potential (fun _ _ => rfl) hb h
  simpa [potential, sum_map_one, hc] using this

/-- global form, for every topology and every schedule: the number of frames of one datagram
    (token `k`) that are ever put on a network with a given TTL `v` is at most the number of times
    the datagram was handed in — a datagram sent once is seen at most once per hop index -/
theorem c16_no_multiplication_global (topo : Topo) (k v : Nat) (sched : List Choice) (s : State)
    (h : run topo State.empty sched = .ok s) : wires k v s.log ≤ inputs k sched := by
  have := run_wires_pot topo k v sched State.empty s h
  simp [State.empty, wires, pot] at this
  simp only [wires]; omega

/-- For ANY topology and routing configuration (loops, black holes, anything) and ANY schedule
    (arrival order of frames, outcome and timing of every ARP resolution): the number of
    `ArpRouter::demux` calls ("hops") a datagram causes, plus the life still left in its
    descendants, never exceeds the life handed in: `max ttl 1` per send of that datagram. -/
theorem c16_bounded_life (topo : Topo) (k : Nat) (sched : List Choice) (s : State)
    (h : run topo State.empty sched = .ok s) : hops k s.log + life k s ≤ budget k sched := by
  have := run_hops_life topo k sched State.empty s h
  simp [State.empty, hops, life] at this
  exact this

/-- a datagram handed in once with initial TTL `t ≥ 1` causes at most `t` router hops -/
theorem c16_bounded_life_single (topo : Topo) (pre post : List Choice) (hh : Nat) (pkt : Pkt) (s : State)
    (hpre : budget pkt.tok pre = 0) (hpost : budget pkt.tok post = 0) (ht : 1 ≤ pkt.hdr.ttl)
    (h : run topo State.empty (pre ++ [.send hh pkt] ++ post) = .ok s) : hops pkt.tok s.log ≤ pkt.hdr.ttl := by
  have := c16_bounded_life topo pkt.tok _ s h
  simp only [budget, List.map_append, List.sum_append, List.map_cons, List.map_nil, List.sum_cons,
    List.sum_nil, inputLife, if_true] at this
  simp only [budget] at hpre hpost
  simp only [lifeOf] at this
  omega

/-- ... after which the networks are silent: along any run, the number of steps at which an
    enabled non-input choice is taken (a frame delivered, a forward resolved or given up), plus
    the weight of what is left, is bounded by the weight handed in.  So after the inputs stop at
    most `weight s` further steps can do anything, whatever the schedule. -/
theorem c16_silence (topo : Topo) (sched : List Choice) (s0 s : State) (h : run topo s0 sched = .ok s) :
    activeSteps topo s0 sched + weight s ≤ weight s0 + inputBudget sched := by
  have := run_potential (fun _ _ => rfl) (weight_bound topo) sched s0 s h
  simp only [potential, weight, inputBudget] at *
  omega

/-- a state of weight 0 is silent: no frame in flight, no forward waiting -/
theorem c16_silence_zero (s : State) : weight s = 0 ↔ s.flight = [] ∧ s.pend = [] := by
  constructor
  · intro h
    simp only [weight] at h
    refine ⟨sum_map_pos_eq_zero (f := weightF) (fun f => ?_) (by omega),
      sum_map_pos_eq_zero (f := weightP) (fun p => ?_) (by omega)⟩
    · have := lifeOf_pos f.pkt.hdr.ttl
      simp only [weightF]; omega
    · simp only [weightP]; omega
  · rintro ⟨h1, h2⟩
    simp [weight, h1, h2]

/-- everything but the TTL (and the recomputed checksum) -/
def Pkt.sameButTtl (a b : Pkt) : Prop := a.withTtl 0 = b.withTtl 0

/-- per hop: the forward carries the same token, payload and header fields except the TTL -/
theorem c16_payload_preserved (n : Nat) (nd : Node) (pkt : Pkt) (p : Pending)
    (h : routerDemux n nd pkt = .ok (some p)) :
    p.pkt.payload = pkt.payload ∧ p.pkt.tok = pkt.tok ∧ p.pkt.sameButTtl pkt ∧
      p.pkt.hdr = { pkt.hdr with ttl := p.pkt.hdr.ttl } := by
  obtain ⟨v, hp, _⟩ := routerDemux_some h
  simp [hp, Pkt.withTtl, Pkt.sameButTtl]

/-- along any run: if every send / crafted frame of token `k` carries `pkt0` (up to TTL), then
    every frame on a network, every waiting forward, every hop and every application delivery of
    token `k` carries `pkt0`'s payload and header fields (up to TTL) -/
theorem c16_payload_preserved_global (topo : Topo) (k : Nat) (pkt0 : Pkt) (sched : List Choice) (s : State)
    (hin : ∀ c ∈ sched, c.InputOk (fun p => p.tok = k → p.sameButTtl pkt0))
    (h : run topo State.empty sched = .ok s) :
    Carries (fun p => p.tok = k → p.sameButTtl pkt0) s := by
  refine run_carries ?_ sched State.empty s h (carries_empty _) hin
  intro pkt v hp hk
  have := hp (by simpa [Pkt.withTtl] using hk)
  simpa [Pkt.sameButTtl, Pkt.withTtl] using this

/-- along any run, whatever ARP answers: an application delivery on machine `n` happens only for
    a whole datagram whose destination address has a UDP listen binding on `n` and whose port is
    bound there; the data are the bytes after the UDP header -/
theorem c16_app_only_if_bound (topo : Topo) (sched : List Choice) (s : State)
    (h : run topo State.empty sched = .ok s) (n : Nat) (pkt : Pkt) (port : Nat) (data : List UInt8)
    (he : Ev.app n pkt port data ∈ s.log) :
    ∃ nd, topo.nodes[n]? = some nd ∧
      findBind nd.binds pkt.hdr.dst (protoClass pkt.hdr.proto) = some .udp ∧ isWhole pkt.hdr = true ∧
      data = pkt.payload.drop 8 ∧
      (nd.udpPorts.contains (pkt.hdr.dst, port) || nd.udpPorts.contains (0, port)) = true := by
  have inv := run_appFact sched State.empty s h (by intro e he; simp [State.empty] at he)
  obtain ⟨nd, hn, hd⟩ := inv _ he
  exact ⟨nd, hn, ipv4Demux_app hd⟩

/-- a host that listens on its own address only (no wildcard binding) receives only datagrams
    addressed to that address -/
theorem c16_no_third_party (topo : Topo) (sched : List Choice) (s : State)
    (h : run topo State.empty sched = .ok s) (n : Nat) (nd : Node) (a : Addr) (pkt : Pkt) (port : Nat)
    (data : List UInt8) (hn : topo.nodes[n]? = some nd) (hb : ∀ b ∈ nd.binds, b.addr = a ∧ a ≠ 0)
    (he : Ev.app n pkt port data ∈ s.log) : pkt.hdr.dst = a := by
  obtain ⟨nd', hn', hf, _⟩ := c16_app_only_if_bound topo sched s h n pkt port data he
  rw [hn] at hn'; cases hn'
  unfold findBind at hf
  split at hf
  · rename_i b hb'
    have hm := List.mem_of_find?_eq_some hb'
    have hp := List.find?_some hb'
    simp only [Bool.and_eq_true, beq_iff_eq] at hp
    rw [← hp.1]; exact (hb b hm).1
  · rename_i hnone
    cases hw : nd.binds.find? (fun b => b.addr == 0 && b.pn == protoClass pkt.hdr.proto) with
    | none => rw [hw] at hf; cases hf
    | some b =>
      have hm := List.mem_of_find?_eq_some hw
      have hp := List.find?_some hw
      simp only [Bool.and_eq_true, beq_iff_eq] at hp
      exact absurd hp.1 (by rw [(hb b hm).1]; exact (hb b hm).2)

/-- If the static routes form a path of `m` routers from the sending host to the destination
    host (`Route`: every next-hop address is owned, on the outgoing network, by the next machine;
    every router on the way has a table entry for the destination; the last machine listens on
    the destination address and port) and `m` is smaller than the initial TTL, then in EVERY run —
    any interleaving with any other traffic, any arrival order — in which the ARP resolutions
    made for this datagram are faithful (they return the MAC of the machine that answers ARP for
    the next-hop address on that network, and do not give up: `FaithfulRun`), once nothing of the
    datagram is left in the system it has been handed to the destination application exactly
    once, with the data that were sent, and to no other application.

    PARTIAL in exactly this hypothesis: `FaithfulRun` is the guarantee of ARP (property C06) plus
    a timing fact (a reply arrives before the retry budget of `arpResendTries` requests
    `arpResendDelayMs` apart runs out), neither of which the untimed token system can exhibit.
    "And at no other host's applications" needs no such hypothesis: `c16_no_third_party`. -/
theorem c16_delivery_partial (topo : Topo) (k hd port : Nat) (data : List UInt8) (m : Nat)
    (s0 : State) (h : Nat) (pkt : Pkt) (p0 : Pending) (rest : List Choice) (s : State)
    (fresh : (∀ f ∈ s0.flight, f.pkt.tok ≠ k) ∧ (∀ p ∈ s0.pend, p.pkt.tok ≠ k) ∧ appsOf k s0.log = [])
    (hk : pkt.tok = k) (hsend : sendCore topo h pkt = [p0])
    (hroute : Route topo hd port data m p0) (httl : m < pkt.hdr.ttl)
    (hrun : run topo s0 (.send h pkt :: rest) = .ok s)
    (hfaith : FaithfulRun topo k { s0 with pend := s0.pend ++ [p0] } rest)
    (hquiet : (∀ f ∈ s.flight, f.pkt.tok ≠ k) ∧ (∀ p ∈ s.pend, p.pkt.tok ≠ k)) :
    appsOf k s.log = [(hd, port, data)] := by
  have hp0 : p0.pkt = pkt := sendCore_pkt hsend
  have hstep : step topo s0 (.send h pkt) = .ok { s0 with pend := s0.pend ++ [p0] } := by
    simp [step, hsend]
  simp only [run, hstep] at hrun
  have tr0 := Track.start fresh (hp0 ▸ hk) (route_leads hroute (.inl (hp0 ▸ httl)))
  exact (run_track rest _ s hrun tr0 hfaith).done hquiet

/-! ### non-vacuity: a two-subnet topology, one router, one datagram -/

namespace Example

def ipA : Addr := 167772170   -- 10.0.0.10
def ipB : Addr := 167772426   -- 10.0.1.10
def ipR0 : Addr := 167772161  -- 10.0.0.1
def ipR1 : Addr := 167772417  -- 10.0.1.1

def hostA : Node where
  slots := [(0, 0)]
  binds := [⟨ipA, 17, .udp⟩]
  udpPorts := [(ipA, 5000)]
  subnet := some (ipA, 24, ipR0)
  localIps := [ipA]
  table := []
  arpIps := [ipA]
def hostB : Node where
  slots := [(1, 0)]
  binds := [⟨ipB, 17, .udp⟩]
  udpPorts := [(ipB, 5001)]
  subnet := some (ipB, 24, ipR1)
  localIps := [ipB]
  table := []
  arpIps := [ipB]
def router : Node where
  slots := [(0, 1), (1, 1)]
  binds := [⟨0, 6, .router⟩, ⟨0, 17, .router⟩]
  udpPorts := []
  subnet := none
  localIps := [ipR0, ipR1]
  table := [⟨167772160, 24, none, 0⟩, ⟨167772416, 24, none, 1⟩]
  arpIps := [ipR0, ipR1, 0]
def topo : Topo := { nodes := [hostA, hostB, router], mtus := [1500, 1500] }

/-- UDP header (source port 4000, destination port 5001, length 10, checksum 0) + two data bytes -/
def pkt (ttl : Nat) : Pkt where
  tok := 1
  payload := [15, 160, 19, 137, 0, 10, 0, 0, 7, 9]
  hdr := ⟨0, 30, 0, 0, 0, ttl, 17, ipA, ipB⟩

def p0 : Pending := { node := 0, slot := 0, loc := ipA, nextHop := ipR0, viaRouter := false, pkt := pkt 30 }

example : sendCore topo 0 (pkt 30) = [p0] := by decide +kernel

/-- the static routes of the example form a path of one router to host B's application -/
example : Route topo 1 5001 [7, 9] 1 p0 := by
  refine .forward 0 p0 1 hostA 0 0 2 router 0 ⟨167772416, 24, none, 1⟩ ipR1
    (by decide +kernel) (by decide +kernel) (by decide +kernel) (by decide +kernel) (by decide +kernel) (by decide +kernel) (by decide +kernel) (by decide +kernel)
    (by decide +kernel) (by decide +kernel) (by decide +kernel) (by decide +kernel) ?_
  exact .deliver _ 0 router 1 1 hostB 0 (by decide +kernel) (by decide +kernel) (by decide +kernel) (by decide +kernel) (by decide +kernel)
    (by decide +kernel) (by decide +kernel) (by decide +kernel) (by decide +kernel)

/-- a faithful run delivers it: send, ARP answers with the router's MAC, the router forwards,
    ARP answers with B's MAC, B's application gets the two data bytes -/
example :
    (match run topo State.empty [.send 0 (pkt 30), .resolved 0 1, .deliver 0, .resolved 0 0, .deliver 0] with
     | .ok s => appsOf 1 s.log == [(1, 5001, [7, 9])] && hops 1 s.log == 1 && s.flight.isEmpty && s.pend.isEmpty
     | .error _ => false) = true := by decide +kernel

/-- the same datagram with TTL 1 dies at the router; with TTL 0 likewise (F-C16-1: no panic) -/
example :
    (match run topo State.empty [.send 0 (pkt 1), .resolved 0 1, .deliver 0] with
     | .ok s => appsOf 1 s.log == [] && hops 1 s.log == 1 && s.flight.isEmpty && s.pend.isEmpty
     | .error _ => false) = true := by decide +kernel

example :
    (match run topo State.empty [.send 0 (pkt 0), .resolved 0 1, .deliver 0] with
     | .ok s => appsOf 1 s.log == [] && hops 1 s.log == 1 && s.flight.isEmpty && s.pend.isEmpty
     | .error _ => false) = true := by decide +kernel

end Example

/-- `ArpRouter::demux` itself (up to the spawn) panics only through `Ipv4Header::serialize` on a
    header whose total length is below 20 (F-C08-2 of the codec property; the
    decoder rejects such headers, so `Ipv4::demux` never hands one over:
    `c16_ipv4_demux_panics_only_if`) or through `self.local_ips[slot]` when the routing table names a slot
    the router has no local address for (a configuration error).  The TTL never panics. -/
theorem c16_router_panics_only_if (n : Nat) (nd : Node) (pkt : Pkt) (e : String)
    (h : routerDemux n nd pkt = .error e) :
    (pkt.hdr.totalLength < Elvis.Gen.ipv4BaseOctets ∧ e = "panic:sub:Ipv4Header::serialize:total_length") ∨
    (∃ r, lookup nd.table pkt.hdr.dst = some r ∧ nd.localIps[r.slot]? = none ∧
      e = "panic:index:ArpRouter::demux:local_ips") := by
  unfold routerDemux at h
  rw [c16_ttl_kernel] at h
  split at h
  · rename_i heq
    split at heq <;> cases heq
  · cases h
  · split at h
    · rename_i hl
      simp only [Except.error.injEq] at h
      exact .inl ⟨hl, h.symm⟩
    · split at h
      · cases h
      · split at h
        · cases h
        · rename_i r hr
          split at h
          · rename_i hn
            simp only [Except.error.injEq] at h
            exact .inr ⟨r, hr, hn, h.symm⟩
          · cases h

/-- through `Ipv4::demux` (the only caller on the forwarding path) the `serialize` underflow is
    unreachable, because `Ipv4Header::from_bytes` rejects a total length below the header length:
    what is left is the `local_ips[slot]` index of a table entry naming a slot without address -/
theorem c16_ipv4_demux_panics_only_if (n : Nat) (nd : Node) (pkt : Pkt) (e : String)
    (h : ipv4Demux n nd pkt = .error e) :
    ∃ r, lookup nd.table pkt.hdr.dst = some r ∧ nd.localIps[r.slot]? = none ∧
      e = "panic:index:ArpRouter::demux:local_ips" := by
  unfold ipv4Demux at h
  split at h
  · cases h
  · rename_i hrej
    unfold ipv4DemuxParsed at h
    split at h
    · cases h
    · split at h
      · split at h
        · cases h
        · split at h
          · rename_i e' he
            simp only [Except.error.injEq] at h
            subst h
            rcases c16_router_panics_only_if n nd pkt _ he with ⟨hl, _⟩ | hr
            · exfalso
              apply hrej
              simp [headerRejected, hl, Elvis.Gen.ipv4DecoderRejectsShortTotalLength]
            · exact hr
          · cases h
      · cases h

/-- ARP as the source has it: an `Err` entry left by a resolution that gave up is never an
    answer — neither to a new `resolve` nor to a waiter of `get_mac`; only an `Ok` entry is -/
theorem c16_arp_failure_is_no_answer (c : Cache) (ip : Addr) (r : Option Mac) (h : c.answer ip = some r) :
    ∃ mac, r = some mac ∧ c.get ip = some (some mac) :=
  answer_some h

/-- the spawned task panics only when the table names a PCI slot the machine does not have, or —
    finding F-C16-2 — when the datagram does not fit the MTU of the outgoing network
    (`send_pci(...).expect("failed to send")`) -/
theorem c16_emit_panics_only_if (topo : Topo) (p : Pending) (mac : Mac) (e : String)
    (h : emit topo p mac = .error e) :
    ∃ nd, topo.nodes[p.node]? = some nd ∧
      ((nd.slots[p.slot]? = none ∧ e = "panic:unwrap:Pci::open") ∨
       (∃ net smac, nd.slots[p.slot]? = some (net, smac) ∧ topo.mtu net < frameLen p.pkt ∧
          p.viaRouter = true ∧ e = "panic:expect:ArpRouter::demux:send_pci")) := by
  unfold emit at h
  split at h
  · cases h
  · rename_i nd hn
    refine ⟨nd, hn, ?_⟩
    split at h
    · rename_i hs
      simp only [Except.error.injEq] at h
      exact .inl ⟨hs, h.symm⟩
    · rename_i net smac hs
      split at h
      · rename_i hm
        split at h
        · rename_i hv
          simp only [Except.error.injEq] at h
          exact .inr ⟨net, smac, hs, hm, hv, h.symm⟩
        · cases h
      · cases h

/-- the part that holds: a forward whose datagram fits the outgoing network, from a slot that
    exists, leaves without a panic as exactly one frame -/
theorem c16_forward_no_panic_partial (topo : Topo) (p : Pending) (mac : Mac) (nd : Node) (net : NetId) (smac : Mac)
    (hn : topo.nodes[p.node]? = some nd) (hs : nd.slots[p.slot]? = some (net, smac))
    (hfit : frameLen p.pkt ≤ topo.mtu net) :
    emit topo p mac = .ok (some { net := net, smac := smac, dmac := mac, pkt := p.pkt }) :=
  emit_of hn hs hfit

/-- F-C16-2, concrete witness: a router joining a 1500-byte network to a 60-byte network panics
    on a 100-byte datagram it should forward (replayed on the real router by the harness) -/
theorem c16_mtu_counterexample :
    emit { nodes := [{ slots := [(0, 0), (1, 0)], binds := [], udpPorts := [], subnet := none,
                       localIps := [1, 2], table := [], arpIps := [] }], mtus := [1500, 60] }
      { node := 0, slot := 1, loc := 2, nextHop := 3, viaRouter := true,
        pkt := { tok := 1, hdr := ⟨0, 100, 0, 0, 0, 9, 17, 5, 3⟩, payload := List.replicate 80 0 } } 7
      = .error "panic:expect:ArpRouter::demux:send_pci" := by rfl

/-- every run of the concrete system (ARP as coded) projects to a run of the abstract system -/
theorem c16_concrete_refines (topo : Topo) (cs : List CChoice) (s s' : CState) (h : crun topo s cs = .ok s') :
    run topo s.abs (absSched topo s cs) = .ok s'.abs := by
  induction cs generalizing s with
  | nil => simp [crun] at h; subst h; rfl
  | cons c cs ih =>
    simp only [crun] at h
    split at h
    · cases h
    · rename_i s1 h1
      simp only [absSched, h1]
      exact run_append topo _ _ _ _ _ (cstep_refines topo s s1 c h1) (ih s1 h)

/-- hence the hop bound for the concrete system, ARP traffic and tables included -/
theorem c16_concrete_bounded_life (topo : Topo) (k : Nat) (cs : List CChoice) (s : CState)
    (h : crun topo (CState.init topo) cs = .ok s) : hops k s.log ≤ cBudget k cs := by
  have r := c16_concrete_refines topo cs (CState.init topo) s h
  have e : (CState.init topo).abs = State.empty := rfl
  rw [e] at r
  have := c16_bounded_life topo k _ s.abs r
  have b := budget_absSched topo k cs (CState.init topo)
  simp only [CState.abs] at this
  omega

/-- "... so the networks fall silent", with ARP as coded: along ANY run of the concrete system
    (every frame delivery, every poll of a resolve task — cache hit, failed entry, retry timer at
    any moment, give-up — and every ARP frame delivery, in any order), the number of steps at
    which an enabled non-input choice is taken plus the weight left is bounded by the weight
    handed in.  The weight of a datagram with TTL t is `max t 1 * (arpResendTries * (taps + 2) + 2)`
    (+ 1 + a retry budget while it waits), of an ARP request `taps + 1`, of a reply 1. -/
theorem c16_concrete_silence (topo : Topo) (cs : List CChoice) (s s' : CState) (h : crun topo s cs = .ok s') :
    cActiveSteps topo s cs + cweight topo s' ≤ cweight topo s + cInputBudget topo cs := by
  induction cs generalizing s with
  | nil => simp [crun] at h; subst h; simp [cActiveSteps, cInputBudget]
  | cons c cs ih =>
    simp only [crun] at h
    cases hs : cstep topo s c with
    | error e => rw [hs] at h; cases h
    | ok s1 =>
      rw [hs] at h
      have a := cstep_weight topo s s1 c hs
      have b := ih s1 h
      simp only [cActiveSteps, hs, cInputBudget, List.map_cons, List.sum_cons] at *
      omega

/-- weight 0 = nothing in flight (IPv4 or ARP) and no resolve task left -/
theorem c16_concrete_silence_zero (topo : Topo) (s : CState) (h : cweight topo s = 0) :
    s.flight = [] ∧ s.tasks = [] ∧ s.arpFlight = [] := by
  simp only [cweight] at h
  refine ⟨sum_map_pos_eq_zero (cwF_pos topo) (by omega), sum_map_pos_eq_zero (f := cwT topo) (fun t => ?_) (by omega),
    sum_map_pos_eq_zero (f := cwA topo) (fun a => ?_) (by omega)⟩
  · simp only [cwT]; omega
  · simp only [cwA, Topo.reqW]
    split <;> omega

/-! ### lost ARP frames (fault schedules)

The differential runs lose ARP frames on purpose (a destination that answers too late: the first
resolution exhausts its retry budget, a later one succeeds).  A loss is a stutter step of the
abstract system and never adds weight, so the life and silence bounds above hold unchanged for
runs in which `cstep`s are interleaved with losses. -/

/-- losing an ARP frame is invisible to the abstract system (frames in flight, waiting forwards, log) -/
theorem c16_arp_loss_refines (s : CState) (a : Nat) : (dropArp s a).abs = s.abs := rfl

/-- losing an ARP frame never adds weight, and removes some when the frame exists -/
theorem c16_arp_loss_weight (topo : Topo) (s : CState) (a : Nat) :
    cweight topo (dropArp s a) ≤ cweight topo s ∧
      (a < s.arpFlight.length → cweight topo (dropArp s a) < cweight topo s) := by
  by_cases ha : a < s.arpFlight.length
  · have he := sum_map_eraseIdx (cwA topo) s.arpFlight a _ (List.getElem?_eq_getElem ha)
    have hpos : 0 < cwA topo s.arpFlight[a] := by
      unfold cwA Topo.reqW
      split <;> omega
    simp only [cweight, dropArp]
    omega
  · simp only [cweight, dropArp, List.eraseIdx_of_length_le (Nat.le_of_not_lt ha)]
    omega

end Elvis.Router
