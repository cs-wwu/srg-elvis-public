import ElvisVerif.Model.TcpSys
import ElvisVerif.Spec.Rfc9293
import ElvisVerif.Lemmas.TcbPath
import ElvisVerif.Lemmas.TcbIrs
import ElvisVerif.Lemmas.TcbSeq
import ElvisVerif.Lemmas.TcbClose
import ElvisVerif.Lemmas.TcpSysInv
import ElvisVerif.Props.C17
/-!
# C03 — TCP connections open, synchronise and close as RFC 9293 prescribes

The single-endpoint clauses (transitions, IRS stability, the regression witnesses, the partial release and FIN-after-data
facts) and the first synchronisation theorem; `c03_synchronised` at full strength is in `Props/C03Sync.lean`,
`c03_fin_after_data` in `Props/C03FinData.lean`, the release theorems in `Props/C03Release.lean` and
`Props/C03Release2.lean`.  Helper lemmas: `Lemmas/TcbEdges.lean` (`Eff.edge`: every elementary change of
`process_segment` moves along an edge), `Lemmas/TcbPath.lean` (compositions), `Lemmas/TcbIrs.lean`, `TcbSeq.lean`,
`TcbClose.lean`, `TcpSysInv.lean`; the calls of one endpoint are read through `Tcb.Called` of `Props/C17.lean`.  The
specification side is
`Spec/Rfc9293.lean`: `rfcEdges` (Figure 5 plus the edges the text prescribes) and `rfcCause`
(the same edges labelled with the events that may cause them), written from the RFC.
The model (`Model/Tcb.lean`) follows the code after four `fix:` commits (F-C03-1..4, see
`notes/C03.md`); the witnesses of the repaired defects are kept as `c03_regression_*`.
-/
namespace Elvis.Tcp
namespace C03
open Elvis.Rfc9293

def tcbOf (x : SideId) (r : Except String (Sys × List Res)) : Option Tcb :=
  match r with
  | .ok (s, _) => (s.side x).tcb
  | .error _ => none

def stateOf (x : SideId) (r : Except String (Sys × List Res)) : Option State := (tcbOf x r).map (·.state)

/-- the segments returned by the last op when it was an `emit` -/
def lastEmit (r : Except String (Sys × List Res)) : Option (List Segment) :=
  match r with
  | .ok (_, rs) => match rs.getLast? with
    | some (.emitted _ segs) => some segs
    | _ => none
  | .error _ => none

/-- three-way handshake: A opens (ISS 1000), B listens (ISS 5000); history 0 = SYN, 1 = SYN-ACK,
    2 = ACK; both ESTABLISHED -/
def handshake : List Op :=
  [.open .A 1000 1500, .listen .B 5000 1500, .emit .A, .deliver .B 0, .emit .B, .deliver .A 1,
   .emit .A, .deliver .B 2]

/-- simultaneous close after the handshake: history 3 = A's FIN, 4 = B's FIN, 5 = A's ACK of
    B's FIN, 6 = B's ACK of A's FIN; both sides end in TIME-WAIT with nothing in flight -/
def simultaneousClose : List Op :=
  handshake ++ [.close .A, .emit .A, .close .B, .emit .B, .deliver .B 3, .deliver .A 4,
    .emit .A, .emit .B, .deliver .B 5, .deliver .A 6]

example : stateOf .A (Sys.run {} simultaneousClose) = some .TimeWait ∧
    stateOf .B (Sys.run {} simultaneousClose) = some .TimeWait := by decide +kernel

/-! ## F-C03-1 (fixed): TIME-WAIT answered any ACK-bearing segment; the exchange never stopped -/

/-- one duplicate of B's last ACK (history 6) reaches A in TIME-WAIT -/
def stormStart : List Op := simultaneousClose ++ [.deliver .A 6, .emit .A]

/-- F-C03-1 (fixed, repo 03eeee69).  Both sides are in TIME-WAIT and the network is empty; a
    duplicate ACK arrives.  Before the repair A answered `ACK(SEG.SEQ+1) = 5003` — an
    acknowledgment of something B never sent —, B (TIME-WAIT) answered that, and after every
    round trip both TCBs were exactly what they had been a round trip earlier, 2·MSL timers
    restarted.  With the repair the duplicate changes nothing and nothing is sent. -/
theorem c03_regression_timewait_quiet :
    lastEmit (Sys.run {} stormStart) = some [] ∧
    tcbOf .A (Sys.run {} (simultaneousClose ++ [.deliver .A 6])) = tcbOf .A (Sys.run {} simultaneousClose) := by
  decide +kernel

/-! ## F-C03-2 (fixed): `close()` numbered the FIN before text that was still unsegmentized -/

/-- A writes three bytes and closes before `segments()` ran -/
def strandOps : List Op := handshake ++ [.write .A [1, 2, 3], .close .A, .emit .A]

/-- F-C03-2 (fixed, repo e2119c13).  Before the repair the FIN took `SND.NXT = 1001`, the three
    bytes stayed in `outgoing.text` of a FIN-WAIT-1 endpoint for ever, the peer went to CLOSE-WAIT
    holding none of them and the connection closed "cleanly".  With the repair FIN-WAIT-1 is entered at once,
    the text is segmentized first and the FIN follows it with sequence number 1004; the peer
    holds the three bytes when it shows FIN received. -/
theorem c03_regression_close_after_text :
    (lastEmit (Sys.run {} strandOps)).map (·.map fun s => (s.hdr.ctl.toNat, s.hdr.seq.toNat, s.text))
      = some [(16, 1001, [1, 2, 3]), (17, 1004, [])] ∧
    (tcbOf .A (Sys.run {} strandOps)).map (fun t => (t.state, t.outgoing.text)) = some (.FinWait1, []) ∧
    (tcbOf .B (Sys.run {} (strandOps ++ [.deliver .B 3, .deliver .B 4]))).map (fun t => (t.state, t.incoming.text))
      = some (.CloseWait, [1, 2, 3]) := by
  decide +kernel

/-! ## F-C03-3 (fixed): LAST-ACK did no ACK processing: the queue was never cleaned, the window never reopened -/

/-- B's send window is 2 (the third segment of the handshake advertises it); B writes five
    bytes, two go out; A closes, B goes to CLOSE-WAIT and closes: LAST-ACK with three bytes still
    to be segmentized.  A acknowledges the two bytes (history 5) advertising 65535. -/
def lastAckOps : List Op :=
  [.open .A 1000 1500, .listen .B 5000 1500, .emit .A, .deliver .B 0, .emit .B, .deliver .A 1, .emit .A,
   .inject .B (forge .B 16 1001 5001 2 []), .write .B [1, 2, 3, 4, 5], .emit .B, .close .A, .emit .A,
   .deliver .B 4, .close .B, .deliver .A 3, .emit .A, .emit .B, .deliver .B 5, .emit .B]

/-- F-C03-3 (fixed, repo 815f3de2).  Before the repair an acknowledgment arriving in LAST-ACK
    only overwrote `SND.UNA`: with everything sent acknowledged and the peer advertising 65535,
    B still held the acknowledged two bytes on its retransmission queue, counted them against
    the old window of 2, sent nothing, retransmitted the acknowledged segment at every timeout
    and stayed in LAST-ACK — the peer in FIN-WAIT-2 — for ever.  With the repair the ACK empties the queue and opens the window,
    the three bytes and the FIN (sequence number 5006) go out, the peer delivers all five bytes
    before it sees the FIN, and B is released by the final ACK. -/
theorem c03_regression_lastack_progress :
    (lastEmit (Sys.run {} lastAckOps)).map (·.map fun s => (s.hdr.ctl.toNat, s.hdr.seq.toNat, s.text))
      = some [(16, 5003, [3, 4, 5]), (17, 5006, [])] ∧
    (tcbOf .A (Sys.run {} (lastAckOps ++ [.deliver .A 6, .deliver .A 7, .deliver .A 8]))).map
      (fun t => (t.state, t.incoming.text)) = some (.TimeWait, [1, 2, 3, 4, 5]) ∧
    stateOf .B (Sys.run {} (lastAckOps ++ [.deliver .A 6, .deliver .A 7, .deliver .A 8, .emit .A,
      .deliver .B 9, .deliver .B 10])) = none := by
  decide +kernel

/-! ## F-C03-4 (fixed): SYN-SENT was deleted by a RST that carries no ACK -/

/-- F-C03-4 (fixed).  RFC 9293 3.10.7.3, second: "If the ACK was acceptable, then signal …
    connection reset …, enter CLOSED state, delete TCB, and return.  Otherwise (no ACK), drop the
    segment and return."  The code deleted the TCB for every RST that reached the RST check — an
    old duplicate RST, or a blind one with ANY sequence number, killed a connection attempt.
    With the repair the segment is dropped and the TCB is what it was; a RST with an acceptable ACK still
    resets the attempt. -/
theorem c03_regression_synsent_rst_without_ack :
    tcbOf .A (Sys.run {} [.open .A 1000 1500, .inject .A (forge .A 4 77777 0 0 [])])
      = tcbOf .A (Sys.run {} [.open .A 1000 1500]) ∧
    stateOf .A (Sys.run {} [.open .A 1000 1500, .inject .A (forge .A 20 0 1001 0 [])]) = none ∧
    rfcCause (.segment false true false false) (some .SynSent) none = false ∧
    rfcCause (.segment true true false false) (some .SynSent) none = true := by
  decide +kernel

/-! ## the edge table (finite: by `decide`) -/

def allEvents : List Event :=
  [.userOpen, .userClose, .userAbort, .timeWaitTimeout] ++
    (List.range 16).map fun n => .segment (n / 8 % 2 == 1) (n / 4 % 2 == 1) (n / 2 % 2 == 1) (n % 2 == 1)

theorem mem_allEvents (ev : Event) : ev ∈ allEvents := by
  cases ev with
  | segment a r sy f => exact (by decide +kernel : ∀ a r sy f, Event.segment a r sy f ∈ allEvents) a r sy f
  | _ => decide

theorem mem_allStates (a : Option State) : a ∈ allStates := by
  cases a with
  | none => decide
  | some x => cases x <;> decide

/-- **every labelled edge is an edge of Figure 5 (as extended by the text)** -/
theorem c03_table_cause_is_edge (ev : Event) (a b : Option State) (h : rfcCause ev a b = true) :
    rfcEdges a b = true := by
  -- where the diagram has no edge, no event labels one
  have key : (allStates.all fun a => allStates.all fun b => rfcEdges a b || allEvents.all fun ev =>
      !rfcCause ev a b) = true := by decide +kernel
  simp only [List.all_eq_true, Bool.or_eq_true, Bool.not_eq_true'] at key
  rcases key a (mem_allStates a) b (mem_allStates b) with k | k
  · exact k
  · rw [k ev (mem_allEvents ev)] at h
    cases h

def evSyn : Event → Bool
  | .segment _ _ syn _ => syn
  | _ => false

def evFin : Event → Bool
  | .segment _ _ _ fin => fin
  | _ => false

/-- **two steps for one event collapse to one edge**, except from SYN-SENT to CLOSE-WAIT, which
    needs a segment with SYN and FIN.  (The RFC prescribes that two-edge path for a SYN,ACK,FIN
    segment: 3.10.7.3 fourth — "If there are other controls or text in the segment, then
    continue processing at the sixth step" — and the eighth step then processes the FIN in
    ESTABLISHED.) -/
theorem c03_table_two_steps (ev : Event) (a m b : State)
    (h1 : rfcStepBy ev (some a) (some m) = true) (h2 : rfcStepBy ev (some m) (some b) = true) :
    rfcStep (some a) (some b) = true ∨
      (a = .SynSent ∧ b = .CloseWait ∧ evSyn ev = true ∧ evFin ev = true) := by
  -- the search for a second step starts only below a first step: most of the table is cut off at `m`
  have key : (allEvents.all fun ev => allStates.tail.all fun a => allStates.tail.all fun m =>
      !rfcStepBy ev a m || allStates.tail.all fun b =>
        !rfcStepBy ev m b || rfcStep a b ||
          (a == some .SynSent && b == some .CloseWait && evSyn ev && evFin ev)) = true := by decide +kernel
  have mem : ∀ x : State, some x ∈ allStates.tail := by intro x; cases x <;> decide
  simp only [List.all_eq_true, Bool.or_eq_true, Bool.not_eq_true', Bool.and_eq_true, beq_iff_eq] at key
  rcases key ev (mem_allEvents ev) (some a) (mem a) (some m) (mem m) with k | k
  · rw [h1] at k; cases k
  · rcases k (some b) (mem b) with (k | k) | ⟨⟨⟨k5, k6⟩, k7⟩, k8⟩
    · rw [h2] at k; cases k
    · exact Or.inl k
    · exact Or.inr ⟨Option.some.inj k5, Option.some.inj k6, k7, k8⟩

open Tcb

/-- **One segment.**  For EVERY TCB (any state, any field values) and EVERY segment: if
    `process_segment` returns, the connection state afterwards is the state before, one edge of
    the RFC 9293 diagram away, or CLOSE-WAIT reached from SYN-SENT by the RFC's two-edge path
    (a SYN,FIN segment that completes the handshake); each edge taken is one the RFC allows for
    the control bits of this very segment (`rfcCause`); and when the result makes the caller
    delete the TCB, that is an edge to CLOSED for these control bits. -/
theorem c03_transitions_process_segment (s : Tcb) (segment : Segment) (s' : Tcb) (r : ProcessSegmentResult)
    (e : s.processSegment segment = .ok (s', r)) :
    (rfcStep (some s.state) (some s'.state) = true ∨
      (s.state = .SynSent ∧ s'.state = .CloseWait ∧ segment.hdr.ctl.syn = true ∧ segment.hdr.ctl.fin = true)) ∧
    (∃ mid, rfcStepBy (evOf segment.hdr.ctl) (some s.state) (some mid) = true ∧
            rfcStepBy (evOf segment.hdr.ctl) (some mid) (some s'.state) = true) ∧
    (r.shouldDeleteTcb = true →
      rfcCause (evOf segment.hdr.ctl) (some s'.state) none = true ∧ rfcEdges (some s'.state) none = true) := by
  obtain ⟨mid, h1, h2, hd, _⟩ := processSegment_edges s segment s' r e
  refine ⟨?_, ⟨mid, h1, h2⟩, fun h => ⟨hd h, c03_table_cause_is_edge _ _ _ (hd h)⟩⟩
  rcases c03_table_two_steps _ _ _ _ h1 h2 with h | ⟨ha, hb, hsyn, hfin⟩
  · exact Or.inl h
  · exact Or.inr ⟨ha, hb, hsyn, hfin⟩

/-- the events a call stands for -/
def callEvents (s : Tcb) : Call → Event → Prop
  | .segmentArrives seg, ev => ∃ x ∈ seg :: s.incoming.segments, ev = evOf x.hdr.ctl
  | .advanceTime _, ev => ev = .timeWaitTimeout
  | .close, ev => ev = .userClose
  | _, _ => False

/-- **Every call.**  For every TCB satisfying `TwInv` (the 2·MSL timer runs only in TIME-WAIT —
    an invariant: `c03_transitions_start`, and this theorem preserves it) and EVERY call —
    `segment_arrives` with any segment, `advance_time`, `send`, `receive`, `close`, `abort`,
    `segments` — that returns: the connection state moves along a path of edges of the RFC 9293
    diagram, each caused by an event the call stands for (the control bits of the arriving
    segment or of a segment waiting in the reorder queue; the TIME-WAIT timeout; the user's
    CLOSE), to the new state or — when the caller is told to delete the TCB — to CLOSED.
    `send`, `receive`, `segments` and `abort` (after which the caller deletes the TCB) never
    change the state: for them no event is allowed, so the path is empty. -/
theorem c03_transitions (s : Tcb) (ht : TwInv s) (c : Call) (r : Option Tcb) (e : s.call c = .ok r) :
    Path (callEvents s c) (some s.state) (r.map (·.state)) ∧ (∀ s', r = some s' → TwInv s') := by
  -- a call that keeps state and timer: the empty path
  have keep : ∀ {s1 : Tcb}, Keep s s1 →
      Path (callEvents s c) (some s.state) ((some s1).map (·.state)) ∧ ∀ s', some s1 = some s' → TwInv s' := by
    intro s1 k
    rw [Option.map_some, k.state]
    exact ⟨.refl _, fun s' hs => by cases hs; exact k.twInv ht⟩
  cases call_iff.1 e with
  | arrived h =>
    obtain ⟨pth, tw⟩ := segmentArrives_path s _ _ .Ok h
    exact ⟨pth, fun s' hs => by cases hs; exact tw ht rfl⟩
  | reset h => exact ⟨(segmentArrives_path s _ _ .Close h).1, fun _ hs => nomatch hs⟩
  | tick h =>
    obtain ⟨hst, tw, -⟩ := advanceTime_edges s _ _ .Ignore h
    rw [Option.map_some, hst]
    exact ⟨.refl _, fun s' hs => by cases hs; exact tw ht⟩
  | expire h =>
    exact ⟨.tail (.refl _) rfl ((advanceTime_edges s _ _ .CloseConnection h).2.2 rfl ht), fun _ hs => nomatch hs⟩
  | send bytes => exact keep (send_keep s bytes)
  | receive => exact keep (receive_keep s)
  | close h =>
    obtain ⟨st, tw⟩ := close_edges s _ _ h
    exact ⟨Path.of_step (S := callEvents s .close) rfl st, fun s' hs => by cases hs; exact tw ht⟩
  | abort h => exact keep (abort_keep s _ h)
  | segments h => exact keep (segments_keep s _ _ h)

/-- a path of edges of `rfcEdges` (Figure 5 as extended by the text), unlabelled -/
inductive EdgePath : Option State → Option State → Prop
  | refl (a : Option State) : EdgePath a a
  | tail {a b c : Option State} : EdgePath a b → rfcEdges b c = true → EdgePath a c

/-- every hop of a labelled path is an edge of the diagram: what `c03_transitions` says in terms
    of `rfcEdges` alone -/
theorem c03_transitions_unlabelled {S : Event → Prop} {a b : Option State} (p : Path S a b) :
    EdgePath a b := by
  induction p with
  | refl => exact .refl _
  | tail _ _ hc ih => exact .tail ih (c03_table_cause_is_edge _ _ _ hc)

/-- `P` holds for every call along the run (`none` = the TCB was deleted) -/
def walks (P : Tcb → Call → Option Tcb → Prop) : Option Tcb → List Call → Prop
  | none, _ => True
  | some _, [] => True
  | some s, c :: cs => ∀ r, s.call c = .ok r → P s c r ∧ walks P r cs

/-- **All runs.**  From a TCB satisfying `TwInv` (in particular from `open` and from LISTEN,
    `c03_transitions_start`), along EVERY finite sequence of calls — any segments, any API calls
    in any order — every single call moves the connection state along a path of RFC 9293 edges
    caused by the events that call stands for (induction over the sequence). -/
theorem c03_transitions_run (s : Tcb) (ht : TwInv s) (cs : List Call) :
    walks (fun s c r => Path (callEvents s c) (some s.state) (r.map (·.state))) (some s) cs := by
  induction cs generalizing s with
  | nil => trivial
  | cons c cs ih =>
    intro r e
    obtain ⟨p, tw⟩ := c03_transitions s ht c r e
    refine ⟨p, ?_⟩
    cases r with
    | none => cases cs <;> trivial
    | some s' => exact ih s' (tw s' rfl)

/-- **Both ways a TCB comes into existence** are edges out of CLOSED / LISTEN and establish
    `TwInv`: the active OPEN creates SYN-SENT; in LISTEN only a segment with SYN and without RST
    and ACK creates a TCB, in SYN-RECEIVED. -/
theorem c03_transitions_start :
    (∀ lp rp iss mtu s, Tcb.open lp rp iss mtu = .ok s →
      rfcCause .userOpen none (some s.state) = true ∧ TwInv s) ∧
    (∀ seg iss mtu tcb, segmentArrivesListen seg iss mtu = .ok (some (.Tcb tcb)) →
      rfcCause (evOf seg.hdr.ctl) none (some tcb.state) = true ∧ TwInv tcb) := by
  constructor
  · intro lp rp iss mtu s e
    cases (open_eq lp rp iss mtu).symm.trans e
    exact ⟨rfl, fun h => nomatch h⟩
  · intro seg iss mtu tcb e
    obtain ⟨hrst, hack, hsyn, rfl⟩ := segmentArrivesListen_tcb e
    refine ⟨?_, fun h => nomatch h⟩
    show rfcCause (evOf seg.hdr.ctl) none (some .SynReceived) = true
    unfold evOf
    rw [hsyn, hrst, hack]
    rfl

/-! ## old duplicate SYNs never change IRS -/

/-- **Old duplicate SYN.**  Once the peer's SYN has been accepted (every state but SYN-SENT, so
    in particular every synchronised state) NO segment — any control bits, any sequence and
    acknowledgment numbers, e.g. a SYN of an earlier incarnation with a different ISN taken from
    the history — changes `RCV.IRS`, and the endpoint never returns to SYN-SENT. -/
theorem c03_old_duplicate_syn (s : Tcb) (seg : Segment) (h : s.state ≠ .SynSent) (s' : Tcb)
    (e : s.segmentArrives seg = .ok (s', .Ok)) : s'.rcv.irs = s.rcv.irs ∧ s'.state ≠ .SynSent :=
  let k := segmentArrives_irs s seg h s' e
  ⟨k.irs, k.notSynSent⟩

/-- one call of any kind keeps IRS outside SYN-SENT -/
theorem c03_irs_stable (s : Tcb) (hw : Wf s) (h : s.state ≠ .SynSent) (c : Call) (s' : Tcb)
    (e : s.call c = .ok (some s')) : s'.rcv.irs = s.rcv.irs ∧ s'.state ≠ .SynSent := by
  -- a call that leaves the receive side alone and does not enter SYN-SENT
  have same : ∀ {t : Tcb}, Same s t → (t.state = .SynSent → s.state = .SynSent) →
      t.rcv.irs = s.rcv.irs ∧ t.state ≠ .SynSent :=
    fun sm st => ⟨by rw [sm.rcv], fun hx => h (st hx)⟩
  cases call_iff.1 e with
  | arrived e1 => exact c03_old_duplicate_syn s _ h _ e1
  | tick e1 =>
    obtain ⟨_, _, e2, same1, st1⟩ := advanceTime_spec s _
    cases e1.symm.trans e2
    exact same same1 (st1 ▸ id)
  | send bytes => exact same (send_same s bytes).1 ((send_same s bytes).2 ▸ id)
  | receive =>
    refine ⟨?_, by rw [(receive_rx s).2]; exact h⟩
    rw [receive_eq]; split <;> rfl
  | close e1 =>
    obtain ⟨_, _, e2, same1, st1⟩ := close_spec s
    cases e1.symm.trans e2
    exact same same1 st1
  | abort e1 =>
    obtain ⟨_, e2, same1, st1⟩ := abort_spec s
    cases e1.symm.trans e2
    exact same same1 (st1 ▸ id)
  | segments e1 =>
    obtain ⟨_, _, e2, same1, st1⟩ := segments_spec s hw
    cases e1.symm.trans e2
    exact same same1 (st1 ▸ id)

/-- **IRS along all runs**: from a well-formed TCB that has left SYN-SENT, along every finite
    sequence of valid calls (any segments: old duplicates, forged ones, any API call), `RCV.IRS`
    never changes -/
theorem c03_irs_stable_run (s : Tcb) (hw : Wf s) (hi : HeapIdle s) (h : s.state ≠ .SynSent)
    (cs : List Call) (hcs : ∀ c ∈ cs, c.Valid) :
    walks (fun s0 _ r => ∀ s', r = some s' → s'.rcv.irs = s0.rcv.irs) (some s) cs := by
  induction cs generalizing s with
  | nil => trivial
  | cons c cs ih =>
    intro r e
    cases r with
    | none => exact ⟨fun s' hs => by simp at hs, by cases cs <;> trivial⟩
    | some s1 =>
      obtain ⟨k1, k2⟩ := c03_irs_stable s hw h c s1 e
      obtain ⟨r', e', wf'⟩ := c17_total s hw hi c (hcs c (by simp))
      rw [e] at e'
      cases e'
      obtain ⟨wf1, idle1⟩ := wf' s1 rfl
      exact ⟨fun s' hs => by cases hs; exact k1, ih s1 wf1 idle1 k2 (fun c hc => hcs c (by simp [hc]))⟩

/-! ## synchronisation: RCV.NXT never passes what the peer has sent -/

/-- **The receive half, single endpoint** (every state, every segment).  Let `base` be the
    peer's ISS and `base + N` its `SND.NXT` (`N < 2^31`).  If the arriving segment and every
    segment waiting in the reorder queue occupy sequence numbers below `base + N` only (a SYN
    sits at `base`) — which is what "the peer has sent" means —, then after `segment_arrives`
    `RCV.NXT` is at most `N` ahead of `base`, it has not moved backwards, SYN-SENT has not been
    re-entered, and what is still parked is still below.  No hypothesis on flags, acknowledgment
    numbers, windows, order, duplication or loss. -/
theorem c03_synchronised_receive (s : Tcb) (segment : Segment) (s' : Tcb)
    (e : s.segmentArrives segment = .ok (s', .Ok))
    (base : Seq) (N : Nat) (hN : N < 2147483648)
    (hb : s.state ≠ .SynSent → off base s.rcv.nxt ≤ N)
    (hseg : SegBelow base N segment) (hh : ∀ σ ∈ s.incoming.segments, SegBelow base N σ) :
    (s'.state ≠ .SynSent → off base s'.rcv.nxt ≤ N) ∧
    (s.state ≠ .SynSent → off base s.rcv.nxt ≤ off base s'.rcv.nxt ∧ s'.state ≠ .SynSent) ∧
    (∀ σ ∈ s'.incoming.segments, SegBelow base N σ) := by
  obtain ⟨t, hh'⟩ := segmentArrives_rcv s segment s' e base N hN hb hseg hh
  exact ⟨t.below, fun h => ⟨t.mono h, t.notBack h⟩, hh'⟩

/-- the hypotheses are satisfiable and the statement is not vacuous: the handshake of
    `handshake`, B's SYN-ACK (sequence number 5000 = `base`, one sequence number) arriving at A in
    SYN-SENT with `N = 1`: afterwards `RCV.NXT_A = 5001 = base + 1` -/
example : ∃ s s' : Tcb, ∃ seg : Segment, s.segmentArrives seg = .ok (s', .Ok) ∧
    SegBelow (5000#32) 1 seg ∧ s'.state = .Established ∧ off (5000#32) s'.rcv.nxt = 1 := by
  refine ⟨{ localPort := 0xcafe#16, remotePort := 0xdead#16, mtu := 1500#16, initiation := .Open,
            state := .SynSent, snd := { iss := 1000#32, una := 1000#32, nxt := 1001#32 }, rcv := {} },
          _, forge .A 18 5000 1001 65535 [], rfl, ⟨fun _ => rfl, fun _ => by decide⟩, by decide, by decide⟩

/-- **Synchronisation in the closed two-endpoint system** (`Model/TcpSys.lean`).  Start with an
    active open by A and either a passive open (listen binding) or an active open by B — any
    ISNs, any MTUs.  Then run ANY finite sequence of writes, reads, timer ticks, `segments()`
    calls, closes and deliveries of ANY element of the history of everything ever emitted to the
    side it is addressed to (`Op.Clean`: loss = never delivering, duplication = delivering
    again, reordering / delay = any order, at any later time; LISTEN and CLOSED replies included),
    such that before every step both endpoints have used and queued fewer than 2^31 sequence
    numbers (`RoomOk`, the segment-lifetime assumption H31 of C01).  Whenever both TCBs exist and
    the receiving one has left SYN-SENT — in particular whenever both are synchronised —:

      `RCV.NXT_peer =< SND.NXT_x` for `x` = A and `x` = B,

    in offsets from `ISS_x` (both below 2^31) and therefore also in the code's circular order
    (`mod_gt(RCV.NXT_peer, SND.NXT_x)` is false): no endpoint ever expects a sequence number the
    other has not sent.  Proved by the invariant `Inv` of `Lemmas/TcpSysInv.lean` over `Sys.step`
    (send half `Lemmas/TcbSnd.lean`, receive half `Lemmas/TcbSeq.lean`).

    `_partial`: this is one of the clauses of the synchronisation property.  `SND.UNA_x =< RCV.NXT_peer`, and
    the two inequalities together, are `c03_synchronised` in `Props/C03Sync.lean`; `RCV.NXT_peer = SND.NXT_x` at
    quiescence is `c03_synchronised_quiescent_partial` there.  The native oracle evaluates all three on the real
    code after every op and at quiescence (`synchronised …` idents).  `abort`, `drop`, re-`open` and forged segments are outside
    `Op.Clean` (a second incarnation reuses old sequence space; see `c03_old_duplicate_syn` for
    what an old SYN can and cannot do). -/
theorem c03_synchronised_partial (ia ib : Seq) (ma mb : U16) (simultaneous : Bool) (sys0 sys : Sys)
    (rs : List Res)
    (h0 : Sys.run {} [.open .A ia ma, if simultaneous then .open .B ib mb else .listen .B ib mb] = .ok (sys0, rs))
    (hrun : CleanRun sys0 sys) (hroom : RoomOk sys) (x : SideId) (t u : Tcb)
    (ht : (sys.side x).tcb = some t) (hu : (sys.side x.peer).tcb = some u) (hs : u.state ≠ .SynSent) :
    off t.snd.iss u.rcv.nxt ≤ off t.snd.iss t.snd.nxt ∧ off t.snd.iss t.snd.nxt < 2147483648 ∧
      ModCmp.modGt u.rcv.nxt t.snd.nxt = false :=
  inv_rcv_le_snd sys (inv_run (inv_init h0) hrun) hroom x t u ht hu hs

/-- a concrete clean run: handshake, three bytes from A to B, A's close, everything delivered -/
def exampleRun : Bool :=
  match Sys.run {} [.open .A 1000 1500, .listen .B 5000 1500] with
  | .ok (sys0, _) =>
    match cleanRunB sys0 [.emit .A, .deliver .B 0, .emit .B, .deliver .A 1, .write .A [1, 2, 3],
        .close .A, .emit .A, .deliver .B 2, .deliver .B 3, .deliver .B 4] with
    | some sys =>
      roomB sys && (match sys.a.tcb, sys.b.tcb with
        | some t, some u => u.state == .CloseWait && u.rcv.nxt == t.snd.nxt && t.snd.nxt == 1005#32
        | _, _ => false)
    | none => false
  | .error _ => false

/-- the statement is not vacuous: the run above is clean with room at every step (checked by the
    executable `cleanRunB`, sound by `cleanRunB_sound`); B ends in CLOSE-WAIT with
    `RCV.NXT_B = SND.NXT_A = 1005` (SYN + 3 bytes + FIN) -/
example : ∃ sys0 sys : Sys, ∃ rs : List Res,
    Sys.run {} [.open .A 1000 1500, .listen .B 5000 1500] = .ok (sys0, rs) ∧ CleanRun sys0 sys ∧ RoomOk sys ∧
    ∃ t u, sys.a.tcb = some t ∧ sys.b.tcb = some u ∧ u.state = .CloseWait ∧ u.rcv.nxt = t.snd.nxt ∧
      t.snd.nxt = 1005#32 := by
  have key : exampleRun = true := by decide +kernel
  unfold exampleRun at key
  split at key
  · rename_i sys0 rs e0
    split at key
    · rename_i sys e1
      simp only [Bool.and_eq_true] at key
      obtain ⟨hr, hk⟩ := key
      split at hk
      · rename_i t u ht hu
        simp only [Bool.and_eq_true, beq_iff_eq] at hk
        exact ⟨sys0, sys, rs, e0, cleanRunB_sound _ _ _ e1, roomB_sound _ hr, t, u, ht, hu, hk.1.1, hk.1.2, hk.2⟩
      · simp at hk
    · simp at key
  · simp at key

/-! ## the FIN follows the data; release -/

/-- **FIN after data, sender side** (full strength for `close` and `segments`, the only two
    places a FIN is formed).  (1) `close` with text still queued forms no FIN and changes nothing
    but the state.  (2) Whenever `close` or `segments` puts a FIN on the retransmission queue that
    was not there before, it carries no text, its sequence number is the last one used
    (`SND.NXT − 1` afterwards) and no text is left queued: every byte handed to `send` before
    `close` has been given a sequence number below the FIN's.  (Before the repair of F-C03-2 the
    FIN was numbered at once: `c03_regression_close_after_text`.)

    `_partial`: the receiver half — the PEER holds all the data when its state shows FIN received — is
    `c03_fin_after_data` in `Props/C03FinData.lean`; the native oracle `eof-before-data` evaluates the
    whole clause on the real code whenever an endpoint first shows FIN received. -/
theorem c03_fin_after_data_partial :
    (∀ (s s' : Tcb) (r : CloseResult), s.close = .ok (s', r) → s.outgoing.text ≠ [] →
      s'.outgoing.retransmit = s.outgoing.retransmit ∧ s'.snd.nxt = s.snd.nxt ∧
        s'.outgoing.text = s.outgoing.text) ∧
    (∀ (s s' : Tcb) (r : CloseResult), s.close = .ok (s', r) → ∀ t ∈ s'.outgoing.retransmit, t.segment.hdr.ctl.fin = true →
      t ∈ s.outgoing.retransmit ∨
        (t.segment.text = [] ∧ t.segment.hdr.seq + 1 = s'.snd.nxt ∧ s'.outgoing.text = [])) ∧
    (∀ (s s' : Tcb) (out : List Segment), s.segments = .ok (s', out) → ∀ t ∈ s'.outgoing.retransmit, t.segment.hdr.ctl.fin = true →
      (∃ t0 ∈ s.outgoing.retransmit, t0.segment = t.segment) ∨
        (t.segment.text = [] ∧ t.segment.hdr.seq + 1 = s'.snd.nxt ∧ s'.outgoing.text = [])) := by
  refine ⟨?_, ?_, fun s s' out e => segments_fin_last s s' out e⟩
  · intro s s' r e hne
    rcases close_cases e with rfl | ⟨st, rfl, -⟩
    · exact ⟨rfl, rfl, rfl⟩
    · rw [if_neg (fun h => hne (List.isEmpty_iff.1 h))]
      exact ⟨rfl, rfl, rfl⟩
  · intro s s' r e t ht hfin
    rcases close_cases e with rfl | ⟨st, rfl, -⟩
    · exact Or.inl ht
    · by_cases hc : s.outgoing.text.isEmpty = true
      · rw [if_pos hc] at ht ⊢
        rcases finQueued_last _ t ht with h | ⟨h1, h2⟩
        · exact Or.inl h
        · exact Or.inr ⟨h1, h2, (congrArg (·.outgoing.text) (finQueued_eq _)).trans (List.isEmpty_iff.1 hc)⟩
      · rw [if_neg hc] at ht
        exact Or.inl ht

/-- the total time advanced by a list of calls -/
def ticks : List Call → Nat
  | [] => 0
  | .advanceTime ms :: cs => ms + ticks cs
  | _ :: cs => ticks cs

/-- no segment arrives, and the application does not `abort` -/
def quietCall : Call → Prop
  | .segmentArrives _ => False
  | .abort => False
  | _ => True

/-- **Release** (building blocks, each at full strength for a single endpoint):

    1. LAST-ACK with its FIN formed and outstanding: an acceptable segment whose ACK acknowledges
       everything (`SEG.ACK = SND.NXT`) makes `process_segment` return `FinalizeClose` — the
       TCB is deleted by the final ACK.
    2. TIME-WAIT: a segment with neither FIN nor RST leaves the state and the running 2·MSL
       timer alone (before the repair of F-C03-1 every ACK restarted it).
    3. TIME-WAIT left alone (any sequence of `advance_time`, `send`, `receive`, `close`, `segments`)
       is deleted as soon as more virtual time than is left on the timer — at most 2·MSL — has
       passed.

    `_partial`: the closed two-endpoint statement "once both sides closed and delivery is fair,
    both TCBs are deleted within 2·MSL + RTO" is a liveness property of the whole system: stated as
    `C03ReleaseStatement` in `Props/C03Release.lean` and proved there and in `Props/C03Release2.lean` for fair
    schedules from converged states; it is evaluated on the real code by the release oracle of the harness
    after every schedule (`not-released …`, `no-quiescence`, `not-silent`). -/
theorem c03_release_partial :
    (∀ (s : Tcb) (segment : Segment), s.state = .LastAck → s.outgoing.text = [] →
      0 < (s.snd.nxt - s.snd.una).toNat → (s.snd.nxt - s.snd.una).toNat < 2147483648 →
      s.isSeqOk (BitVec.ofNat 32 segment.text.length) segment.hdr.seq segment.hdr.ctl.syn
        segment.hdr.ctl.fin = .ok true →
      segment.hdr.ctl.ack = true → segment.hdr.ack = s.snd.nxt →
      ∃ s', s.processSegment segment = .ok (s', .FinalizeClose)) ∧
    (∀ (s : Tcb) (segment : Segment) s' r, s.state = .TimeWait → segment.hdr.ctl.fin = false →
      segment.hdr.ctl.rst = false → s.processSegment segment = .ok (s', r) →
      s'.state = .TimeWait ∧ s'.timeouts.timeWait = s.timeouts.timeWait ∧ r.shouldDeleteTcb = false) ∧
    (∀ (s : Tcb) (tw : Nat) (cs : List Call), Wf s → s.state = .TimeWait →
      s.timeouts.timeWait = some tw → (∀ c ∈ cs, quietCall c) → tw < ticks cs →
      Tcb.run (some s) cs = .ok none) := by
  refine ⟨processSegment_lastAck_release, ?_, ?_⟩
  · intro s segment s' r hst hfin hrst e
    obtain ⟨k, hr⟩ := processSegment_timeWait_quiet s segment hst hfin hrst s' r e
    exact ⟨k.state.trans hst, k.tw, hr⟩
  · intro s tw cs
    induction cs generalizing s tw with
    | nil => intro _ _ _ _ h; simp [ticks] at h
    | cons c cs ih =>
      intro hw hst htw hq hsum
      have hi : HeapIdle s := fun h => by rw [hst] at h; simp at h
      have hqc := hq c (by simp)
      have hq' : ∀ c ∈ cs, quietCall c := fun c hc => hq c (by simp [hc])
      -- a call that leaves the TCB in TIME-WAIT with less on the timer than the calls that follow advance
      have next : ∀ {s1 : Tcb} (tw1 : Nat), c.Valid → Called s c (some s1) → s1.state = .TimeWait →
          s1.timeouts.timeWait = some tw1 → tw1 < ticks cs → Tcb.run (some s) (c :: cs) = .ok none := by
        intro s1 tw1 hv k st1 htw1 hlt
        obtain ⟨r', e', wf'⟩ := c17_total s hw hi c hv
        cases (call_iff.2 k).symm.trans e'
        simp only [Tcb.run, e']
        exact ih s1 tw1 (wf' s1 rfl).1 st1 htw1 hq' hlt
      -- in particular one that keeps state and timer and advances no time
      have keep : ∀ {s1 : Tcb}, c.Valid → Called s c (some s1) → Keep s s1 → ticks (c :: cs) = ticks cs →
          Tcb.run (some s) (c :: cs) = .ok none :=
        fun hv k kp ht => next tw hv k (kp.state.trans hst) (kp.tw.trans htw) (ht ▸ hsum)
      cases c with
      | segmentArrives seg => exact absurd hqc (by simp [quietCall])
      | abort => exact absurd hqc (by simp [quietCall])
      | advanceTime ms =>
        obtain ⟨hdel, hkeep⟩ := advanceTime_timeWait s ms tw htw
        by_cases h : tw < ms
        · obtain ⟨s1, e1⟩ := hdel h
          simp only [Tcb.run, call_iff.2 (.expire e1)]
        · obtain ⟨s1, e1, st1, tw1⟩ := hkeep (by omega)
          exact next (tw - ms) trivial (.tick e1) (st1.trans hst) tw1 (by simp only [ticks] at hsum; omega)
      | send bytes => exact keep trivial (.send bytes) (send_keep s bytes) rfl
      | receive => exact keep trivial .receive (receive_keep s) rfl
      | close =>
        have e : s.close = .ok (s, .ConnectionClosing) := by rw [close_eq, if_neg (by rw [hst]; simp), if_neg (by rw [hst]; simp)]
        exact keep trivial (.close e) (Keep.refl _) rfl
      | segments =>
        obtain ⟨s1, out, e1, _, _⟩ := segments_spec s hw
        exact keep trivial (.segments e1) (segments_keep s s1 out e1) rfl

end C03
end Elvis.Tcp
