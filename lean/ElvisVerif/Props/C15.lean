import ElvisVerif.Lemmas.IpGenFetch
import ElvisVerif.Lemmas.ListSet
/-!
# C15 — Address allocation never hands the same address to two holders (generator part)

The DHCP clause is in `Props/C15Dhcp.lean`.

`avail g a` = "address `a` lies in some free range of generator `g`".
`Net.WF n k` = `n` is a value `Ipv4Net`'s public constructors can build, with `k` host bits
(mask `2^32 - 2^k`, id aligned to `2^k`); `inNet n k a` = `id ≤ a ≤ id + 2^k - 1`.
`Sorted`/`Bounded` = the representation invariant (BTreeSet order, all bounds are `u32`).
Every spec also says *no panic* (`… = .ok …`).
-/
namespace Elvis.IpGen

/-- masks only come from `Ipv4Mask::from_bitcount` (or the validated `try_from`) -/
theorem c15_mask_of_bitcount (len : Nat) : fromBitcount len = 2 ^ 32 - 2 ^ (32 - min len 32) := by
  unfold fromBitcount
  by_cases h : len > 32
  · have : min len 32 = 32 := by omega
    simp [h, this]
  · have hm : min len 32 = len := by omega
    simp only [h, if_false, hm]
    by_cases h0 : len = 0
    · subst h0; simp
    · by_cases h32 : len = 32
      · subst h32; simp
      · have e0 : (len == 0) = false := by simp [h0]
        have e32 : (len == 32) = false := by simp [h32]
        simp only [e0, e32, Nat.shiftLeft_eq, Nat.one_mul]
        have hp : 2 ^ len * 2 ^ (32 - len) = 2 ^ 32 := by rw [← Nat.pow_add]; congr 1; omega
        rw [Nat.sub_mul, hp]; simp

/-- everything `Ipv4Net::new` / `new_short` / `new_1` builds is well formed -/
theorem c15_net_wf (ip len : Nat) (hip : ip < 2 ^ 32) :
    (Net.newShort ip len).WF (32 - min len 32) ∧ (Net.new1 ip).WF 0 := by
  refine ⟨?_, Net.new1_WF ip hip⟩
  unfold Net.newShort; rw [c15_mask_of_bitcount]
  exact (Net.new_WF ip _ (by omega) hip).1

/-- `block_subnet`: never panics, keeps the invariant, removes exactly the net's addresses
    (from every free range, also overlapping ones). -/
theorem c15_block_spec (g : Gen) (n : Net) (k : Nat) (hs : Sorted g) (hb : Bounded g) (hn : n.WF k) :
    ∃ g', blockSubnet g n = .ok g' ∧ Sorted g' ∧ Bounded g' ∧
      ∀ a, avail g' a ↔ avail g a ∧ ¬ inNet n k a := by
  obtain ⟨g', he, hs', hb', hav⟩ := blockRange_spec g (n.id, n.id + (2 ^ k - 1)) (Net.range_le hn) hb
  refine ⟨g', ?_, hs' hs, hb', hav⟩
  unfold blockSubnet; rw [Net.toRange_WF hn]; exact he

/-- `return_subnet` (and `return_ip`, `k = 0`): never panics, keeps the invariant, makes exactly
    the net's addresses available in addition. -/
theorem c15_return_spec (g : Gen) (n : Net) (k : Nat) (hs : Sorted g) (hb : Bounded g) (hn : n.WF k) :
    ∃ g', returnSubnet g n = .ok g' ∧ Sorted g' ∧ Bounded g' ∧
      ∀ a, avail g' a ↔ avail g a ∨ inNet n k a := by
  refine ⟨insert (n.id, n.id + (2 ^ k - 1)) g, ?_, sorted_insert _ _ hs,
    bounded_insert hb (Net.range_le hn), ?_⟩
  · unfold returnSubnet; rw [Net.toRange_WF hn]; rfl
  · intro a; rw [avail_insert]; exact Or.comm

theorem c15_return_ip_spec (g : Gen) (ip : Nat) (hs : Sorted g) (hb : Bounded g) (hip : ip < 2 ^ 32) :
    ∃ g', returnIp g ip = .ok g' ∧ Sorted g' ∧ Bounded g' ∧ ∀ a, avail g' a ↔ avail g a ∨ a = ip := by
  obtain ⟨g', he, h1, h2, h3⟩ := c15_return_spec g (Net.new1 ip) 0 hs hb (Net.new1_WF ip hip)
  refine ⟨g', he, h1, h2, fun a => ?_⟩
  have : inNet (Net.new1 ip) 0 a ↔ a = ip := by unfold inNet Net.new1; simp; omega
  rw [h3 a, this]

/-- `fetch_net(mask)`: never panics.  `Some(net)`: the net has the requested mask, is aligned
    (`Net.WF`), lay entirely in the free space before, is gone from the free space after, and
    nothing else changed.  `None`: the generator is unchanged. -/
theorem c15_fetch_spec (g : Gen) (k : Nat) (hk : k ≤ 32) (hs : Sorted g) (hb : Bounded g) :
    ∃ g' r, fetchNet g (2 ^ 32 - 2 ^ k) = .ok (g', r) ∧ Sorted g' ∧ Bounded g' ∧
      (match r with
       | some n => n.WF k ∧ n.mask = 2 ^ 32 - 2 ^ k ∧ n.id % 2 ^ k = 0 ∧
                   (∀ a, inNet n k a → avail g a) ∧
                   (∀ a, inNet n k a → ¬ avail g' a) ∧
                   (∀ a, avail g' a ↔ avail g a ∧ ¬ inNet n k a)
       | none => g' = g) := by
  obtain ⟨res, he, hspec⟩ := fetchLoop_spec g k hk g hb
  obtain ⟨g', r⟩ := res
  refine ⟨g', r, he, ?_⟩
  cases r with
  | none => rw [hspec.1]; exact ⟨hs, hb, rfl⟩
  | some n =>
    obtain ⟨hwf, ⟨av, hav, h1, h2⟩, hbr⟩ := hspec
    obtain ⟨g'', he', hs', hb', hav'⟩ :=
      blockRange_spec g (n.id, n.id + (2 ^ k - 1)) (Net.range_le hwf) hb
    rw [hbr] at he'; cases he'
    refine ⟨hs' hs, hb', hwf, hwf.2.1, hwf.2.2.1, ?_, ?_, hav'⟩
    · intro a ha; exact ⟨av, hav, by unfold inNet at ha; unfold inR; omega⟩
    · intro a ha h; exact ((hav' a).1 h).2 ha

/-- `fetch_net` answers `None` exactly when no single free range contains an aligned block of the
    requested size.  (Free ranges are never merged: see `c15_fetch_net_fragmented`.) -/
theorem c15_fetch_net_none (g : Gen) (k : Nat) (hk : k ≤ 32) (hb : Bounded g) :
    (∃ g', fetchNet g (2 ^ 32 - 2 ^ k) = .ok (g', none)) ↔
    ∀ av ∈ g, ∀ id, id % 2 ^ k = 0 → av.1 ≤ id → ¬ (id + (2 ^ k - 1) ≤ av.2) := by
  obtain ⟨res, he, hspec⟩ := fetchLoop_spec g k hk g hb
  obtain ⟨g', r⟩ := res
  constructor
  · rintro ⟨g'', he'⟩
    unfold fetchNet at he'; rw [he] at he'
    cases he'
    exact hspec.2
  · intro hno
    cases r with
    | none => exact ⟨g', he⟩
    | some n =>
      exfalso
      obtain ⟨hwf, ⟨av, hav, h1, h2⟩, _⟩ := hspec
      exact hno av hav n.id hwf.2.2.1 h1 h2

/-- the free space can hold an aligned /31 while `fetch_net(/31)` says `None`: two adjacent
    returned /32 are two ranges.  (Safe direction: `None` never double-allocates.) -/
theorem c15_fetch_net_fragmented :
    ∃ g, returnIp [(0, 0)] 1 = .ok g ∧ avail g 0 ∧ avail g 1 ∧
      fetchNet g (fromBitcount 31) = .ok (g, none) := by
  exact ⟨[(0, 0), (1, 1)], rfl, ⟨(0, 0), by simp, by simp [inR]⟩, ⟨(1, 1), by simp, by simp [inR]⟩, rfl⟩

/-- `fetch_ip`: `None` iff nothing at all is available ("reports exhaustion"). -/
theorem c15_fetch_ip_none_iff (g : Gen) (hb : Bounded g) :
    (∃ g', fetchIp g = .ok (g', none)) ↔ ∀ a, ¬ avail g a := by
  have hiff : (∃ g', fetchIp g = .ok (g', none)) ↔ (∃ g', fetchNet g (2 ^ 32 - 2 ^ 0) = .ok (g', none)) := by
    obtain ⟨⟨g1, r⟩, he, _⟩ := fetchLoop_spec g 0 (by omega) g hb
    unfold fetchIp
    rw [fromBitcount_32, show fetchNet g (2 ^ 32 - 2 ^ 0) = .ok (g1, r) from he]
    cases r with
    | none => exact ⟨fun _ => ⟨g1, rfl⟩, fun _ => ⟨g1, rfl⟩⟩
    | some n => exact ⟨fun ⟨_, h⟩ => (nomatch h), fun ⟨_, h⟩ => (nomatch h)⟩
  rw [hiff, c15_fetch_net_none g 0 (by omega) hb]
  constructor
  · intro h a ⟨r, hr, hin⟩
    exact h r hr a (Nat.mod_one _) hin.1 (by have := hin.2; simpa using this)
  · intro h av hav id _ h1 h2
    exact h id ⟨av, hav, h1, by simpa using h2⟩

/-- `fetch_ip` = `fetch_net(/32)` then `.id()`: the address was available, is not afterwards. -/
theorem c15_fetch_ip_spec (g : Gen) (hs : Sorted g) (hb : Bounded g) :
    ∃ g' r, fetchIp g = .ok (g', r) ∧ Sorted g' ∧ Bounded g' ∧
      (match r with
       | some ip => ip < 2 ^ 32 ∧ avail g ip ∧ ∀ a, avail g' a ↔ avail g a ∧ a ≠ ip
       | none => g' = g) := by
  obtain ⟨g', r, he, hs', hb', hspec⟩ := c15_fetch_spec g 0 (by omega) hs hb
  refine ⟨g', r.map (·.id), ?_, hs', hb', ?_⟩
  · unfold fetchIp; rw [fromBitcount_32, he]
  · cases r with
    | none => exact hspec
    | some n =>
      simp only [Option.map] at hspec ⊢
      obtain ⟨hwf, _, _, h1, _, h3⟩ := hspec
      refine ⟨hwf.2.2.2, h1 n.id (by unfold inNet; omega), fun a => ?_⟩
      rw [h3 a]; unfold inNet; simp; omega

/-- `is_available`, as coded: `true` exactly when NO free range contains the whole net
    (the name suggests the opposite; both callers rely on this polarity). -/
theorem c15_is_available_spec (g : Gen) (n : Net) (k : Nat) (hn : n.WF k) :
    isAvailable g n = .ok (decide (¬ ∃ av ∈ g, av.1 ≤ n.id ∧ n.id + (2 ^ k - 1) ≤ av.2)) := by
  unfold isAvailable; rw [Net.toRange_WF hn]
  dsimp only
  congr 1
  rw [Bool.eq_iff_iff]
  simp [contains]

theorem c15_new_spec (r : Range) (hr : r.1 ≤ U32MAX ∧ r.2 ≤ U32MAX) :
    Sorted (new r) ∧ Bounded (new r) ∧ ∀ a, avail (new r) a ↔ r.1 ≤ a ∧ a ≤ r.2 := by
  refine ⟨sorted_insert r [] List.Pairwise.nil, bounded_insert bounded_nil hr, fun a => ?_⟩
  show avail (insert r []) a ↔ _
  rw [avail_insert]; exact or_iff_left (not_avail_nil a)

theorem c15_new_sub_spec (n : Net) (k : Nat) (hn : n.WF k) :
    ∃ g, newSub n = .ok g ∧ Sorted g ∧ Bounded g ∧ ∀ a, avail g a ↔ inNet n k a := by
  have h := c15_new_spec (n.id, n.id + (2 ^ k - 1)) (Net.range_le hn)
  exact ⟨_, by unfold newSub; rw [(Net.broadcast_WF hn).1], h.1, h.2.1, h.2.2⟩

/-- `new_sub_no_ends`: exactly the host addresses, i.e. the subnet minus its
    network id and its broadcast address; nothing for /31 and /32. -/
theorem c15_sub_no_ends_spec (n : Net) (k : Nat) (hn : n.WF k) :
    ∃ g, newSubNoEnds n = .ok g ∧ Sorted g ∧ Bounded g ∧
      ∀ a, avail g a ↔ n.id < a ∧ a < n.id + (2 ^ k - 1) := by
  obtain ⟨hb, hle⟩ := Net.broadcast_WF hn
  unfold newSubNoEnds
  rw [hb]
  dsimp only
  rw [add_one, add_neg_one]
  by_cases h1 : n.id < U32MAX
  · by_cases h2 : 0 < n.id + (2 ^ k - 1)
    · rw [if_pos h1, if_pos h2]
      have h := c15_new_spec (n.id + 1, n.id + (2 ^ k - 1) - 1) ⟨by show n.id + 1 ≤ U32MAX; omega, by show _ - 1 ≤ U32MAX; omega⟩
      refine ⟨_, rfl, h.1, h.2.1, fun a => ?_⟩
      rw [h.2.2 a]; simp only; omega
    · rw [if_pos h1, if_neg h2]
      exact ⟨none_, rfl, List.Pairwise.nil, bounded_nil, fun a => iff_of_false (not_avail_nil a) (by omega)⟩
  · rw [if_neg h1]
    exact ⟨none_, rfl, List.Pairwise.nil, bounded_nil, fun a => iff_of_false (not_avail_nil a) (by omega)⟩

/-- F-C15-1: `new_sub_no_ends` before its `fix:` commit (`newSubNoEndsOrig`) computes its end from
    `net.id()` instead of `net.broadcast()`; for 10.0.0.0/24 it stores the empty range
    `10.0.0.1 ..= 9.255.255.255` and offers none of the 254 host addresses. -/
theorem c15_sub_no_ends_counterexample :
    ∃ g, newSubNoEndsOrig (Net.newShort 0x0A000000 24) = .ok g ∧ (∀ a, ¬ avail g a) ∧
      (Net.newShort 0x0A000000 24).id < 0x0A000001 ∧
      0x0A000001 < (Net.newShort 0x0A000000 24).id + (2 ^ 8 - 1) := by
  refine ⟨[(0x0A000001, 0x09FFFFFF)], rfl, ?_, by decide, by decide⟩
  rintro a ⟨r, hr, hin⟩
  rw [List.mem_singleton] at hr; subst hr
  unfold inR at hin; simp at hin; omega

/-- generator + ghost state: who holds what, what is blocked, what the pool is -/
structure Sys where
  g : Gen
  /-- outstanding nets (handed out by `fetch_*`, not yet returned) with their host-bit count -/
  held : List (Net × Nat)
  /-- addresses currently blocked by `block_subnet` (a later return un-blocks) -/
  blocked : Nat → Prop
  /-- the configured pool: initially free addresses plus everything donated by returns -/
  pool : Nat → Prop

inductive Op
  /-- `block_subnet(n)` -/
  | block (n : Net) (k : Nat)
  /-- `fetch_net(mask with k host bits)`; `k = 0` is `fetch_ip` -/
  | fetch (k : Nat)
  /-- `return_subnet(n)` / `return_ip` of something that is held -/
  | ret (n : Net) (k : Nat)
  /-- `return_subnet(n)` of addresses nobody holds: enlarges the pool ("unions created by returns") -/
  | donate (n : Net) (k : Nat)

/-- the histories the property quantifies over: anything may be blocked or fetched,
    only held nets are returned, donations do not touch held nets -/
def Op.valid (s : Sys) : Op → Prop
  | .block n k => n.WF k
  | .fetch k => k ≤ 32
  | .ret n k => (n, k) ∈ s.held
  | .donate n k => n.WF k ∧ ∀ h ∈ s.held, ∀ a, inNet h.1 h.2 a → ¬ inNet n k a

def step (s : Sys) : Op → Except String Sys
  | .block n k =>
    match blockSubnet s.g n with
    | .error e => .error e
    | .ok g' => .ok { s with g := g', blocked := fun a => s.blocked a ∨ inNet n k a }
  | .fetch k =>
    match fetchNet s.g (2 ^ 32 - 2 ^ k) with
    | .error e => .error e
    | .ok (g', none) => .ok { s with g := g' }
    | .ok (g', some n) => .ok { s with g := g', held := (n, k) :: s.held }
  | .ret n k =>
    match returnSubnet s.g n with
    | .error e => .error e
    | .ok g' => .ok { s with g := g', held := s.held.erase (n, k),
                             blocked := fun a => s.blocked a ∧ ¬ inNet n k a }
  | .donate n k =>
    match returnSubnet s.g n with
    | .error e => .error e
    | .ok g' => .ok { s with g := g', pool := fun a => s.pool a ∨ inNet n k a,
                             blocked := fun a => s.blocked a ∧ ¬ inNet n k a }

def disjointNets (h1 h2 : Net × Nat) : Prop := ∀ a, inNet h1.1 h1.2 a → ¬ inNet h2.1 h2.2 a

structure Inv (s : Sys) : Prop where
  sorted : Sorted s.g
  bounded : Bounded s.g
  heldWF : ∀ h ∈ s.held, h.1.WF h.2
  heldDisjoint : s.held.Pairwise disjointNets
  heldNotAvail : ∀ h ∈ s.held, ∀ a, inNet h.1 h.2 a → ¬ avail s.g a ∧ s.pool a
  availInPool : ∀ a, avail s.g a → s.pool a
  blockedNotAvail : ∀ a, s.blocked a → ¬ avail s.g a

def init (g0 : Gen) : Sys := { g := g0, held := [], blocked := fun _ => False, pool := avail g0 }

inductive Reach (s0 : Sys) : Sys → Prop
  | init : Reach s0 s0
  | step {s s' : Sys} (op : Op) : Reach s0 s → op.valid s → step s op = .ok s' → Reach s0 s'

theorem disjointNets_symm (a b : Net × Nat) (h : disjointNets a b) : disjointNets b a :=
  fun x hb ha => h x ha hb

theorem Inv.returned {s : Sys} (hi : Inv s) {g' : Gen} {n : Net} {k : Nat} {held' : List (Net × Nat)}
    {pool' : Nat → Prop} (hs' : Sorted g') (hb' : Bounded g')
    (hav : ∀ a, avail g' a ↔ avail s.g a ∨ inNet n k a) (hheld : held'.Sublist s.held)
    (hdis : ∀ h ∈ held', ∀ a, inNet h.1 h.2 a → ¬ inNet n k a)
    (hpool : ∀ a, s.pool a ∨ inNet n k a → pool' a) :
    Inv { g := g', held := held', pool := pool', blocked := fun a => s.blocked a ∧ ¬ inNet n k a } := by
  refine ⟨hs', hb', fun h hh => hi.heldWF h (hheld.subset hh), hi.heldDisjoint.sublist hheld, ?_, ?_, ?_⟩
  · intro h hh a ha
    have := hi.heldNotAvail h (hheld.subset hh) a ha
    exact ⟨fun h' => ((hav a).1 h').elim this.1 (hdis h hh a ha), hpool a (.inl this.2)⟩
  · intro a h'
    exact hpool a (((hav a).1 h').imp_left (hi.availInPool a))
  · intro a hbl h'
    exact ((hav a).1 h').elim (hi.blockedNotAvail a hbl.1) hbl.2

theorem c15_step_inv (s : Sys) (op : Op) (hi : Inv s) (hv : op.valid s) :
    ∃ s', step s op = .ok s' ∧ Inv s' := by
  cases op with
  | block n k =>
    obtain ⟨g', he, hs', hb', hav⟩ := c15_block_spec s.g n k hi.sorted hi.bounded hv
    refine ⟨{ s with g := g', blocked := fun a => s.blocked a ∨ inNet n k a },
      by simp only [step]; rw [he], ⟨hs', hb', hi.heldWF, hi.heldDisjoint, ?_, ?_, ?_⟩⟩
    · intro h hh a ha
      have := hi.heldNotAvail h hh a ha
      exact ⟨fun h' => this.1 ((hav a).1 h').1, this.2⟩
    · intro a h'; exact hi.availInPool a ((hav a).1 h').1
    · intro a hbl h'
      have := (hav a).1 h'
      rcases hbl with hbl | hbl
      · exact hi.blockedNotAvail a hbl this.1
      · exact this.2 hbl
  | fetch k =>
    obtain ⟨g', r, he, hs', hb', hspec⟩ := c15_fetch_spec s.g k hv hi.sorted hi.bounded
    cases r with
    | none =>
      simp only at hspec
      subst hspec
      exact ⟨{ s with g := s.g }, by simp only [step]; rw [he], ⟨hs', hb', hi.heldWF, hi.heldDisjoint,
        hi.heldNotAvail, hi.availInPool, hi.blockedNotAvail⟩⟩
    | some n =>
      simp only at hspec
      obtain ⟨hwf, _, _, hsub, hgone, hav⟩ := hspec
      refine ⟨{ s with g := g', held := (n, k) :: s.held },
        by simp only [step]; rw [he], ⟨hs', hb', ?_, ?_, ?_, ?_, ?_⟩⟩
      · intro h hh
        rcases List.mem_cons.1 hh with rfl | hh
        · exact hwf
        · exact hi.heldWF h hh
      · refine List.pairwise_cons.2 ⟨?_, hi.heldDisjoint⟩
        intro h hh a ha hha
        exact (hi.heldNotAvail h hh a hha).1 (hsub a ha)
      · intro h hh a ha
        rcases List.mem_cons.1 hh with rfl | hh
        · exact ⟨hgone a ha, hi.availInPool a (hsub a ha)⟩
        · have := hi.heldNotAvail h hh a ha
          exact ⟨fun h' => this.1 ((hav a).1 h').1, this.2⟩
      · intro a h'; exact hi.availInPool a ((hav a).1 h').1
      · intro a hbl h'; exact hi.blockedNotAvail a hbl ((hav a).1 h').1
  | ret n k =>
    obtain ⟨g', he, hs', hb', hav⟩ :=
      c15_return_spec s.g n k hi.sorted hi.bounded (hi.heldWF (n, k) hv)
    refine ⟨_, by simp only [step]; rw [he], hi.returned hs' hb' hav List.erase_sublist ?_ ?_⟩
    · intro h hh a ha hn
      exact List.pairwise_rel_others disjointNets_symm hi.heldDisjoint (List.perm_cons_erase hv) h hh a hn ha
    · intro a h
      exact h.elim id fun hn => (hi.heldNotAvail (n, k) hv a hn).2
  | donate n k =>
    obtain ⟨g', he, hs', hb', hav⟩ := c15_return_spec s.g n k hi.sorted hi.bounded hv.1
    exact ⟨_, by simp only [step]; rw [he],
      hi.returned hs' hb' hav (List.Sublist.refl _) hv.2 fun _ h => h⟩

/-- **C15, generator**: over ANY history of block / fetch_ip / fetch_net / return operations in
    which only held nets are returned (plus pool-extending returns of unheld addresses), starting
    from any well-formed generator: outstanding holdings are pairwise disjoint, nothing held and
    nothing blocked is on offer, and every holding and every offer lies inside the pool. -/
theorem c15_unique (g0 : Gen) (hs : Sorted g0) (hb : Bounded g0) (s : Sys) (hr : Reach (init g0) s) :
    Inv s := by
  induction hr with
  | init =>
    exact ⟨hs, hb, fun _ h => (by cases h), List.Pairwise.nil, fun _ h => (by cases h),
      fun _ h => h, fun _ h => h.elim⟩
  | step op _ hv he ih =>
    obtain ⟨s'', he', hi'⟩ := c15_step_inv _ op ih hv
    rw [he] at he'; cases he'; exact hi'

theorem c15_no_panic (g0 : Gen) (hs : Sorted g0) (hb : Bounded g0) (s : Sys) (hr : Reach (init g0) s)
    (op : Op) (hv : op.valid s) : ∃ s', step s op = .ok s' :=
  let ⟨s', h, _⟩ := c15_step_inv s op (c15_unique g0 hs hb s hr) hv
  ⟨s', h⟩

/-- what a fetch hands out, in any reachable state: an aligned net of the requested size, inside
    the pool, not blocked, disjoint from everything still held; `None` changes nothing. -/
theorem c15_fetch_fresh (g0 : Gen) (hs : Sorted g0) (hb : Bounded g0) (s : Sys) (hr : Reach (init g0) s)
    (k : Nat) (hk : k ≤ 32) (g' : Gen) (n : Net) (he : fetchNet s.g (2 ^ 32 - 2 ^ k) = .ok (g', some n)) :
    n.WF k ∧ ∀ a, inNet n k a → s.pool a ∧ ¬ s.blocked a ∧ ∀ h ∈ s.held, ¬ inNet h.1 h.2 a := by
  have hi := c15_unique g0 hs hb s hr
  obtain ⟨g'', r, he', _, _, hspec⟩ := c15_fetch_spec s.g k hk hi.sorted hi.bounded
  rw [he] at he'; cases he'
  simp only at hspec
  obtain ⟨hwf, _, _, hsub, _, _⟩ := hspec
  refine ⟨hwf, fun a ha => ⟨hi.availInPool a (hsub a ha), fun hbl => hi.blockedNotAvail a hbl (hsub a ha),
    fun h hh hha => (hi.heldNotAvail h hh a hha).1 (hsub a ha)⟩⟩

theorem c15_returned_available (s s' : Sys) (n : Net) (k : Nat) (hi : Inv s) (hv : (Op.ret n k).valid s)
    (he : step s (.ret n k) = .ok s') : ∀ a, inNet n k a → avail s'.g a := by
  have hwf := hi.heldWF (n, k) hv
  obtain ⟨g', he', _, _, hav⟩ := c15_return_spec s.g n k hi.sorted hi.bounded hwf
  simp only [step] at he
  rw [he'] at he; cases he
  intro a ha; exact (hav a).2 (.inr ha)

/-- the hypotheses are satisfiable by a non-trivial generator: 10.0.0.0/24 with .7 blocked -/
example : ∃ g, blockSubnet (new (0x0A000000, 0x0A0000FF)) (Net.new1 0x0A000007) = .ok g ∧
    g = [(0x0A000000, 0x0A000006), (0x0A000008, 0x0A0000FF)] ∧ Sorted g ∧ Bounded g := by
  refine ⟨[(0x0A000000, 0x0A000006), (0x0A000008, 0x0A0000FF)], rfl, rfl, by unfold Sorted; decide, ?_⟩
  intro r hr; simp at hr; rcases hr with rfl | rfl <;> decide

/-- a reachable state with one holding, to show `Reach`/`valid` are inhabited -/
example : ∃ s, Reach (init (new (0, 255))) s ∧ s.held.length = 1 := by
  have h1 : step (init (new (0, 255))) (.fetch 0) =
      .ok { init (new (0, 255)) with g := [(1, 255)], held := [(⟨0, 4294967295⟩, 0)] } := rfl
  exact ⟨_, Reach.step (.fetch 0) Reach.init (by show 0 ≤ 32; omega) h1, rfl⟩

end Elvis.IpGen
