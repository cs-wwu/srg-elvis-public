import ElvisVerif.Props.C14e
import ElvisVerif.Props.C04
import ElvisVerif.Props.C05
import ElvisVerif.Props.C08
/-!
# C04 across the link: from `UdpSession::send` on one machine to the applications on the others

`c04_end_to_end` composes

* the encoders (C08: `c08_udp_decode_encode`, `c08_ipv4_build_decode`): what `UdpSession::send`
  and `Ipv4Session::send` put in front of the payload decodes, on the other side, to the ports
  and addresses of the sending session;
* the link (C05: `sendPci`, `recipients`/`deliver`, `c05_unicast_exact`, `c05_broadcast_all_others`,
  `c05_payload_sender_unchanged`): which taps a frame that is not lost is handed to, unchanged;
* the receive path over bytes (`Model/RecvPath.lean`), which on such a frame does what the table
  model of C04 does on the decoded one (`receive_refines`), so that `demux_datagram` applies.

Unlike in `Props/C04.lean`, the frame is a byte string and the decoders are the models of C08.
-/
namespace Elvis.Recv
open Elvis.Codec Elvis.Demux

/-- what the sending sessions put on the wire for `payload` from `src` to `dst`:
    `build_udp_header` over the payload (`UdpSession::send`), then an IPv4 header for protocol 17,
    unfragmented, with the session's addresses (`Ipv4Session::send`) -/
def Sent (ck : Bool) (src dst : Endpoint) (payload wire : Bytes) : Prop :=
  ∃ (b : Ipv4.Builder) (ih uh : Bytes),
    b.Wf ∧ b.protocol = 17 ∧ b.source = src.addr ∧ b.destination = dst.addr ∧
    b.fragmentOffset = 0 ∧ Elvis.Frag.isLast b.flags = true ∧
    -- `Ipv4HeaderBuilder::new(.., length as u16)` with `length` = the octets of the UDP datagram:
    -- the total length is that of the frame (a receiver cuts the frame at the total length and drops
    -- a frame that is shorter: finding F-C14-S3 of DESIGN.md)
    b.payloadLength = 8 + payload.length ∧
    (Udp.Dgram.mk src.addr src.port dst.addr dst.port payload).Wf ∧
    Ipv4.build ck b = .ok ih ∧
    Udp.build ck src.addr src.port dst.addr dst.port payload payload.length = .ok uh ∧
    wire = ih ++ (uh ++ payload)

theorem sent_decodes {ck : Bool} {src dst : Endpoint} {payload wire : Bytes} (h : Sent ck src dst payload wire) :
    ∃ hd uh, Ipv4.fromBytes ck wire = .ok hd ∧ hd.source = src.addr ∧ hd.destination = dst.addr ∧
      hd.protocol = 17 ∧ (Elvis.Frag.isLast hd.flags && hd.fragmentOffset == 0) = true ∧
      Udp.fromBytes ck (wire.drop 20) (wire.drop 20).length hd.source hd.destination = .ok uh ∧
      uh.source = src.port ∧ uh.destination = dst.port ∧ (wire.drop 20).drop 8 = payload ∧
      hd.totalLength = wire.length := by
  obtain ⟨b, ih, uh, hb, hp, hs, hd, hfo, hlast, hpl, hdw, hbi, hbu, rfl⟩ := h
  obtain ⟨ih', e1, l1, dec1⟩ := Ipv4.c08_ipv4_build_decode ck b hb (uh ++ payload)
  rw [hbi] at e1; cases e1
  obtain ⟨uh', e2, l2, dec2⟩ := Udp.c08_udp_decode_encode ck ⟨src.addr, src.port, dst.addr, dst.port, payload⟩ hdw
  simp only at e2 dec2
  rw [hbu] at e2; cases e2
  have hdrop : (ih ++ (uh ++ payload)).drop 20 = uh ++ payload := by
    rw [← l1, List.drop_left]
  have hlen : (uh ++ payload).length = 8 + payload.length := by simp [l2]
  refine ⟨b.header ck, (Udp.Dgram.mk src.addr src.port dst.addr dst.port payload).header ck, dec1,
    hs, hd, hp, ?_, ?_, rfl, rfl, ?_, ?_⟩
  · simp [Ipv4.Builder.header, hlast, hfo]
  · rw [hdrop, hlen]
    simp only [Ipv4.Builder.header, hs, hd]
    exact dec2
  · rw [hdrop, ← l2, List.drop_left]
  · simp only [Ipv4.Builder.header, hpl, List.length_append, l1, l2]
    omega

/-- where the datagram ends up on ONE machine: the exact binding, else the wildcard binding,
    else nowhere -/
def AtMachine (env : Env) (m : Machine) (lk : Link) (src dst : Endpoint) (payload wire : Bytes) : Prop :=
  match lookup dst m.dm.udp with
  | some app =>
    receive env m lk ⟨pidIpv4, wire⟩ =
      .ok { machine := m, ret := .ok (), effects := [.appDemux ⟨app, payload, dst, src, lk.slot⟩],
            calls := [pidIpv4, pidUdp] }
  | none =>
    match lookup (⟨anyAddr, dst.port⟩ : Endpoint) m.dm.udp with
    | some app =>
      receive env m lk ⟨pidIpv4, wire⟩ =
        .ok { machine := m, ret := .ok (), effects := [.appDemux ⟨app, payload, dst, src, lk.slot⟩],
              calls := [pidIpv4, pidUdp] }
    | none => ∃ calls, receive env m lk ⟨pidIpv4, wire⟩ = .ok (dropped m .missingSession calls)

/-- how `PciSession::receive` reports what the table model (`Demux.demux`) makes of a UDP datagram -/
def reported (m : Machine) : Except Drop Delivered → Except String Result
  | .ok d => .ok { machine := m, ret := .ok (), effects := [.appDemux d], calls := [pidIpv4, pidUdp] }
  | .error .ipMissingSession => .ok (dropped m .missingSession [pidIpv4])
  | .error .udpMissingSession => .ok (dropped m .missingSession [pidIpv4, pidUdp])
  | .error _ => .error "panic:expect:UdpSession::receive:No such protocol"

theorem receive_refines {env : Env} {m : Machine} (hm : m.dm.WF) {lk : Link} {wire : Bytes} {hd : Ipv4.Header}
    {uh : Udp.Header} (hdec : Ipv4.fromBytes env.ck wire = .ok hd)
    (hw : (Elvis.Frag.isLast hd.flags && hd.fragmentOffset == 0) = true) (htot : hd.totalLength = wire.length)
    (hpn : protoNumber hd.protocol = protoUdp)
    (hu : Udp.fromBytes env.ck (wire.drop 20) (wire.drop 20).length hd.source hd.destination = .ok uh) :
    receive env m lk ⟨pidIpv4, wire⟩ =
      reported m (Demux.demux m.dm ⟨pidIpv4, lk.slot, some (absIp hd), some ⟨uh.source, uh.destination⟩, wire⟩) := by
  obtain ⟨hihl, _⟩ := ipv4_ok_facts hdec
  have hl := udp_ok_len hu
  unfold receive Demux.demux
  rw [if_pos hm.hasIp, if_pos rfl, if_pos hm.hasIp, if_pos rfl, ipv4Demux_datagram hdec hw (by omega),
    datagramBody_exact hd wire htot]
  unfold Demux.ipv4Demux
  simp only [absIp, hpn, hihl]
  cases hr : ipv4Upstream m.dm hd.destination protoUdp with
  | none => rfl
  | some u =>
    obtain rfl := hm.upstream_udp hr
    dsimp only
    rw [if_pos hm.hasUdp, if_pos rfl, if_pos (show (Ipv4.flagsIsLastFragment hd.flags && hd.fragmentOffset == 0) = true from hw),
      if_pos rfl, if_pos hm.hasUdp]
    unfold udpDemux
    dsimp only
    rw [hu]
    dsimp only
    rw [if_neg (show ¬ (wire.drop 20).length < udpStripN by show ¬ _ < 8; omega)]
    have hX := udpDemux_some_cases m.dm (absIp hd) ⟨uh.source, uh.destination⟩ (wire.drop 20) lk.slot
    simp only [absIp, hihl, ipWordOctets] at hX ⊢
    rcases hX with ⟨app, _, e⟩ | e <;> rw [e]
    · unfold udpSessionReceive
      by_cases hp : app ∈ m.dm.protocols
      · rw [if_pos hp]; rfl
      · rw [if_neg hp]; rfl
    · rfl

theorem datagram_at_machine (env : Env) (m : Machine) (hm : m.dm.WF) (lk : Link) (src dst : Endpoint)
    (payload wire : Bytes) (hs : Sent env.ck src dst payload wire) :
    AtMachine env m lk src dst payload wire := by
  obtain ⟨hd, uh, hdec, hsrc, hdst, hproto, hw, hu, hsp, hdp, hpay, htot⟩ := sent_decodes hs
  have hpn : protoNumber hd.protocol = protoUdp := by rw [hproto]; rfl
  obtain ⟨hihl, _⟩ := ipv4_ok_facts hdec
  have hw' : Elvis.Frag.isLast hd.flags = true ∧ hd.fragmentOffset = 0 := by simpa using hw
  have hdg := demux_datagram m.dm hm ⟨pidIpv4, lk.slot, some (absIp hd), some ⟨uh.source, uh.destination⟩, wire⟩
    src dst payload ⟨rfl, absIp hd, rfl, hsrc, hdst, hpn, hw'.1, hw'.2, by rw [hsp, hdp], by
      rw [← hpay]; show (wire.drop (hd.ihl * 4)).drop 8 = _; rw [hihl]⟩
  unfold AtMachine
  rw [receive_refines hm hdec hw htot hpn hu]
  cases h1 : lookup dst m.dm.udp with
  | some app =>
    simp only [h1] at hdg
    exact congrArg (reported m) hdg
  | none =>
    simp only [h1] at hdg
    cases h2 : lookup (⟨anyAddr, dst.port⟩ : Endpoint) m.dm.udp with
    | some app =>
      simp only [h2] at hdg
      exact congrArg (reported m) hdg
    | none =>
      simp only [h2] at hdg
      rcases hdg with h | h <;> exact ⟨_, congrArg (reported m) h⟩

/-- A UDP session on some machine sends `payload` from `src` to `dst = (A, P)`
    (`wire` = what `UdpSession::send` + `Ipv4Session::send` produce, `Sent`); the frame fits the MTU,
    so `send_pci` hands it to the network; the network (taps with distinct MACs, `Net.WF`) does not
    lose it.  Then every tap `Network::send` hands it to (`deliver`) receives the bytes unchanged
    with the sender's MAC, those taps are `recipients n dest`, and on the machine behind each of
    them — any well-formed machine — the datagram is demultiplexed at the application bound to
    `(A, P)`, else at the one bound to `(0.0.0.0, P)`, else dropped with nothing changed:
    payload as sent, local endpoint `(A, P)`, remote endpoint the sender's. -/
theorem c04_end_to_end (env : Env) (n : Elvis.Link.Net)
    (host : Elvis.Link.Mac → Machine) (slotOf : Elvis.Link.Mac → Nat)
    (hwf : ∀ t ∈ n.taps, (host t).dm.WF)
    (src dst : Endpoint) (payload wire : Bytes) (hs : Sent env.ck src dst payload wire)
    (sender : Elvis.Link.Mac) (dest : Option Elvis.Link.Mac) (hfit : wire.length ≤ n.mtu) :
    Elvis.Link.sendPci n ⟨sender, dest, wire⟩ = .ok ⟨sender, dest, wire⟩ ∧
    ∀ r ∈ Elvis.Link.deliver n ⟨sender, dest, wire⟩,
      r.tap ∈ Elvis.Link.recipients n dest ∧ r.msg = wire ∧ r.source = sender ∧
      AtMachine env (host r.tap) ⟨slotOf r.tap, r.source, r.mtu⟩ src dst payload r.msg := by
  refine ⟨?_, ?_⟩
  · have : ¬ wire.length > n.mtu := by omega
    simp [Elvis.Link.sendPci, this]
  · intro r hr
    obtain ⟨hmsg, hsrc, _, _, htap⟩ := Elvis.Link.c05_payload_sender_unchanged n _ r hr
    simp only at hmsg hsrc htap
    have htaps : r.tap ∈ n.taps := (Elvis.Link.recipients_sublist n dest).subset htap
    refine ⟨htap, hmsg, hsrc, ?_⟩
    rw [hmsg]
    exact datagram_at_machine env (host r.tap) (hwf _ htaps) _ src dst payload wire hs

/-- unicast: exactly one machine sees the datagram — the owner of the destination MAC — once -/
theorem c04_end_to_end_unicast (env : Env) (n : Elvis.Link.Net)
    (host : Elvis.Link.Mac → Machine) (slotOf : Elvis.Link.Mac → Nat)
    (hwf : ∀ t ∈ n.taps, (host t).dm.WF)
    (src dst : Endpoint) (payload wire : Bytes) (hs : Sent env.ck src dst payload wire)
    (sender d : Elvis.Link.Mac) (hb : d ≠ Elvis.Link.broadcastMac) (hd : d ∈ n.taps) :
    Elvis.Link.deliver n ⟨sender, some d, wire⟩ = [⟨d, sender, some d, n.mtu, wire⟩] ∧
    AtMachine env (host d) ⟨slotOf d, sender, n.mtu⟩ src dst payload wire := by
  refine ⟨?_, datagram_at_machine env (host d) (hwf d hd) _ src dst payload wire hs⟩
  simp [Elvis.Link.deliver, Elvis.Link.c05_unicast_exact n d hb hd]

/-- broadcast (no MAC known for the route, or the broadcast MAC): every tap of the network is
    handed the frame exactly once, and every machine demultiplexes it by ITS OWN table -/
theorem c04_end_to_end_broadcast (env : Env) (n : Elvis.Link.Net) (hn : n.WF)
    (host : Elvis.Link.Mac → Machine) (slotOf : Elvis.Link.Mac → Nat)
    (hwf : ∀ t ∈ n.taps, (host t).dm.WF)
    (src dst : Endpoint) (payload wire : Bytes) (hs : Sent env.ck src dst payload wire)
    (sender : Elvis.Link.Mac) (dest : Option Elvis.Link.Mac)
    (hd : dest = none ∨ dest = some Elvis.Link.broadcastMac) :
    ∀ t ∈ n.taps,
      ((Elvis.Link.deliver n ⟨sender, dest, wire⟩).map (·.tap)).count t = 1 ∧
      AtMachine env (host t) ⟨slotOf t, sender, n.mtu⟩ src dst payload wire := by
  intro t ht
  have hr := (Elvis.Link.c05_broadcast_all_others n hn dest hd).1
  refine ⟨?_, datagram_at_machine env (host t) (hwf t ht) _ src dst payload wire hs⟩
  have : (Elvis.Link.deliver n ⟨sender, dest, wire⟩).map (·.tap) = n.taps := by
    simp [Elvis.Link.deliver, hr, List.map_map, Function.comp_def]
  rw [this, hn.nodup.count, if_pos ht]

/-! ## non-vacuity: a sender's bytes exist, and the machine of Props/C14e.lean receives them -/

namespace Example

def src : Endpoint := ⟨167772162, 6000⟩
def dst : Endpoint := ⟨167772161, 5000⟩

/-- exactly the frame `goodUdp` of Props/C14e.lean -/
theorem sent_good : Sent false src dst [0xab] goodUdp := by
  refine ⟨{ tos := 0, payloadLength := 9, identification := 0, fragmentOffset := 0, flags := 0, ttl := 30,
            protocol := 17, source := 167772162, destination := 167772161 },
    [0x45, 0, 0, 29, 0, 0, 0, 0, 30, 17, 0, 0, 10, 0, 0, 2, 10, 0, 0, 1],
    [0x17, 0x70, 0x13, 0x88, 0, 9, 0, 0], by decide, rfl, rfl, rfl, rfl, by decide, rfl, by decide,
    by decide +kernel, by decide +kernel, by decide⟩

theorem m_wf : m.dm.WF where
  hasIp := by decide
  hasUdp := by decide
  appsPresent := lookup_cons_forall (fun _ _ h => nomatch h) (by decide)
  covered e app h := by
    rcases lookup_cons_cases h with ⟨rfl, _⟩ | h
    · decide
    · nomatch h
  udpOnly a u h := by
    rcases lookup_cons_cases h with ⟨_, rfl⟩ | h
    · rfl
    · rcases lookup_cons_cases h with ⟨he, _⟩ | h
      · exact absurd (Prod.mk.inj he).2 (by decide)
      · nomatch h

/-- the end-to-end theorem applied: the recorder bound on 10.0.0.1:5000 gets `[0xab]` -/
example : receive env m lk ⟨pidIpv4, goodUdp⟩ =
    .ok { machine := m, ret := .ok (), effects := [.appDemux ⟨10, [0xab], dst, src, lk.slot⟩],
          calls := [pidIpv4, pidUdp] } := by
  have := datagram_at_machine env m m_wf lk src dst [0xab] goodUdp sent_good
  unfold AtMachine at this
  have h1 : lookup dst m.dm.udp = some 10 := by decide
  rw [h1] at this
  exact this

end Example

end Elvis.Recv
