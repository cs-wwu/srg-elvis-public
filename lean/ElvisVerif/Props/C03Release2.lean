import ElvisVerif.Props.C03Release
import ElvisVerif.Props.C01Full
import ElvisVerif.Lemmas.TcpRelOrder
import ElvisVerif.Lemmas.TcpRelMirror
import ElvisVerif.Lemmas.TcpRelData
import ElvisVerif.Lemmas.TcpRelData2
import ElvisVerif.Lemmas.TcpRelLoss
import ElvisVerif.Lemmas.TcpRelRough
import ElvisVerif.Lemmas.TcpRelStmt
import ElvisVerif.Props.C03FinData
/-!
# C03 — release after both applications close, from ANY reachable state of the closed system

`c03_release_after_convergence` composes `c01_converges_full_bound` (`Props/C01Full.lean`: from every reachable state of
the closed system without close at most 15 fair rounds end `Done`) with the closing schedules from reachable `Done`
states (`release_of_done`, `Props/C03Release.lean`): these hold from every reachable state for closes issued after
quiescence.  Then closes issued before quiescence, by one side against an idle peer: with unsent text queued and data
in flight from steady states (`c03_close_with_data_queued_partial`, `c03_close_with_any_data_queued_partial`), and after
loss from any reachable ESTABLISHED pair (`c03_close_after_loss_partial`, `c03_close_after_loss_read_partial`).  The
general statement (closes issued at ANY reachable state, both sides with data queued or in flight) is
`C03ReleaseStatement` (`Props/C03Release.lean`), not proved; `c03_release_statement_after_convergence` is its schedule
from `Done` states.
-/
namespace Elvis.Tcp
open Tcb Elvis.Tcp.Fin

/-- **Release after convergence, from every reachable state.**  Let `s` be ANY state of the closed two-endpoint system
    reachable from `open A` + (`listen B` | `open B`) by a `PlainRun` (any ISNs, MTUs ≥ 100, any finite interleaving of
    writes, reads, ticks, `segments()` and deliveries of any history element to its addressee — loss, duplication,
    reordering, delay —; TCBs in SYN-SENT / SYN-RECEIVED / ESTABLISHED or the passive side still without TCB, anything on
    the retransmission queues, in the reorder heaps and in the receive buffers; H31).  Then there is an explicit list of at
    most 15 fair rounds (`fairRound k` = both retransmission timers expire — `RTO + 1` ms on each side —, then `k`
    exchange phases), in all at most `16 + 2⌈max |submitted| / 65535⌉` exchange phases, after which the state `s1` is
    `Done`, and from `s1`
    * **simultaneous close, either order**: `releaseRound` (close A, close B, two exchange phases, `2·MSL + 1` ms on each
      side) and `releaseRoundBA` (close B, close A, …) are defined and end in the same state `s2`;
    * **sequential close**: `releaseRoundSeq` (close A; two exchange phases: A FIN-WAIT-2, B has seen the end of the
      stream and is in CLOSE-WAIT; close B; two exchange phases: B's TCB deleted by A's ACK of its FIN; `2·MSL + 1` ms
      on A's side: A's TCB deleted by the TIME-WAIT timeout) is defined, and so is its mirror image `releaseRoundSeqBA`
      (B's application closes first, A's after it has seen the end of the stream; A's TCB deleted by B's ACK of its FIN,
      B's by the TIME-WAIT timeout);
    and in each case **both TCBs are deleted**, the streams are complete and exact (`delivered = submitted` in both
    directions, `submitted` being the logs of the starting state `s`), exactly four more segments have been emitted, and
    the final state is reachable from `s` by a `FinRun`.  Virtual time spent on each side from `s` to the deletion:
    `rounds.length · (RTO + 1) + 2·MSL + 1 ≤ 15·(RTO + 1) + 2·MSL + 1` ms, of which `2·MSL + 1` after the second
    `close()` — within the bound `2·MSL + RTO` of DESIGN.md section 8 counted from the last (re)transmission, since no
    retransmission is needed after the closes. -/
theorem c03_release_after_convergence (ia ib : Seq) (ma mb : U16) (simultaneous : Bool) (sys0 s : Sys) (rs : List Res)
    (hma : 100 ≤ ma.toNat) (hmb : 100 ≤ mb.toNat)
    (h0 : Sys.run {} [.open .A ia ma, if simultaneous then .open .B ib mb else .listen .B ib mb] = .ok (sys0, rs))
    (hrun : PlainRun sys0 s) (h31 : RoomH s) :
    ∃ (rounds : List Nat) (s1 : Sys) (ta tb : Tcb),
      (rounds.foldlM (fun st k => fairRound k st) s = .ok s1) ∧ PlainRun s s1 ∧ Done s1 ta tb ∧
      rounds.length ≤ 15 ∧
      rounds.sum ≤ 16 + 2 * ((max s.a.submitted.length s.b.submitted.length + 65534) / 65535) ∧
      (∃ s2, releaseRound s1 = .ok s2 ∧ releaseRoundBA s1 = .ok s2 ∧ FinRun s s2 ∧
        s2.a.tcb = none ∧ s2.b.tcb = none ∧ s2.b.delivered = s2.a.submitted ∧ s2.a.delivered = s2.b.submitted ∧
        s2.a.submitted = s.a.submitted ∧ s2.b.submitted = s.b.submitted ∧ s2.historyLen = s1.historyLen + 4) ∧
      (∃ s2, releaseRoundSeq s1 = .ok s2 ∧ FinRun s s2 ∧
        s2.a.tcb = none ∧ s2.b.tcb = none ∧ s2.b.delivered = s2.a.submitted ∧ s2.a.delivered = s2.b.submitted ∧
        s2.a.submitted = s.a.submitted ∧ s2.b.submitted = s.b.submitted ∧ s2.historyLen = s1.historyLen + 4) ∧
      (∃ s2, releaseRoundSeqBA s1 = .ok s2 ∧ FinRun s s2 ∧
        s2.a.tcb = none ∧ s2.b.tcb = none ∧ s2.b.delivered = s2.a.submitted ∧ s2.a.delivered = s2.b.submitted ∧
        s2.a.submitted = s.a.submitted ∧ s2.b.submitted = s.b.submitted ∧ s2.historyLen = s1.historyLen + 4) := by
  obtain ⟨rounds, s1, ta, tb, hfold, p1, hd, _, _, sa1, sb1, hlen, hsum, _, _⟩ :=
    c01_converges_full_bound ia ib ma mb simultaneous sys0 s rs hma hmb h0 hrun h31
  have hg := (all_of_reach_mtu ia ib ma mb simultaneous sys0 s1 rs hma hmb h0 (hrun.trans p1)
    ⟨sa1 ▸ h31.1, sb1 ▸ h31.2⟩).1.good
  have q := FinRun.of_plain p1
  obtain ⟨s2, e2, r2, na2, nb2, c2, d2, sa2, sb2, hl2⟩ :=
    release_of_done hg ta tb hd (release_simultaneous s1 ta tb hd.steady.ha hd.steady.hb)
  obtain ⟨s3, e3, r3, na3, nb3, c3, d3, sa3, sb3, hl3⟩ :=
    release_of_done hg ta tb hd (release_sequential s1 ta tb hd.steady.ha hd.steady.hb)
  obtain ⟨s4, e4, r4, na4, nb4, c4, d4, sa4, sb4, hl4⟩ :=
    release_of_done hg ta tb hd (release_sequential_BA s1 ta tb hd.steady.ha hd.steady.hb)
  exact ⟨rounds, s1, ta, tb, hfold, p1, hd, hlen, hsum,
    ⟨s2, e2, releaseRoundBA_of_releaseRound s1 s2 e2, q.trans r2, na2, nb2, c2, d2, sa2.trans sa1, sb2.trans sb1, hl2⟩,
    ⟨s3, e3, q.trans r3, na3, nb3, c3, d3, sa3.trans sa1, sb3.trans sb1, hl3⟩,
    ⟨s4, e4, q.trans r4, na4, nb4, c4, d4, sa4.trans sa1, sb4.trans sb1, hl4⟩⟩

/-! ## non-vacuity -/

/-- two of the pre-ESTABLISHED reachable states of `hsCheck` (`Props/C01Full.lean`: SYN lost; simultaneous open with both
    SYNs lost) and the state of `roughCheck` (parked segments, lost data, a lost ACK): rounds as promised, then each of the
    four closing schedules deletes both TCBs with the streams complete -/
def afterConvCheck : Bool :=
  let fin (s' : Sys) (da db : List UInt8) : Bool :=
    (match releaseRound s' with
      | .ok s2 => s2.a.tcb.isNone && s2.b.tcb.isNone && s2.b.delivered == db && s2.a.delivered == da &&
          s2.historyLen == s'.historyLen + 4
      | .error _ => false) &&
    (match releaseRoundBA s' with
      | .ok s2 => s2.a.tcb.isNone && s2.b.tcb.isNone && s2.b.delivered == db && s2.a.delivered == da
      | .error _ => false) &&
    (match releaseRoundSeq s' with
      | .ok s2 => s2.a.tcb.isNone && s2.b.tcb.isNone && s2.b.delivered == db && s2.a.delivered == da &&
          s2.historyLen == s'.historyLen + 4
      | .error _ => false) &&
    (match releaseRoundSeqBA s' with
      | .ok s2 => s2.a.tcb.isNone && s2.b.tcb.isNone && s2.b.delivered == db && s2.a.delivered == da &&
          s2.historyLen == s'.historyLen + 4
      | .error _ => false)
  (match Sys.run {} [.open .A 1000 1500, .listen .B 5000 1500] with
    | .ok (sys0, _) =>
      (match plainRunB sys0 [.emit .A, .write .A [1, 2, 3]] with
        | some s => s.b.tcb.isNone &&
            (match runRounds s [1, 1, 1, 1, 4] with
              | .ok s' => fin s' [] [1, 2, 3]
              | .error _ => false)
        | none => false) &&
      (match plainRunB sys0 roughOps with
        | some s =>
            (match runRounds s [1, 4] with
              | .ok s' => fin s' [9, 8] [1, 2, 3, 4, 5, 6]
              | .error _ => false)
        | none => false)
    | .error _ => false) &&
  (match Sys.run {} [.open .A 1000 1500, .open .B 5000 1500] with
    | .ok (sys0, _) =>
      (match plainRunB sys0 [.emit .A, .emit .B, .write .A [1], .write .B [2]] with
        | some s =>
            (match runRounds s [1, 1, 1, 1, 4] with
              | .ok s' => fin s' [2] [1]
              | .error _ => false)
        | none => false)
    | .error _ => false)

example : afterConvCheck = true := by decide +kernel

/-- a front that ends with A in FIN-WAIT-2 and B in CLOSE-WAIT, both at rest, followed by `releaseTail`: B has been
    handed everything A submitted when it is in CLOSE-WAIT (the stream invariant with FINs, `C03.eof_of_invF`), so both
    streams end complete -/
theorem streams_after_tail {iss : SideId → Seq} {s : Sys} (hi : C01.Inv iss s) (h31 : RoomH s)
    (hdA : (s.side .A).delivered = (s.side .B).submitted)
    {front round : Except String Sys}
    (hmain : ∃ s1, front = .ok s1 ∧ FinRun s s1 ∧
      Front s1 (s.side .A).submitted (s.side .B).submitted (s.side .A).delivered)
    (hr : ∀ s1, front = .ok s1 → round = releaseTail s1) :
    ∃ s1 ta1 tb1 s2, front = .ok s1 ∧ FinRun s s1 ∧ s1.a.tcb = some ta1 ∧ s1.b.tcb = some tb1 ∧
      ta1.state = .FinWait2 ∧ tb1.state = .CloseWait ∧ RestX .A ta1 tb1 ∧ RestX .B tb1 ta1 ∧
      s1.b.delivered = s1.a.submitted ∧ s1.a.submitted = s.a.submitted ∧
      releaseTail s1 = .ok s2 ∧ round = .ok s2 ∧ FinRun s s2 ∧ s2.a.tcb = none ∧ s2.b.tcb = none ∧
      s2.b.delivered = s2.a.submitted ∧ s2.a.delivered = s2.b.submitted ∧
      s2.a.submitted = s.a.submitted ∧ s2.b.submitted = s.b.submitted := by
  obtain ⟨s1, e1, r1, f⟩ := hmain
  obtain ⟨s2, e2, r2, na, nb, v1, v2, v3, v4⟩ := f.tail
  obtain ⟨ta1, tb1, h1a, h1b, sa, sb, ca, cb, u1, u2, _⟩ := f.unpack
  have hlt : C01.Lt31 s1 := by
    have := h31.lt31
    exact ⟨by show (s1.side .A).submitted.length < _; rw [u1]; exact this.1,
      by show (s1.side .B).submitted.length < _; rw [u2]; exact this.2⟩
  obtain ⟨fin, h⟩ := C03.invF_of_inv hi r1 hlt
  have hfin := (C03.eof_of_invF h .B tb1 h1b (by rw [sb]; rfl)).1
  rw [cb.buf, List.append_nil] at hfin
  have hdB : (s1.side .B).delivered = (s1.side .A).submitted := hfin
  exact ⟨s1, ta1, tb1, s2, e1, r1, h1a, h1b, sa, sb, ca, cb, hdB, u1, e2, (hr s1 e1).trans e2, r1.trans r2, na, nb,
    by show (s2.side .B).delivered = (s2.side .A).submitted; rw [v4, hdB, u1, v1],
    by show (s2.side .A).delivered = (s2.side .B).submitted; rw [v3, hdA, v2], v1, v2⟩

/-- **Close with data queued** (`_partial`: the starting states are the steady states of `Lemmas/TcpConvSteady.lean` with at
    most one window of unsent text on the closing side and a quiet peer; the schedule is fixed).  Let `s` be a reachable
    *steady* state of the closed system (both ESTABLISHED, MTU > SPACE_FOR_HEADERS, reorder heaps and receive buffers
    empty, `RCV.NXT_peer = SND.NXT` both ways; any ISNs, MTUs, history) with empty retransmission and one-shot queues in
    which A's application has written text that has not been segmentized yet (`0 < |unsent| ≤ 65535`) and B has nothing
    to send.  A's application calls `close()` — FIN-WAIT-1, but NO FIN is formed (`queue_fin` while text is queued:
    `fin_pending`).  Under `closeDataFront` (= `close A`, two exchange phases):
    * phase 1: `segments()` in FIN-WAIT-1 cuts exactly the segments the ESTABLISHED endpoint would have cut
      (`Tcb.segments_twin`), `if fin_pending { self.queue_fin() }` then numbers the FIN **behind the last text byte** and
      it leaves in the same batch; B takes the data in order and only then the FIN (CLOSE-WAIT); B's application reads:
      at that point **everything A submitted has been handed to B's application** (`delivered_B = submitted_A`, by
      `c03_fin_after_data`);
    * phase 2: B's ACKs (one per data segment, then the ACK of the FIN) empty A's retransmission queue and take A to
      **FIN-WAIT-2**; B is in CLOSE-WAIT; nothing is queued, unsent, buffered or parked on either side (`RestX`).
    When B's application then closes (`releaseTail` = `close B`, two exchange phases, `2·MSL + 1` ms on A's side): LAST-ACK,
    A TIME-WAIT, **B's TCB is deleted by A's ACK of its FIN and A's by the TIME-WAIT timeout**; both streams are complete
    and exact.  No step panics; the whole schedule is a `FinRun`.  NOT covered here: more than one window of unsent text (the
    closer keeps segmentizing in FIN-WAIT-1 over several phases) and retransmission queues non-empty at the close
    (`c03_close_with_any_data_queued_partial`, `c03_close_after_loss_partial`); text unsent on both sides
    (`C03ReleaseStatement`, `Props/C03Release.lean`). -/
theorem c03_close_with_data_queued_partial (ia ib : Seq) (ma mb : U16) (simultaneous : Bool) (sys0 s : Sys)
    (rs : List Res) (hma : SPACE_FOR_HEADERS ≤ ma.toNat) (hmb : SPACE_FOR_HEADERS ≤ mb.toNat)
    (h0 : Sys.run {} [.open .A ia ma, if simultaneous then .open .B ib mb else .listen .B ib mb] = .ok (sys0, rs))
    (hrun : PlainRun sys0 s) (h31 : RoomH s) (ta tb : Tcb) (hs : Steady s ta tb)
    (qa : ta.outgoing.retransmit = []) (qb : tb.outgoing.retransmit = [])
    (oa : ta.outgoing.oneshot = []) (ob : tb.outgoing.oneshot = []) (tbt : tb.outgoing.text = [])
    (hne : ta.outgoing.text ≠ []) (hlen : ta.outgoing.text.length ≤ 65535) :
    ∃ s1 ta1 tb1 s2, closeDataFront s = .ok s1 ∧ FinRun s s1 ∧ s1.a.tcb = some ta1 ∧ s1.b.tcb = some tb1 ∧
      ta1.state = .FinWait2 ∧ tb1.state = .CloseWait ∧ RestX .A ta1 tb1 ∧ RestX .B tb1 ta1 ∧
      s1.b.delivered = s1.a.submitted ∧ s1.a.submitted = s.a.submitted ∧
      releaseTail s1 = .ok s2 ∧ closeDataRound s = .ok s2 ∧ FinRun s s2 ∧ s2.a.tcb = none ∧ s2.b.tcb = none ∧
      s2.b.delivered = s2.a.submitted ∧ s2.a.delivered = s2.b.submitted ∧
      s2.a.submitted = s.a.submitted ∧ s2.b.submitted = s.b.submitted := by
  have hg := good_of_reach ia ib ma mb simultaneous sys0 s rs hma hmb h0 hrun h31
  -- B had nothing unsent: A's application already holds everything B submitted
  exact streams_after_tail hg.conv.c01 h31
    (steady_stream hg .B tb ta hs.hb hs.ha hs.b hs.a tbt) (close_data_front s hg ta tb hs qa tbt hne hlen)
    (fun s1 e => by unfold closeDataRound; rw [e])

/-- handshake completed, A's application has written [1, 2, 3] (nothing emitted yet), B is idle -/
def dataOps : List Op :=
  [.emit .A, .deliver .B 0, .emit .B, .deliver .A 1, .emit .A, .deliver .B 2, .write .A [1, 2, 3]]

def closeDataCheck : Bool :=
  match Sys.run {} [.open .A 1000 1500, .listen .B 5000 1500] with
  | .ok (sys0, _) =>
    match plainRunB sys0 dataOps with
    | some s =>
      decide (s.a.submitted.length + 2 < 2147483648) && decide (s.b.submitted.length + 2 < 2147483648) &&
      (match s.a.tcb, s.b.tcb with
        | some ta, some tb => steadyXB ta tb && steadyXB tb ta && ta.outgoing.retransmit.isEmpty &&
            tb.outgoing.retransmit.isEmpty && ta.outgoing.oneshot.isEmpty && tb.outgoing.oneshot.isEmpty &&
            tb.outgoing.text.isEmpty && ta.outgoing.text == [1, 2, 3]
        | _, _ => false) &&
      (match closeDataFront s with
        | .ok s1 =>
          (match s1.a.tcb, s1.b.tcb with
            | some ta1, some tb1 => ta1.state == .FinWait2 && tb1.state == .CloseWait
            | _, _ => false) && s1.b.delivered == [1, 2, 3] && s1.historyLen == 7 &&
          (match releaseTail s1 with
            | .ok s2 => s2.a.tcb.isNone && s2.b.tcb.isNone && s2.b.delivered == [1, 2, 3] && s2.a.delivered == [] &&
                s2.historyLen == 9
            | .error _ => false)
        | .error _ => false)
    | none => false
  | .error _ => false

theorem closeDataCheck_true : closeDataCheck = true := by decide +kernel

/-- the hypotheses of `c03_close_with_data_queued_partial` hold in that reachable state, and the schedule, evaluated:
    data segment, FIN, two ACKs (A in FIN-WAIT-2, B in CLOSE-WAIT holding [1, 2, 3]), then FIN and ACK: both TCBs deleted;
    9 segments in all (3 handshake, 6 data / closing) -/
example : ∃ sys0 s : Sys, ∃ rs, ∃ ta tb : Tcb,
    Sys.run {} [.open .A 1000 1500, if false then .open .B 5000 1500 else .listen .B 5000 1500] = .ok (sys0, rs) ∧
    PlainRun sys0 s ∧ RoomH s ∧ Steady s ta tb ∧ ta.outgoing.retransmit = [] ∧ tb.outgoing.retransmit = [] ∧
    ta.outgoing.oneshot = [] ∧ tb.outgoing.oneshot = [] ∧ tb.outgoing.text = [] ∧ ta.outgoing.text ≠ [] ∧
    ta.outgoing.text.length ≤ 65535 := by
  have key := closeDataCheck_true
  unfold closeDataCheck at key
  split at key
  · rename_i sys0 rs e0
    split at key
    · rename_i s e1
      simp only [Bool.and_eq_true, decide_eq_true_eq] at key
      obtain ⟨⟨⟨r1, r2⟩, k1⟩, _⟩ := key
      split at k1
      · rename_i ta tb hta htb
        simp only [Bool.and_eq_true, List.isEmpty_iff, beq_iff_eq] at k1
        obtain ⟨⟨⟨⟨⟨⟨⟨x1, x2⟩, x3⟩, x4⟩, x5⟩, x6⟩, x7⟩, x8⟩ := k1
        exact ⟨sys0, s, rs, ta, tb, e0, plainRunB_sound _ _ _ e1, ⟨r1, r2⟩,
          ⟨hta, htb, steadyXB_sound _ _ x1, steadyXB_sound _ _ x2⟩, x3, x4, x5, x6, x7, by rw [x8]; simp,
          by rw [x8]; decide⟩
      · simp at k1
    · simp at key
  · simp at key

example : closeDataCheck = true := closeDataCheck_true

/-- **Close with ANY amount of data queued** (`_partial`: steady starting states with a quiet peer; fair loss-free
    schedule).  As `c03_close_with_data_queued_partial`, but: either retransmission queue may hold data the other side has
    received and acknowledged by a pure ACK still waiting on its one-shot queue (the steady states a fair exchange passes
    through: B need not be idle, it only has nothing UNSENT), and
    A's unsent text is only bounded by `65535·n` bytes for some `n ≥ 1` (H31 apart; it may be empty: then `close()`
    itself numbers the FIN, behind the data in flight, `close_steady`).  After `close A` the closer **keeps
    segmentizing in FIN-WAIT-1**: in every exchange phase it cuts exactly what the window admits — the segments its
    ESTABLISHED twin would cut (`Tcb.segments_twin_more`) — and processes B's pure ACKs exactly as in ESTABLISHED
    (`is_fin_acked` is false while `fin_pending`, `Tcb.ackList_twin`), so the close-free twin system, for which all
    invariants of C01's convergence proof hold, can be run alongside (`phase_twin`); after at most `2n − 1` such phases the
    window admits all the remaining text: it leaves followed by the FIN, numbered behind the last text byte; B reaches
    CLOSE-WAIT holding **everything A submitted**; one more phase: B's ACKs take A to FIN-WAIT-2 (`phase_final`); further
    phases change nothing (`rest_phase`).  `closeDataFrontN n` = `close A`, `2n + 1` exchange phases.  When B's
    application then closes (`releaseTail`) both TCBs are deleted (B's by A's ACK of its FIN, A's by the TIME-WAIT
    timeout, `2·MSL + 1` ms after it received B's FIN) and both streams are complete and exact. -/
theorem c03_close_with_any_data_queued_partial (ia ib : Seq) (ma mb : U16) (simultaneous : Bool) (sys0 s : Sys)
    (rs : List Res) (hma : SPACE_FOR_HEADERS ≤ ma.toNat) (hmb : SPACE_FOR_HEADERS ≤ mb.toNat)
    (h0 : Sys.run {} [.open .A ia ma, if simultaneous then .open .B ib mb else .listen .B ib mb] = .ok (sys0, rs))
    (hrun : PlainRun sys0 s) (h31 : RoomH s) (ta tb : Tcb) (hs : Steady s ta tb)
    (tbt : tb.outgoing.text = [])
    (n : Nat) (hn : 1 ≤ n) (hlen : ta.outgoing.text.length ≤ 65535 * n) :
    ∃ s1 ta1 tb1 s2, closeDataFrontN n s = .ok s1 ∧ FinRun s s1 ∧ s1.a.tcb = some ta1 ∧ s1.b.tcb = some tb1 ∧
      ta1.state = .FinWait2 ∧ tb1.state = .CloseWait ∧ RestX .A ta1 tb1 ∧ RestX .B tb1 ta1 ∧
      s1.b.delivered = s1.a.submitted ∧ s1.a.submitted = s.a.submitted ∧
      releaseTail s1 = .ok s2 ∧ closeDataRoundN n s = .ok s2 ∧ FinRun s s2 ∧ s2.a.tcb = none ∧ s2.b.tcb = none ∧
      s2.b.delivered = s2.a.submitted ∧ s2.a.delivered = s2.b.submitted ∧
      s2.a.submitted = s.a.submitted ∧ s2.b.submitted = s.b.submitted := by
  have hg := good_of_reach ia ib ma mb simultaneous sys0 s rs hma hmb h0 hrun h31
  exact streams_after_tail hg.conv.c01 h31
    (steady_stream hg .B tb ta hs.hb hs.ha hs.b hs.a tbt) (close_steady n hn s hg ta tb hs ⟨tbt⟩ hlen)
    (closeDataRoundN_eq n s)

/-- handshake completed; A has sent [1, 2, 3] (history element 3), B has received and read them, its ACK still waits on
    its one-shot queue, A's retransmission queue still holds the segment; A's application has written [4, 5] -/
def dataOps2 : List Op :=
  [.emit .A, .deliver .B 0, .emit .B, .deliver .A 1, .emit .A, .deliver .B 2, .write .A [1, 2, 3], .emit .A,
   .deliver .B 3, .read .B, .write .A [4, 5]]

def closeDataCheck2 : Bool :=
  match Sys.run {} [.open .A 1000 1500, .listen .B 5000 1500] with
  | .ok (sys0, _) =>
    match plainRunB sys0 dataOps2 with
    | some s =>
      decide (s.a.submitted.length + 2 < 2147483648) && decide (s.b.submitted.length + 2 < 2147483648) &&
      (match s.a.tcb, s.b.tcb with
        | some ta, some tb => steadyXB ta tb && steadyXB tb ta && ta.outgoing.oneshot.isEmpty &&
            tb.outgoing.retransmit.isEmpty && tb.outgoing.text.isEmpty && ta.outgoing.text == [4, 5] &&
            ta.outgoing.retransmit.length == 1 && tb.outgoing.oneshot.length == 1
        | _, _ => false) &&
      (match closeDataFrontN 1 s with
        | .ok s1 =>
          (match s1.a.tcb, s1.b.tcb with
            | some ta1, some tb1 => ta1.state == .FinWait2 && tb1.state == .CloseWait
            | _, _ => false) && s1.b.delivered == [1, 2, 3, 4, 5] &&
          (match releaseTail s1 with
            | .ok s2 => s2.a.tcb.isNone && s2.b.tcb.isNone && s2.b.delivered == [1, 2, 3, 4, 5] && s2.a.delivered == []
            | .error _ => false)
        | .error _ => false)
    | none => false
  | .error _ => false

/-- the hypotheses of `c03_close_with_any_data_queued_partial` hold in that reachable state (`n = 1`; A's retransmission
    queue and B's one-shot queue are NOT empty), and the schedule, evaluated, ends as promised -/
example : ∃ sys0 s : Sys, ∃ rs, ∃ ta tb : Tcb,
    Sys.run {} [.open .A 1000 1500, if false then .open .B 5000 1500 else .listen .B 5000 1500] = .ok (sys0, rs) ∧
    PlainRun sys0 s ∧ RoomH s ∧ Steady s ta tb ∧
    tb.outgoing.text = [] ∧ ta.outgoing.text.length ≤ 65535 * 1 ∧
    ta.outgoing.retransmit.length = 1 ∧ tb.outgoing.oneshot.length = 1 := by
  have key : closeDataCheck2 = true := by decide +kernel
  unfold closeDataCheck2 at key
  split at key
  · rename_i sys0 rs e0
    split at key
    · rename_i s e1
      simp only [Bool.and_eq_true, decide_eq_true_eq] at key
      obtain ⟨⟨⟨r1, r2⟩, k1⟩, _⟩ := key
      split at k1
      · rename_i ta tb hta htb
        simp only [Bool.and_eq_true, List.isEmpty_iff, beq_iff_eq] at k1
        obtain ⟨⟨⟨⟨⟨⟨⟨x1, x2⟩, x3⟩, x4⟩, x5⟩, x6⟩, x7⟩, x8⟩ := k1
        exact ⟨sys0, s, rs, ta, tb, e0, plainRunB_sound _ _ _ e1, ⟨r1, r2⟩,
          ⟨hta, htb, steadyXB_sound _ _ x1, steadyXB_sound _ _ x2⟩, x5,
          by rw [x6]; decide, x7, x8⟩
      · simp at k1
    · simp at key
  · simp at key

/-- the same state without the last write: nothing unsent, [1, 2, 3] in flight (delivered and read, the ACK still on B's
    one-shot queue): `close()` numbers the FIN at once; `n = 1` -/
def closeDataCheck3 : Bool :=
  match Sys.run {} [.open .A 1000 1500, .listen .B 5000 1500] with
  | .ok (sys0, _) =>
    match plainRunB sys0 (dataOps2.take 10) with
    | some s =>
      (match s.a.tcb, s.b.tcb with
        | some ta, some tb => steadyXB ta tb && steadyXB tb ta && tb.outgoing.text.isEmpty && ta.outgoing.text.isEmpty &&
            ta.outgoing.retransmit.length == 1 && tb.outgoing.oneshot.length == 1
        | _, _ => false) &&
      (match closeDataFrontN 1 s with
        | .ok s1 =>
          (match s1.a.tcb, s1.b.tcb with
            | some ta1, some tb1 => ta1.state == .FinWait2 && tb1.state == .CloseWait
            | _, _ => false) && s1.b.delivered == [1, 2, 3] &&
          (match releaseTail s1 with
            | .ok s2 => s2.a.tcb.isNone && s2.b.tcb.isNone && s2.b.delivered == [1, 2, 3] && s2.a.delivered == []
            | .error _ => false)
        | .error _ => false)
    | none => false
  | .error _ => false

example : closeDataCheck3 = true := by decide +kernel

/-- **Close after loss** (`_partial`: idle peer, receive buffers read, one fair round).  Let `s` be ANY reachable state
    of the closed system (MTUs ≥ 100) in which both endpoints are ESTABLISHED and both receive buffers are empty (the
    applications have read) — NOTHING else is assumed about the closer's queues, the timers, the one-shot queues or **B's
    reorder heap (segments parked behind the lost data)** (these are the *rough* states of `Lemmas/TcpFullPhase.lean`: SYN
    acknowledged and timers ≤ RTO hold in every reachable ESTABLISHED state; the closer's own reorder heap is empty because
    the idle peer has nothing outstanding: invariants (a), (b) of `Props/C01Full.lean`) — in which the closer A has
    **ANYTHING on its retransmission queue** — data segments lost in any number, or received but their ACKs lost, or
    both — and ANY amount of unsent text (`|unsent| ≤ 65535·n`; it may be empty: then `close()` itself
    numbers the FIN, behind the unacknowledged data), and B is idle (`SND.UNA = SND.NXT`, nothing unsent).  A's
    application calls `close()` (FIN-WAIT-1), then the network is fair: `closeLossFrontN n` = `close A`,
    `fairRound (2n + 2)` (= both retransmission timers expire, `2n + 2` exchange phases).  The closer **retransmits in
    FIN-WAIT-1** (`advance_time` flags the whole queue whatever the state, `Tcb.advanceTime_fw`; the first `segments()`
    re-sends the queue whole, then cuts what the window still admits), B takes what it has not received yet in order and
    acknowledges the duplicates; the FIN is numbered behind the last text byte when the text is exhausted and leaves in the
    batch of the last data; B reaches CLOSE-WAIT holding **everything A submitted**, A FIN-WAIT-2, both at rest.  When B's
    application then closes (`releaseTail`), both TCBs are deleted and both streams are complete and exact.  Virtual time
    per side from the close to the deletion: `RTO + 1` (the retransmission) `+ 2·MSL + 1` ms — the bound `2·MSL + RTO` of
    DESIGN.md section 8 after the last needed retransmission holds. -/
theorem c03_close_after_loss_partial (ia ib : Seq) (ma mb : U16) (simultaneous : Bool) (sys0 s : Sys)
    (rs : List Res) (hma : 100 ≤ ma.toNat) (hmb : 100 ≤ mb.toNat)
    (h0 : Sys.run {} [.open .A ia ma, if simultaneous then .open .B ib mb else .listen .B ib mb] = .ok (sys0, rs))
    (hrun : PlainRun sys0 s) (h31 : RoomH s) (ta tb : Tcb) (hta : s.a.tcb = some ta) (htb : s.b.tcb = some tb)
    (ea : ta.state = .Established) (eb : tb.state = .Established)
    (ba : ta.incoming.text = []) (bb : tb.incoming.text = [])
    (hub : tb.snd.una = tb.snd.nxt) (tbt : tb.outgoing.text = [])
    (n : Nat) (hlen : ta.outgoing.text.length ≤ 65535 * n) :
    ∃ s1 ta1 tb1 s2, closeLossFrontN n s = .ok s1 ∧ FinRun s s1 ∧ s1.a.tcb = some ta1 ∧ s1.b.tcb = some tb1 ∧
      ta1.state = .FinWait2 ∧ tb1.state = .CloseWait ∧ RestX .A ta1 tb1 ∧ RestX .B tb1 ta1 ∧
      s1.b.delivered = s1.a.submitted ∧ s1.a.submitted = s.a.submitted ∧
      releaseTail s1 = .ok s2 ∧ closeLossRoundN n s = .ok s2 ∧ FinRun s s2 ∧ s2.a.tcb = none ∧ s2.b.tcb = none ∧
      s2.b.delivered = s2.a.submitted ∧ s2.a.delivered = s2.b.submitted ∧
      s2.a.submitted = s.a.submitted ∧ s2.b.submitted = s.b.submitted := by
  obtain ⟨a, hm⟩ := all_of_reach_mtu ia ib ma mb simultaneous sys0 s rs hma hmb h0 hrun h31
  have hg := a.good
  have hf := a.f
  have hc : Full.Rough s ta tb := ⟨hta, htb, Full.roughX_of_est hg hf a.u hm (x := .A) hta ea ba,
    Full.roughX_of_est hg hf a.u hm (x := .B) htb eb bb⟩
  have hsyncB0 : ta.rcv.nxt = tb.snd.nxt := sync_of_acked hg ta tb hc.ha hc.hb hc.a.st hub
  exact streams_after_tail hg.conv.c01 h31
    (idle_stream hg .B tb ta hc.hb hc.ha hsyncB0 (by rw [hc.a.st]; simp) hc.a.buf tbt)
    (close_roughL n s hg ta tb hc (hf.heapFit .B tb ta hc.hb hc.ha) (Full.heap_nil_of_sync hg hf (x := .B) htb hta ea hsyncB0)
      hub tbt hlen)
    (closeLossRoundN_eq n s)

/-- handshake completed; A writes [1, 2, 3] and emits them (history element 3) — LOST, never delivered; A writes [4, 5]
    and emits them (element 4) — LOST as well; A's application writes [6]: two lost segments on A's retransmission queue,
    one byte unsent; B idle, it has received nothing -/
def lossDataOps : List Op :=
  [.emit .A, .deliver .B 0, .emit .B, .deliver .A 1, .emit .A, .deliver .B 2,
   .write .A [1, 2, 3], .emit .A, .write .A [4, 5], .emit .A, .write .A [6]]

def closeLossCheck : Bool :=
  match Sys.run {} [.open .A 1000 1500, .listen .B 5000 1500] with
  | .ok (sys0, _) =>
    match plainRunB sys0 lossDataOps with
    | some s =>
      decide (s.a.submitted.length + 2 < 2147483648) && decide (s.b.submitted.length + 2 < 2147483648) &&
      (match s.a.tcb, s.b.tcb with
        | some ta, some tb => calmXB ta && calmXB tb && tb.snd.una == tb.snd.nxt && tb.outgoing.text.isEmpty &&
            ta.outgoing.text == [6] && ta.outgoing.retransmit.length == 2 && s.b.delivered == []
        | _, _ => false) &&
      (match closeLossFrontN 1 s with
        | .ok s1 =>
          (match s1.a.tcb, s1.b.tcb with
            | some ta1, some tb1 => ta1.state == .FinWait2 && tb1.state == .CloseWait
            | _, _ => false) && s1.b.delivered == [1, 2, 3, 4, 5, 6] &&
          (match releaseTail s1 with
            | .ok s2 => s2.a.tcb.isNone && s2.b.tcb.isNone && s2.b.delivered == [1, 2, 3, 4, 5, 6] && s2.a.delivered == []
            | .error _ => false)
        | .error _ => false)
    | none => false
  | .error _ => false

/-- the same with nothing unsent at the close: A's only data segment [1, 2, 3] is LOST and still on its retransmission
    queue; `close()` numbers the FIN at once; `n = 0`: the fair round has two phases -/
def closeLossCheck0 : Bool :=
  match Sys.run {} [.open .A 1000 1500, .listen .B 5000 1500] with
  | .ok (sys0, _) =>
    match plainRunB sys0 [.emit .A, .deliver .B 0, .emit .B, .deliver .A 1, .emit .A, .deliver .B 2,
        .write .A [1, 2, 3], .emit .A] with
    | some s =>
      (match s.a.tcb, s.b.tcb with
        | some ta, some tb => calmXB ta && calmXB tb && tb.snd.una == tb.snd.nxt && tb.outgoing.text.isEmpty &&
            ta.outgoing.text.isEmpty && ta.outgoing.retransmit.length == 1 && s.b.delivered == []
        | _, _ => false) &&
      (match closeLossFrontN 0 s with
        | .ok s1 =>
          (match s1.a.tcb, s1.b.tcb with
            | some ta1, some tb1 => ta1.state == .FinWait2 && tb1.state == .CloseWait
            | _, _ => false) && s1.b.delivered == [1, 2, 3] &&
          (match releaseTail s1 with
            | .ok s2 => s2.a.tcb.isNone && s2.b.tcb.isNone && s2.b.delivered == [1, 2, 3] && s2.a.delivered == []
            | .error _ => false)
        | .error _ => false)
    | none => false
  | .error _ => false

example : closeLossCheck0 = true := by decide +kernel

/-- handshake completed; A writes [1, 2, 3] and emits them (history element 3) — LOST; A writes [4, 5] and emits them
    (element 4) — delivered: PARKED in B's reorder heap behind the gap; A's application writes [6] -/
def roughDataOps : List Op :=
  [.emit .A, .deliver .B 0, .emit .B, .deliver .A 1, .emit .A, .deliver .B 2,
   .write .A [1, 2, 3], .emit .A, .write .A [4, 5], .emit .A, .deliver .B 4, .write .A [6]]

def closeRoughCheck : Bool :=
  match Sys.run {} [.open .A 1000 1500, .listen .B 5000 1500] with
  | .ok (sys0, _) =>
    match plainRunB sys0 roughDataOps with
    | some s =>
      decide (s.a.submitted.length + 2 < 2147483648) && decide (s.b.submitted.length + 2 < 2147483648) &&
      (match s.a.tcb, s.b.tcb with
        | some ta, some tb => ta.state == .Established && tb.state == .Established &&
            ta.incoming.text.isEmpty && tb.incoming.text.isEmpty && ta.incoming.segments.isEmpty &&
            tb.snd.una == tb.snd.nxt && tb.outgoing.text.isEmpty &&
            ta.outgoing.text == [6] && ta.outgoing.retransmit.length == 2 && tb.incoming.segments.length == 1 &&
            s.b.delivered == []
        | _, _ => false) &&
      (match closeLossFrontN 1 s with
        | .ok s1 =>
          (match s1.a.tcb, s1.b.tcb with
            | some ta1, some tb1 => ta1.state == .FinWait2 && tb1.state == .CloseWait
            | _, _ => false) && s1.b.delivered == [1, 2, 3, 4, 5, 6] &&
          (match releaseTail s1 with
            | .ok s2 => s2.a.tcb.isNone && s2.b.tcb.isNone && s2.b.delivered == [1, 2, 3, 4, 5, 6] && s2.a.delivered == []
            | .error _ => false)
        | .error _ => false)
    | none => false
  | .error _ => false

/-- the hypotheses of `c03_close_after_loss_partial` hold in that reachable state (`n = 1`; one LOST data segment and one
    delivered out of order on A's retransmission queue, the latter PARKED in B's reorder heap, B has received nothing in
    order), and the schedule, evaluated, ends as promised -/
example : ∃ sys0 s : Sys, ∃ rs, ∃ ta tb : Tcb,
    Sys.run {} [.open .A 1000 1500, if false then .open .B 5000 1500 else .listen .B 5000 1500] = .ok (sys0, rs) ∧
    PlainRun sys0 s ∧ RoomH s ∧ s.a.tcb = some ta ∧ s.b.tcb = some tb ∧
    ta.state = .Established ∧ tb.state = .Established ∧ ta.incoming.text = [] ∧ tb.incoming.text = [] ∧
    tb.snd.una = tb.snd.nxt ∧
    tb.outgoing.text = [] ∧ ta.outgoing.text.length ≤ 65535 * 1 ∧ ta.outgoing.retransmit.length = 2 ∧
    tb.incoming.segments.length = 1 ∧ s.b.delivered = [] := by
  have key : closeRoughCheck = true := by decide +kernel
  unfold closeRoughCheck at key
  split at key
  · rename_i sys0 rs e0
    split at key
    · rename_i s e1
      simp only [Bool.and_eq_true, decide_eq_true_eq] at key
      obtain ⟨⟨⟨r1, r2⟩, k1⟩, _⟩ := key
      split at k1
      · rename_i ta tb hta htb
        simp only [Bool.and_eq_true, List.isEmpty_iff, beq_iff_eq] at k1
        obtain ⟨⟨⟨⟨⟨⟨⟨⟨⟨⟨x1, x2⟩, y1⟩, y2⟩, x3⟩, x4⟩, x5⟩, x6⟩, x7⟩, x8⟩, x9⟩ := k1
        exact ⟨sys0, s, rs, ta, tb, e0, plainRunB_sound _ _ _ e1, ⟨r1, r2⟩,
          hta, htb, x1, x2, y1, y2, x4, x5, by rw [x6]; decide, x7, x8, x9⟩
      · simp at k1
    · simp at key
  · simp at key

/-- the calm state of `lossDataOps` (two lost segments + one unsent byte), evaluated -/
example : closeLossCheck = true := by decide +kernel

def closeLossFrontR (n : Nat) (s : Sys) : Except String Sys :=
  match s.step (.read .A) with
  | .error e => .error e
  | .ok (s1, _) =>
  match s1.step (.read .B) with
  | .error e => .error e
  | .ok (s2, _) => closeLossFrontN n s2

/-- **Close after loss, receive buffers arbitrary**: `c03_close_after_loss_partial` without the hypothesis that the
    receive buffers are empty — the schedule starts with both applications reading what has arrived.  From EVERY
    reachable state (MTUs ≥ 100) in which both endpoints are ESTABLISHED and the peer B is idle (`SND.UNA = SND.NXT`,
    nothing unsent) — anything on the closer's retransmission queue, any amount of unsent text, any reorder heap on B's
    side, any receive buffers, one-shot queues and timers —: `closeLossFrontR n` (= `read A`, `read B`, `close A`,
    `fairRound (2n + 2)`) ends with A in FIN-WAIT-2, B in CLOSE-WAIT holding everything A submitted, both at rest;
    `releaseTail` then deletes both TCBs with both streams complete and exact. -/
theorem c03_close_after_loss_read_partial (ia ib : Seq) (ma mb : U16) (simultaneous : Bool) (sys0 s : Sys)
    (rs : List Res) (hma : 100 ≤ ma.toNat) (hmb : 100 ≤ mb.toNat)
    (h0 : Sys.run {} [.open .A ia ma, if simultaneous then .open .B ib mb else .listen .B ib mb] = .ok (sys0, rs))
    (hrun : PlainRun sys0 s) (h31 : RoomH s) (ta tb : Tcb) (hta : s.a.tcb = some ta) (htb : s.b.tcb = some tb)
    (ea : ta.state = .Established) (eb : tb.state = .Established)
    (hub : tb.snd.una = tb.snd.nxt) (tbt : tb.outgoing.text = [])
    (n : Nat) (hlen : ta.outgoing.text.length ≤ 65535 * n) :
    ∃ s1 ta1 tb1 s2, closeLossFrontR n s = .ok s1 ∧ FinRun s s1 ∧ s1.a.tcb = some ta1 ∧ s1.b.tcb = some tb1 ∧
      ta1.state = .FinWait2 ∧ tb1.state = .CloseWait ∧ RestX .A ta1 tb1 ∧ RestX .B tb1 ta1 ∧
      s1.b.delivered = s1.a.submitted ∧ s1.a.submitted = s.a.submitted ∧
      releaseTail s1 = .ok s2 ∧ FinRun s s2 ∧ s2.a.tcb = none ∧ s2.b.tcb = none ∧
      s2.b.delivered = s2.a.submitted ∧ s2.a.delivered = s2.b.submitted ∧
      s2.a.submitted = s.a.submitted ∧ s2.b.submitted = s.b.submitted := by
  obtain ⟨r1, q1, st1, p01, v1⟩ := (View.start s .A ta tb hta htb).read (receive_established ta ea)
  obtain ⟨r2, q2, st2, p12, v2⟩ := v1.swap.read (receive_established tb eb)
  have h2a : (r2.side .A).tcb = some ({ ta with incoming.text := [] } : Tcb) := v2.u
  have h2b : (r2.side .B).tcb = some ({ tb with incoming.text := [] } : Tcb) := v2.t
  have p02 : PlainRun s r2 := p01.trans p12
  have hsubA : (r2.side .A).submitted = (s.side .A).submitted := v2.su
  have hsubB : (r2.side .B).submitted = (s.side .B).submitted := v2.st
  have h31' : RoomH r2 := h31.congr fun y => by cases y <;> assumption
  obtain ⟨s1, ta1, tb1, s2, e1, f1, k1a, k1b, sa, sb, qa, qb, d1, u1, e2, _, f2, na, nb, d2, d3, v1, v2⟩ :=
    c03_close_after_loss_partial ia ib ma mb simultaneous sys0 r2 rs hma hmb h0 (hrun.trans p02) h31'
      ({ ta with incoming.text := [] } : Tcb) ({ tb with incoming.text := [] } : Tcb) h2a h2b ea eb rfl rfl hub tbt n hlen
  refine ⟨s1, ta1, tb1, s2, ?_, (FinRun.of_plain p02).trans f1, k1a, k1b, sa, sb, qa, qb, d1, u1.trans hsubA, e2,
    (FinRun.of_plain p02).trans f2, na, nb, d2, d3, v1.trans hsubA, v2.trans hsubB⟩
  unfold closeLossFrontR
  rw [st1]
  dsimp only
  rw [show r1.step (.read .B) = _ from st2]
  exact e1

/-- as `roughDataOps`, but B's application has NOT read: B first receives [1, 2, 3] (history element 3) and keeps them in
    its receive buffer; [4, 5] (element 4) is LOST; A's application writes [6] -/
def unreadOps : List Op :=
  [.emit .A, .deliver .B 0, .emit .B, .deliver .A 1, .emit .A, .deliver .B 2,
   .write .A [1, 2, 3], .emit .A, .deliver .B 3, .emit .B, .write .A [4, 5], .emit .A, .write .A [6]]

def closeUnreadCheck : Bool :=
  match Sys.run {} [.open .A 1000 1500, .listen .B 5000 1500] with
  | .ok (sys0, _) =>
    match plainRunB sys0 unreadOps with
    | some s =>
      decide (s.a.submitted.length + 2 < 2147483648) && decide (s.b.submitted.length + 2 < 2147483648) &&
      (match s.a.tcb, s.b.tcb with
        | some ta, some tb => ta.state == .Established && tb.state == .Established &&
            tb.snd.una == tb.snd.nxt && tb.outgoing.text.isEmpty && tb.incoming.text == [1, 2, 3] &&
            ta.outgoing.text == [6] && ta.outgoing.retransmit.length == 2 && s.b.delivered == []
        | _, _ => false) &&
      (match closeLossFrontR 1 s with
        | .ok s1 =>
          (match s1.a.tcb, s1.b.tcb with
            | some ta1, some tb1 => ta1.state == .FinWait2 && tb1.state == .CloseWait
            | _, _ => false) && s1.b.delivered == [1, 2, 3, 4, 5, 6] &&
          (match releaseTail s1 with
            | .ok s2 => s2.a.tcb.isNone && s2.b.tcb.isNone && s2.b.delivered == [1, 2, 3, 4, 5, 6] && s2.a.delivered == []
            | .error _ => false)
        | .error _ => false)
    | none => false
  | .error _ => false

/-- the hypotheses of `c03_close_after_loss_read_partial` hold in that reachable state (`n = 1`; B's receive buffer holds
    [1, 2, 3] unread, its ACK of them was emitted but never delivered, [4, 5] was lost), and the schedule, evaluated -/
example : ∃ sys0 s : Sys, ∃ rs, ∃ ta tb : Tcb,
    Sys.run {} [.open .A 1000 1500, if false then .open .B 5000 1500 else .listen .B 5000 1500] = .ok (sys0, rs) ∧
    PlainRun sys0 s ∧ RoomH s ∧ s.a.tcb = some ta ∧ s.b.tcb = some tb ∧
    ta.state = .Established ∧ tb.state = .Established ∧ tb.snd.una = tb.snd.nxt ∧ tb.outgoing.text = [] ∧
    tb.incoming.text = [1, 2, 3] ∧ ta.outgoing.text.length ≤ 65535 * 1 ∧ ta.outgoing.retransmit.length = 2 := by
  have key : closeUnreadCheck = true := by decide +kernel
  unfold closeUnreadCheck at key
  split at key
  · rename_i sys0 rs e0
    split at key
    · rename_i s e1
      simp only [Bool.and_eq_true, decide_eq_true_eq] at key
      obtain ⟨⟨⟨r1, r2⟩, k1⟩, _⟩ := key
      split at k1
      · rename_i ta tb hta htb
        simp only [Bool.and_eq_true, List.isEmpty_iff, beq_iff_eq] at k1
        obtain ⟨⟨⟨⟨⟨⟨⟨x1, x2⟩, x3⟩, x4⟩, x5⟩, x6⟩, x7⟩, _⟩ := k1
        exact ⟨sys0, s, rs, ta, tb, e0, plainRunB_sound _ _ _ e1, ⟨r1, r2⟩,
          hta, htb, x1, x2, x3, x4, x5, by rw [x6]; decide, x7⟩
      · simp at k1
    · simp at key
  · simp at key

/-- **From ANY reachable state to release, with a last message**: from every reachable state `s` of the closed system
    without close (hypothesis of `c01_converges_full`: TCBs in SYN-SENT / SYN-RECEIVED / ESTABLISHED or the passive side
    still without TCB, anything queued, parked, buffered, lost), the fair rounds of `c01_converges_full_bound` (≤ 15) end
    `Done`; A's application then writes ANY message `d` (`|d| ≤ 65535·n`, H31) and calls `close()` AT ONCE, with all of
    `d` still unsent: `closeLossFrontN n` (`close A`, a fair round of `2n + 2` phases) delivers all of `d` to B's
    application before B sees the end of the stream (B CLOSE-WAIT, A FIN-WAIT-2), and when B's application closes
    (`releaseTail`) both TCBs are deleted; B has been handed everything A ever submitted (the log of `s` followed by `d`),
    A everything B submitted. -/
theorem c03_converge_write_close_partial (ia ib : Seq) (ma mb : U16) (simultaneous : Bool) (sys0 s : Sys)
    (rs : List Res) (hma : 100 ≤ ma.toNat) (hmb : 100 ≤ mb.toNat)
    (h0 : Sys.run {} [.open .A ia ma, if simultaneous then .open .B ib mb else .listen .B ib mb] = .ok (sys0, rs))
    (hrun : PlainRun sys0 s) (h31 : RoomH s) (d : List UInt8) (n : Nat) (hd : d.length ≤ 65535 * n)
    (hroom : s.a.submitted.length + d.length + 2 < 2147483648) :
    ∃ (rounds : List Nat) (s1 sw s2 s3 : Sys) (ta tb : Tcb) (r : Res),
      (rounds.foldlM (fun st k => fairRound k st) s = .ok s1) ∧ Done s1 ta tb ∧ rounds.length ≤ 15 ∧
      s1.step (.write .A d) = .ok (sw, r) ∧ closeLossFrontN n sw = .ok s2 ∧ releaseTail s2 = .ok s3 ∧ FinRun s s3 ∧
      s2.b.delivered = s.a.submitted ++ d ∧
      s3.a.tcb = none ∧ s3.b.tcb = none ∧ s3.a.submitted = s.a.submitted ++ d ∧ s3.b.submitted = s.b.submitted ∧
      s3.b.delivered = s3.a.submitted ∧ s3.a.delivered = s3.b.submitted := by
  obtain ⟨rounds, s1, ta, tb, hfold, p1, hdone, _, _, sa1, sb1, hlen, _, _, _⟩ :=
    c01_converges_full_bound ia ib ma mb simultaneous sys0 s rs hma hmb h0 hrun h31
  have ea := hdone.steady.a.st
  obtain ⟨sw, hw, pw, vw⟩ := (View.start s1 .A ta tb hdone.steady.ha hdone.steady.hb).write d (by rw [ea]; rfl)
  have wsa : sw.a.submitted = s.a.submitted ++ d := vw.st.trans (congrArg (· ++ d) sa1)
  have wsb : sw.b.submitted = s.b.submitted := vw.su.trans sb1
  have h31w : RoomH sw := by
    unfold RoomH
    rw [wsa, wsb, List.length_append]
    exact ⟨by omega, h31.2⟩
  obtain ⟨s2, ta2, tb2, s3, e2, f2, _, _, _, _, _, _, d2, u2, e3, _, f3, na, nb, d3, d4, v1, v2⟩ :=
    c03_close_after_loss_partial ia ib ma mb simultaneous sys0 sw rs hma hmb h0 ((hrun.trans p1).trans pw) h31w
      _ tb vw.t vw.u ea hdone.steady.b.st hdone.steady.a.buf hdone.steady.b.buf (hdone.steady.b.acked hdone.a.one)
      hdone.b.text n (by
        show (ta.outgoing.text ++ d).length ≤ _
        rw [hdone.a.text]; exact hd)
  exact ⟨rounds, s1, sw, s2, s3, ta, tb, .ok, hfold, hdone, hlen, hw, e2, e3,
    ((FinRun.of_plain p1).trans (FinRun.of_plain pw)).trans f3, by rw [d2, u2, wsa], na, nb, v1.trans wsa, v2.trans wsb,
    d3, d4⟩

/-- the SYN was lost and A's application had already written [1, 2, 3] (A in SYN-SENT, B without TCB): five fair rounds end
    `Done`; A writes [7, 8] and closes at once; B's application ends up with [1, 2, 3, 7, 8]; both TCBs are deleted -/
def convergeWriteCloseCheck : Bool :=
  match Sys.run {} [.open .A 1000 1500, .listen .B 5000 1500] with
  | .ok (sys0, _) =>
    (match plainRunB sys0 [.emit .A, .write .A [1, 2, 3]] with
      | some s => s.b.tcb.isNone &&
          (match runRounds s [1, 1, 1, 1, 4] with
            | .ok s1 =>
              (match s1.step (.write .A [7, 8]) with
                | .ok (sw, _) =>
                  (match closeLossFrontN 1 sw with
                    | .ok s2 => s2.b.delivered == [1, 2, 3, 7, 8] &&
                        (match releaseTail s2 with
                          | .ok s3 => s3.a.tcb.isNone && s3.b.tcb.isNone && s3.b.delivered == [1, 2, 3, 7, 8]
                          | .error _ => false)
                    | .error _ => false)
                | .error _ => false)
            | .error _ => false)
      | none => false)
  | .error _ => false

example : convergeWriteCloseCheck = true := by decide +kernel

/-- **`C03ReleaseStatement`'s own schedule, after convergence**: the conclusion of `C03ReleaseStatement`
    (`Props/C03Release.lean`) — literally its schedule: `close A`, `close B`, `fairRound k` (both retransmission timers
    expire, `k` exchange phases), `tick A (2·MSL + RTO + 1)`, `tick B (2·MSL + RTO + 1)`, with `k = 2` — holds in every
    reachable `Done` state, hence (first part) after the ≤ 15 fair rounds of `c01_converges_full_bound` from ANY reachable
    state of the closed system without close.  (The expiry of the retransmission timers right after the closes only flags
    the two FINs again, `Tcb.advanceTime_closedT`; `2·MSL + RTO` of virtual time after the last exchange delete both
    TCBs.)  `C03ReleaseStatement` itself quantifies over every `FinRun`-reachable state with both TCBs out of SYN-SENT and
    stays open. -/
theorem c03_release_statement_after_convergence (ia ib : Seq) (ma mb : U16) (simultaneous : Bool) (sys0 s : Sys)
    (rs : List Res) (hma : 100 ≤ ma.toNat) (hmb : 100 ≤ mb.toNat)
    (h0 : Sys.run {} [.open .A ia ma, if simultaneous then .open .B ib mb else .listen .B ib mb] = .ok (sys0, rs))
    (hrun : PlainRun sys0 s) (h31 : RoomH s) :
    ∃ (rounds : List Nat) (s1 : Sys) (ta tb : Tcb),
      (rounds.foldlM (fun st k => fairRound k st) s = .ok s1) ∧ Done s1 ta tb ∧ rounds.length ≤ 15 ∧
      ∃ s', (do
        let c1 ← Prod.fst <$> s1.step (.close .A)
        let c2 ← Prod.fst <$> c1.step (.close .B)
        let c3 ← fairRound 2 c2
        let c4 ← Prod.fst <$> c3.step (.tick .A (TIME_WAIT + RTO + 1))
        Prod.fst <$> c4.step (.tick .B (TIME_WAIT + RTO + 1))) = .ok s' ∧
      s'.a.tcb = none ∧ s'.b.tcb = none := by
  obtain ⟨rounds, s1, ta, tb, hfold, p1, hd, _, _, sa1, sb1, hlen, _, _, _⟩ :=
    c01_converges_full_bound ia ib ma mb simultaneous sys0 s rs hma hmb h0 hrun h31
  have a := (all_of_reach_mtu ia ib ma mb simultaneous sys0 s1 rs hma hmb h0 (hrun.trans p1)
    ⟨sa1 ▸ h31.1, sb1 ▸ h31.2⟩).1
  obtain ⟨qa, qb⟩ := quiet_of_done a.good ta tb hd
  obtain ⟨s', e, na, nb⟩ := release_statement_quiet s1 ta tb hd.steady.ha hd.steady.hb qa qb
    (a.f.tcb .A ta hd.steady.ha).tmo (a.f.tcb .B tb hd.steady.hb).tmo
    (a.good.timeWait_none .A ta hd.steady.ha (by rw [hd.steady.a.st]; nofun))
    (a.good.timeWait_none .B tb hd.steady.hb (by rw [hd.steady.b.st]; nofun))
  exact ⟨rounds, s1, ta, tb, hfold, hd, hlen, s', e, na, nb⟩

/-- the schedule of `C03ReleaseStatement` (`k = 2`) evaluated after the rounds of `hsCheck`'s first state (SYN lost) -/
def statementCheck : Bool :=
  match Sys.run {} [.open .A 1000 1500, .listen .B 5000 1500] with
  | .ok (sys0, _) =>
    (match plainRunB sys0 [.emit .A, .write .A [1, 2, 3]] with
      | some s =>
          (match runRounds s [1, 1, 1, 1, 4] with
            | .ok s1 =>
              (match statementRound 2 s1 with
                | .ok s' => s'.a.tcb.isNone && s'.b.tcb.isNone && s'.b.delivered == [1, 2, 3]
                | .error _ => false)
            | .error _ => false)
      | none => false)
  | .error _ => false

example : statementCheck = true := by decide +kernel

end Elvis.Tcp
