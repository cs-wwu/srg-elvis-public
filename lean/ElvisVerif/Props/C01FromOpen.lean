import ElvisVerif.Lemmas.TcpHsSys
import ElvisVerif.Props.C03Release
/-!
# C01 / C03 — from `open` to everything delivered to both TCBs released, under the fair loss-free schedule

For ALL initial sequence numbers, MTUs (> `SPACE_FOR_HEADERS`) and ALL data `da` the active side's application
writes right after `open` (H31: `|da| + 2 < 2^31`): the three-way handshake, the transfer and the close are
evaluated symbolically.  `hsStart ia ib ma mb da` (`Lemmas/TcpHsSys.lean`) is the system after `open A ia ma`,
`listen B ib mb`, `write A da`; an exchange phase (`phase`, `Lemmas/TcpConvPhase.lean`) = `emit A`, `emit B`, delivery of
everything just emitted to its addressee in emission order, `read A`, `read B`.
-/
namespace Elvis.Tcp
open Tcb Elvis.Tcp.Fin

/-- the system after `open A`, `listen B` -/
def hsSys0 (ia ib : Seq) (ma mb : U16) : Sys :=
  { a := { tcb := some (openT SideId.A.port SideId.B.port ia ma) }, b := { listen := some (ib, mb) } }

theorem hsSys0_run (ia ib : Seq) (ma mb : U16) :
    Sys.run {} [.open .A ia ma, if false then .open .B ib mb else .listen .B ib mb] = .ok (hsSys0 ia ib ma mb, [.ok, .ok]) :=
  C01.run_cons_ok (step_iff.2 (.open (open_eq ..))) (C01.run_cons_ok (step_iff.2 .listen) (Sys.run_nil _))

theorem hsStart_step (ia ib : Seq) (ma mb : U16) (da : List UInt8) :
    (hsSys0 ia ib ma mb).step (.write .A da) = .ok (hsStart ia ib ma mb da, .ok) :=
  step_iff.2 (Sys.Step.write (s := hsSys0 ia ib ma mb) (x := .A) (b := da) rfl)

theorem roomH_of {s : Sys} {da : List UInt8} (sa : s.a.submitted = da) (sb : s.b.submitted = [])
    (h31 : da.length + 2 < 2147483648) : RoomH s :=
  ⟨by rw [sa]; exact h31, by rw [sb]; decide⟩

/-- **C01 convergence from `open`** (`_partial`: the network is loss-free and fair from the start; active /
    passive open).  For all ISNs `ia`, `ib`, all MTUs above `SPACE_FOR_HEADERS`, all data `da` with
    `|da| + 2 < 2^31` and `n ≥ ⌈(|da| − min |da| 65535) / 65535⌉`: from the state after `open A`, `listen B`,
    `write A da`, `3 + (2n + 1)` exchange phases — three for the handshake (SYN; SYN-ACK; ACK together with the
    first window of data), `2n + 1` for the rest (`c01_converges_partial`) — end in a `Done` state: B's
    application has received exactly `da`, all queues and unsent texts are empty, both sides are silent
    for ever (`c01_silence_when_done`). -/
theorem c01_converges_from_open_partial (ia ib : Seq) (ma mb : U16) (da : List UInt8)
    (hmA : SPACE_FOR_HEADERS < ma.toNat) (hmB : SPACE_FOR_HEADERS < mb.toNat) (h31 : da.length + 2 < 2147483648)
    (n : Nat) (hn : da.length - min da.length 65535 ≤ 65535 * n) :
    ∃ s' ta' tb', phases (3 + (2 * n + 1)) (hsStart ia ib ma mb da) = .ok s' ∧
      PlainRun (hsSys0 ia ib ma mb) s' ∧ Done s' ta' tb' ∧
      s'.b.delivered = da ∧ s'.a.delivered = [] ∧ s'.a.submitted = da ∧ s'.b.submitted = [] := by
  obtain ⟨s3, ta, tb, ph3, r3, st3, hta, htb, sa3, sb3, _⟩ := handshake_steady ia ib ma mb da hmA hmB
  have r03 : PlainRun (hsSys0 ia ib ma mb) s3 :=
    (PlainRun.step (op := .write .A da) (.refl _) trivial (hsStart_step ia ib ma mb da)).trans r3
  have hroom : RoomH s3 := roomH_of sa3 sb3 h31
  have hg := good_of_reach ia ib ma mb false (hsSys0 ia ib ma mb) s3 _ (by omega) (by omega)
    (hsSys0_run ia ib ma mb) r03 hroom
  obtain ⟨s', ta', tb', hp, hr, hg', hd⟩ := phases_done n s3 ta tb hg st3
    (by rw [hta, List.length_drop]; exact hn) (by rw [htb]; simp)
  obtain ⟨d1, d2⟩ := done_stream hg' ta' tb' hd
  have hsa : s'.a.submitted = da := by
    rw [← sa3]; exact phases_submitted (2 * n + 1) s3 s' hp .A
  have hsb : s'.b.submitted = [] := by
    rw [← sb3]; exact phases_submitted (2 * n + 1) s3 s' hp .B
  refine ⟨s', ta', tb', ?_, r03.trans hr, hd, by rw [d1, hsa], by rw [d2, hsb], hsa, hsb⟩
  rw [phases_add, ph3]
  exact hp

/-- **From `open` to release**: `c01_converges_from_open_partial` followed by a simultaneous close
    (`c03_release_simultaneous_partial`): the whole life of a connection under the fair loss-free schedule, for
    all ISNs, MTUs and data — handshake, transfer, close, TIME-WAIT — ends with both TCBs deleted and
    exactly `da` handed to B's application. -/
theorem c03_open_to_release_partial (ia ib : Seq) (ma mb : U16) (da : List UInt8)
    (hmA : SPACE_FOR_HEADERS < ma.toNat) (hmB : SPACE_FOR_HEADERS < mb.toNat) (h31 : da.length + 2 < 2147483648)
    (n : Nat) (hn : da.length - min da.length 65535 ≤ 65535 * n) :
    ∃ s' s'', phases (3 + (2 * n + 1)) (hsStart ia ib ma mb da) = .ok s' ∧ releaseRound s' = .ok s'' ∧
      s''.a.tcb = none ∧ s''.b.tcb = none ∧ s''.b.delivered = da ∧ s''.a.delivered = [] := by
  obtain ⟨s', ta', tb', hp, hr, hd, d1, d2, sa, sb⟩ := c01_converges_from_open_partial ia ib ma mb da hmA hmB h31 n hn
  have hroom : RoomH s' := roomH_of sa sb h31
  obtain ⟨s'', e, _, na, nb, e1, e2, sa', sb', _⟩ := c03_release_simultaneous_partial ia ib ma mb false
    (hsSys0 ia ib ma mb) s' _ (by omega) (by omega) (hsSys0_run ia ib ma mb) hr hroom ta' tb' hd
  exact ⟨s', s'', hp, e, na, nb, by rw [e1, sa', sa], by rw [e2, sb', sb]⟩

/-! ## non-vacuity: the statement evaluated -/

/-- 70 000 bytes (more than one window): `n = 1`, six phases; then the close -/
example : ∃ s' s'', phases 6 (hsStart 1000 5000 1500 1500 (List.replicate 70000 7)) = .ok s' ∧
    releaseRound s' = .ok s'' ∧ s''.a.tcb = none ∧ s''.b.tcb = none ∧
    s''.b.delivered = List.replicate 70000 7 ∧ s''.a.delivered = [] :=
  c03_open_to_release_partial 1000 5000 1500 1500 (List.replicate 70000 7) (by decide) (by decide)
    (by rw [List.length_replicate]; omega) 1 (by rw [List.length_replicate]; omega)

end Elvis.Tcp
