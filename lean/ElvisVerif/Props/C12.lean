import ElvisVerif.Lemmas.ModCmpGen
import ElvisVerif.Lemmas.ShiftRun
/-!
# C12 — TCP behaviour is independent of absolute sequence numbers (mod 2^32)

## Part 1 — the primitives

The circular comparison primitives.  Every theorem is about the kernels EXTRACTED from
`tcp/tcb/modular_cmp.rs` (`Generated/ModCmpKernels.lean`, regenerated on every check), so an
edit of that file re-checks — and, if it changes behaviour, breaks — these proofs.

* agreement with the mathematical circular order for every pair `(a, a + d)`, `d < 2^31`
  (`c12_mod_lt_iff … c12_mod_geq_strict`);
* mutual consistency for ALL pairs (`c12_mod_leq_iff`, `c12_mod_lt_leq`, `c12_mod_geq_iff`,
  `c12_mod_gt_flip`, `c12_mod_geq_flip`, `c12_mod_lt_iff_not_geq`, `c12_mod_lt_trans`);
* `mod_bounded` = membership in the cyclic interval, in offset form (`c12_mod_bounded_iff`,
  `_half`, `_lt_lt`), exact for every interval shorter than `2^32 − 2`;
* invariance of each primitive under a common shift (`c12_mod_*_shift`);
* `impl Ord for Segment` (the reorder heap): on sequence numbers inside one half circle it is
  the reversed numeric order of the offsets, hence a strict weak order
  (`c12_segment_order`, `c12_segment_strict_weak_order`).

## Part 2 — step and run invariance (at the end of this file)

`Tcb.shift ka kb` (`Model/TcbShift.lean`) moves a connection to other ISNs: `ka` is added to
everything in the local sequence space, `kb` to everything in the remote one, modulo 2^32.
`c12_block_shift`: each of the six blocks of `process_segment` commutes with it;
`c12_process_segment_shift`, `c12_step_shift_partial`: so does every TCB operation
(`open`, LISTEN, CLOSED, `segment_arrives` with its reorder heap and processing loop,
`advance_time`, `send`, `receive`, `close`, `abort`, `segments`), for ALL `ka kb` — wrap-around
anywhere in the handshake or the transfer included; `c12_run_shift_partial`: so does every
admissible run of the two-endpoint system, by induction.  The one exclusion is an explicit
hypothesis with a witness theorem: the RFC-mandated `SEQ = 0` reset outside a connection
(`c12_closed_rst_seq_zero`).

F-C12-2 (repaired in the repository, commit `fix: SND.WL2 is initialised with ISS …`): `SND.WL2`
was copied from the ACK field of a SYN that carries no ACK bit (an absolute 0) and survived
`close()` / a FIN in SYN-RECEIVED.  `c12_wl2_regression` is a run through that path.

F-C12-1 (repaired in the repository, commit `fix: mod_leq/mod_geq …`): `mod_leq a b` was coded as
`mod_lt a (b+1)` and therefore false at distance exactly `2^31 − 1` although `mod_lt` is true
there (mirror image for `mod_geq`).  `c12_mod_leq_regression` evaluates that pair.
-/
namespace Elvis.Tcp
open Elvis.ModCmp
open Elvis.Gen.ModCmp (mod_lt mod_leq mod_gt mod_geq mod_bounded)

theorem c12_mod_lt_iff (a d : BitVec 32) (hd : d.toNat < 2147483648) :
    mod_lt a (a + d) = true ↔ 0 < d.toNat := by
  rw [gen_mod_lt_iff, sub_add_cancel_left]; omega

theorem c12_mod_lt_asymm (a d : BitVec 32) (hd : d.toNat < 2147483648) :
    mod_lt (a + d) a = false := by
  rw [Bool.eq_false_iff]; intro h
  rw [gen_mod_lt_iff, sub_add_left_neg, BitVec.toNat_neg] at h
  omega

theorem c12_mod_gt_flip (a b : BitVec 32) : mod_gt a b = mod_lt b a := rfl

theorem c12_mod_leq (a d : BitVec 32) (hd : d.toNat < 2147483648) : mod_leq a (a + d) = true := by
  rw [gen_mod_leq_iff, sub_add_cancel_left]; exact hd

theorem c12_mod_leq_strict (a d : BitVec 32) (hd : d.toNat < 2147483648) :
    mod_leq (a + d) a = true ↔ d = 0#32 := by
  rw [gen_mod_leq_iff, sub_add_left_neg, BitVec.toNat_neg]
  constructor
  · intro h
    apply BitVec.eq_of_toNat_eq
    simp only [BitVec.toNat_ofNat]
    omega
  · intro h; subst h; decide

theorem c12_mod_geq_flip (a b : BitVec 32) : mod_geq a b = mod_leq b a := by
  rw [Bool.eq_iff_iff, gen_mod_geq_iff, gen_mod_leq_iff]

theorem c12_mod_geq (a d : BitVec 32) (hd : d.toNat < 2147483648) : mod_geq (a + d) a = true := by
  rw [c12_mod_geq_flip]; exact c12_mod_leq a d hd

theorem c12_mod_geq_strict (a d : BitVec 32) (hd : d.toNat < 2147483648) :
    mod_geq a (a + d) = true ↔ d = 0#32 := by
  rw [c12_mod_geq_flip]; exact c12_mod_leq_strict a d hd

theorem c12_mod_leq_iff (a b : BitVec 32) : mod_leq a b = true ↔ mod_lt a b = true ∨ a = b := by
  rw [gen_mod_leq_iff, gen_mod_lt_iff, ← sub_toNat_eq_zero]; omega

theorem c12_mod_lt_leq (a b : BitVec 32) (h : mod_lt a b = true) : mod_leq a b = true :=
  (c12_mod_leq_iff a b).2 (Or.inl h)

theorem c12_mod_geq_iff (a b : BitVec 32) : mod_geq a b = true ↔ mod_gt a b = true ∨ a = b := by
  rw [gen_mod_geq_iff, gen_mod_gt_iff, eq_comm, ← sub_toNat_eq_zero]; omega

theorem c12_mod_lt_iff_not_geq (a b : BitVec 32) (h : (b - a).toNat ≠ 2147483648) :
    mod_lt a b = true ↔ mod_geq a b = false := by
  rw [Bool.eq_false_iff, Ne, gen_mod_geq_iff, gen_mod_lt_iff]
  have e : a - b = -(b - a) := by simp only [BitVec.sub_eq_add_neg, BitVec.neg_add, BitVec.neg_neg]; ac_rfl
  rw [e, BitVec.toNat_neg]
  have := (b - a).isLt
  omega

/-- exactly 2^31 apart neither number precedes the other (there is no order to agree with) -/
theorem c12_mod_lt_antipodal (a : BitVec 32) :
    mod_lt a (a + 2147483648#32) = false ∧ mod_lt (a + 2147483648#32) a = false := by
  constructor <;> (rw [Bool.eq_false_iff]; intro h; rw [gen_mod_lt_iff] at h)
  · rw [sub_add_cancel_left] at h; simp at h
  · rw [sub_add_left_neg] at h; simp at h

theorem c12_mod_lt_trans (a b c : BitVec 32) (h1 : mod_lt a b = true) (h2 : mod_lt b c = true)
    (h3 : (c - a).toNat < 2147483648) : mod_lt a c = true := by
  -- seen from `a` all three lie in one half circle, where the order is that of the distances
  have hb := (gen_mod_lt_iff a b).1 h1
  rw [← modLt_eq_generated] at h2 ⊢
  have := (modLt_iff_off a b c hb.2 h3).1 h2
  rw [modLt_iff_off a a c (by rw [off_self]; decide) h3, off_self]
  unfold off at this ⊢
  omega

theorem c12_mod_bounded_offsets (a : BitVec 32) (c1 : Elvis.Gen.ModCmp.Cmp) (b : BitVec 32)
    (c2 : Elvis.Gen.ModCmp.Cmp) (c : BitVec 32) :
    mod_bounded a c1 b c2 c = true ↔
      0 < (b - (a - c1.offset)).toNat ∧ (b - (a - c1.offset)).toNat < ((c + c2.offset) - (a - c1.offset)).toNat := by
  have h := cyc_iff (a - c1.offset) b (c + c2.offset)
  unfold cyc at h
  unfold mod_bounded
  exact h

def lo : Elvis.Gen.ModCmp.Cmp → Nat | .Lt => 1 | .Leq => 0
def hi : Elvis.Gen.ModCmp.Cmp → Nat | .Lt => 0 | .Leq => 1

theorem c12_mod_bounded_iff (a : BitVec 32) (c1 : Elvis.Gen.ModCmp.Cmp) (b : BitVec 32)
    (c2 : Elvis.Gen.ModCmp.Cmp) (c : BitVec 32) (hy : (c - a).toNat < 4294967294) :
    mod_bounded a c1 b c2 c = true ↔
      lo c1 ≤ (b - a).toNat ∧ (b - a).toNat < (c - a).toNat + hi c2 := by
  rw [c12_mod_bounded_offsets, bnd_lo, bnd_hi]
  generalize (b - a) = x
  generalize (c - a) = y at hy ⊢
  have hx := x.isLt
  have e2 : ((1 : BitVec 32) + 1) = 2#32 := by decide
  have h1 : (1 : BitVec 32).toNat = 1 := rfl
  have h2 : (2#32 : BitVec 32).toNat = 2 := rfl
  have y1 : (y + (1 : BitVec 32)).toNat = y.toNat + 1 := by rw [toNat_add_small y 1 (by rw [h1]; omega), h1]
  have y2 : (y + 2#32).toNat = y.toNat + 2 := by rw [toNat_add_small y 2#32 (by rw [h2]; omega), h2]
  have z0 : ((0 : BitVec 32) + 0) = 0 := by decide
  have z1 : ((1 : BitVec 32) + 0) = 1 := by decide
  have z2 : ((0 : BitVec 32) + 1) = 1 := by decide
  have xz : ∀ v : BitVec 32, v + (0 : BitVec 32) = v := fun v => by simp
  cases c1 <;> cases c2 <;>
    simp only [Elvis.Gen.ModCmp.Cmp.offset, lo, hi, e2, z0, z1, z2, xz]
  · omega
  · rw [y1]; omega
  · rw [toNat_add_one, y1]; split <;> omega
  · rw [toNat_add_one, y2]; split <;> omega

/-- the 2^31 form the property quantifies over -/
theorem c12_mod_bounded_half (a : BitVec 32) (c1 : Elvis.Gen.ModCmp.Cmp) (d : BitVec 32)
    (c2 : Elvis.Gen.ModCmp.Cmp) (e : BitVec 32) (he : e.toNat < 2147483648) :
    mod_bounded a c1 (a + d) c2 (a + e) = true ↔ lo c1 ≤ d.toNat ∧ d.toNat < e.toNat + hi c2 := by
  have h := c12_mod_bounded_iff a c1 (a + d) c2 (a + e)
  rw [sub_add_cancel_left, sub_add_cancel_left] at h
  exact h (by omega)

theorem c12_mod_bounded_lt_lt (a b c : BitVec 32) (hy : (c - a).toNat < 2147483648) :
    mod_bounded a .Lt b .Lt c = true ↔ mod_lt a b = true ∧ mod_lt b c = true := by
  rw [c12_mod_bounded_iff a .Lt b .Lt c (by omega), gen_mod_lt_iff, gen_mod_lt_iff,
    sub_sub_sub_cancel a b c]
  simp only [lo, hi]
  generalize (b - a) = x
  generalize (c - a) = y at hy ⊢
  rw [BitVec.toNat_sub]
  have := x.isLt
  omega

/-- the interval reading fails when the interval is the whole circle but one point -/
theorem c12_mod_bounded_full_circle :
    mod_bounded 5#32 .Leq 7#32 .Lt 4#32 = false := by decide

theorem c12_mod_lt_shift (a b k : BitVec 32) : mod_lt (a + k) (b + k) = mod_lt a b := by
  rw [← modLt_eq_generated, ← modLt_eq_generated, modLt_shift]
theorem c12_mod_leq_shift (a b k : BitVec 32) : mod_leq (a + k) (b + k) = mod_leq a b := by
  rw [← modLeq_eq_generated, ← modLeq_eq_generated, modLeq_shift]
theorem c12_mod_gt_shift (a b k : BitVec 32) : mod_gt (a + k) (b + k) = mod_gt a b := by
  rw [← modGt_eq_generated, ← modGt_eq_generated, modGt_shift]
theorem c12_mod_geq_shift (a b k : BitVec 32) : mod_geq (a + k) (b + k) = mod_geq a b := by
  rw [← modGeq_eq_generated, ← modGeq_eq_generated, modGeq_shift]
theorem c12_mod_bounded_shift (a : BitVec 32) (c1 : Cmp) (b : BitVec 32) (c2 : Cmp) (c k : BitVec 32) :
    mod_bounded (a + k) c1.toGen (b + k) c2.toGen (c + k) = mod_bounded a c1.toGen b c2.toGen c := by
  rw [← modBounded_eq_generated, ← modBounded_eq_generated, modBounded_shift]

/-- F-C12-1 (repaired): the pair at distance `2^31 − 1` -/
theorem c12_mod_leq_regression :
    mod_lt 0#32 (0#32 + 2147483647#32) = true ∧ mod_leq 0#32 (0#32 + 2147483647#32) = true ∧
    mod_gt (0#32 + 2147483647#32) 0#32 = true ∧ mod_geq (0#32 + 2147483647#32) 0#32 = true := by decide

/-- `Ord::cmp` of `impl Ord for Segment` (`tcb/segment.rs`, the order of the reorder heap), over the extracted `mod_lt` -/
def segCmp (a b : Segment) : Ordering :=
  if a.hdr.seq == b.hdr.seq then .eq
  else if mod_lt a.hdr.seq b.hdr.seq then .gt
  else .lt

/-- the `<=` the heap model uses is the one `PartialOrd` derives from `cmp` -/
theorem c12_segment_le_is_cmp (a b : Segment) : segLe a b = (segCmp a b != .gt) := by
  unfold segLe segCmp
  rw [modLt_eq_generated]
  cases (a.hdr.seq == b.hdr.seq) <;> cases mod_lt a.hdr.seq b.hdr.seq <;> rfl

def InHalf (base x : Seq) : Prop := (x - base).toNat < 2147483648

/-- on sequence numbers inside one half circle `cmp` IS the (reversed) numeric order of the
    offsets: a total preorder, in particular a strict weak order -/
theorem c12_segment_order (base : Seq) (a b : Segment)
    (ha : InHalf base a.hdr.seq) (hb : InHalf base b.hdr.seq) :
    segCmp a b = compare (b.hdr.seq - base).toNat (a.hdr.seq - base).toNat := by
  unfold segCmp
  rw [← modLt_eq_generated]
  have hlt := modLt_iff_off base a.hdr.seq b.hdr.seq ha hb
  unfold off at hlt
  by_cases h1 : (a.hdr.seq == b.hdr.seq) = true
  · rw [if_pos h1, eq_of_beq h1]
    exact (Nat.compare_eq_eq.2 rfl).symm
  · rw [if_neg h1]
    by_cases h2 : modLt a.hdr.seq b.hdr.seq = true
    · rw [if_pos h2]
      exact (Nat.compare_eq_gt.2 (hlt.1 h2)).symm
    · rw [if_neg h2]
      -- different numbers are at different distances
      have hne : (a.hdr.seq - base).toNat ≠ (b.hdr.seq - base).toNat :=
        fun e => h1 (by rw [off_inj (base := base) e]; exact beq_self_eq_true _)
      have := mt hlt.2 h2
      exact (Nat.compare_eq_lt.2 (by omega)).symm

theorem c12_segment_strict_weak_order (base : Seq) (a b c : Segment)
    (ha : InHalf base a.hdr.seq) (hb : InHalf base b.hdr.seq) (hc : InHalf base c.hdr.seq) :
    segCmp a a = .eq ∧
    (segCmp a b = .lt ↔ segCmp b a = .gt) ∧
    (segCmp a b = .eq ↔ a.hdr.seq = b.hdr.seq) ∧
    (segCmp a b = .lt → segCmp b c = .lt → segCmp a c = .lt) ∧
    (segCmp a b = .eq → segCmp b c = .eq → segCmp a c = .eq) ∧
    (segCmp a b = .lt → segCmp a c = .lt ∨ segCmp c b = .lt) := by
  rw [c12_segment_order base a a ha ha, c12_segment_order base a b ha hb, c12_segment_order base b a hb ha,
    c12_segment_order base b c hb hc, c12_segment_order base a c ha hc, c12_segment_order base c b hc hb]
  have e : a.hdr.seq = b.hdr.seq ↔ (b.hdr.seq - base).toNat = (a.hdr.seq - base).toNat :=
    ⟨fun h => by rw [h], fun h => (off_inj (base := base) h).symm⟩
  rw [e]
  simp only [Nat.compare_eq_lt, Nat.compare_eq_gt, Nat.compare_eq_eq]
  refine ⟨trivial, trivial, trivial, ?_, ?_, ?_⟩ <;> omega

def segAt (q : Seq) : Segment := ⟨Hdr.builder 0 0 q, []⟩

/-- the half-circle hypothesis cannot be weakened to "pairwise less than 2^31 apart": three
    sequence numbers spread around the circle are pairwise close and ordered in a cycle.
    (The TCB only parks segments that overlap its 64 KiB receive window.) -/
theorem c12_segment_order_needs_half_circle :
    segCmp (segAt 0#32) (segAt 1500000000#32) = .gt ∧
    segCmp (segAt 1500000000#32) (segAt 3000000000#32) = .gt ∧
    segCmp (segAt 3000000000#32) (segAt 0#32) = .gt := by decide

/-- T2, per block of `process_segment` (code order).  Block 3 compares results up to
    `ConnectionReset ≃ BlindReset` (in SYN-SENT the code tells them apart by `SEG.SEQ = RCV.NXT`
    with `RCV.NXT` still unset; `segment_arrives` deletes the TCB in both cases); the hypothesis of
    the clause for block 4, "our SYN is acknowledged iff the segment carries an ACK" in SYN-SENT, is
    not used: `SND.WL2` is a local number whether or not the SYN carries an
    ACK, and block 4 commutes for every TCB (`shift_synBlock`); block 5 is not reached in SYN-SENT;
    block 6 commutes unconditionally. -/
theorem c12_block_shift (ka kb : Seq) (s : Tcb) (seg : Hdr) (text : List UInt8) (tl : Seq) :
    Tcb.seqCheck (s.shift ka kb) (seg.shift kb ka) tl = M.shift ka kb (Tcb.seqCheck s seg tl) ∧
    Tcb.ackBlock (s.shift ka kb) (seg.shift kb ka) = M.shift ka kb (Tcb.ackBlock s seg) ∧
    normB (Tcb.rstBlock (s.shift ka kb) (seg.shift kb ka)) = normB (M.shift ka kb (Tcb.rstBlock s seg)) ∧
    ((s.state = .SynSent → seg.ctl.syn = true → modGt s.snd.una s.snd.iss = seg.ctl.ack) →
      Tcb.synBlock (s.shift ka kb) (seg.shift kb ka) = M.shift ka kb (Tcb.synBlock s seg)) ∧
    (s.state ≠ .SynSent →
      Tcb.textBlock (s.shift ka kb) (seg.shift kb ka) text tl = M.shift ka kb (Tcb.textBlock s seg text tl)) ∧
    Tcb.finBlock (s.shift ka kb) (seg.shift kb ka) tl = M.shift ka kb (Tcb.finBlock s seg tl) :=
  ⟨shift_seqCheck ka kb s seg tl, shift_ackBlock ka kb s seg, shift_rstBlock_norm ka kb s seg,
   fun _ => shift_synBlock ka kb s seg, shift_textBlock ka kb s seg text tl, shift_finBlock ka kb s seg tl⟩

/-- T2: `process_segment` as a whole, for EVERY segment.  The hypothesis (fresh while in SYN-SENT) is
    not used: `shift_processSegment` holds for every TCB. -/
theorem c12_process_segment_shift (ka kb : Seq) (s : Tcb) (seg : Segment) (hF : SynSentFresh s) :
    normM (Tcb.processSegment (s.shift ka kb) (seg.shift kb ka)) =
      normM (M.shift ka kb (Tcb.processSegment s seg)) :=
  shift_processSegment ka kb s seg

/-- T2 `c12_step_shift`: every operation of the TCB API commutes with the shift map, for all
    `ka kb`.  `_partial` because of the RFC exclusion for CLOSED (`rst ∨ ack`, see
    `c12_closed_rst_seq_zero`); the other hypotheses are invariants of every TCB made by `open`
    (`ArrPre`: `SynSentFresh`, empty reorder heap in SYN-SENT; zero send window in SYN-SENT).
    Of these only the zero send window (for `segments`) is used: `segment_arrives` commutes for every TCB
    (`shift_segmentArrives`), and `close` carries no exclusion. -/
theorem c12_step_shift_partial (ka kb : Seq) :
    (∀ lp rp iss mtu, Tcb.open lp rp (iss + ka) mtu = shiftE ka kb (Tcb.open lp rp iss mtu)) ∧
    (∀ seg iss mtu, segmentArrivesListen (Segment.shift kb ka seg) (iss + ka) mtu =
        shiftL ka kb (segmentArrivesListen seg iss mtu)) ∧
    (∀ (seg : Hdr) tl, seg.ctl.rst = true ∨ seg.ctl.ack = true →
        segmentArrivesClosed (seg.shift kb ka) tl = (segmentArrivesClosed seg tl).map (Hdr.shift ka kb)) ∧
    (∀ (s : Tcb) seg, ArrPre s →
        (s.shift ka kb).segmentArrives (seg.shift kb ka) = M.shift ka kb (s.segmentArrives seg)) ∧
    (∀ (s : Tcb) dt, (s.shift ka kb).advanceTime dt = M.shift ka kb (s.advanceTime dt)) ∧
    (∀ (s : Tcb) m, (s.shift ka kb).send m = (s.send m).shift ka kb) ∧
    (∀ (s : Tcb), (s.shift ka kb).receive = ((s.receive).1.shift ka kb, (s.receive).2)) ∧
    (∀ (s : Tcb), (s.shift ka kb).close = M.shift ka kb s.close) ∧
    (∀ (s : Tcb), (s.shift ka kb).abort = shiftE ka kb s.abort) ∧
    (∀ (s : Tcb), (s.state = .SynSent → s.snd.wnd = 0) →
        (s.shift ka kb).segments = M.shiftOut ka kb s.segments) :=
  ⟨shift_open ka kb, fun seg iss mtu => shift_listen ka kb seg iss mtu, fun seg tl h => shift_closed ka kb seg tl h,
   fun s seg _ => shift_segmentArrives ka kb s seg, shift_advanceTime ka kb, shift_send ka kb,
   shift_receive ka kb, shift_close ka kb, shift_abort ka kb,
   fun s h => shift_segments ka kb s h⟩

/-- the hypotheses of `c12_step_shift_partial` are satisfiable in non-trivial states: a
    SYN-RECEIVED TCB of a simultaneous open (the state in which F-C12-2 showed)
    with a parked out-of-order segment, and a fresh SYN-SENT TCB -/
example :
    let t : Tcb := { localPort := 1, remotePort := 2, mtu := 1500, initiation := .Open, state := .SynReceived,
                     snd := { una := 4294967000#32, nxt := 4294967001#32, wnd := 65535, wl1 := 70,
                              wl2 := 4294967000#32, iss := 4294967000#32 },
                     rcv := { irs := 70, nxt := 71 },
                     incoming := { segments := [segAt 2147483700#32] } }
    ArrPre t ∧ ArrPre (match Tcb.open 1 2 4294967295#32 1500#16 with | .ok u => u | .error _ => t) :=
  ⟨⟨(fun h => by cases h), (fun h => by cases h)⟩, ⟨(fun _ => ⟨rfl, rfl, rfl⟩), (fun _ => rfl)⟩⟩

/-- outside a connection, a segment without ACK is answered with `<SEQ=0><ACK=SEG.SEQ+SEG.LEN><CTL=RST,ACK>`
    (RFC 9293 3.10.7.1): the ACK moves with the peer's space, the SEQ is 0 for every ISN pair -/
theorem c12_closed_rst_seq_zero (ka kb : Seq) (seg : Hdr) (tl : Seq)
    (hr : seg.ctl.rst = false) (ha : seg.ctl.ack = false) :
    segmentArrivesClosed (seg.shift kb ka) tl = (segmentArrivesClosed seg tl).map (Hdr.shift 0 kb) ∧
    (segmentArrivesClosed (seg.shift kb ka) tl).map (·.seq) = some 0 :=
  closed_rst_seq_zero ka kb seg tl hr ha

/-- active open with ISS `iss`; the peer's SYN (no ACK) arrives: simultaneous open, SYN-RECEIVED;
    `close()`; the peer's SYN-ACK arrives advertising a window of 1234 -/
def wl2Ops (iss : Nat) : List Op :=
  [ .open .A (BitVec.ofNat 32 iss) 1500#16,
    .inject .A (forge .A 2 5000 0 65535 []),
    .close .A,
    .inject .A (forge .A 18 5000 (iss + 1) 1234 []) ]

def sndWnd (r : Except String (Sys × List Res)) : Option Nat :=
  match r with
  | .ok (s, _) => s.a.tcb.map fun t => t.snd.wnd.toNat
  | .error _ => none

/-- F-C12-2 (replayed on the real code by the `c12-run` probes).
    `SND.WL2` used to be copied from the ACK field of the peer's SYN, which carries no ACK bit —
    the constant 0; after `close()` in SYN-RECEIVED the window-update test
    `SND.WL1 = SEG.SEQ ∧ SND.WL2 =< SEG.ACK` compared the peer's real ACK number with that 0: with
    ISS 100 the retransmitted SYN-ACK updated `SND.WND` to 1234, with ISS 2^31+100 (the same ops
    shifted by 2^31) it did not.  With `SND.WL2 = ISS` after a SYN without ACK both runs take the
    update. -/
theorem c12_wl2_regression :
    sndWnd (Sys.run {} (wl2Ops 100)) = some 1234 ∧
    sndWnd (Sys.run {} (wl2Ops (2147483648 + 100))) = some 1234 ∧
    wl2Ops (2147483648 + 100) = (wl2Ops 100).map (Op.shift 2147483648#32 0#32) :=
  ⟨by decide, by decide, by rfl⟩

/-- T2 `c12_run_shift`: a run of the two-endpoint system (any interleaving of opens, writes,
    reads, timer ticks, `segments()`, deliveries of ANY earlier segment any number of times —
    loss, duplication, reordering —, forged segments, closes, aborts) from ISNs `(a, b)` and the
    same run from `(a + ka, b + kb)` pass through shifted states and produce shifted results,
    op by op: the same flags, lengths, payloads, windows, the same data delivered, the same
    state changes, SEQ/ACK fields moved by exactly `ka` / `kb` — for all `ka kb`, i.e. for all
    ISN pairs, wrap-around included.

    `_partial` because of `RunExcl`, which demands of the ORIGINAL run only the genuine exclusions
    (`close()` / a FIN in SYN-RECEIVED is not among them: `c12_wl2_regression` is a run through exactly that path):
    * the RFC-mandated `SEQ = 0` reset: a segment that meets neither a TCB nor a LISTEN binding
      carries RST or ACK;
    * plumbing: a delivered / forged segment is addressed to the side it is handed to
      (`srcPort` = the peer's port, `dstPort` = the side's port; `Tcp::demux` guarantees it).
    Everything else the step theorem needs (a zero send window in SYN-SENT, emitted segments carry
    the emitter's port) is part of an invariant of runs from the initial system (`SysInv`: fresh
    SYN-SENT TCBs, empty reorder heap in SYN-SENT, ports; `sysInv_step`), under which `Sys.shift_run` is stated. -/
theorem c12_run_shift_partial (ka kb : Seq) (ops : List Op) (h : RunExcl {} ops) :
    Sys.run {} (ops.map (Op.shift ka kb)) = shiftRun ka kb ops (Sys.run {} ops) := by
  have := Sys.shift_run ka kb {} ops sysInv_init h
  rw [Sys.shift_init] at this
  exact this

/-- handshake, 20 bytes from A to B, acknowledgment; A's sequence space wraps inside the data
    segment (ISS = 2^32 − 6), B's crosses 2^31 -/
def demoOps : List Op :=
  [ .open .A 4294967290#32 1500#16, .listen .B 2147483647#32 1500#16,
    .emit .A, .deliver .B 0, .emit .B, .deliver .A 1, .emit .A, .deliver .B 2,
    .write .A [1, 2, 3, 4, 5, 6, 7, 8, 9, 10, 11, 12, 13, 14, 15, 16, 17, 18, 19, 20],
    .emit .A, .deliver .B 3, .read .B, .emit .B, .deliver .A 4 ]

example : RunExcl {} demoOps := runExcl_of_B {} demoOps (by decide)

/-- the run theorem covers the path on which F-C12-2 showed: `close()` in SYN-RECEIVED after a
    simultaneous open, then a window update -/
example : RunExcl {} (wl2Ops 100) := runExcl_of_B {} (wl2Ops 100) (by decide)

/-- … and the run is not trivial: the 20 bytes arrive, both sides end ESTABLISHED -/
example : (match Sys.run {} demoOps with
    | .ok (s, _) => (s.b.delivered.length, s.a.tcb.map (·.state), s.b.tcb.map (·.state))
    | .error _ => (0, none, none)) = (20, some .Established, some .Established) := by decide

/-- the invariant behind it: along every run from the initial system whose ops meet the
    exclusions, every TCB is fresh while in SYN-SENT, has an empty reorder heap there, and emits
    only headers that carry its side's port -/
theorem c12_run_invariant (s s' : Sys) (op : Op) (r : Res) (hi : SysInv s) (he : Excl s op)
    (h : s.step op = .ok (s', r)) : SysInv s' :=
  sysInv_step s s' op r hi he h

/-- one step of the system (the induction step of the run theorem), under the invariant -/
theorem c12_sys_step_shift_partial (ka kb : Seq) (s : Sys) (op : Op) (hi : SysInv s) (he : Excl s op) :
    (s.shift ka kb).step (op.shift ka kb) = shiftSR op.side ka kb (s.step op) :=
  Sys.shift_step ka kb s op hi he

end Elvis.Tcp
