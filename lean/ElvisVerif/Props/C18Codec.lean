import ElvisVerif.Props.C08
import ElvisVerif.Props.C08Tcp
import ElvisVerif.Lemmas.Verify
/-!
# C18, part 2 — the three codecs with `compute_checksum` on (`ck = true`)

For each protocol: what the encoder emits verifies under RFC 1071, pseudo header and odd-length
padding included; a structurally valid packet whose checksum verifies is accepted, whichever
representation of zero the sender chose (F-C18-1); a packet that does not verify is rejected,
hence any alteration that changes the one's-complement sum, every single-bit corruption, and
every double-bit corruption unless the two flips cancel (`c18_double_bit_cancel_iff`: same bit
position of two 16-bit words, opposite directions).
-/
namespace Elvis.Ck
open Elvis.Codec Elvis.Rfc1071

/-- the exact characterisation of undetectable double-bit corruption, on the plain word sum:
    the sum is unchanged modulo 65535 iff both flips move the same power of two (same bit of
    the 16-bit word) in opposite directions -/
theorem c18_double_bit_cancel_iff (bs : List UInt8) (i k j l : Nat) (hi : i < bs.length)
    (hk : k < 8) (hj : j < bs.length) (hl : l < 8) :
    wsum (flipAt (flipAt bs i k) j l) % 65535 = wsum bs % 65535 ↔
      (delta i k = delta j l ∧ bitAt bs i k ≠ bitAt (flipAt bs i k) j l) := by
  have h1 := wsum_flipAt bs i k hi hk
  have h2 := wsum_flipAt (flipAt bs i k) j l (by rw [flipAt_length]; exact hj) hl
  have t := double_table (i % 2) (Nat.mod_lt _ (by omega)) k hk (j % 2) (Nat.mod_lt _ (by omega)) l hl
  rw [delta_mod, delta_mod] at t
  obtain ⟨_, d1⟩ := delta_facts i k hk
  obtain ⟨_, d2⟩ := delta_facts j l hl
  cases hb1 : bitAt bs i k <;> cases hb2 : bitAt (flipAt bs i k) j l <;>
    simp only [hb1, hb2, if_true, if_false, Bool.false_eq_true] at h1 h2
  · have := arith_apart _ _ _ _ _ h1 h2 t.1
    simp [this]
  · have := arith_cancel _ _ _ _ (h1.symm.trans h2.symm) d1 d2 t.2
    simp [this]
  · have := arith_cancel (wsum (flipAt (flipAt bs i k) j l)) (wsum bs) _ _
      (by rw [h2, ← h1, Nat.add_right_comm]) d1 d2 t.2
    simp [eq_comm, this]
  · have := arith_apart _ _ _ _ _ h2.symm h1.symm (Nat.add_comm .. ▸ t.1)
    simp [this.symm]

/-- a second flip elsewhere reads the original bit: the direction of each flip is that of the
    uncorrupted packet -/
theorem c18_double_bit_directions (bs : List UInt8) (i k j l : Nat) (hk : k < 8) (hl : l < 8)
    (hne : ¬ (i = j ∧ k = l)) : bitAt (flipAt bs i k) j l = bitAt bs j l := by
  unfold flipAt
  cases hi : bs[i]? with
  | none => rfl
  | some b =>
    simp only
    unfold bitAt
    by_cases hij : i = j
    · subst hij
      have hlt : i < bs.length := (List.getElem?_eq_some_iff.mp hi).1
      simp only [List.getElem?_set_self hlt, hi]
      rw [UInt8.toNat_xor, one_shl_table k hk, bit_xor_two_pow,
        decide_eq_false fun h => hne ⟨rfl, h⟩, Bool.xor_false]
    · simp [List.getElem?_set_ne hij]

/-- single-bit corruption always changes the sum modulo 65535 (`2^k ≢ 0`) -/
theorem c18_single_bit_sum (bs : List UInt8) (i k : Nat) (hi : i < bs.length) (hk : k < 8) :
    wsum (flipAt bs i k) % 65535 ≠ wsum bs % 65535 := by
  have h := wsum_flipAt bs i k hi hk
  obtain ⟨h1, h2⟩ := delta_facts i k hk
  split at h <;> omega

end Elvis.Ck

namespace Elvis.Codec.Ipv4
open Elvis.Ck Elvis.Codec Elvis.Rfc1071

theorem c18_accepted_verifies_ipv4 {hdr rest : List UInt8} {h : Header} (hl : hdr.length = 20)
    (ha : fromBytes true (hdr ++ rest) = .ok h) : verifies (wordsOf hdr) := by
  obtain ⟨b0, b1, b2, b3, b4, b5, b6, b7, b8, b9, b10, b11, b12, b13, b14, b15, b16, b17, b18, b19,
    rest', e, _, _, _, _, hm, _⟩ := fromBytes_ok_inv ha
  rw [← List.take_left' hl (l₂ := rest), e]
  exact (matches_iff_verifies b0 b1 b2 b3 b4 b5 b6 b7 b8 b9 b10 b11 b12 b13 b14 b15 b16 b17 b18
    b19).mp hm

/-- **emitted checksums verify**: the 20 bytes `Ipv4HeaderBuilder::build` emits sum (one's
    complement, checksum field included) to `0xffff` -/
theorem c18_emitted_verifies_ipv4 (b : Builder) (hb : b.Wf) :
    ∃ bytes, build true b = .ok bytes ∧ verifies (wordsOf bytes) := by
  obtain ⟨bytes, e1, e2, e3⟩ := c08_ipv4_build_decode true b hb []
  exact ⟨bytes, e1, c18_accepted_verifies_ipv4 e2 e3⟩

/-- **reference checksums are accepted**: a version-4, IHL-5 header with clear reserved bits and
    `total_length ≥ 20` whose 20 bytes verify under RFC 1071 is accepted — for either
    representation of zero in the checksum field -/
theorem c18_accepts_reference_ipv4
    (b0 b1 b2 b3 b4 b5 b6 b7 b8 b9 b10 b11 b12 b13 b14 b15 b16 b17 b18 b19 : UInt8)
    (rest : List UInt8) (h0 : b0.toNat = 69) (h1 : b1.toNat % 4 = 0) (h2 : 20 ≤ W b2 b3)
    (h3 : b6.toNat / 128 = 0)
    (hv : verifies (wordsOf [b0, b1, b2, b3, b4, b5, b6, b7, b8, b9, b10, b11, b12, b13, b14, b15,
      b16, b17, b18, b19])) :
    ∃ h, fromBytes true (b0 :: b1 :: b2 :: b3 :: b4 :: b5 :: b6 :: b7 :: b8 :: b9 :: b10 :: b11 ::
      b12 :: b13 :: b14 :: b15 :: b16 :: b17 :: b18 :: b19 :: rest) = .ok h ∧ h.checksum = W b10 b11 := by
  have hm := (matches_iff_verifies b0 b1 b2 b3 b4 b5 b6 b7 b8 b9 b10 b11 b12 b13 b14 b15 b16 b17
    b18 b19).mpr hv
  have := b7.toNat_lt
  rw [fromBytes_cons20]
  rw [if_neg (by omega), if_neg (by omega), if_neg (by omega), if_neg (by omega),
    if_neg (by simp only [W]; omega), if_neg (by simp [hm])]
  exact ⟨_, rfl, rfl⟩

/-- the witness of F-C18-1: the RFC 1071 sender's `0x0000` and the code's own `0xffff`
    are both accepted for a header whose words sum to `0xffff` -/
example :
    (∃ h, fromBytes true [0x45, 0, 0, 20, 0x9e, 0xd7, 0, 0, 0x1e, 0x11, 0, 0, 127, 0, 0, 1, 127, 0, 0, 1] = .ok h) ∧
    (∃ h, fromBytes true [0x45, 0, 0, 20, 0x9e, 0xd7, 0, 0, 0x1e, 0x11, 0xff, 0xff, 127, 0, 0, 1, 127, 0, 0, 1] = .ok h) := by
  constructor
  · exact ⟨_, (c18_accepts_reference_ipv4 _ _ _ _ _ _ _ _ _ _ _ _ _ _ _ _ _ _ _ _ [] (by decide)
      (by decide) (by decide) (by decide) (by decide)).choose_spec.1⟩
  · exact ⟨_, (c18_accepts_reference_ipv4 _ _ _ _ _ _ _ _ _ _ _ _ _ _ _ _ _ _ _ _ [] (by decide)
      (by decide) (by decide) (by decide) (by decide)).choose_spec.1⟩

/-- **corruption is caught**: a header that does not verify is rejected -/
theorem c18_detects_ipv4 {hdr rest : List UInt8} (hl : hdr.length = 20)
    (hn : ¬ verifies (wordsOf hdr)) : ∀ h, fromBytes true (hdr ++ rest) ≠ .ok h :=
  fun _ ha => hn (c18_accepted_verifies_ipv4 hl ha)

/-- … in particular any alteration of an accepted header that changes the one's-complement sum -/
theorem c18_detects_changed_ipv4 {hdr hdr' rest rest' : List UInt8} {h : Header}
    (hl : hdr.length = 20) (hl' : hdr'.length = 20) (ha : fromBytes true (hdr ++ rest) = .ok h)
    (hc : wsum hdr' % 65535 ≠ wsum hdr % 65535) : ∀ h', fromBytes true (hdr' ++ rest') ≠ .ok h' := by
  intro h' ha'
  exact hc (sum_mod_eq_of_verifies (p := []) (c18_accepted_verifies_ipv4 hl' ha')
    (c18_accepted_verifies_ipv4 hl ha))

/-- **every single-bit corruption of an accepted header is rejected** -/
theorem c18_single_bit_ipv4 {hdr rest : List UInt8} {h : Header} (hl : hdr.length = 20)
    (ha : fromBytes true (hdr ++ rest) = .ok h) (i k : Nat) (hi : i < 20) (hk : k < 8) :
    ∀ h', fromBytes true (flipAt hdr i k ++ rest) ≠ .ok h' :=
  c18_detects_changed_ipv4 hl (by rw [flipAt_length, hl]) ha
    (c18_single_bit_sum hdr i k (by omega) hk)

/-- **double-bit corruption is rejected unless the two flips cancel** -/
theorem c18_double_bit_ipv4 {hdr rest : List UInt8} {h : Header} (hl : hdr.length = 20)
    (ha : fromBytes true (hdr ++ rest) = .ok h) (i k j l : Nat) (hi : i < 20) (hk : k < 8)
    (hj : j < 20) (hl' : l < 8)
    (hnc : ¬ (delta i k = delta j l ∧ bitAt hdr i k ≠ bitAt (flipAt hdr i k) j l)) :
    ∀ h', fromBytes true (flipAt (flipAt hdr i k) j l ++ rest) ≠ .ok h' :=
  c18_detects_changed_ipv4 hl (by rw [flipAt_length, flipAt_length, hl]) ha
    (fun hs => hnc ((c18_double_bit_cancel_iff hdr i k j l (by omega) hk (by omega) hl').mp hs))

end Elvis.Codec.Ipv4

namespace Elvis.Codec.Udp
open Elvis.Ck Elvis.Codec Elvis.Rfc1071

/-- an accepted datagram (the `packet_len` argument being its real length) verifies under
    RFC 1071 together with its pseudo header -/
theorem c18_accepted_verifies_udp {bs : List UInt8} {src dst : Nat} {h : Header}
    (hs : src < 4294967296) (hd : dst < 4294967296)
    (ha : fromBytes true bs bs.length src dst = .ok h) :
    verifies (pseudoHeader src dst 17 bs.length ++ wordsOf bs) := by
  obtain ⟨b0, b1, b2, b3, b4, b5, b6, b7, rest, rfl, hl, hm, _⟩ := fromBytes_ok_inv ha
  rw [hl]
  exact (matches_iff_verifies b0 b1 b2 b3 b4 b5 b6 b7 rest src dst hs hd).mp hm

/-- **emitted checksums verify**: pseudo header, the 8 bytes `build_udp_header` emits and the
    text (an odd last byte padded with zero) sum to `0xffff` -/
theorem c18_emitted_verifies_udp (d : Dgram) (hw : d.Wf) :
    ∃ bytes, build true d.src d.sport d.dst d.dport d.text d.text.length = .ok bytes ∧
      verifies (pseudoHeader d.src d.dst 17 (8 + d.text.length) ++ wordsOf (bytes ++ d.text)) := by
  obtain ⟨bytes, e1, e2, e3⟩ := c08_udp_decode_encode true d hw
  refine ⟨bytes, e1, ?_⟩
  have hlen : (bytes ++ d.text).length = 8 + d.text.length := by simp [e2]
  rw [← hlen] at e3 ⊢
  exact c18_accepted_verifies_udp hw.2.2.1 hw.2.2.2.1 e3

/-- **reference checksums are accepted**: a datagram whose length field is its length and which
    verifies under RFC 1071 is accepted (RFC 768 senders never transmit `0x0000` for a computed
    checksum; `0xffff` for a zero sum is covered) -/
theorem c18_accepts_reference_udp (b0 b1 b2 b3 b4 b5 b6 b7 : UInt8) (rest : List UInt8)
    (src dst : Nat) (hs : src < 4294967296) (hd : dst < 4294967296)
    (hl : W b4 b5 = rest.length + 8)
    (hv : verifies (pseudoHeader src dst 17 (W b4 b5) ++
      wordsOf (b0 :: b1 :: b2 :: b3 :: b4 :: b5 :: b6 :: b7 :: rest))) :
    fromBytes true (b0 :: b1 :: b2 :: b3 :: b4 :: b5 :: b6 :: b7 :: rest) (rest.length + 8) src dst =
      .ok { source := W b0 b1, destination := W b2 b3, length := W b4 b5, checksum := W b6 b7 } := by
  have hm := (matches_iff_verifies b0 b1 b2 b3 b4 b5 b6 b7 rest src dst hs hd).mpr hv
  rw [fromBytes_cons8, if_neg (by omega), if_neg (by simp [hm])]

/-- **corruption is caught**: a datagram that does not verify is rejected -/
theorem c18_detects_udp {bs : List UInt8} {src dst : Nat} (hs : src < 4294967296)
    (hd : dst < 4294967296)
    (hn : ¬ verifies (pseudoHeader src dst 17 bs.length ++ wordsOf bs)) :
    ∀ h, fromBytes true bs bs.length src dst ≠ .ok h :=
  fun _ ha => hn (c18_accepted_verifies_udp hs hd ha)

theorem c18_detects_changed_udp {bs bs' : List UInt8} {src dst : Nat} {h : Header}
    (hs : src < 4294967296) (hd : dst < 4294967296) (hl : bs'.length = bs.length)
    (ha : fromBytes true bs bs.length src dst = .ok h)
    (hc : wsum bs' % 65535 ≠ wsum bs % 65535) :
    ∀ h', fromBytes true bs' bs'.length src dst ≠ .ok h' :=
  detects_changed_of (c18_accepted_verifies_udp hs hd) hl ha hc

/-- **every single-bit corruption of an accepted datagram (header or payload) is rejected** -/
theorem c18_single_bit_udp {bs : List UInt8} {src dst : Nat} {h : Header}
    (hs : src < 4294967296) (hd : dst < 4294967296)
    (ha : fromBytes true bs bs.length src dst = .ok h) (i k : Nat) (hi : i < bs.length) (hk : k < 8) :
    ∀ h', fromBytes true (flipAt bs i k) (flipAt bs i k).length src dst ≠ .ok h' :=
  c18_detects_changed_udp hs hd (flipAt_length bs i k) ha (c18_single_bit_sum bs i k hi hk)

/-- **double-bit corruption is rejected unless the two flips cancel** -/
theorem c18_double_bit_udp {bs : List UInt8} {src dst : Nat} {h : Header}
    (hs : src < 4294967296) (hd : dst < 4294967296)
    (ha : fromBytes true bs bs.length src dst = .ok h) (i k j l : Nat) (hi : i < bs.length)
    (hk : k < 8) (hj : j < bs.length) (hl : l < 8)
    (hnc : ¬ (delta i k = delta j l ∧ bitAt bs i k ≠ bitAt (flipAt bs i k) j l)) :
    ∀ h', fromBytes true (flipAt (flipAt bs i k) j l) (flipAt (flipAt bs i k) j l).length src dst
      ≠ .ok h' :=
  c18_detects_changed_udp hs hd (by rw [flipAt_length, flipAt_length]) ha
    (fun hsum => hnc ((c18_double_bit_cancel_iff bs i k j l hi hk hj hl).mp hsum))

end Elvis.Codec.Udp

namespace Elvis.Codec.Tcp
open Elvis.Ck Elvis.Codec Elvis.Rfc1071

/-- an accepted segment (the `packet_len` argument being its real length) verifies under
    RFC 1071 together with its pseudo header -/
theorem c18_accepted_verifies_tcp {bs : List UInt8} {src dst : Nat} {h : Header}
    (hs : src < 4294967296) (hd : dst < 4294967296)
    (ha : fromBytes true bs bs.length src dst = .ok h) :
    verifies (pseudoHeader src dst 6 bs.length ++ wordsOf bs) := by
  obtain ⟨b0, b1, b2, b3, b4, b5, b6, b7, b8, b9, b10, b11, b12, b13, b14, b15, b16, b17, b18, b19,
    rest, rfl, _, hp, hm, _⟩ := fromBytes_ok_inv ha
  exact (matches_iff_verifies b0 b1 b2 b3 b4 b5 b6 b7 b8 b9 b10 b11 b12 b13 b14 b15 b16 b17 b18 b19
    rest src dst _ hs hd (by omega)).mp hm

/-- **emitted checksums verify**: pseudo header, the serialised header
    `TcpHeaderBuilder::build` produces and the text sum to `0xffff` -/
theorem c18_emitted_verifies_tcp (s : Seg) (hw : s.Wf) :
    build true s.h s.src s.dst s.text s.text.length = .ok (s.header true) ∧
    verifies (pseudoHeader s.src s.dst 6 (20 + s.text.length) ++
      wordsOf (serialize (s.header true) ++ s.text)) := by
  obtain ⟨e1, e2, e3⟩ := c08_tcp_decode_encode true s hw
  refine ⟨e1, ?_⟩
  have hlen : (serialize (s.header true) ++ s.text).length = 20 + s.text.length := by simp [e2]
  rw [← hlen] at e3 ⊢
  exact c18_accepted_verifies_tcp hw.2.2.2.2.2.2.2.1 hw.2.2.2.2.2.2.2.2.1 e3

/-- **reference checksums are accepted**: a segment with data offset 5 that fits 16 bits and
    verifies under RFC 1071 is accepted — for either representation of zero in the checksum
    field, and whatever the reserved / ECN bits are -/
theorem c18_accepts_reference_tcp
    (b0 b1 b2 b3 b4 b5 b6 b7 b8 b9 b10 b11 b12 b13 b14 b15 b16 b17 b18 b19 : UInt8)
    (rest : List UInt8) (src dst : Nat) (hs : src < 4294967296) (hd : dst < 4294967296)
    (h12 : b12.toNat / 16 = 5) (hp : rest.length + 20 < 65536)
    (hv : verifies (pseudoHeader src dst 6 (rest.length + 20) ++
      wordsOf (b0 :: b1 :: b2 :: b3 :: b4 :: b5 :: b6 :: b7 :: b8 :: b9 :: b10 :: b11 :: b12 :: b13 ::
        b14 :: b15 :: b16 :: b17 :: b18 :: b19 :: rest))) :
    ∃ h, fromBytes true (b0 :: b1 :: b2 :: b3 :: b4 :: b5 :: b6 :: b7 :: b8 :: b9 :: b10 :: b11 :: b12 ::
        b13 :: b14 :: b15 :: b16 :: b17 :: b18 :: b19 :: rest) (rest.length + 20) src dst = .ok h ∧
      h.checksum = W b16 b17 := by
  have hm := (matches_iff_verifies b0 b1 b2 b3 b4 b5 b6 b7 b8 b9 b10 b11 b12 b13 b14 b15 b16 b17
    b18 b19 rest src dst (rest.length + 20) hs hd hp).mpr hv
  rw [fromBytes_cons20, if_neg (by omega), if_neg (by omega), if_pos hm]
  exact ⟨_, rfl, rfl⟩

/-- **corruption is caught**: a segment that does not verify is rejected -/
theorem c18_detects_tcp {bs : List UInt8} {src dst : Nat} (hs : src < 4294967296)
    (hd : dst < 4294967296)
    (hn : ¬ verifies (pseudoHeader src dst 6 bs.length ++ wordsOf bs)) :
    ∀ h, fromBytes true bs bs.length src dst ≠ .ok h :=
  fun _ ha => hn (c18_accepted_verifies_tcp hs hd ha)

theorem c18_detects_changed_tcp {bs bs' : List UInt8} {src dst : Nat} {h : Header}
    (hs : src < 4294967296) (hd : dst < 4294967296) (hl : bs'.length = bs.length)
    (ha : fromBytes true bs bs.length src dst = .ok h)
    (hc : wsum bs' % 65535 ≠ wsum bs % 65535) :
    ∀ h', fromBytes true bs' bs'.length src dst ≠ .ok h' :=
  detects_changed_of (c18_accepted_verifies_tcp hs hd) hl ha hc

/-- **every single-bit corruption of an accepted segment (header or payload) is rejected** -/
theorem c18_single_bit_tcp {bs : List UInt8} {src dst : Nat} {h : Header}
    (hs : src < 4294967296) (hd : dst < 4294967296)
    (ha : fromBytes true bs bs.length src dst = .ok h) (i k : Nat) (hi : i < bs.length) (hk : k < 8) :
    ∀ h', fromBytes true (flipAt bs i k) (flipAt bs i k).length src dst ≠ .ok h' :=
  c18_detects_changed_tcp hs hd (flipAt_length bs i k) ha (c18_single_bit_sum bs i k hi hk)

/-- **double-bit corruption is rejected unless the two flips cancel** -/
theorem c18_double_bit_tcp {bs : List UInt8} {src dst : Nat} {h : Header}
    (hs : src < 4294967296) (hd : dst < 4294967296)
    (ha : fromBytes true bs bs.length src dst = .ok h) (i k j l : Nat) (hi : i < bs.length)
    (hk : k < 8) (hj : j < bs.length) (hl : l < 8)
    (hnc : ¬ (delta i k = delta j l ∧ bitAt bs i k ≠ bitAt (flipAt bs i k) j l)) :
    ∀ h', fromBytes true (flipAt (flipAt bs i k) j l) (flipAt (flipAt bs i k) j l).length src dst
      ≠ .ok h' :=
  c18_detects_changed_tcp hs hd (by rw [flipAt_length, flipAt_length]) ha
    (fun hsum => hnc ((c18_double_bit_cancel_iff bs i k j l hi hk hj hl).mp hsum))

end Elvis.Codec.Tcp

namespace Elvis.Ck

/-- the accumulator kernels of the model are the extracted Rust expressions: `add_u16` (whose
    checked `sum + carry` cannot overflow), `as_u16` with the feature on and off, `matches` -/
theorem c18_extracted_kernels :
    (∀ a v, a < 65536 → v < 65536 →
      Gen.Codec.add_u16 a v = addU16 a v ∧ Gen.Codec.add_u16 a v < 65536) ∧
    (∀ a, Gen.Codec.as_u16 a = asU16 true a ∧ Gen.Codec.as_u16_off = asU16 false a) ∧
    (∀ acc e, Gen.Codec.matches_ (asU16 true acc) acc e = matchesField true acc e ∧
      Gen.Codec.matches_ (asU16 false 0) 0 e = matchesField false 0 e) :=
  ⟨Gen.Codec.add_u16_eq, Gen.Codec.as_u16_eq, Gen.Codec.matches_eq⟩

end Elvis.Ck
