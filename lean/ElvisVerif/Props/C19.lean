import ElvisVerif.Lemmas.NdlWhole
/-!
# C19 — A network description means what it says (parsing and rejection clauses)

The model is `Model/Ndl.lean` (`parse` = `core_parser` from the file's text on).

* `c19_line_roundtrip` — the line lexer returns exactly what `renderLine` wrote, for every type,
  for keys without `=`/`]` that do not begin with a separator and values without `]`, bare `'`
  or stray `\` (`KeyOk`, `valOk`), pairwise distinct keys, any number of trailing newlines.
* `c19_tree_roundtrip` — the indentation-driven builder reads a rendered well-formed tree
  (`SimOk`: ids unique, every network has an `[IP]`, every machine its three non-empty sections)
  back to the same `Sim` (lists in the same order, so in particular equal as maps).
* `c19_parse_render_partial` — the composition, in all three layouts (tabs, 4 spaces, CRLF), for
  descriptions whose keys/values contain no `\r` and no run of four spaces (`CalmSim`).
  The excluded texts are a genuine limit of the code, not of the proof:
  `c19_value_spaces_counterexample` (finding F-C19-1: the normalisation rewrites argument values).
* `c19_rejects_*` — structural errors are answered with `Err`: duplicate argument, unknown
  type tag, a type where it does not belong, wrong nesting depth, missing required section,
  duplicate network id in the same or in another `[Networks]` block.

The run clause of C19 is validated differentially only (`Model/NdlRun.lean`, `hfull c19-run`).
-/
namespace Elvis.Ndl
open Elvis.Gen.Ndl

theorem c19_line_roundtrip (dt : DecType) (ps : Params) (hps : LineOk ps) (n : Nat) (rest : Text)
    (hrest : ∀ r, rest ≠ '\n' :: r) (line : Nat) (hb : line + n ≤ i32Max) :
    generalParser (renderLine dt ps ++ (List.replicate n '\n' ++ rest)) line =
      .ok ⟨dt, ps, rest, line + n⟩ :=
  generalParser_spelled dt dt.name rfl ps hps n rest hrest line hb

/-- the classes are not empty: spaces, quotes, `=`, `[`, escapes, non-ASCII, the empty key/value -/
example : LineOk [(['i','d'], ['1']), (['a',' ','\'','b'], ['x','=','[','\\','\'',' ','é']), ([], [])] := by
  refine ⟨?_, by decide⟩
  intro kv hkv
  simp only [List.mem_cons, List.not_mem_nil, or_false] at hkv
  rcases hkv with rfl | rfl | rfl <;> refine ⟨⟨by decide, ?_⟩, by decide⟩ <;> intro c r h <;>
    simp at h <;> (try (obtain ⟨rfl, _⟩ := h; decide))

theorem c19_tree_roundtrip (s : Sim) (hs : SimOk s) : build (render .tabs s) = .ok s :=
  build_render s hs

theorem c19_parse_render_partial (s : Sim) (hs : SimOk s) (hc : CalmSim s) (lay : Layout) :
    parse (render lay s) = .ok s := by
  unfold parse
  rw [normalise_render lay s hs hc]
  exact build_render s hs

theorem c19_layouts_agree (s : Sim) (hs : SimOk s) (hc : CalmSim s) (l1 l2 : Layout) :
    parse (render l1 s) = parse (render l2 s) := by
  rw [c19_parse_render_partial s hs hc l1, c19_parse_render_partial s hs hc l2]

/-- `HashMap`-typed fields compared as maps: the result has the same entries whatever order the
    renderer lists the arguments and networks in (it is the list itself) -/
theorem c19_parse_render_maps (s : Sim) (hs : SimOk s) (hc : CalmSim s) (lay : Layout) :
    ∃ s', parse (render lay s) = .ok s' ∧ (∀ id, (s'.networks.find? (·.1 == id)) = s.networks.find? (·.1 == id)) ∧
      s'.machines = s.machines :=
  ⟨s, c19_parse_render_partial s hs hc lay, fun _ => rfl, rfl⟩

/-- a concrete well-formed calm description (non-vacuity of `SimOk`/`CalmSim`) -/
def demoSim : Sim :=
  ⟨[(['5'], ⟨.network, [(['i','d'], ['5'])], [⟨.ip, [(['r','a','n','g','e'], ['1','.','2','.','3','.','4','-','9'])]⟩]⟩)],
   [⟨.machine, [(['n','a','m','e'], ['m',' ','1'])],
     [⟨.network, [(['i','d'], ['5'])]⟩], [⟨.protocol, [(['n','a','m','e'], ['U','D','P'])]⟩],
     [⟨.application, [(['n','a','m','e'], ['c','a','p','t','u','r','e']), (['m','s','g'], ['i','t','\\','\'','s',' ','=',' ','é'])]⟩]⟩]⟩

example : parse (render .tabs demoSim) = .ok demoSim ∧ parse (render .spaces demoSim) = .ok demoSim ∧
    parse (render .crlf demoSim) = .ok demoSim := by decide +kernel

/-- F-C19-1 (known finding): a value with a run of four spaces (or a CR) is *not* read back:
    the whole-file normalisation rewrites it.  Replayed on the real parser by `hfull c19-parse`. -/
theorem c19_value_spaces_counterexample :
    let s : Sim := ⟨[(['1'], ⟨.network, [(['i','d'], ['1']), (['n'], ['a',' ',' ',' ',' ','b'])], [⟨.ip, []⟩]⟩)], []⟩
    parse (render .tabs s) =
      .ok ⟨[(['1'], ⟨.network, [(['i','d'], ['1']), (['n'], ['a','\t','b'])], [⟨.ip, []⟩]⟩)], []⟩ ∧
    parse (render .tabs s) ≠ .ok s := by decide +kernel

/-- duplicate argument ⇒ `Err` ("duplicate argument"), whatever follows the line -/
theorem c19_rejects_dup_argument (dt : DecType) (ps : Params)
    (hps : ∀ kv ∈ ps, KeyOk kv.1 ∧ valOk kv.2 = true) (hdup : ¬ (ps.map (·.1)).Nodup)
    (after : Text) (line : Nat) :
    generalParser (renderLine dt ps ++ after) line = .error (.err .dupArg line) :=
  generalParser_spelled_dup dt dt.name rfl ps hps hdup after line

example : generalParser (renderLine .ip [(['i','p'], ['1']), (['i','p'], ['2'])]) 7 = .error (.err .dupArg 7) := by
  decide +kernel

/-- unknown section type ⇒ `Err`: a bracket whose content starts with none of the type tags -/
theorem c19_rejects_unknown_type (inside after : Text) (line : Nat) (hb : ∀ c ∈ inside, c ≠ ']')
    (hun : ∀ t ∈ tagAlt, keyword t inside = none) :
    generalParser ('[' :: (inside ++ ']' :: after)) line = .error (.err .dectype line) := by
  unfold generalParser
  have : sectionP ('[' :: (inside ++ ']' :: after)) = some (inside, after) := by
    simp [sectionP, takeUntil_append ']' inside after hb]
  rw [this]
  simp only [getType, tagMatcher_keyword, getTypeWith_none decTypeTable tagAlt inside line hun]

example : generalParser ['[','R','o','u','t','e','r',' ','i','d','=','\'','1','\'',']','\n'] 3 = .error (.err .dectype 3) := by
  decide +kernel

/-- a known type where it does not belong ⇒ `Err`, in every loop of the builder -/
theorem c19_rejects_misplaced_type (dt : DecType) (ps : Params) (hps : LineOk ps) (tail : Text)
    (htail : ∀ r, tail ≠ '\n' :: r) (line fuel : Nat) (hb : line + 1 ≤ i32Max) :
    -- at the top level only Template / Networks / Machines may be declared
    (dt ≠ .template → dt ≠ .networks → dt ≠ .machines → ∀ nets ms,
      coreLoop (fuel + 1) (tabLine 0 dt ps tail) line nets ms = .error (.err .cannotDeclare 0)) ∧
    -- inside [Networks] only Network, inside [Machines] only Machine
    (dt ≠ .network → ∀ seen, networksLoop 1 (fuel + 1) (tabLine 1 dt ps tail) line seen = .error (.err .wrongType 0)) ∧
    (dt ≠ .machine → machinesLoop 1 (fuel + 1) (tabLine 1 dt ps tail) line = .error (.err .wrongType 0)) ∧
    -- inside a leaf list (IPs of a network, a machine's Networks / Protocols / Applications)
    (∀ exp d, dt ≠ exp → leafLoop exp d (fuel + 1) (tabLine d dt ps tail) line = .error (.err .wrongType 0)) ∧
    -- inside a machine only its three sections, each once (`req` = what is still allowed)
    (∀ a, a.req.contains dt = false →
      machineLoop 2 (fuel + 1) (tabLine 2 dt ps tail) line a = .error (.err .unexpected 0)) := by
  have hl := fun d => lineAt_tabLine d dt ps hps tail htail line hb
  refine ⟨?_, ?_, ?_, ?_, ?_⟩
  · intro h1 h2 h3 nets ms
    rw [coreLoop_step, if_neg (hl 0).ne_nil, lexAt_line (hl 0)]
    cases dt <;> first | rfl | contradiction
  · intro h seen
    rw [networksLoop_step, entry_line (hl 1), if_neg h]
  · intro h
    rw [machinesLoop_step, entry_line (hl 1), if_neg h]
  · intro exp d h
    rw [leafLoop_step, if_neg (hl d).ne_nil, lexAt_line (hl d), if_pos h]
  · intro a h
    rw [machineLoop_step, entry_line (hl 2), if_neg (fun hc => Bool.false_ne_true (h ▸ hc.1))]

/-- wrong nesting depth ⇒ `Err`: a line deeper than its block allows, a block whose first child
    is not exactly one level deeper, an indented line at the top level -/
theorem c19_rejects_depth (s : Text) (hs : s ≠ []) (line fuel : Nat) :
    (∀ nt seen, nt < countTabs s → networksLoop nt (fuel + 1) s line seen = .error (.err .tabs 0)) ∧
    (∀ nt, nt < countTabs s → machinesLoop nt (fuel + 1) s line = .error (.err .tabs 0)) ∧
    (∀ nt a, nt < countTabs s → machineLoop nt (fuel + 1) s line a = .error (.err .tabs 0)) ∧
    (∀ exp first nt, countTabs s ≠ nt → leafList exp first nt s line = .error (.err first 0)) ∧
    (∀ nets ms, 0 < countTabs s → coreLoop (fuel + 1) s line nets ms = .error (.err .section line)) := by
  refine ⟨fun nt seen h => by rw [networksLoop_step, entry_deep h], fun nt h => by rw [machinesLoop_step, entry_deep h],
    fun nt a h => by rw [machineLoop_step, entry_deep h], fun exp first nt h => by rw [leafList, if_pos h], ?_⟩
  · intro nets ms h
    obtain ⟨r, rfl⟩ : ∃ r, s = '\t' :: r := drop_tab_of_lt 0 s h
    rw [coreLoop, if_neg hs, generalParser_tab]

/-- … and a leaf line followed by a deeper line -/
theorem c19_rejects_depth_after_leaf (exp : DecType) (d : Nat) (l : Leaf) (hl : LeafOk exp l)
    (tail : Text) (htail : ∀ r, tail ≠ '\n' :: r) (hdeep : d < countTabs tail) (line fuel : Nat)
    (hb : line + 1 ≤ i32Max) :
    leafLoop exp d (fuel + 1) (tabLine d l.dectype l.options tail) line = .error (.err .tabs 0) := by
  obtain ⟨dt, o⟩ := l
  have h1 := lineAt_tabLine d dt o hl.2 tail htail line hb
  rw [leafLoop_step, if_neg h1.ne_nil, lexAt_line h1, if_neg (fun h => h hl.1), if_neg (Nat.lt_asymm hdeep),
    if_pos hdeep]

/-- a network without an `[IP]` line, a machine section without entries ⇒ `Err` -/
theorem c19_rejects_empty_block (exp : DecType) (first : ErrKind) (d : Nat) (rest : Text)
    (h : countTabs rest < d) (line : Nat) : leafList exp first d rest line = .error (.err first 0) := by
  have : countTabs rest ≠ d := by omega
  simp [leafList, this]

/-- missing required section ⇒ `Err` ("Failed to include all required types"): a machine that
    lists only two of Networks / Protocols / Applications -/
theorem c19_rejects_missing_section (args : Params) (x y : List Leaf) (rest : Text)
    (hx : x ≠ []) (hy : y ≠ []) (haft : After 2 rest) (line : Nat)
    (hb : line + 2 + x.length + y.length ≤ i32Max) :
    (∀ (_ : ∀ l ∈ x, LeafOk .protocol l) (_ : ∀ l ∈ y, LeafOk .application l),
      machineParser args 2 (tabLine 2 .protocols [] (renderLeaves .tabs 3 x ++
        tabLine 2 .applications [] (renderLeaves .tabs 3 y ++ rest))) line = .error (.err .required 0)) ∧
    (∀ (_ : ∀ l ∈ x, LeafOk .network l) (_ : ∀ l ∈ y, LeafOk .application l),
      machineParser args 2 (tabLine 2 .networks [] (renderLeaves .tabs 3 x ++
        tabLine 2 .applications [] (renderLeaves .tabs 3 y ++ rest))) line = .error (.err .required 0)) ∧
    (∀ (_ : ∀ l ∈ x, LeafOk .network l) (_ : ∀ l ∈ y, LeafOk .protocol l),
      machineParser args 2 (tabLine 2 .networks [] (renderLeaves .tabs 3 x ++
        tabLine 2 .protocols [] (renderLeaves .tabs 3 y ++ rest))) line = .error (.err .required 0)) := by
  -- two sections are read, a third kind is still required when the machine's body ends
  have key : ∀ (k1 k2 : DecType), IsSec k1 → IsSec k2 →
      (∃ a, runSecs ⟨[.networks, .protocols, .applications], [], [], []⟩ [(k1, x), (k2, y)] = some a ∧ a.req ≠ []) →
      (∀ l ∈ x, LeafOk (secLeaf k1) l) → (∀ l ∈ y, LeafOk (secLeaf k2) l) →
      machineParser args 2 (tabLine 2 k1 [] (renderLeaves .tabs 3 x ++
        tabLine 2 k2 [] (renderLeaves .tabs 3 y ++ rest))) line = .error (.err .required 0) := by
    intro k1 k2 hk1 hk2 ⟨a, hrun, hreq⟩ h1 h2
    obtain ⟨a1, a2⟩ := section_tabs k1 x hx h1 (tabLine 2 k2 [] (renderLeaves .tabs 3 y ++ rest))
      ⟨by rw [countTabs_tabLine]; omega, tabLine_not_nl _ _ _ _⟩ line (by omega)
    obtain ⟨b1, b2⟩ := section_tabs k2 y hy h2 rest (after_mono (by omega) haft) (line + 1 + x.length) (by omega)
    rw [machineParser_of (SecsAt.cons hk1 a1 a2 (SecsAt.cons hk2 b1 b2 (SecsAt.nil haft.1))),
      requiredSections_eq, hrun]
    exact if_pos hreq
  exact ⟨key .protocols .applications (.inr (.inl rfl)) (.inr (.inr rfl)) ⟨_, rfl, List.cons_ne_nil _ _⟩,
    key .networks .applications (.inl rfl) (.inr (.inr rfl)) ⟨_, rfl, List.cons_ne_nil _ _⟩,
    key .networks .protocols (.inl rfl) (.inr (.inl rfl)) ⟨_, rfl, List.cons_ne_nil _ _⟩⟩

/-- duplicate network id inside one `[Networks]` block ⇒ `Err` -/
theorem c19_rejects_dup_id_same_block (nets : List (Text × Network)) (rest : Text)
    (hok : ∀ e ∈ nets, NetworkOk e.1 e.2) (hdup : ¬ (nets.map (·.1)).Nodup) (haft : After 1 rest)
    (hb : 2 + (nets.map (·.2.lines)).sum ≤ i32Max) (nets0 : List (Text × Network)) (ms : List Machine) (fuel : Nat) :
    coreLoop (fuel + 1) (tabLine 0 .networks [] (netsText nets ++ rest)) 1 nets0 ms = .error (.err .dupId 0) := by
  have h1 := lineAt_tabLine 0 .networks [] lineOk_nil _ (netsText_after nets rest haft).2 1 (by omega)
  -- the block reads as a block; `networks_parser` itself finds the repeated id
  rw [coreLoop_step, if_neg h1.ne_nil, lexAt_line h1]
  simp only [networksParser_of (netsAt_tabs nets rest (1 + 1) hok haft (by omega)),
    if_neg fun hf : Fresh [] nets => hdup hf.1]

/-- duplicate network id in another `[Networks]` block ⇒ `Err` -/
theorem c19_rejects_dup_id_other_block (a b : List (Text × Network)) (id : Text)
    (ha : ∀ e ∈ a, NetworkOk e.1 e.2) (hb : ∀ e ∈ b, NetworkOk e.1 e.2)
    (hna : (a.map (·.1)).Nodup) (hnb : (b.map (·.1)).Nodup)
    (hia : id ∈ a.map (·.1)) (hib : id ∈ b.map (·.1))
    (hl : 3 + (a.map (·.2.lines)).sum + (b.map (·.2.lines)).sum ≤ i32Max) :
    build (tabLine 0 .networks [] (netsText a ++ tabLine 0 .networks [] (netsText b ++ []))) =
      .error (.err .dupId 0) := by
  have aft0 : ∀ (dt : DecType) (t : Text), After 1 (tabLine 0 dt [] t) :=
    fun dt t => ⟨by rw [countTabs_tabLine]; omega, tabLine_not_nl _ _ _ _⟩
  have aftEnd : After 1 ([] : Text) := ⟨by simp [countTabs], by simp⟩
  -- two `[Networks]` blocks, each read to its end; the merge of the second finds `id`
  have h1 := lineAt_tabLine 0 .networks [] lineOk_nil _
    (netsText_after a (tabLine 0 .networks [] (netsText b ++ [])) (aft0 _ _)).2 1 (by omega)
  have hA := netsAt_tabs a (tabLine 0 .networks [] (netsText b ++ [])) (1 + 1) ha (aft0 _ _) (by omega)
  have h2 := lineAt_tabLine 0 .networks [] lineOk_nil _ (netsText_after b [] aftEnd).2
    (1 + 1 + (a.map (·.2.lines)).sum) (by omega)
  have hB := netsAt_tabs b [] (1 + 1 + (a.map (·.2.lines)).sum + 1) hb aftEnd (by omega)
  rw [build_of (DocAt.cons (b := .nets a) ⟨_, _, _, h1, hA⟩ (DocAt.cons (b := .nets b) ⟨_, _, _, h2, hB⟩ DocAt.nil))]
  simp only [runDoc, stepBlock, List.map_nil, List.nil_append,
    if_pos (show Fresh [] a from ⟨hna, fun _ _ => List.not_mem_nil⟩),
    if_neg fun hf : Fresh (a.map (·.1)) b => hf.2 id hib hia]

end Elvis.Ndl
