import ElvisVerif.Props.C14c
/-!
# C14, NDL clause, sharper bound — only the number of LINES matters

`Props/C14c.lean` proves `c14_ndl_total` for texts shorter than 2^31 − 1 characters.  The only
panic site that bound is about is the `i32` line counter (`*line_num += num_new_line as i32`),
and the counter only ever advances by newline characters the lexer consumes.  So:

* `c14_ndl_total_lines`: for every text with fewer than 2^31 − 1 newline characters — of any
  length — the outcome of `parse` is a `Sim` or a reported `Err`; no panic site is reachable and
  the model's loop fuel always suffices.
* `c14_ndl_total_of_lines`: the length form, which is `c14_ndl_total` (a text has at most as many
  newlines as characters).
-/
namespace Elvis.Ndl

theorem c14_ndl_total_lines (text : Text) (h : nlCount text < i32Max) :
    (∃ sim, parse text = .ok sim) ∨ (∃ k l, parse text = .error (.err k l)) :=
  parse_total_lines text h

theorem c14_ndl_total_of_lines (text : Text) (h : text.length < i32Max) :
    (∃ sim, parse text = .ok sim) ∨ (∃ k l, parse text = .error (.err k l)) :=
  c14_ndl_total text h

theorem c14_ndl_normalise_keeps_lines (text : Text) : nlCount (normalise text) = nlCount text :=
  nlCount_normalise text

/-- non-vacuity: a text with three newlines -/
example : nlCount ['[','T','e','m','p','l','a','t','e',']','\n','\n','\n'] = 3 := by decide

end Elvis.Ndl
