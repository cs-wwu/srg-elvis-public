import ElvisVerif.Model.Codec.Ipv4
import ElvisVerif.Model.Codec.Udp
import ElvisVerif.Model.Codec.Tcp
import ElvisVerif.Lemmas.Codec
/-!
# C14 (decoder totality, IPv4 / UDP / TCP) — no byte string makes a decoder panic

`Res.isPanic r = false` says `r` is a value or a *reported* error.  The models carry every
panic site of the dev profile as `Fail.panic`; the three `from_bytes` functions contain none
(all their arithmetic is shifts, masks and comparisons), so totality is proved by running
through the chain of reads and checks.  For every byte string, every `packet_len` and every
address pair, with the `compute_checksum` feature on or off.
The panic sites next to the decoders are covered too: `Ipv4Header::serialize` on a decoded
header (`c08_ipv4_reserialize_no_panic`, Props/C08.lean), `TcpHeader::bytes` on a decoded header
(`c08_tcp_header_bytes`, Props/C08Tcp.lean), the `TypeOfService` accessors
(`c08_ipv4_tos_accessors_total`).
-/
namespace Elvis.Codec

theorem c14_ipv4_total (ck : Bool) (bs : List UInt8) : (Ipv4.fromBytes ck bs).isPanic = false := by
  unfold Ipv4.fromBytes
  refine noPanic_read fun vi bs => noPanic_ite_err (noPanic_ite_err ?_)
  refine noPanic_read fun tos bs => noPanic_ite_err ?_
  refine noPanic_read fun totalLength bs => noPanic_ite_err ?_
  refine noPanic_read fun identification bs => noPanic_read fun ff bs => noPanic_ite_err ?_
  refine noPanic_read fun ttl bs => noPanic_read fun protocol bs => noPanic_read fun expected bs => ?_
  refine noPanic_read fun source bs => noPanic_read fun destination _ => noPanic_ite_err rfl

theorem c14_udp_total (ck : Bool) (bs : List UInt8) (packetLen src dst : Nat) :
    (Udp.fromBytes ck bs packetLen src dst).isPanic = false := by
  unfold Udp.fromBytes
  refine noPanic_read fun sp bs => noPanic_read fun dp bs => noPanic_read fun len bs => ?_
  exact noPanic_read fun expected bs => noPanic_ite_err (noPanic_ite_err rfl)

theorem c14_tcp_total (ck : Bool) (bs : List UInt8) (packetLen src dst : Nat) :
    (Tcp.fromBytes ck bs packetLen src dst).isPanic = false := by
  unfold Tcp.fromBytes
  refine noPanic_read fun sp bs => noPanic_read fun dp bs => noPanic_read fun seq bs => ?_
  refine noPanic_read fun ack bs => noPanic_read fun orc0 bs => noPanic_read fun orc1 bs => ?_
  refine noPanic_ite_err (noPanic_read fun wnd bs => noPanic_read fun expected bs => ?_)
  exact noPanic_read fun urg bs => noPanic_ite_err noPanic_ite_ok

/-- the statement in the wording of the property: the outcome is never a panic, whatever the
    site name -/
theorem c14_ipv4_udp_tcp_never_panic (ck : Bool) (bs : List UInt8) (packetLen src dst : Nat)
    (site : String) :
    Ipv4.fromBytes ck bs ≠ .error (.panic site) ∧
    Udp.fromBytes ck bs packetLen src dst ≠ .error (.panic site) ∧
    Tcp.fromBytes ck bs packetLen src dst ≠ .error (.panic site) := by
  refine ⟨?_, ?_, ?_⟩
  · intro h; have := c14_ipv4_total ck bs; rw [h] at this; cases this
  · intro h; have := c14_udp_total ck bs packetLen src dst; rw [h] at this; cases this
  · intro h; have := c14_tcp_total ck bs packetLen src dst; rw [h] at this; cases this

/-- non-vacuity: the models do have panic outcomes elsewhere (`serialize` on a header the
    decoder would never return) -/
example : (Ipv4.serialize false
    { ihl := 5, tos := 0, totalLength := 19, identification := 0,
      fragmentOffset := 0, flags := 0, ttl := 1, protocol := 6, checksum := 0, source := 1,
      destination := 2 }).isPanic = true := by decide

end Elvis.Codec
