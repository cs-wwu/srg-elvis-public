import ElvisVerif.Model.Demux
import ElvisVerif.Generated.Consts
/-!
# C04 — Datagrams reach exactly the listener bound to their address and port

All statements are about `Elvis.Demux.demux` / `udpListen` / `run` of `Model/Demux.lean`, for
arbitrary binding tables, frames and operation sequences.  The model is tied to the sources by
the constants below (`Generated/Consts.lean` is extracted from /repo) and by the differential runs.
-/
namespace Elvis.Demux

/-- the literal constants of `Model/Demux.lean` are the values extracted from the sources -/
theorem c04_consts :
    anyAddr = Elvis.Gen.ipv4CurrentNetwork ∧ protoUdp = Elvis.Gen.ipv4ProtoUdp ∧
    udpStrip = Elvis.Gen.udpDemuxStrip ∧ ipWordOctets = Elvis.Gen.ipv4DemuxStripFactor ∧
    Elvis.Gen.udpDemuxStrip = Elvis.Gen.udpHeaderOctets ∧ protoNumber Elvis.Gen.ipv4ProtoUdp = protoUdp := by
  decide

theorem lookup_cons_self {κ ν : Type} [DecidableEq κ] (k : κ) (v : ν) (l : List (κ × ν)) :
    lookup k ((k, v) :: l) = some v := by simp [lookup]

theorem lookup_cons_ne {κ ν : Type} [DecidableEq κ] (k k' : κ) (v : ν) (l : List (κ × ν)) (h : k' ≠ k) :
    lookup k ((k', v) :: l) = lookup k l := by simp [lookup, h]

theorem lookup_cons_cases {κ ν : Type} [DecidableEq κ] {k k' : κ} {v v' : ν} {l : List (κ × ν)}
    (h : lookup k ((k', v') :: l) = some v) : (k' = k ∧ v' = v) ∨ lookup k l = some v := by
  by_cases hk : k' = k
  · rw [hk, lookup_cons_self] at h; exact .inl ⟨hk, Option.some.inj h⟩
  · rw [lookup_cons_ne _ _ _ _ hk] at h; exact .inr h

theorem lookup_cons_forall {κ ν : Type} [DecidableEq κ] {P : ν → Prop} {k' : κ} {v' : ν} {l : List (κ × ν)}
    (hl : ∀ k v, lookup k l = some v → P v) (hv : P v') : ∀ k v, lookup k ((k', v') :: l) = some v → P v :=
  fun k v h => (lookup_cons_cases h).elim (fun e => e.2 ▸ hv) (hl k v)

theorem lookup_mem {κ ν : Type} [DecidableEq κ] (k : κ) (v : ν) (l : List (κ × ν))
    (h : lookup k l = some v) : (k, v) ∈ l := by
  induction l with
  | nil => simp [lookup] at h
  | cons x xs ih =>
    obtain ⟨k', v'⟩ := x
    rcases lookup_cons_cases h with ⟨rfl, rfl⟩ | h'
    · exact List.mem_cons_self
    · exact List.mem_cons_of_mem _ (ih h')

/-- A frame is the UDP datagram `src → dst` carrying `payload`: it names IPv4, both decoders
accept it, it is not a fragment, and stripping the two headers leaves `payload`. -/
def IsDatagram (f : Frame) (src dst : Endpoint) (payload : List UInt8) : Prop :=
  f.target = pidIpv4 ∧ ∃ ih : IpHdr, f.ip = some ih ∧ ih.src = src.addr ∧ ih.dst = dst.addr ∧
    protoNumber ih.proto = protoUdp ∧ ih.lastFragment = true ∧ ih.fragOffset = 0 ∧
    f.udp = some ⟨src.port, dst.port⟩ ∧
    (f.bytes.drop (ih.ihl * ipWordOctets)).drop udpStrip = payload

/-- Invariant of a machine whose UDP bindings were all made through `Udp::listen`. -/
structure Machine.WF (m : Machine) : Prop where
  hasIp : pidIpv4 ∈ m.protocols
  hasUdp : pidUdp ∈ m.protocols
  appsPresent : ∀ e app, lookup e m.udp = some app → app ∈ m.protocols
  covered : ∀ e app, lookup e m.udp = some app → lookup (e.addr, protoUdp) m.ip = some pidUdp
  udpOnly : ∀ a u, lookup (a, protoUdp) m.ip = some u → u = pidUdp

theorem init_WF (ps : List Pid) (h0 : pidIpv4 ∈ ps) (h1 : pidUdp ∈ ps) : (Machine.init ps).WF :=
  ⟨h0, h1, (fun _ _ h => nomatch h), (fun _ _ h => nomatch h), (fun _ _ h => nomatch h)⟩

theorem Machine.WF.bindIp {m : Machine} (hm : m.WF) (a : Addr) :
    ({ m with ip := ((a, protoUdp), pidUdp) :: m.ip } : Machine).WF where
  hasIp := hm.hasIp
  hasUdp := hm.hasUdp
  appsPresent := hm.appsPresent
  covered e app h := by
    have hc := hm.covered e app h
    by_cases ha : (a, protoUdp) = (e.addr, protoUdp)
    · rw [ha]; exact lookup_cons_self _ _ _
    · exact (lookup_cons_ne _ _ _ _ ha).trans hc
  udpOnly a' u h := (lookup_cons_cases h).elim (fun e => e.2.symm) (hm.udpOnly a' u)

theorem Machine.WF.bindUdp {m : Machine} (hm : m.WF) {up : Pid} {e : Endpoint} (hup : up ∈ m.protocols)
    (hc : lookup (e.addr, protoUdp) m.ip = some pidUdp) : ({ m with udp := (e, up) :: m.udp } : Machine).WF where
  hasIp := hm.hasIp
  hasUdp := hm.hasUdp
  appsPresent := lookup_cons_forall hm.appsPresent hup
  covered e' app h := (lookup_cons_cases h).elim (fun he => he.1 ▸ hc) (hm.covered e' app)
  udpOnly := hm.udpOnly

/-- The outcomes of `Udp::listen`: refused, the endpoint being taken; bound, with a new IPv4 binding
of UDP for the address or with the one that was there; or left half done (the UDP binding stays)
because IPv4 is missing or has bound the address to another protocol. -/
theorem udpListen_cases (m : Machine) (up : Pid) (e : Endpoint) :
    (∃ a, lookup e m.udp = some a) ∧ udpListen m up e = (m, .error .existing) ∨
    lookup e m.udp = none ∧
      (lookup (e.addr, protoUdp) m.ip = none ∧ udpListen m up e =
          ({ m with udp := (e, up) :: m.udp, ip := ((e.addr, protoUdp), pidUdp) :: m.ip }, .ok ()) ∨
       lookup (e.addr, protoUdp) m.ip = some pidUdp ∧
          udpListen m up e = ({ m with udp := (e, up) :: m.udp }, .ok ()) ∨
       (pidIpv4 ∉ m.protocols ∨ ∃ u, lookup (e.addr, protoUdp) m.ip = some u ∧ u ≠ pidUdp) ∧
          ∃ er, udpListen m up e = ({ m with udp := (e, up) :: m.udp }, .error er)) := by
  unfold udpListen
  cases h1 : lookup e m.udp with
  | some a => exact .inl ⟨⟨a, rfl⟩, rfl⟩
  | none =>
    refine .inr ⟨rfl, ?_⟩
    dsimp only
    by_cases h2 : pidIpv4 ∈ m.protocols
    · rw [if_pos h2]
      unfold ipv4Listen
      dsimp only
      cases h3 : lookup (e.addr, protoUdp) m.ip with
      | none => exact .inl ⟨rfl, rfl⟩
      | some u =>
        dsimp only
        by_cases h4 : u = pidUdp
        · rw [if_pos h4, h4]; exact .inr (.inl ⟨rfl, rfl⟩)
        · rw [if_neg h4]; exact .inr (.inr ⟨.inr ⟨u, rfl, h4⟩, _, rfl⟩)
    · rw [if_neg h2]; exact .inr (.inr ⟨.inl h2, _, rfl⟩)

theorem udpListen_protocols (m : Machine) (up : Pid) (e : Endpoint) :
    (udpListen m up e).1.protocols = m.protocols := by
  rcases udpListen_cases m up e with ⟨_, h⟩ | ⟨_, ⟨_, h⟩ | ⟨_, h⟩ | ⟨_, _, h⟩⟩ <;> rw [h]

/-- `Udp::listen` by an application present on the machine keeps the invariant, and succeeds
exactly when the endpoint was free. -/
theorem c04_listen_invariant (m : Machine) (up : Pid) (e : Endpoint) (hm : m.WF) (hup : up ∈ m.protocols) :
    (udpListen m up e).1.WF ∧
    ((udpListen m up e).2 = .ok () ↔ lookup e m.udp = none) := by
  rcases udpListen_cases m up e with ⟨⟨a, ha⟩, h⟩ | ⟨hn, ⟨_, h⟩ | ⟨hi, h⟩ | ⟨hbad, _⟩⟩
  · rw [h, ha]; exact ⟨hm, by simp⟩
  · rw [h, hn]; exact ⟨(hm.bindIp e.addr).bindUdp hup (lookup_cons_self _ _ _), by simp⟩
  · rw [h, hn]; exact ⟨hm.bindUdp hup hi, by simp⟩
  · -- a well-formed machine has IPv4, and IPv4 binds UDP addresses to UDP only
    rcases hbad with hno | ⟨u, hu, hne⟩
    · exact absurd hm.hasIp hno
    · exact absurd (hm.udpOnly _ _ hu) hne

/-- every machine state reached from an initial machine by any sequence of `listen`s of
applications that exist on it satisfies the invariant -/
theorem c04_reachable_WF (ps : List Pid) (h0 : pidIpv4 ∈ ps) (h1 : pidUdp ∈ ps)
    (ls : List (Pid × Endpoint)) (hls : ∀ x ∈ ls, x.1 ∈ ps) :
    (ls.foldl (fun m x => (udpListen m x.1 x.2).1) (Machine.init ps)).WF ∧
    (ls.foldl (fun m x => (udpListen m x.1 x.2).1) (Machine.init ps)).protocols = ps := by
  refine List.foldlRecOn (motive := fun m : Machine => m.WF ∧ m.protocols = ps) ls _ ⟨init_WF ps h0 h1, rfl⟩
    fun m h x hx => ?_
  exact ⟨(c04_listen_invariant m x.1 x.2 h.1 (h.2 ▸ hls x hx)).1, (udpListen_protocols m x.1 x.2).trans h.2⟩

theorem udpDemux_some_cases (m : Machine) (ih : IpHdr) (u : UdpHdr) (body : List UInt8) (slot : Nat) :
    (∃ app, (lookup (⟨ih.dst, u.dst⟩ : Endpoint) m.udp = some app ∨
          (lookup (⟨ih.dst, u.dst⟩ : Endpoint) m.udp = none ∧ lookup (⟨anyAddr, u.dst⟩ : Endpoint) m.udp = some app)) ∧
        udpDemux m ih (some u) body slot =
          udpSessionReceive m app (body.drop udpStrip) ⟨ih.dst, u.dst⟩ ⟨ih.src, u.src⟩ slot) ∨
    udpDemux m ih (some u) body slot = .error .udpMissingSession := by
  unfold udpDemux
  dsimp only
  cases h1 : lookup (⟨ih.dst, u.dst⟩ : Endpoint) m.udp with
  | some app => exact .inl ⟨app, .inl rfl, rfl⟩
  | none =>
    dsimp only
    cases h2 : lookup (⟨anyAddr, u.dst⟩ : Endpoint) m.udp with
    | some app => exact .inl ⟨app, .inr ⟨rfl, rfl⟩, rfl⟩
    | none => exact .inr rfl

theorem udpDemux_ok_inv (m : Machine) (ih : IpHdr) (uh : UdpHdr) (body : List UInt8) (slot : Nat) (d : Delivered)
    (h : udpDemux m ih (some uh) body slot = .ok d) :
    d.loc = ⟨ih.dst, uh.dst⟩ ∧ d.rem = ⟨ih.src, uh.src⟩ ∧ d.slot = slot ∧ d.payload = body.drop udpStrip ∧
      (lookup d.loc m.udp = some d.app ∨
        (lookup d.loc m.udp = none ∧ lookup (⟨anyAddr, uh.dst⟩ : Endpoint) m.udp = some d.app)) := by
  rcases udpDemux_some_cases m ih uh body slot with ⟨app, hb, he⟩ | he
  · rw [he] at h
    unfold udpSessionReceive at h
    split at h
    · cases h; exact ⟨rfl, rfl, rfl, rfl, hb⟩
    · cases h
  · rw [he] at h; cases h

theorem ite_ok_inv {c : Prop} [Decidable c] {x : Except Drop Delivered} {e : Drop} {d : Delivered}
    (h : (if c then x else .error e) = .ok d) : x = .ok d := by
  by_cases hc : c
  · rw [if_pos hc] at h; exact h
  · rw [if_neg hc] at h; cases h

theorem demux_ok_inv (m : Machine) (f : Frame) (d : Delivered) (h : demux m f = .ok d) :
    ∃ ih uh, f.ip = some ih ∧ f.udp = some uh ∧
      d.loc = ⟨ih.dst, uh.dst⟩ ∧ d.rem = ⟨ih.src, uh.src⟩ ∧ d.slot = f.slot ∧
      d.payload = (f.bytes.drop (ih.ihl * ipWordOctets)).drop udpStrip ∧
      (lookup d.loc m.udp = some d.app ∨
        (lookup d.loc m.udp = none ∧ lookup (⟨anyAddr, uh.dst⟩ : Endpoint) m.udp = some d.app)) := by
  -- `PciSession::receive` has two guards in front of `Ipv4::demux`, which has three behind the lookup
  have h := ite_ok_inv (ite_ok_inv h)
  unfold ipv4Demux at h
  cases hip : f.ip with
  | none => rw [hip] at h; cases h
  | some ih =>
    rw [hip] at h
    dsimp only at h
    cases hup : ipv4Upstream m ih.dst (protoNumber ih.proto) with
    | none => rw [hup] at h; cases h
    | some u =>
      rw [hup] at h
      have h := ite_ok_inv (ite_ok_inv (ite_ok_inv h))
      cases hu : f.udp with
      | none => rw [hu] at h; cases h
      | some uh => rw [hu] at h; exact ⟨ih, uh, rfl, rfl, udpDemux_ok_inv m ih uh _ _ d h⟩

/-- The application that receives a datagram for `(A, P)` is bound to `(A, P)`
or to `(0.0.0.0, P)` — never to another port, never to another specific address.
No hypothesis on the tables. -/
theorem c04_isolation (m : Machine) (f : Frame) (src dst : Endpoint) (payload : List UInt8)
    (d : Delivered) (hf : IsDatagram f src dst payload) (h : demux m f = .ok d) :
    ∃ e : Endpoint, lookup e m.udp = some d.app ∧ e.port = dst.port ∧ (e.addr = dst.addr ∨ e.addr = anyAddr) := by
  obtain ⟨ih, uh, hip, hu, hloc, _, _, _, hb⟩ := demux_ok_inv m f d h
  obtain ⟨_, ih', hip', _, hdst, _, _, _, hu', _⟩ := hf
  rw [hip] at hip'; cases hip'
  rw [hu] at hu'; cases hu'
  rcases hb with hb | ⟨_, hb⟩
  · exact ⟨d.loc, hb, by rw [hloc], Or.inl (by rw [hloc]; exact hdst)⟩
  · exact ⟨⟨anyAddr, dst.port⟩, hb, rfl, Or.inr rfl⟩

/-- An application all of whose bindings are on other ports or on other specific addresses never
receives the datagram. -/
theorem c04_isolation_never (m : Machine) (f : Frame) (src dst : Endpoint) (payload : List UInt8) (app : Pid)
    (hf : IsDatagram f src dst payload)
    (happ : ∀ e : Endpoint, lookup e m.udp = some app → e.port ≠ dst.port ∨ (e.addr ≠ dst.addr ∧ e.addr ≠ anyAddr)) :
    ∀ d, demux m f = .ok d → d.app ≠ app := by
  intro d h hd
  obtain ⟨e, he, hp, ha⟩ := c04_isolation m f src dst payload d hf h
  rw [hd] at he
  rcases happ e he with h1 | ⟨h1, h2⟩
  · exact h1 hp
  · rcases ha with ha | ha
    · exact h1 ha
    · exact h2 ha

theorem ipv4_reaches_udp (m : Machine) (hm : m.WF) (A : Addr) (P : Port)
    (hb : (∃ a, lookup (⟨A, P⟩ : Endpoint) m.udp = some a) ∨ (∃ a, lookup (⟨anyAddr, P⟩ : Endpoint) m.udp = some a)) :
    ipv4Upstream m A protoUdp = some pidUdp := by
  unfold ipv4Upstream
  cases h : lookup (A, protoUdp) m.ip with
  | some u => simp only []; rw [hm.udpOnly _ _ h]
  | none =>
    simp only []
    rcases hb with ⟨a, ha⟩ | ⟨a, ha⟩
    · have := hm.covered _ _ ha; simp only [] at this; rw [h] at this; cases this
    · exact hm.covered _ _ ha

theorem Machine.WF.upstream_udp {m : Machine} (hm : m.WF) {a : Addr} {u : Pid}
    (h : ipv4Upstream m a protoUdp = some u) : u = pidUdp := by
  unfold ipv4Upstream at h
  cases h3 : lookup (a, protoUdp) m.ip with
  | some u' => rw [h3] at h; cases h; exact hm.udpOnly _ _ h3
  | none => rw [h3] at h; exact hm.udpOnly _ _ h

theorem udpDemux_bound {m : Machine} (hp : ∀ e app, lookup e m.udp = some app → app ∈ m.protocols)
    (ih : IpHdr) (u : UdpHdr) (body : List UInt8) (slot : Nat) :
    udpDemux m ih (some u) body slot =
      match lookup (⟨ih.dst, u.dst⟩ : Endpoint) m.udp with
      | some app => .ok ⟨app, body.drop udpStrip, ⟨ih.dst, u.dst⟩, ⟨ih.src, u.src⟩, slot⟩
      | none =>
        match lookup (⟨anyAddr, u.dst⟩ : Endpoint) m.udp with
        | some app => .ok ⟨app, body.drop udpStrip, ⟨ih.dst, u.dst⟩, ⟨ih.src, u.src⟩, slot⟩
        | none => .error .udpMissingSession := by
  unfold udpDemux
  dsimp only
  cases h1 : lookup (⟨ih.dst, u.dst⟩ : Endpoint) m.udp with
  | some app => exact if_pos (hp _ _ h1)
  | none =>
    dsimp only
    cases h2 : lookup (⟨anyAddr, u.dst⟩ : Endpoint) m.udp with
    | some app => exact if_pos (hp _ _ h2)
    | none => rfl

/-- The complete behaviour of the stack on a datagram, as a function of the UDP binding table
alone: exact binding, else wildcard binding, else dropped. -/
theorem demux_datagram (m : Machine) (hm : m.WF) (f : Frame) (src dst : Endpoint) (payload : List UInt8)
    (hf : IsDatagram f src dst payload) :
    match lookup dst m.udp with
    | some app => demux m f = .ok ⟨app, payload, dst, src, f.slot⟩
    | none =>
      match lookup (⟨anyAddr, dst.port⟩ : Endpoint) m.udp with
      | some app => demux m f = .ok ⟨app, payload, dst, src, f.slot⟩
      | none => demux m f = .error .ipMissingSession ∨ demux m f = .error .udpMissingSession := by
  obtain ⟨ht, ih, hip, hsrc, hdst, hpn, hlast, hoff, hu, hpay⟩ := hf
  have hdstE : (⟨ih.dst, dst.port⟩ : Endpoint) = dst := by rw [hdst]
  have hsrcE : (⟨ih.src, src.port⟩ : Endpoint) = src := by rw [hsrc]
  -- IPv4 hands the datagram to UDP as soon as it has a binding for the address
  have hdm : demux m f =
      match ipv4Upstream m dst.addr protoUdp with
      | none => .error .ipMissingSession
      | some _ => udpDemux m ih (some ⟨src.port, dst.port⟩) (f.bytes.drop (ih.ihl * ipWordOctets)) f.slot := by
    unfold demux ipv4Demux
    simp only [ht, hip, hpn, hdst, hlast, hoff, hm.hasIp, hm.hasUdp, hu]
    cases hr : ipv4Upstream m dst.addr protoUdp with
    | none => simp
    | some u => rw [hm.upstream_udp hr]; simp
  rw [hdm, udpDemux_bound hm.appsPresent]
  simp only [hdstE, hsrcE, hpay]
  cases h1 : lookup dst m.udp with
  | some app =>
    dsimp only
    rw [ipv4_reaches_udp m hm dst.addr dst.port (Or.inl ⟨app, by cases dst; exact h1⟩)]
  | none =>
    dsimp only
    cases h2 : lookup (⟨anyAddr, dst.port⟩ : Endpoint) m.udp with
    | some app =>
      dsimp only
      rw [ipv4_reaches_udp m hm dst.addr dst.port (Or.inr ⟨app, h2⟩)]
    | none =>
      dsimp only
      cases ipv4Upstream m dst.addr protoUdp with
      | none => exact .inl rfl
      | some u => exact .inr rfl

/-- An exact binding `(A, P)` gets the datagram — whether or not a wildcard
binding for `P` exists as well. -/
theorem c04_exact_wins (m : Machine) (hm : m.WF) (f : Frame) (src dst : Endpoint) (payload : List UInt8) (app : Pid)
    (hf : IsDatagram f src dst payload) (hb : lookup dst m.udp = some app) :
    demux m f = .ok ⟨app, payload, dst, src, f.slot⟩ := by
  have := demux_datagram m hm f src dst payload hf
  rw [hb] at this; exact this

/-- With no exact binding, the holder of `(0.0.0.0, P)` gets it. -/
theorem c04_wildcard_fallback (m : Machine) (hm : m.WF) (f : Frame) (src dst : Endpoint) (payload : List UInt8) (app : Pid)
    (hf : IsDatagram f src dst payload) (hn : lookup dst m.udp = none)
    (hb : lookup (⟨anyAddr, dst.port⟩ : Endpoint) m.udp = some app) :
    demux m f = .ok ⟨app, payload, dst, src, f.slot⟩ := by
  have := demux_datagram m hm f src dst payload hf
  rw [hn] at this; simp only [] at this; rw [hb] at this; exact this

/-- What the application sees is the payload the sender wrapped
(`UdpSession::send` puts `udpHeaderOctets` bytes, `Ipv4Session::send` puts `ihl*4` bytes in
front — sizes from the extracted constants), the true source endpoint and the destination
endpoint of the datagram. -/
theorem c04_payload_and_source (m : Machine) (f : Frame) (ih : IpHdr) (uh : UdpHdr)
    (ipHeader udpHeader payload : List UInt8) (d : Delivered)
    (hip : f.ip = some ih) (hu : f.udp = some uh)
    (hbytes : f.bytes = encap ipHeader udpHeader payload)
    (hl1 : ipHeader.length = ih.ihl * Elvis.Gen.ipv4DemuxStripFactor)
    (hl2 : udpHeader.length = Elvis.Gen.udpHeaderOctets)
    (h : demux m f = .ok d) :
    d.payload = payload ∧ d.rem = ⟨ih.src, uh.src⟩ ∧ d.loc = ⟨ih.dst, uh.dst⟩ := by
  obtain ⟨ih', uh', hip', hu', hloc, hrem, _, hpay, _⟩ := demux_ok_inv m f d h
  rw [hip] at hip'; cases hip'
  rw [hu] at hu'; cases hu'
  refine ⟨?_, hrem, hloc⟩
  rw [hpay, hbytes, encap]
  have e1 : ih.ihl * ipWordOctets = ipHeader.length := by rw [hl1]; rfl
  have e2 : udpStrip = udpHeader.length := by rw [hl2]; rfl
  rw [e1, List.drop_left, e2, List.drop_left]

/-- A `listen` on an endpoint that is already bound on the machine is
refused — for any upstream, including the current holder — and changes nothing. -/
theorem c04_rebind_refused (m : Machine) (up holder : Pid) (e : Endpoint) (h : lookup e m.udp = some holder) :
    udpListen m up e = (m, .error .existing) := by
  unfold udpListen; rw [h]

/-- after a successful `listen` the endpoint is bound to the caller (so any further attempt is
refused by `c04_rebind_refused`) -/
theorem c04_bound_after_listen (m : Machine) (up : Pid) (e : Endpoint) (h : (udpListen m up e).2 = .ok ()) :
    lookup e (udpListen m up e).1.udp = some up := by
  rcases udpListen_cases m up e with ⟨_, h'⟩ | ⟨_, ⟨_, h'⟩ | ⟨_, h'⟩ | ⟨_, _, h'⟩⟩
  · rw [h'] at h; cases h
  · rw [h']; exact lookup_cons_self _ _ _
  · rw [h']; exact lookup_cons_self _ _ _
  · rw [h'] at h; cases h

theorem c04_second_listen_refused (m : Machine) (up up' : Pid) (e : Endpoint) (h : (udpListen m up e).2 = .ok ()) :
    udpListen (udpListen m up e).1 up' e = ((udpListen m up e).1, .error .existing) :=
  c04_rebind_refused _ up' up e (c04_bound_after_listen m up e h)

/-- A datagram for which neither `(A, P)` nor `(0.0.0.0, P)` is bound is dropped with an error. -/
theorem c04_unbound_dropped (m : Machine) (hm : m.WF) (f : Frame) (src dst : Endpoint) (payload : List UInt8)
    (hf : IsDatagram f src dst payload) (h1 : lookup dst m.udp = none)
    (h2 : lookup (⟨anyAddr, dst.port⟩ : Endpoint) m.udp = none) :
    demux m f = .error .ipMissingSession ∨ demux m f = .error .udpMissingSession := by
  have := demux_datagram m hm f src dst payload hf
  rw [h1] at this; simp only [] at this; rw [h2] at this; exact this

theorem run_append (w : World) (a b : List Op) :
    run w (a ++ b) = ((run (run w a).1 b).1, (run w a).2 ++ (run (run w a).1 b).2) := by
  induction a generalizing w with
  | nil => simp [run]
  | cons x xs ih => simp only [List.cons_append, run, ih]

/-- "Without disturbing anything else" of C04: no arrival (bound or not, well-formed or not)
changes any table of any machine, so every later operation answers exactly as if the frame had
never arrived. -/
theorem c04_arrival_state_unchanged (w : World) (i : Nat) (f : Frame) : (step w (.arrive i f)).1 = w := by
  simp only [step]; split <;> rfl

theorem c04_unbound_dropped_frame_condition (w : World) (before after : List Op) (i : Nat) (f : Frame) :
    (run w (before ++ [.arrive i f] ++ after)).1 = (run w (before ++ after)).1 ∧
    (run (run w (before ++ [.arrive i f])).1 after).2 = (run (run w before).1 after).2 := by
  have h1 : (run w (before ++ [.arrive i f])).1 = (run w before).1 := by
    rw [run_append]; simp only [run]; exact c04_arrival_state_unchanged _ i f
  constructor
  · simp only [List.append_assoc, run_append, List.singleton_append, run, c04_arrival_state_unchanged]
  · rw [h1]

def arrivals (l : List (Nat × Frame)) : List Op := l.map fun x => .arrive x.1 x.2

def arrivalOut (w : World) (x : Nat × Frame) : Out :=
  match w[x.1]? with
  | none => .noMachine
  | some m => .arrived (demux m x.2)

theorem run_arrivals (w : World) (l : List (Nat × Frame)) : run w (arrivals l) = (w, l.map (arrivalOut w)) := by
  induction l with
  | nil => rfl
  | cons x xs ih =>
    simp only [arrivals, List.map_cons, run] at ih ⊢
    have hs : step w (.arrive x.1 x.2) = (w, arrivalOut w x) := by
      simp only [step, arrivalOut]; cases h : w[x.1]? <;> simp
    rw [hs]; simp only []; rw [ih]

/-- Demultiplexing is a function of (tables, frame): a sequence of arrivals leaves the world as it
was and produces, for each arrival, the same result in whatever order they come; permuting the
arrivals permutes the deliveries. -/
theorem c04_order_independent (w : World) (l₁ l₂ : List (Nat × Frame)) (h : List.Perm l₁ l₂) :
    (run w (arrivals l₁)).1 = w ∧ (run w (arrivals l₂)).1 = w ∧
    List.Perm (run w (arrivals l₁)).2 (run w (arrivals l₂)).2 := by
  rw [run_arrivals, run_arrivals]
  exact ⟨rfl, rfl, h.map _⟩

/-! ## Non-vacuity: a concrete machine and frames satisfying the hypotheses -/

def exMachine : Machine :=
  ((udpListen ((udpListen (Machine.init [0, 1, 10, 11]) 10 ⟨0x0a000001, 5000⟩).1) 11 ⟨0, 5000⟩).1)

def exFrame (dst : Addr) (port : Port) : Frame :=
  { target := pidIpv4, slot := 0,
    ip := some ⟨5, 17, 0x0a000002, dst, true, 0⟩, udp := some ⟨40000, port⟩,
    bytes := List.replicate 28 0 ++ [104, 105] }

example : exMachine.WF := by
  have h := c04_reachable_WF [0, 1, 10, 11] (by decide) (by decide)
    [(10, ⟨0x0a000001, 5000⟩), (11, ⟨0, 5000⟩)] (by decide)
  exact h.1
example : IsDatagram (exFrame 0x0a000001 5000) ⟨0x0a000002, 40000⟩ ⟨0x0a000001, 5000⟩ [104, 105] :=
  ⟨rfl, _, rfl, rfl, rfl, by decide, rfl, rfl, rfl, by decide⟩
/-- exact beats wildcard; another address falls back to the wildcard; another port is dropped -/
example : demux exMachine (exFrame 0x0a000001 5000) = .ok ⟨10, [104, 105], ⟨0x0a000001, 5000⟩, ⟨0x0a000002, 40000⟩, 0⟩ := by rfl
example : demux exMachine (exFrame 0x0a000009 5000) = .ok ⟨11, [104, 105], ⟨0x0a000009, 5000⟩, ⟨0x0a000002, 40000⟩, 0⟩ := by rfl
example : demux exMachine (exFrame 0x0a000001 5001) = .error .udpMissingSession := by rfl
example : (udpListen exMachine 11 ⟨0x0a000001, 5000⟩).2 = .error .existing := by rfl

end Elvis.Demux
