import ElvisVerif.Lemmas.ArpAgree
import ElvisVerif.Lemmas.ArpCodec
import ElvisVerif.Lemmas.ArpProgress
import ElvisVerif.Lemmas.ArpMask
/-!
# C06 — ARP resolves an IP address to its owner's (or the gateway's) MAC

Property theorems over the transition system of `Model/Arp.lean`.  A state is *reachable* when it
is `run (initWith neg slots mtu) ls` for some machine layout and some label list `ls`; the label
list carries every choice: claims, resolve calls, which frame is delivered to which tap next,
which frame is lost, when a woken waiter runs, which time-out is served next, how time passes.
So "for every reachable state" = for all configurations, all delivery orders, all loss patterns,
all schedules.
-/
namespace Elvis.Arp
open Elvis.Gen.Arp

def Reach (s : Net) : Prop :=
  ∃ (neg : Bool) (slots : List Nat) (mtu : Nat) (ls : List Label), s = run (initWith neg slots mtu) ls

def Distinct (s : Net) : Prop :=
  ∀ (i j : Nat) (mi mj : Machine) (x : Ip), s.machines[i]? = some mi → s.machines[j]? = some mj →
    mi.owns x = true → mj.owns x = true → i = j

def OwnerMac (s : Net) (x : Ip) (mac : Mac) : Prop :=
  ∃ (j : Nat) (o : Machine), s.machines[j]? = some o ∧ o.owns x = true ∧ mac ∈ o.macs ∧
    ∀ (j' : Nat) (o' : Machine), s.machines[j']? = some o' → o'.owns x = true → j' = j

theorem Reach.inv {s : Net} (h : Reach s) : Inv s := by
  obtain ⟨neg, slots, mtu, ls, rfl⟩ := h
  exact run_keeps (fun _ l h => h.step l) (Inv.init neg slots mtu) ls

theorem Reach.tinv {s : Net} (h : Reach s) : TInv s := by
  obtain ⟨neg, slots, mtu, ls, rfl⟩ := h
  exact run_keeps (fun _ l h => h.step l) (TInv.init neg slots mtu) ls

theorem Reach.step {s : Net} (h : Reach s) (l : Label) : Reach (step s l) := by
  obtain ⟨neg, slots, mtu, ls, rfl⟩ := h
  exact ⟨neg, slots, mtu, ls ++ [l], by simp [run, List.foldl_append]⟩

theorem Reach.run {s : Net} (h : Reach s) (ls : List Label) : Reach (run s ls) :=
  run_keeps (fun _ l h => h.step l) h ls

theorem Owned.ownerMac {s : Net} (hd : Distinct s) {x : Ip} {mac : Mac} (h : Owned s.machines x mac) :
    OwnerMac s x mac := by
  obtain ⟨j, o, hj, hx, hm⟩ := h
  exact ⟨j, o, hj, hx, hm, fun j' o' hj' hx' => hd j' j o' o x hj' hj hx' hx⟩

/-- `ArpPacket::from_bytes (build p) = p` for every packet whose fields fit their wire widths
    (MAC 48 bits, IP 32 bits); so the structured frames of the transition system and the bytes on
    the wire carry the same information.  The wire form is 28 bytes. -/
theorem c06_codec_roundtrip (p : Packet) (h : p.WF) (rest : List UInt8) :
    fromBytes (build p ++ rest) = .ok p ∧ (build p).length = 28 :=
  ⟨fromBytes_build p h rest, build_length p⟩

/-- `Arp::demux` answers iff the packet is a request for an address in `local_ips` (and the reply
    fits the MTU); the reply names the receiving tap and the requested address, and goes to the
    requester only.  Every parsed packet's sender mapping is learned. -/
theorem c06_reply_iff (m : Machine) (tapMac : Mac) (mtu : Nat) (p : Packet) :
    ((m.demux tapMac mtu p).2 = some ⟨tapMac, some p.smac, newReply tapMac p.tip p.smac p.sip, false⟩ ↔
      (p.oper = .request ∧ m.owns p.tip = true ∧ packetSize ≤ mtu)) ∧
    ((m.demux tapMac mtu p).2 = none ↔ ¬ (p.oper = .request ∧ m.owns p.tip = true ∧ packetSize ≤ mtu)) ∧
    alookup p.sip (m.demux tapMac mtu p).1.table = some (.ok p.smac) := by
  rw [Machine.demux_snd, Machine.demux_fst]
  refine ⟨?_, ?_, alookup_ainsert_same _ _ _⟩
  · by_cases h : p.oper = .request ∧ m.owns p.tip = true ∧ packetSize ≤ mtu
    · simp [h, replyFrame]
    · simp [h]
  · by_cases h : p.oper = .request ∧ m.owns p.tip = true ∧ packetSize ≤ mtu
    · simp [h]
    · simp [h]

/-- In every reachable state every ARP frame that was ever put on the wire — request or reply —
    carries an (IP, MAC) pair of its sender: the IP is claimed by a machine one of whose taps has
    that MAC, and the frame's link-level sender is that MAC.  With distinct claims that machine is
    THE owner: nobody but the owner of `x` ever answers for `x`. -/
theorem c06_reply_only_owner {s : Net} (hr : Reach s) (hd : Distinct s) (f : Frame) (hf : f ∈ s.wire) :
    OwnerMac s f.pkt.sip f.pkt.smac ∧ f.smac = f.pkt.smac :=
  ⟨(hr.inv.frames f hf).1.ownerMac hd, (hr.inv.frames f hf).2⟩

/-- Under "claimed addresses are pairwise distinct", in EVERY reachable state (all delivery
    orders, all loss patterns, all schedules): every `Ok m` entry for address `x` in any machine's
    ARP table, and every `Ok m` ever returned by a resolution whose (gateway-substituted)
    destination is `x`, has `m` = the MAC of a tap of the one machine claiming `x`. -/
theorem c06_resolve_sound {s : Net} (hr : Reach s) (hd : Distinct s) :
    (∀ (k : Nat) (m : Machine) (x : Ip) (mac : Mac), s.machines[k]? = some m →
      alookup x m.table = some (.ok mac) → OwnerMac s x mac) ∧
    (∀ r ∈ s.resolvers, ∀ (mac : Mac) (t : Nat), r.result = some (.ok mac, t) → OwnerMac s r.dest mac) :=
  ⟨fun k m x mac hk hx => (hr.inv.table k m x mac hk hx).ownerMac hd,
   fun r hmem mac t e => ((hr.inv.resolvers r hmem).1 mac t e).ownerMac hd⟩

/-- the address a resolution asks for: the default gateway exactly when the resolver's subnet
    configuration for `local` puts `remote` outside (`id(local,mask) ≠ id(remote,mask)`) -/
theorem c06_dest_gateway (m : Machine) (loc remote : Ip) (sn : Subnet)
    (h : alookup loc m.localIps = some (some sn)) (hne : netId loc sn.mask ≠ netId remote sn.mask) :
    destOf m loc remote = sn.gateway := by
  simp [destOf, h, hne]

theorem c06_dest_same_subnet (m : Machine) (loc remote : Ip) (sn : Subnet)
    (h : alookup loc m.localIps = some (some sn)) (heq : netId loc sn.mask = netId remote sn.mask) :
    destOf m loc remote = remote := by
  simp [destOf, h, heq]

theorem c06_dest_no_subnet (m : Machine) (loc remote : Ip)
    (h : alookup loc m.localIps = none ∨ alookup loc m.localIps = some none) :
    destOf m loc remote = remote := by
  rcases h with h | h <;> simp [destOf, h]

/-- what the gateway decision compares: with a mask of `b` leading ones (every `Ipv4Mask` is one),
    `id(local,mask) = id(remote,mask)` iff the two 32-bit addresses agree above the `32 - b` host bits -/
theorem c06_same_subnet_iff (a c b : Nat) (ha : a < 2 ^ 32) (hc : c < 2 ^ 32) (hb : b ≤ 32) :
    netId a (maskFromBitcount b) = netId c (maskFromBitcount b) ↔ a / 2 ^ (32 - b) = c / 2 ^ (32 - b) := by
  rw [netId_mask a b ha hb, netId_mask c b hc hb]
  exact ⟨Nat.eq_of_mul_eq_mul_right (Nat.pow_pos (by decide)), fun h => by rw [h]⟩

/-- the resolver started by a `resolve` transition asks for `destOf` of the machine after it has
    listened on `local` -/
theorem c06_resolve_dest (s : Net) (k : Nat) (loc remote : Ip) (slot : Nat) (m0 : Machine)
    (hm : s.machines[k]? = some m0) (hp : (step s (.resolve k loc remote slot)).panic = none) :
    ∃ r, (step s (.resolve k loc remote slot)).resolvers = s.resolvers ++ [r] ∧
      r.mach = k ∧ r.loc = loc ∧ r.dest = destOf (m0.listen loc) loc remote ∧ r.started = s.now := by
  unfold Elvis.Arp.step at hp ⊢
  by_cases hpanic : s.panic.isSome = true
  · simp only [hpanic, if_true] at hp
    rw [hp] at hpanic; cases hpanic
  · simp only [hpanic] at hp ⊢
    simp only [Bool.false_eq_true, if_false] at hp ⊢
    unfold Net.resolve at hp ⊢
    simp only [hm] at hp ⊢
    split
    · exact ⟨_, rfl, rfl, rfl, rfl, rfl⟩
    · rename_i hmiss
      simp only [hmiss] at hp
      split
      · rename_i hslot
        simp only [hslot] at hp
        cases hp
      · rename_i mac hmac
        obtain ⟨_, _, _, f4, _, f6, f7, f8, _, f10⟩ :=
          Net.roundOrFail_fields { s with machines := s.machines.set k (m0.listen loc) }
            ⟨k, mac, loc, destOf (m0.listen loc) loc remote, s.now, 0, s.now, none⟩
        refine ⟨_, ?_, f7, f10, f8, f6⟩
        show _ ++ [_] = _
        rw [f4]

/-- Any two resolutions of one address — on any machines, at any times, concurrent or not — that
    return `Ok` return MACs of the same machine, the one claiming the address; when that machine
    has a single tap they return the same MAC. -/
theorem c06_agreement {s : Net} (hr : Reach s) (hd : Distinct s) (r1 r2 : Resolver)
    (h1 : r1 ∈ s.resolvers) (h2 : r2 ∈ s.resolvers) (hdest : r1.dest = r2.dest)
    (m1 m2 : Mac) (t1 t2 : Nat) (e1 : r1.result = some (.ok m1, t1)) (e2 : r2.result = some (.ok m2, t2)) :
    ∃ (j : Nat) (o : Machine), s.machines[j]? = some o ∧ o.owns r1.dest = true ∧ m1 ∈ o.macs ∧ m2 ∈ o.macs ∧
      (o.macs.length = 1 → m1 = m2) := by
  obtain ⟨j, o, hj, hx, hm1, huniq⟩ := (c06_resolve_sound hr hd).2 r1 h1 m1 t1 e1
  obtain ⟨j', o', hj', hx', hm2, _⟩ := (c06_resolve_sound hr hd).2 r2 h2 m2 t2 e2
  rw [← hdest] at hx'
  have : j' = j := huniq j' o' hj' hx'
  subst this
  rw [hj] at hj'; cases hj'
  refine ⟨j', o, hj, hx, hm1, hm2, fun hl => ?_⟩
  match hmac : o.macs, hl with
  | [a], _ =>
    rw [hmac] at hm1 hm2
    simp only [List.mem_singleton] at hm1 hm2
    rw [hm1, hm2]

theorem Reach.ainv {s : Net} (h : Reach s) : AInv s := by
  obtain ⟨neg, slots, mtu, ls, rfl⟩ := h
  exact (run_keeps (P := fun s => AInv s ∧ TInv s) (fun _ l h => ⟨h.1.step h.2 l, h.2.step l⟩)
    ⟨AInv.init neg slots mtu, TInv.init neg slots mtu⟩ ls).1

/-- Concurrent resolvers of one address on one machine that both succeed do so in the same
    virtual instant: once one of them has its answer the table keeps an `Ok` entry, every other
    waiter is runnable, and the clock cannot advance before it has run.  ("Concurrent": each call
    started no later than the other returned.)  Together with `c06_agreement` — equal MACs — they
    obtain the same answer at the same time, whatever the wake-up order. -/
theorem c06_agreement_time {s : Net} (hr : Reach s) (r1 r2 : Resolver)
    (h1 : r1 ∈ s.resolvers) (h2 : r2 ∈ s.resolvers) (hm : r1.mach = r2.mach) (hdest : r1.dest = r2.dest)
    (m1 m2 : Mac) (t1 t2 : Nat) (e1 : r1.result = some (.ok m1, t1)) (e2 : r2.result = some (.ok m2, t2))
    (c1 : r1.started ≤ t2) (c2 : r2.started ≤ t1) : t1 = t2 := by
  rcases hr.ainv.same r1 h1 r2 h2 ⟨hm, hdest⟩ m1 t1 m2 t2 e1 e2 with h | h | h
  · exact h
  · omega
  · omega

/-- while a resolver is still waiting for an address another resolver of the same machine already
    has an answer for, time stands still: it is served in the same instant -/
theorem c06_waiter_served_at_once {s : Net} (hr : Reach s) (r1 r2 : Resolver)
    (h1 : r1 ∈ s.resolvers) (h2 : r2 ∈ s.resolvers) (hm : r1.mach = r2.mach) (hdest : r1.dest = r2.dest)
    (m1 : Mac) (t1 : Nat) (e1 : r1.result = some (.ok m1, t1)) (e2 : r2.result = none) :
    s.now = t1 ∧ ∀ dt, s.canTick dt = false := by
  refine ⟨hr.ainv.frozen r1 h1 r2 h2 ⟨hm, hdest⟩ m1 t1 e1 e2, fun dt => ?_⟩
  obtain ⟨mac', hh⟩ := (hr.ainv.stable r1 h1 m1 t1 e1).hit
  rw [hm, hdest] at hh
  exact canTick_waiting h2 e2 hh dt

def budgetUs : Nat := resendTries * resendDelayUs

/-- Never hangs: while a resolution is waiting, virtual time cannot pass the end of its retry
    budget (time only advances through `tick`, and `tick` is refused while a time-out is due);
    a resolution that has returned did so within the budget. -/
theorem c06_never_hangs {s : Net} (hr : Reach s) (r : Resolver) (hmem : r ∈ s.resolvers) :
    (r.result = none → s.now ≤ r.started + budgetUs) ∧
    (∀ (st : Status) (t : Nat), r.result = some (st, t) → r.started ≤ t ∧ t ≤ r.started + budgetUs) := by
  have h := hr.tinv r hmem
  unfold TimeOk at h
  obtain ⟨h0, h1⟩ := h
  constructor
  · intro hres
    simp only [hres] at h1
    have := mul_le_budget h1.2.2.2
    unfold budgetUs; omega
  · intro st t hres
    simp only [hres] at h1
    exact ⟨h1.1, h1.2.2.1⟩

/-- the source does not treat a cached failure (`Err` entry) as an answer; treating it as one is
    defect F-C06-1.  The flag is extracted from the source: were it `true`, this theorem and the
    exact-time claim below would fail for that code -/
theorem c06_failure_not_cached : cachedFailureIsAnswer = false := by decide

/-- Nobody claims `x` ⇒ every resolution of `x` fails: it never returns `Ok`, it is never left
    waiting beyond its budget, and (cached failures not being answers, MTU admitting an ARP
    packet) it returns `Err` after exactly `RESEND_TRIES · RESEND_DELAY` of virtual time, having
    sent exactly `RESEND_TRIES` requests. -/
theorem c06_fail_bounded {s : Net} (hr : Reach s) (r : Resolver) (hmem : r ∈ s.resolvers)
    (hun : ∀ (j : Nat) (o : Machine), s.machines[j]? = some o → o.owns r.dest = false) :
    (r.result = none → s.now ≤ r.started + budgetUs) ∧
    (∀ (st : Status) (t : Nat), r.result = some (st, t) →
      st = .err ∧ t ≤ r.started + budgetUs ∧
      (s.negCache = false → packetSize ≤ s.mtu → t = r.started + budgetUs ∧ r.sent = resendTries)) := by
  refine ⟨(c06_never_hangs hr r hmem).1, fun st t hres => ?_⟩
  have hst : st = .err := by
    cases st with
    | err => rfl
    | ok mac =>
      obtain ⟨j, o, hj, hx, _⟩ := (hr.inv.resolvers r hmem).1 mac t hres
      rw [hun j o hj] at hx; cases hx
  refine ⟨hst, ((c06_never_hangs hr r hmem).2 st t hres).2, fun hn hm => ?_⟩
  have h := hr.tinv r hmem
  unfold TimeOk at h
  simp only [hres] at h
  exact h.2.2.2.2 hst hn hm

theorem deliver_learns {s : Net} {gi a sa : Nat} {g : Frame} {ma : Machine} {tap : Mac}
    (hpan : s.panic = none) (hg : s.wire[gi]? = some g) (hl : g.lost = false)
    (hma : s.machines[a]? = some ma) (hsa : ma.macs[sa]? = some tap)
    (hdst : g.dst = none ∨ g.dst = some broadcastMac ∨ g.dst = some tap) :
    (step s (.deliver gi a sa)).hit a g.pkt.sip = some (.ok g.pkt.smac) ∧
    (step s (.deliver gi a sa)).resolvers = s.resolvers ∧ (step s (.deliver gi a sa)).now = s.now ∧
    (step s (.deliver gi a sa)).panic = none := by
  have hstep : step s (.deliver gi a sa) =
      { s with machines := s.machines.set a (ma.demux tap s.mtu g.pkt).1,
               wire := s.wire ++ (ma.demux tap s.mtu g.pkt).2.toList } := by
    have hp : s.panic.isSome = false := by rw [hpan]; rfl
    unfold Elvis.Arp.step
    simp only [hp, Bool.false_eq_true, if_false]
    unfold Net.deliver
    simp only [hg, hma, hsa, hl, hdst, and_self, if_true]
  rw [hstep]
  refine ⟨?_, rfl, rfl, hpan⟩
  unfold Net.hit
  simp only [List.getElem?_set_self_of_some hma, Machine.demux_fst, alookup_ainsert_same, tableHit]

/-- Success whenever one request/reply exchange gets through while the resolver is still in its
    retry loop.  `s`: any state in which resolver `i` is waiting for `r.dest`, one of its requests
    (`fi`) is on the wire, machine `j` claims `r.dest` and has a tap `slot` with MAC `mo`.
    (1) Delivering the request to that tap puts the reply `(r.dest, mo) → r.smac` on the wire.
    (2) After ANY further transitions `ls` (other deliveries, losses, retries, time): if the
    reply has not been lost and the resolver is still waiting (its budget is not exhausted and
    nothing else completed it), then delivering the reply to the resolver's tap freezes the clock
    until the resolver has run, and the resolver returns `Ok mo` at that very instant. -/
theorem c06_success_if_one_exchange (s : Net) (i fi j slot sa : Nat) (r : Resolver) (o ma : Machine) (mo : Mac)
    (hpan : s.panic = none) (hri : s.resolvers[i]? = some r)
    (hf : s.wire[fi]? = some (requestFrame r.smac r.loc r.dest))
    (ho : s.machines[j]? = some o) (hown : o.owns r.dest = true) (hmo : o.macs[slot]? = some mo)
    (hma : s.machines[r.mach]? = some ma) (hsa : ma.macs[sa]? = some r.smac)
    (hmtu : packetSize ≤ s.mtu) (ls : List Label) :
    (step s (.deliver fi j slot)).wire[s.wire.length]? =
        some ⟨mo, some r.smac, newReply mo r.dest r.smac r.loc, false⟩ ∧
    ((run (step s (.deliver fi j slot)) ls).panic = none →
     (∀ g, (run (step s (.deliver fi j slot)) ls).wire[s.wire.length]? = some g → g.lost = false) →
     (∀ r2, (run (step s (.deliver fi j slot)) ls).resolvers[i]? = some r2 → r2.result = none) →
     (∀ dt, (step (run (step s (.deliver fi j slot)) ls) (.deliver s.wire.length r.mach sa)).canTick dt = false) ∧
     ∃ r3, (step (step (run (step s (.deliver fi j slot)) ls) (.deliver s.wire.length r.mach sa)) (.wake i)).resolvers[i]?
              = some r3 ∧
           r3.result = some (.ok mo, (run (step s (.deliver fi j slot)) ls).now)) := by
  have h1 : (step s (.deliver fi j slot)).wire[s.wire.length]? =
      some ⟨mo, some r.smac, newReply mo r.dest r.smac r.loc, false⟩ := by
    unfold Elvis.Arp.step
    simp only [hpan, Option.isSome_none, Bool.false_eq_true, if_false]
    unfold Net.deliver
    simp only [hf, ho, hmo, requestFrame, true_or, and_self, if_true]
    rw [Machine.demux_snd]
    simp only [newRequest, hown, hmtu, and_self, if_true, Option.toList_some, replyFrame]
    simp
  refine ⟨h1, fun hp2 hlost hpend => ?_⟩
  let s1 := step s (.deliver fi j slot)
  let s2 := run s1 ls
  have e01 : Ext s s1 := Ext.step s _
  have e12 : Ext s1 s2 := Ext.run s1 ls
  obtain ⟨g, hg, gp, gd, _, _⟩ := e12.wire _ _ h1
  have hgl : g.lost = false := hlost g hg
  obtain ⟨r2, hr2, rm, rd, _, _, _, _⟩ := (e01.trans e12).res i r hri
  have hr2n : r2.result = none := hpend r2 hr2
  obtain ⟨ma2, hma2, hle⟩ := (e01.trans e12).ms _ ma hma
  have hsa2 : ma2.macs[sa]? = some r.smac := by rw [hle.1]; exact hsa
  have hdst : g.dst = none ∨ g.dst = some broadcastMac ∨ g.dst = some r.smac := by
    rw [gd]; exact Or.inr (Or.inr rfl)
  obtain ⟨k1, k2, k3, k4⟩ := deliver_learns (s := s2) (gi := s.wire.length) (a := r.mach) (sa := sa) hp2 hg hgl hma2 hsa2 hdst
  rw [gp] at k1
  simp only [newReply] at k1
  let s3 := step s2 (.deliver s.wire.length r.mach sa)
  have hr3 : s3.resolvers[i]? = some r2 := by show (step s2 _).resolvers[i]? = _; rw [k2]; exact hr2
  have hhit : s3.hit r2.mach r2.dest = some (.ok mo) := by rw [rm, rd]; exact k1
  constructor
  · exact canTick_waiting (List.mem_of_getElem? hr3) hr2n hhit
  · refine ⟨{ r2 with result := some (.ok mo, s3.now) }, ?_, by show some (Status.ok mo, s3.now) = some (Status.ok mo, s2.now); rw [k3]⟩
    show (step s3 (.wake i)).resolvers[i]? = _
    have k4' : s3.panic = none := k4
    unfold Elvis.Arp.step
    simp only [k4', Option.isSome_none, Bool.false_eq_true, if_false]
    unfold Net.wake
    simp only [hr3, hr2n, hhit, if_true]
    exact List.getElem?_set_self_of_some hr3

/-- taps of different machines never share a MAC (`Network::next_mac` numbers them consecutively) -/
theorem c06_macs_unique {s : Net} (hr : Reach s) (i j : Nat) (mi mj : Machine) (mac : Mac)
    (hi : s.machines[i]? = some mi) (hj : s.machines[j]? = some mj) (h1 : mac ∈ mi.macs) (h2 : mac ∈ mj.macs) :
    i = j := by
  obtain ⟨neg, slots, mtu, ls, rfl⟩ := hr
  have ht : (run (initWith neg slots mtu) ls).taps = assignMacs 0 slots := by
    rw [run_taps, init_taps]
  have hs := (assignMacs_sorted slots 0).1
  rw [← ht] at hs
  refine row_unique hs (i := i) (j := j) (li := mi.macs) (lj := mj.macs) ?_ ?_ h1 h2
  · simp [Net.taps, hi]
  · simp [Net.taps, hj]

/-- A resolution never yields another machine's address: the MAC it returns belongs to a tap of
    the machine claiming the destination and to no tap of any other machine. -/
theorem c06_never_other_machine {s : Net} (hr : Reach s) (hd : Distinct s) (r : Resolver) (hmem : r ∈ s.resolvers)
    (mac : Mac) (t : Nat) (e : r.result = some (.ok mac, t)) (j' : Nat) (o' : Machine)
    (hj' : s.machines[j']? = some o') (hmac : mac ∈ o'.macs) : o'.owns r.dest = true := by
  obtain ⟨j, o, hj, hx, hm, _⟩ := (c06_resolve_sound hr hd).2 r hmem mac t e
  have : j' = j := c06_macs_unique hr j' j o' o mac hj' hj hmac hm
  subst this
  rw [hj] at hj'; cases hj'
  exact hx

/-- `n` further rounds without any delivery (time-out of resolver 0 every `RESEND_DELAY`) -/
def rounds (n : Nat) : List Label :=
  (List.range n).flatMap fun _ => [Label.tick resendDelayUs, Label.timeout 0]

/-- a resolution of address 2 fails for want of an owner; the owner appears 0.5 s later; 0.5 s
    after that the address is resolved again on a loss-free network -/
def staleWitness : List Label :=
  [.listen 0 1, .resolve 0 1 2 0] ++ rounds resendTries ++
  [.tick 500000, .listen 1 2, .tick 500000, .resolve 0 1 2 0,
   .deliver resendTries 1 0, .deliver (resendTries + 1) 0 0, .wake 1]

/-- a second resolver joins half a `RESEND_DELAY` before the first one gives up; its request is
    answered a quarter of a `RESEND_DELAY` after that -/
def joinWitness : List Label :=
  [.listen 0 1, .listen 1 2, .resolve 0 1 2 0] ++ rounds (resendTries - 1) ++
  [.tick (resendDelayUs / 2), .resolve 0 1 2 0, .tick (resendDelayUs - resendDelayUs / 2), .timeout 0, .wake 1,
   .tick (resendDelayUs / 4), .deliver resendTries 1 0, .deliver (resendTries + 1) 0 0, .wake 1]

def resultOf (s : Net) (i : Nat) : Option (Status × Nat) := (s.resolvers[i]?).bind (·.result)

/-- With the cached failure treated as an answer (`negCache = true`, defect F-C06-1) the second
    resolution returns `Err` at once although the address is claimed and nothing is lost; with
    `negCache = false`, the source's behaviour, it returns the owner's MAC. -/
theorem c06_stale_failure_regression :
    resultOf (run (initWith true [1, 1] 65535) staleWitness) 0 = some (.err, budgetUs) ∧
    resultOf (run (initWith true [1, 1] 65535) staleWitness) 1 = some (.err, budgetUs + 1000000) ∧
    resultOf (run (initWith false [1, 1] 65535) staleWitness) 1 = some (.ok 1, budgetUs + 1000000) := by
  refine ⟨?_, ?_, ?_⟩ <;> decide

/-- With the cached failure waking waiters (`negCache = true`, defect F-C06-1) the resolver that
    joined half a `RESEND_DELAY` before the end of the first one's budget fails together with it,
    having used a fraction of its own budget; with `negCache = false` it gets the owner's answer a
    quarter of a `RESEND_DELAY` later. -/
theorem c06_early_failure_regression :
    resultOf (run (initWith true [1, 1] 65535) joinWitness) 1 = some (.err, budgetUs) ∧
    resultOf (run (initWith false [1, 1] 65535) joinWitness) 1 = some (.ok 1, budgetUs + resendDelayUs / 4) := by
  constructor <;> decide

/-- No time-lock: from every reachable state (of the code as it is: cached failures are not
    answers), serving resolvers `0, 1, …` in turn — `wake i` lets a runnable waiter read the table,
    `timeout i` serves a due time-out; finitely many transitions, no time passing — leads to a state
    in which the clock may advance.  So "time cannot pass a waiting resolver's deadline"
    (`c06_never_hangs`) is never satisfied by the model freezing time for ever: the resolver does
    return. -/
theorem c06_time_can_pass {s : Net} (hr : Reach s) (hn : s.negCache = false) (hp : s.panic = none) :
    (run s (serveAll s.resolvers.length)).now = s.now ∧
    (run s (serveAll s.resolvers.length)).canTick 1 = true := by
  obtain ⟨h1, _, _, h4, _, h6⟩ := serveAll_spec hp hn hr.tinv (by decide) s.resolvers.length
  refine ⟨h1, canTick_iff.2 fun r hmem => ?_⟩
  obtain ⟨i, hi⟩ := List.getElem?_of_mem hmem
  exact h6 i (by rw [← h4]; exact List.lt_length_of_getElem? hi) r hi

/-- the extracted retry budget is a real budget (whatever its values: the theorems above are
    stated over the extracted constants, not over 10 × 200 ms) -/
theorem c06_budget_positive : 0 < resendTries ∧ 0 < resendDelayUs ∧ 0 < budgetUs := by decide

/-! ## non-vacuity: a concrete reachable state satisfying the hypotheses above -/

/-- the state after `staleWitness` with `negCache = false`: machine 0 (MAC 0) claims address 1,
    machine 1 (MAC 1) claims address 2, the first resolution failed, the second returned MAC 1 -/
def exampleState : Net := run (initWith false [1, 1] 65535) staleWitness

theorem exampleState_reach : Reach exampleState := ⟨false, [1, 1], 65535, staleWitness, rfl⟩

theorem exampleState_machines :
    exampleState.machines =
      [⟨[0], [(1, none)], [(2, .ok 1)]⟩, ⟨[1], [(2, none)], [(1, .ok 0)]⟩] := by decide

theorem owns_single {ms : List Mac} {a : Ip} {v : Option Subnet} {t : List (Ip × Status)} {y : Ip}
    (h : Machine.owns ⟨ms, [(a, v)], t⟩ y = true) : y = a := by
  simp only [Machine.owns, alookup] at h
  by_cases hy : a = y
  · exact hy.symm
  · simp [hy] at h

theorem exampleState_distinct : Distinct exampleState := by
  intro i j mi mj x hi hj oi oj
  rw [exampleState_machines] at hi hj
  match i, j with
  | 0, 0 => rfl
  | 1, 1 => rfl
  | 0, 1 =>
    simp only [List.getElem?_cons_zero, List.getElem?_cons_succ, Option.some.injEq] at hi hj
    subst hi; subst hj
    have h1 := owns_single oi; have h2 := owns_single oj
    rw [h1] at h2; cases h2
  | 1, 0 =>
    simp only [List.getElem?_cons_zero, List.getElem?_cons_succ, Option.some.injEq] at hi hj
    subst hi; subst hj
    have h1 := owns_single oi; have h2 := owns_single oj
    rw [h1] at h2; cases h2
  | 0, j + 2 => simp at hj
  | 1, j + 2 => simp at hj
  | i + 2, _ => simp at hi

example : (exampleState.resolvers.map (·.result)) = [some (.err, budgetUs), some (.ok 1, budgetUs + 1000000)] := by decide

/-- the soundness theorem applied to the concrete state: the second resolution's MAC 1 is a tap
    of the machine claiming address 2 -/
example : OwnerMac exampleState 2 1 := by
  have h := (c06_resolve_sound exampleState_reach exampleState_distinct).1 0
    ⟨[0], [(1, none)], [(2, .ok 1)]⟩ 2 1 (by rw [exampleState_machines]; rfl) (by decide)
  exact h

/-- gateway substitution on concrete values: 10.0.0.1/24 → 10.0.1.3 goes to the gateway 10.0.0.2;
    → 10.0.0.77 stays -/
example : destOf ⟨[0], [(0x0A000001, some ⟨maskFromBitcount 24, 0x0A000002⟩)], []⟩ 0x0A000001 0x0A000103 = 0x0A000002 := by decide
example : destOf ⟨[0], [(0x0A000001, some ⟨maskFromBitcount 24, 0x0A000002⟩)], []⟩ 0x0A000001 0x0A00004D = 0x0A00004D := by decide
example : (List.range 34).map maskFromBitcount =
    [0, 0x80000000, 0xC0000000, 0xE0000000, 0xF0000000, 0xF8000000, 0xFC000000, 0xFE000000, 0xFF000000,
     0xFF800000, 0xFFC00000, 0xFFE00000, 0xFFF00000, 0xFFF80000, 0xFFFC0000, 0xFFFE0000, 0xFFFF0000,
     0xFFFF8000, 0xFFFFC000, 0xFFFFE000, 0xFFFFF000, 0xFFFFF800, 0xFFFFFC00, 0xFFFFFE00, 0xFFFFFF00,
     0xFFFFFF80, 0xFFFFFFC0, 0xFFFFFFE0, 0xFFFFFFF0, 0xFFFFFFF8, 0xFFFFFFFC, 0xFFFFFFFE, 0xFFFFFFFF, 0xFFFFFFFF] := by decide

end Elvis.Arp
