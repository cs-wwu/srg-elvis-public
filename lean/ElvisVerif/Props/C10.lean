import ElvisVerif.Lemmas.Frag
/-!
# C10 — IPv4 fragmentation produces a faithful partition of the datagram

All theorems quantify over **every** header, body and MTU satisfying `Pre` (no enumeration):
basic header (`ihl = 5`), `|body| = total_length − 20`, the fields inside their wire ranges
(`total_length` a u16, `fragment_offset` a 13-bit value) and `68 ≤ mtu`.  The MTU has no upper
bound and `(mtu − 20) % 8` is arbitrary.
-/
namespace Elvis.Frag

structure Pre (h : Hdr) (body : List UInt8) (mtu : Nat) : Prop where
  ihl : h.ihl = 5
  tl : h.totalLength = 20 + body.length
  /-- `total_length` is a u16 -/
  tlmax : h.totalLength ≤ 65535
  /-- `fragment_offset` is a 13-bit field on the wire (the parser masks it with `0x1fff`) -/
  fomax : h.fragOffset ≤ 8191
  /-- the IPv4 minimum MTU -/
  mtu : 68 ≤ mtu

theorem Pre.toPreG {h body mtu} (p : Pre h body mtu) : PreG h body :=
  ⟨p.ihl, p.tl, p.tlmax, by have := p.tl; have := p.tlmax; have := p.fomax; omega⟩

/-- `Pre` is satisfiable by a non-trivial datagram that needs three fragments at MTU 68,
    with `(mtu − 20) % 8 ≠ 0` for MTU 70 as well. -/
def exHdr : Hdr :=
  { ihl := 5, tos := 0x10, totalLength := 120, ident := 4711, fragOffset := 0, flags := 0,
    ttl := 64, proto := 17, checksum := 0xbeef, src := 0x0a000001, dst := 0x0a000002 }
def exBody : List UInt8 := (List.range 100).map UInt8.ofNat

example : Pre exHdr exBody 68 := ⟨rfl, rfl, by decide, by decide, by decide⟩
example : Pre exHdr exBody 70 := ⟨rfl, rfl, by decide, by decide, by decide⟩
example : ∃ a b c, fragment exHdr exBody 70 = .ok (.fragmented [a, b, c]) ∧
    a.1.totalLength = 68 ∧ b.1.fragOffset = 6 ∧ c.2.length = 4 ∧ isLast c.1.flags = true ∧
    isLast b.1.flags = false := ⟨_, _, _, rfl, rfl, rfl, rfl, rfl, rfl⟩

/-- the index-by-index reading of a faithful partition of `(h, body)` into `l` -/
structure Faithful (h : Hdr) (body : List UInt8) (l : List Frag) : Prop where
  ne : l ≠ []
  lengths : ∀ f ∈ l, f.1.totalLength = 20 + f.2.length
  concat : payload l = body
  /-- the header offset of piece `i` is the original offset plus the octets before it, in
      units of 8 octets (so those octets are a multiple of 8) -/
  offsets : ∀ i (hi : i < l.length),
    8 * l[i].1.fragOffset = 8 * h.fragOffset + (payload (l.take i)).length
  blocks : ∀ i (_ : i + 1 < l.length), 0 < l[i].2.length ∧ l[i].2.length % 8 = 0
  mf : ∀ i (hi : i < l.length),
    l[i].1.flags = if i + 1 = l.length then h.flags else setMF h.flags
  fields : ∀ f ∈ l, SameFields h f.1

theorem Pieces.faithful {h body l} (p : Pieces h body l) : Faithful h body l :=
  ⟨p.ne_nil, p.lengths, p.concat, p.offsets, p.blocks, p.mf, p.fields⟩

theorem fragmented_pieces {h body mtu l} (pre : Pre h body mtu)
    (e : fragment h body mtu = .ok (.fragmented l)) :
    Pieces h body l ∧ (∀ f ∈ l, f.1.totalLength ≤ mtu) ∧ mtu < h.totalLength ∧
      mayFragment h.flags = true := by
  unfold fragment at e
  by_cases hfit : h.totalLength ≤ mtu
  · simp [hfit] at e
  · cases hdf : mayFragment h.flags with
    | false => simp [hfit, hdf] at e
    | true =>
      obtain ⟨l', e', p, fits⟩ :=
        fragRec_spec mtu (by have := pre.mtu; omega) (fuelFor h) h body pre.toPreG (by simp [fuelFor])
      simp only [if_neg hfit, hdf, e'] at e
      simp at e
      subst e
      exact ⟨p, fits, by omega, rfl⟩

/-- **Every fragment fits the MTU** and carries exactly the octets its header announces. -/
theorem c10_fits (h : Hdr) (body : List UInt8) (mtu : Nat) (l : List Frag) (pre : Pre h body mtu)
    (e : fragment h body mtu = .ok (.fragmented l)) :
    ∀ f ∈ l, f.1.totalLength ≤ mtu ∧ f.2.length = f.1.totalLength - 20 := by
  obtain ⟨p, fits, _, _⟩ := fragmented_pieces pre e
  intro f hf
  have := p.lengths f hf
  exact ⟨fits f hf, by omega⟩

/-- **The payloads are consecutive, non-overlapping pieces of the original payload**: they
    concatenate to `body`; piece `i` is exactly the octets of `body` starting at
    `8·(FO_i − FO_original)`; piece `i+1` starts where piece `i` ends; every non-final piece is a
    positive multiple of 8 octets long; and (more than one piece) the final one is not empty. -/
theorem c10_partition (h : Hdr) (body : List UInt8) (mtu : Nat) (l : List Frag)
    (pre : Pre h body mtu) (e : fragment h body mtu = .ok (.fragmented l)) :
    payload l = body ∧
    (∀ i (hi : i < l.length),
      l[i].2 = (body.drop (8 * (l[i].1.fragOffset - h.fragOffset))).take l[i].2.length) ∧
    (∀ i (hi : i + 1 < l.length),
      8 * l[i + 1].1.fragOffset = 8 * l[i].1.fragOffset + l[i].2.length) ∧
    (∀ i (_ : i + 1 < l.length), 0 < l[i].2.length ∧ l[i].2.length % 8 = 0) ∧
    2 ≤ l.length ∧ (∀ f ∈ l, 0 < f.2.length) := by
  obtain ⟨p, fits, hbig, _⟩ := fragmented_pieces pre e
  refine ⟨p.concat, ?_, ?_, p.blocks, ?_, ?_⟩
  · intro i hi
    exact (p.rel l[i] (List.getElem_mem hi)).2.2.2.2.1
  · intro i hi
    have h0 := p.offsets i (by omega)
    have h1 := p.offsets (i + 1) hi
    have : payload (l.take (i + 1)) = payload (l.take i) ++ l[i].2 := by
      rw [List.take_succ_eq_append_getElem (by omega), payload_append]; simp
    rw [this, List.length_append] at h1
    omega
  · -- a single piece would be the datagram itself, which does not fit
    cases p with
    | single _ _ _ => have := fits (h, body) (by simp); simp at this; omega
    | cons _ _ n l' _ _ _ p' =>
      have := p'.ne_nil
      cases l' with
      | nil => simp at this
      | cons a t => simp
  · have := pre.tl
    have := pre.mtu
    exact p.pos (by omega)

/-- **Offsets recorded in the headers are 8-byte aligned positions**: the offset field of piece
    `i` equals the original offset plus (octets before it) / 8, and those octets are a multiple
    of 8. -/
theorem c10_offsets (h : Hdr) (body : List UInt8) (mtu : Nat) (l : List Frag)
    (pre : Pre h body mtu) (e : fragment h body mtu = .ok (.fragmented l)) :
    ∀ i (hi : i < l.length),
      l[i].1.fragOffset = h.fragOffset + (payload (l.take i)).length / 8 ∧
      (payload (l.take i)).length % 8 = 0 := by
  obtain ⟨p, _, _, _⟩ := fragmented_pieces pre e
  intro i hi
  have := p.offsets i hi
  omega

/-- **MF is set on all but the last piece; the last carries the original flags** (so when the
    input is itself a middle fragment with MF set, every output piece has MF set). -/
theorem c10_mf (h : Hdr) (body : List UInt8) (mtu : Nat) (l : List Frag)
    (pre : Pre h body mtu) (e : fragment h body mtu = .ok (.fragmented l)) :
    ∀ i (hi : i < l.length),
      (i + 1 < l.length → isLast l[i].1.flags = false) ∧
      (i + 1 = l.length → l[i].1.flags = h.flags) := by
  obtain ⟨p, _, _, _⟩ := fragmented_pieces pre e
  intro i hi
  have := p.mf i hi
  constructor
  · intro hlt
    rw [this, if_neg (by omega)]
    exact isLast_setMF _
  · intro heq
    rw [this, if_pos heq]

/-- **All other header fields are preserved**, including DF. -/
theorem c10_fields_preserved (h : Hdr) (body : List UInt8) (mtu : Nat) (l : List Frag)
    (pre : Pre h body mtu) (e : fragment h body mtu = .ok (.fragmented l)) :
    ∀ f ∈ l, f.1.ident = h.ident ∧ f.1.tos = h.tos ∧ f.1.ttl = h.ttl ∧ f.1.proto = h.proto ∧
      f.1.src = h.src ∧ f.1.dst = h.dst ∧ f.1.checksum = h.checksum ∧ f.1.ihl = h.ihl ∧
      mayFragment f.1.flags = mayFragment h.flags := by
  obtain ⟨p, _, _, _⟩ := fragmented_pieces pre e
  intro f hf
  obtain ⟨a1, a2, a3, a4, a5, a6, a7, a8, a9⟩ := p.fields f hf
  exact ⟨a3, a2, a4, a5, a7, a8, a6, a1, a9⟩

/-- **A datagram that already fits is passed through unchanged** (and only then). -/
theorem c10_passthrough (h : Hdr) (body : List UInt8) (mtu : Nat) :
    (h.totalLength ≤ mtu → fragment h body mtu = .ok (.dontFragment (h, body))) ∧
    (∀ f, fragment h body mtu = .ok (.dontFragment f) → h.totalLength ≤ mtu ∧ f = (h, body)) := by
  constructor
  · intro hfit; simp [fragment, hfit]
  · intro f e
    unfold fragment at e
    by_cases hfit : h.totalLength ≤ mtu
    · simp [hfit] at e; exact ⟨hfit, e.symm⟩
    · cases hdf : mayFragment h.flags with
      | false => simp [hfit, hdf] at e
      | true =>
        simp only [if_neg hfit, hdf] at e
        cases hr : fragRec mtu (fuelFor h) h body <;> simp [hr] at e

/-- **One that does not fit but forbids fragmentation is discarded** (and only then). -/
theorem c10_discard (h : Hdr) (body : List UInt8) (mtu : Nat) :
    fragment h body mtu = .ok .discard ↔ (mtu < h.totalLength ∧ mayFragment h.flags = false) := by
  unfold fragment
  by_cases hfit : h.totalLength ≤ mtu
  · simp [hfit]; omega
  · cases hdf : mayFragment h.flags with
    | false => simp [hfit]; omega
    | true =>
      simp only [if_neg hfit]
      cases hr : fragRec mtu (fuelFor h) h body <;> simp

/-- **No arithmetic panic**: under `Pre` none of the checked u16 operations overflows, the
    `assert!` in `Message::cut` never fires and the recursion terminates within its fuel. -/
theorem c10_no_arith_panic (h : Hdr) (body : List UInt8) (mtu : Nat) (pre : Pre h body mtu) :
    ∃ r, fragment h body mtu = .ok r := by
  cases hdf : mayFragment h.flags with
  | true =>
    obtain ⟨r, e, _⟩ := fragment_spec h body mtu (by have := pre.mtu; omega) pre.toPreG hdf
    exact ⟨r, e⟩
  | false =>
    by_cases hfit : h.totalLength ≤ mtu
    · exact ⟨_, (c10_passthrough h body mtu).1 hfit⟩
    · exact ⟨_, (c10_discard h body mtu).2 ⟨by omega, hdf⟩⟩

/-- Termination is a theorem, not a convention: with a basic header and `20 ≤ mtu < 28` the Rust
    recursion calls itself with unchanged arguments (`NFB = 0`) — the model runs out of any fuel.
    This is outside the property's range `mtu ≥ 68`. -/
theorem c10_diverges_below_28 (h : Hdr) (body : List UInt8) (mtu : Nat) (hi : h.ihl = 5)
    (h1 : 20 ≤ mtu) (h2 : mtu < 28) (hbig : mtu < h.totalLength) (hfo : h.fragOffset ≤ 65535) :
    ∀ fuel, fragRec mtu fuel h body = .error "diverges:Fragmentation::fragment" := by
  intro fuel
  induction fuel with
  | zero => rfl
  | succ fuel ih =>
    unfold fragRec
    have hn : (mtu - h.ihl * 4) / 8 = 0 := by omega
    have hr : restHdr h 0 = h := by simp [restHdr]
    simp only [hn, Nat.zero_mul, List.drop_zero, hr, ih]
    rw [if_neg (by omega), if_neg (by omega), if_neg (by omega), if_neg (by omega),
      if_neg (by omega), if_neg (by omega)]

/-- **Fragmenting fragments again for smaller MTUs preserves all of the above relative to the
    original datagram.**  For *any* chain of MTUs ≥ 68 applied hop after hop to every piece (in
    particular every decreasing chain — monotonicity is not even needed): no hop panics; if DF is
    clear the pieces that arrive are a faithful partition of the *original* datagram (`Faithful`:
    lengths, concatenation, aligned offsets relative to the original offset, MF on all but the
    piece that ends the original datagram, fields preserved) and all fit the last MTU; if DF is
    set the datagram arrives unchanged when it fits every MTU of the chain and is discarded
    otherwise. -/
theorem c10_refragment (h : Hdr) (body : List UInt8) (mtus : List Nat)
    (hihl : h.ihl = 5) (htl : h.totalLength = 20 + body.length) (hmax : h.totalLength ≤ 65535)
    (hfo : h.fragOffset ≤ 8191) (hm : ∀ m ∈ mtus, 68 ≤ m) :
    ∃ l, chain mtus [(h, body)] = .ok l ∧
      (mayFragment h.flags = true →
        Faithful h body l ∧ ∀ m, mtus.getLast? = some m → ∀ f ∈ l, f.1.totalLength ≤ m) ∧
      (mayFragment h.flags = false →
        l = if mtus.all (fun m => decide (h.totalLength ≤ m)) then [(h, body)] else []) := by
  have pre : PreG h body := ⟨hihl, htl, hmax, by omega⟩
  cases hdf : mayFragment h.flags with
  | false =>
    exact ⟨_, chain_df h body hdf mtus, by simp, by simp⟩
  | true =>
    obtain ⟨l, e, p, fits⟩ := chain_pieces h body pre hdf mtus [(h, body)] h.totalLength
      (fun m hmm => by have := hm m hmm; omega) (Pieces.single h body htl) (by simp)
    refine ⟨l, e, ?_, by simp⟩
    intro _
    refine ⟨p.faithful, ?_⟩
    intro m hlast f hf
    have := fits f hf
    simpa [hlast] using this

/-- the chain theorem is not vacuous: 100 octets through MTUs 70 then 68 arrive as
    48 + 48 + 4 octets -/
example : ∃ a b c, chain [70, 68] [(exHdr, exBody)] = .ok [a, b, c] ∧ a.2.length = 48 ∧
    b.2.length = 48 ∧ c.2.length = 4 ∧ b.1.fragOffset = 6 ∧ c.1.fragOffset = 12 :=
  ⟨_, _, _, rfl, rfl, rfl, rfl, rfl, rfl⟩

end Elvis.Frag
