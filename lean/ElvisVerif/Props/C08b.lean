import ElvisVerif.Lemmas.CodecB
/-!
# C08 (ARP, DNS, DHCP part) — the codecs round-trip

For each of the three codecs (models: `Model/Codec/{Arp,Dns,Dhcp}.lean`), with
`decode : bytes → value × unread bytes` and an explicit, decidable predicate `Wf` = "the value is
representable" (every integer field within its Rust type, and the clause-specific conditions of
the property: 48-bit MACs; DNS names without the delimiter `b' '` and `rdlength = |rdata|`; DHCP
strings valid UTF-8 without the terminator NUL — ARP operation ∈ {1,2} and DHCP message type ∈ 1…7
hold by the type of the field):

* `c08_<p>_decode_encode` : `Wf v → decode (encode v ++ rest) = ok (v, rest)` for all `v`, `rest`
* `c08_<p>_encode_decode` : `decode bs = ok (v, rest) → bs = encode v ++ rest ∧ Wf v` for all `bs`
  (re-encoding the decoded value reproduces exactly the bytes that were consumed, and every
  decoded value is representable).
-/
namespace Elvis.CodecB

/-- representable `ArpPacket`: `u16`/`u8` fields, 48-bit MACs, 32-bit addresses -/
def Arp.Wf (p : Arp.ArpPacket) : Prop :=
  p.htype < 65536 ∧ p.ptype < 65536 ∧ p.hlen < 256 ∧ p.plen < 256 ∧
  p.senderMac < 281474976710656 ∧ p.senderIp < 4294967296 ∧
  p.targetMac < 281474976710656 ∧ p.targetIp < 4294967296

instance (p : Arp.ArpPacket) : Decidable (Arp.Wf p) := by unfold Arp.Wf; infer_instance

example : Arp.Wf (Arp.newReply 1337 2130706433 70368744177664 168496141) := by decide
example : ¬ Arp.Wf (Arp.newReply (2 ^ 48) 0 0 0) := by decide

theorem c08_arp_decode_encode (p : Arp.ArpPacket) (rest : Bytes) (h : Arp.Wf p) :
    Arp.fromBytes (Arp.build p ++ rest) = .ok (p, rest) := by
  obtain ⟨h1, h2, h3, h4, h5, h6, h7, h8⟩ := h
  have ho : p.oper.toNat < 65536 := by cases p.oper <;> simp [Arp.Operation.toNat]
  unfold Arp.build Arp.fromBytes
  simp only [List.append_assoc]
  simp only [↓read_bind (nextU16_put _ _ h1), ↓read_bind (nextU16_put _ _ h2),
    ↓read_bind (nextU8_put _ _ h3), ↓read_bind (nextU8_put _ _ h4), ↓read_bind (nextU16_put _ _ ho),
    ↓read_bind (nextU48_put _ _ h5), ↓read_bind (nextIpv4_put _ _ h6),
    ↓read_bind (nextU48_put _ _ h7), ↓read_bind (nextIpv4_put _ _ h8), bind, Except.bind]
  cases hop : p.oper <;> simp [Arp.Operation.toNat, pure, Except.pure] <;> cases p <;> simp_all

theorem c08_arp_encode_decode (bs rest : Bytes) (p : Arp.ArpPacket)
    (h : Arp.fromBytes bs = .ok (p, rest)) : bs = Arp.build p ++ rest ∧ Arp.Wf p := by
  unfold Arp.fromBytes at h
  obtain ⟨htype, _, rfl, l1, h⟩ := read_ok_inv nextU16_inv h
  obtain ⟨ptype, _, rfl, l2, h⟩ := read_ok_inv nextU16_inv h
  obtain ⟨hlen, _, rfl, l3, h⟩ := read_ok_inv nextU8_inv h
  obtain ⟨plen, _, rfl, l4, h⟩ := read_ok_inv nextU8_inv h
  obtain ⟨oper, _, rfl, l5, h⟩ := read_ok_inv nextU16_inv h
  obtain ⟨op, e6, h⟩ := bind_ok_inv h
  obtain ⟨smac, _, rfl, l7, h⟩ := read_ok_inv nextU48_inv h
  obtain ⟨sip, _, rfl, l8, h⟩ := read_ok_inv nextIpv4_inv h
  obtain ⟨tmac, _, rfl, l9, h⟩ := read_ok_inv nextU48_inv h
  obtain ⟨tip, _, rfl, l10, h⟩ := read_ok_inv nextIpv4_inv h
  cases h
  have hop : oper = op.toNat := by
    split at e6
    · cases e6; simp [Arp.Operation.toNat, *]
    · split at e6
      · cases e6; simp [Arp.Operation.toNat, *]
      · cases e6
  subst hop
  exact ⟨by simp [Arp.build, List.append_assoc], l1, l2, l3, l4, l7, l8, l9, l10⟩

/-- the model's operation codes are the discriminants of `enum Operation` in the source
    (extracted on every check), and an encoded packet has `ArpPacket::SIZE` bytes -/
theorem c08_arp_codes_and_size :
    [Arp.Operation.request, Arp.Operation.reply].map Arp.Operation.toNat
        = Elvis.Gen.CodecB.arpOperationCodes.map (·.2)
    ∧ ∀ p : Arp.ArpPacket, (Arp.build p).length = Elvis.Gen.CodecB.arpSize := by
  refine ⟨by decide, fun p => ?_⟩
  simp [Arp.build, putU8, putU16, putU32, putU48, Elvis.Gen.CodecB.arpSize]

/-- representable `DnsMessage`: `u16`/`u32` fields, names without the delimiter, and the record
    length field equal to the length of the record data -/
def Dns.Wf (m : Dns.DnsMessage) : Prop :=
  (m.header.id < 65536 ∧ m.header.properties < 65536 ∧ m.header.qdcount < 65536 ∧
    m.header.ancount < 65536 ∧ m.header.nscount < 65536 ∧ m.header.arcount < 65536) ∧
  (Dns.delim ∉ m.question.qname ∧ m.question.qtype < 65536 ∧ m.question.qclass < 65536) ∧
  (Dns.delim ∉ m.answer.name ∧ m.answer.recType < 65536 ∧ m.answer.cls < 65536 ∧
    m.answer.ttl < 4294967296 ∧ m.answer.rdlength < 65536 ∧
    m.answer.rdata.length = m.answer.rdlength)

instance (m : Dns.DnsMessage) : Decidable (Dns.Wf m) := by unfold Dns.Wf; infer_instance

example : Dns.Wf Dns.example1 := by decide
example : ¬ Dns.Wf { Dns.example1 with question := Dns.newQuestion [0x61, Dns.delim, 0x62] } := by
  decide

theorem c08_dns_decode_encode (m : Dns.DnsMessage) (rest : Bytes) (h : Dns.Wf m) :
    Dns.fromBytes (Dns.toMessage m ++ rest) = .ok (m, rest) := by
  obtain ⟨⟨h1, h2, h3, h4, h5, h6⟩, ⟨q1, q2, q3⟩, ⟨a1, a2, a3, a4, a5, a6⟩⟩ := h
  unfold Dns.toMessage Dns.buildHeader Dns.buildQuestion Dns.buildAnswer Dns.fromBytes
  simp only [List.append_assoc, List.cons_append, List.nil_append]
  have hrd := rdataLoop_append (d := m.answer.rdata) (by omega) rest
  rw [a6] at hrd
  simp only [↓read_bind (nextU16_put _ _ h1), ↓read_bind (nextU16_put _ _ h2),
    ↓read_bind (nextU16_put _ _ h3), ↓read_bind (nextU16_put _ _ h4),
    ↓read_bind (nextU16_put _ _ h5), ↓read_bind (nextU16_put _ _ h6),
    ↓read_bind (readUntil_append _ _ _ q1), ↓read_bind (nextU16_put _ _ q2),
    ↓read_bind (nextU16_put _ _ q3), ↓read_bind (readUntil_append _ _ _ a1),
    ↓read_bind (nextU16_put _ _ a2), ↓read_bind (nextU16_put _ _ a3),
    ↓read_bind (nextU32_put _ _ a4), ↓read_bind (nextU16_put _ _ a5), hrd]
  rfl

theorem c08_dns_encode_decode (bs rest : Bytes) (m : Dns.DnsMessage)
    (h : Dns.fromBytes bs = .ok (m, rest)) : bs = Dns.toMessage m ++ rest ∧ Dns.Wf m := by
  unfold Dns.fromBytes at h
  obtain ⟨id, _, rfl, l1, h⟩ := read_ok_inv nextU16_inv h
  obtain ⟨pr, _, rfl, l2, h⟩ := read_ok_inv nextU16_inv h
  obtain ⟨qd, _, rfl, l3, h⟩ := read_ok_inv nextU16_inv h
  obtain ⟨an, _, rfl, l4, h⟩ := read_ok_inv nextU16_inv h
  obtain ⟨ns, _, rfl, l5, h⟩ := read_ok_inv nextU16_inv h
  obtain ⟨ar, _, rfl, l6, h⟩ := read_ok_inv nextU16_inv h
  obtain ⟨qn, _, rfl, l7, h⟩ := read_ok_inv (readUntil_inv _) h
  obtain ⟨qt, _, rfl, l8, h⟩ := read_ok_inv nextU16_inv h
  obtain ⟨qc, _, rfl, l9, h⟩ := read_ok_inv nextU16_inv h
  obtain ⟨nm, _, rfl, l10, h⟩ := read_ok_inv (readUntil_inv _) h
  obtain ⟨ty, _, rfl, l11, h⟩ := read_ok_inv nextU16_inv h
  obtain ⟨cl, _, rfl, l12, h⟩ := read_ok_inv nextU16_inv h
  obtain ⟨ttl, _, rfl, l13, h⟩ := read_ok_inv nextU32_inv h
  obtain ⟨rdl, _, rfl, l14, h⟩ := read_ok_inv nextU16_inv h
  obtain ⟨⟨rd, b15⟩, e15, h⟩ := bind_ok_inv h
  cases h
  obtain ⟨rfl, l15⟩ := rdataLoop_inv (by omega) e15
  refine ⟨by simp [Dns.toMessage, Dns.buildHeader, Dns.buildQuestion, Dns.buildAnswer,
    List.append_assoc], ⟨l1, l2, l3, l4, l5, l6⟩, ⟨l7, l8, l9⟩, ⟨l10, l11, l12, l13, l14, l15⟩⟩

/-- representable `DhcpMessage`: `u8`/`u16`/`u32` fields, both strings valid UTF-8 (they are Rust
    `String`s) and free of the terminator NUL -/
def Dhcp.Wf (m : Dhcp.DhcpMessage) : Prop :=
  (m.op < 256 ∧ m.htype < 256 ∧ m.hlen < 256 ∧ m.hops < 256 ∧ m.transactionId < 4294967296 ∧
    m.seconds < 65536 ∧ m.flags < 256) ∧
  (m.clientIp < 4294967296 ∧ m.yourIp < 4294967296 ∧ m.serverIp < 4294967296 ∧
    m.routerIp < 4294967296 ∧ m.clientHardwareAddress < 65536) ∧
  (Dhcp.term ∉ m.serverName ∧ utf8Valid m.serverName = true) ∧
  (Dhcp.term ∉ m.bootFile ∧ utf8Valid m.bootFile = true)

instance (m : Dhcp.DhcpMessage) : Decidable (Dhcp.Wf m) := by unfold Dhcp.Wf; infer_instance

example : Dhcp.Wf Dhcp.default := by decide
/-- "é€𝄞" (2-, 3- and 4-byte characters) is a representable server name … -/
example : Dhcp.Wf { Dhcp.default with
    serverName := [0xc3, 0xa9, 0xe2, 0x82, 0xac, 0xf0, 0x9d, 0x84, 0x9e], msgType := .release } := by
  decide
/-- … an embedded NUL, a surrogate, an overlong form are not -/
example : ¬ Dhcp.Wf { Dhcp.default with bootFile := [0x41, Dhcp.term, 0x42] } := by decide
example : ¬ Dhcp.Wf { Dhcp.default with bootFile := [0xed, 0xa0, 0x80] } := by decide
example : ¬ Dhcp.Wf { Dhcp.default with bootFile := [0xc0, 0x80] } := by decide

/-- the model's message type codes are the discriminants of `enum MessageType` in the source
    (extracted on every check) -/
theorem c08_dhcp_type_codes :
    [Dhcp.MessageType.discover, .offer, .request, .decline, .ack, .nack, .release].map
        Dhcp.MessageType.toNat = Elvis.Gen.CodecB.dhcpTypeCodes.map (·.2) := by
  decide

theorem c08_dhcp_decode_encode (m : Dhcp.DhcpMessage) (rest : Bytes) (h : Dhcp.Wf m) :
    Dhcp.fromBytes (Dhcp.toMessage m ++ rest) = .ok (m, rest) := by
  obtain ⟨⟨h1, h2, h3, h4, h5, h6, h7⟩, ⟨i1, i2, i3, i4, i5⟩, ⟨s1, s2⟩, ⟨f1, f2⟩⟩ := h
  have ht : m.msgType.toNat < 256 := by cases m.msgType <;> simp [Dhcp.MessageType.toNat]
  unfold Dhcp.toMessage Dhcp.fromBytes
  simp only [List.append_assoc, List.cons_append, List.nil_append]
  simp only [↓read_bind (nextU8_put _ _ h1), ↓read_bind (nextU8_put _ _ h2),
    ↓read_bind (nextU8_put _ _ h3), ↓read_bind (nextU8_put _ _ h4), ↓read_bind (nextU32_put _ _ h5),
    ↓read_bind (nextU16_put _ _ h6), ↓read_bind (nextU8_put _ _ h7),
    ↓read_bind (nextIpv4_put _ _ i1), ↓read_bind (nextIpv4_put _ _ i2),
    ↓read_bind (nextIpv4_put _ _ i3), ↓read_bind (nextIpv4_put _ _ i4),
    ↓read_bind (nextU16_put _ _ i5), ↓read_bind (nextU8_put _ _ ht), msgTypeTryFrom_toNat,
    ↓read_bind (readUntil_append _ _ _ s1), ↓read_bind (readUntil_append _ _ _ f1),
    Dhcp.stringFromUtf8, s2, f2, if_true]
  rfl

theorem c08_dhcp_encode_decode (bs rest : Bytes) (m : Dhcp.DhcpMessage)
    (h : Dhcp.fromBytes bs = .ok (m, rest)) : bs = Dhcp.toMessage m ++ rest ∧ Dhcp.Wf m := by
  unfold Dhcp.fromBytes at h
  obtain ⟨op, _, rfl, l1, h⟩ := read_ok_inv nextU8_inv h
  obtain ⟨ht, _, rfl, l2, h⟩ := read_ok_inv nextU8_inv h
  obtain ⟨hl, _, rfl, l3, h⟩ := read_ok_inv nextU8_inv h
  obtain ⟨hp, _, rfl, l4, h⟩ := read_ok_inv nextU8_inv h
  obtain ⟨xid, _, rfl, l5, h⟩ := read_ok_inv nextU32_inv h
  obtain ⟨secs, _, rfl, l6, h⟩ := read_ok_inv nextU16_inv h
  obtain ⟨fl, _, rfl, l7, h⟩ := read_ok_inv nextU8_inv h
  obtain ⟨ci, _, rfl, l8, h⟩ := read_ok_inv nextIpv4_inv h
  obtain ⟨yi, _, rfl, l9, h⟩ := read_ok_inv nextIpv4_inv h
  obtain ⟨si, _, rfl, l10, h⟩ := read_ok_inv nextIpv4_inv h
  obtain ⟨ri, _, rfl, l11, h⟩ := read_ok_inv nextIpv4_inv h
  obtain ⟨ch, _, rfl, l12, h⟩ := read_ok_inv nextU16_inv h
  obtain ⟨t, _, rfl, l13, h⟩ := read_ok_inv nextU8_inv h
  obtain ⟨mt, e14, h⟩ := bind_ok_inv h
  obtain ⟨sn, _, rfl, l15, h⟩ := read_ok_inv (readUntil_inv _) h
  obtain ⟨sn', e16, h⟩ := bind_ok_inv h
  obtain ⟨bf, _, rfl, l17, h⟩ := read_ok_inv (readUntil_inv _) h
  obtain ⟨bf', e18, h⟩ := bind_ok_inv h
  cases h
  cases msgTypeTryFrom_inv e14
  obtain ⟨u1, rfl⟩ := stringFromUtf8_inv e16
  obtain ⟨u2, rfl⟩ := stringFromUtf8_inv e18
  refine ⟨by simp [Dhcp.toMessage, List.append_assoc], ⟨l1, l2, l3, l4, l5, l6, l7⟩,
    ⟨l8, l9, l10, l11, l12⟩, ⟨l15, u1⟩, ⟨l17, u2⟩⟩

end Elvis.CodecB
