import ElvisVerif.Model.TcpSys
import ElvisVerif.Lemmas.TcbInv
import ElvisVerif.Lemmas.TcbNoop
import ElvisVerif.Lemmas.TcbWindow
import ElvisVerif.Lemmas.TcbOneshot
/-!
# C17 — A TCP endpoint withstands arbitrary segments from its peer address

Property theorems (helper lemmas: `Lemmas/Tcb*.lean`, `Lemmas/ModCmp.lean`) and, since `Tcb.call` is defined here,
its inversion.  The model (`Model/Tcb.lean`) follows the repaired code (the `fix:` commits of F-C17-1 … F-C17-6 and
F-C01-1, see `notes/C17.md`).

* `Tcb.Called` / `call_iff` — what one call can return, as a relation; the per-call theorems here and in
  `Props/C03.lean`, `Props/C01.lean` go through it.
* `c17_total` — on a well-formed TCB every call (any segment with any flags / sequence /
  acknowledgment numbers / window and a payload an IPv4 datagram can carry, and every API call)
  returns without panic and leaves the TCB well-formed; `c17_no_crash` lifts this to every
  finite sequence of calls by induction; `c17_open_wf`, `c17_listen_wf`: the two ways a TCB comes
  into existence give well-formed TCBs.
* `c17_unacceptable_noop` — a segment a conforming receiver must treat as unacceptable changes
  nothing but the one-shot output queue (at most one ACK or RST is appended).
* `c17_window` — see the section on the send window below.
* `c17_regression_*` — the concrete witnesses of the repaired defects, evaluated on the model.
-/
namespace Elvis.Tcp
open Tcb

/-! ## tie of the circular comparisons to `modular_cmp.rs` -/

/-- the hand-written comparisons the model uses equal the kernels extracted from the current
    `tcb/modular_cmp.rs` (an edit of that file breaks this theorem) -/
theorem c17_modcmp_tied :
    (∀ a b, ModCmp.modLt a b = Elvis.Gen.ModCmp.mod_lt a b) ∧
    (∀ a b, ModCmp.modLeq a b = Elvis.Gen.ModCmp.mod_leq a b) ∧
    (∀ a b, ModCmp.modGt a b = Elvis.Gen.ModCmp.mod_gt a b) ∧
    (∀ a b, ModCmp.modGeq a b = Elvis.Gen.ModCmp.mod_geq a b) ∧
    (∀ a ab b bc c, ModCmp.modBounded a ab b bc c = Elvis.Gen.ModCmp.mod_bounded a ab.toGen b bc.toGen c) :=
  ⟨ModCmp.modLt_eq_generated, ModCmp.modLeq_eq_generated, ModCmp.modGt_eq_generated,
   ModCmp.modGeq_eq_generated, ModCmp.modBounded_eq_generated⟩

/-! ## no sequence of calls crashes the endpoint -/

/-- everything the peer (segments) and the local user and timer (API calls) can do to a TCB -/
inductive Call
  | segmentArrives (seg : Segment)
  | advanceTime (ms : Nat)
  | send (bytes : List UInt8)
  | receive
  | close
  | abort
  | segments
  deriving Repr

/-- syntactically valid: the segment text fits an IPv4 datagram (65535 − 20 − 20 … we allow the
    full 65515) -/
def Call.Valid : Call → Prop
  | .segmentArrives seg => seg.text.length ≤ MAX_PAYLOAD
  | _ => True

/-- one call: a panic, or the TCB afterwards (`none` = the caller deletes the TCB) -/
def Tcb.call (s : Tcb) : Call → Except String (Option Tcb)
  | .segmentArrives seg =>
    match s.segmentArrives seg with
    | .error e => .error e
    | .ok (s, .Ok) => .ok (some s)
    | .ok (_, .Close) => .ok none
  | .advanceTime ms =>
    match s.advanceTime ms with
    | .error e => .error e
    | .ok (s, .Ignore) => .ok (some s)
    | .ok (_, .CloseConnection) => .ok none
  | .send bytes => .ok (some (s.send bytes))
  | .receive => .ok (some s.receive.1)
  | .close =>
    match s.close with
    | .error e => .error e
    | .ok (s, _) => .ok (some s)
  | .abort =>
    match s.abort with
    | .error e => .error e
    | .ok s => .ok (some s)
  | .segments =>
    match s.segments with
    | .error e => .error e
    | .ok (s, _) => .ok (some s)

/-- a sequence of calls; stops when the TCB is deleted -/
def Tcb.run : Option Tcb → List Call → Except String (Option Tcb)
  | none, _ => .ok none
  | some s, [] => .ok (some s)
  | some s, c :: cs =>
    match s.call c with
    | .error e => .error e
    | .ok s' => Tcb.run s' cs

/-- the outcomes of `Tcb.call` that do not panic, each with the call of the TCB API that produced it -/
inductive Tcb.Called (s : Tcb) : Call → Option Tcb → Prop
  | arrived {seg : Segment} {s' : Tcb} : s.segmentArrives seg = .ok (s', .Ok) → Called s (.segmentArrives seg) (some s')
  | reset {seg : Segment} {s' : Tcb} : s.segmentArrives seg = .ok (s', .Close) → Called s (.segmentArrives seg) none
  | tick {ms : Nat} {s' : Tcb} : s.advanceTime ms = .ok (s', .Ignore) → Called s (.advanceTime ms) (some s')
  | expire {ms : Nat} {s' : Tcb} : s.advanceTime ms = .ok (s', .CloseConnection) → Called s (.advanceTime ms) none
  | send (bytes : List UInt8) : Called s (.send bytes) (some (s.send bytes))
  | receive : Called s .receive (some s.receive.1)
  | close {s' : Tcb} {r : CloseResult} : s.close = .ok (s', r) → Called s .close (some s')
  | abort {s' : Tcb} : s.abort = .ok s' → Called s .abort (some s')
  | segments {s' : Tcb} {out : List Segment} : s.segments = .ok (s', out) → Called s .segments (some s')

/-- a statement about every call opens with `cases call_iff.1 e with`: a call that returns is a constructor -/
theorem call_iff {s : Tcb} {c : Call} {r : Option Tcb} : s.call c = .ok r ↔ Called s c r := by
  constructor
  · intro e
    cases c with
    | segmentArrives seg =>
      simp only [Tcb.call] at e
      split at e
      · cases e
      · cases e; exact .arrived ‹_›
      · cases e; exact .reset ‹_›
    | advanceTime ms =>
      simp only [Tcb.call] at e
      split at e
      · cases e
      · cases e; exact .tick ‹_›
      · cases e; exact .expire ‹_›
    | send bytes => cases e; exact .send bytes
    | receive => cases e; exact .receive
    | close =>
      simp only [Tcb.call] at e
      split at e
      · cases e
      · cases e; exact .close ‹_›
    | abort =>
      simp only [Tcb.call] at e
      split at e
      · cases e
      · cases e; exact .abort ‹_›
    | segments =>
      simp only [Tcb.call] at e
      split at e
      · cases e
      · cases e; exact .segments ‹_›
  · intro h
    cases h with
    | send | receive => rfl
    | arrived h | reset h | tick h | expire h | close h | abort h | segments h => simp only [Tcb.call, h]

/-- **Totality.** On a well-formed TCB (`Wf`, and `HeapIdle`: nothing is parked in SYN-SENT) no call panics, and
    the TCB (when it survives) is well-formed again. -/
theorem c17_total (s : Tcb) (h : Wf s) (hi : HeapIdle s) (c : Call) (hc : c.Valid) :
    ∃ r, s.call c = .ok r ∧ ∀ s', r = some s' → Wf s' ∧ HeapIdle s' := by
  -- a call that returns `s'`, having changed nothing that `Wf` reads
  have keep : ∀ {s' : Tcb}, Called s c (some s') → Rx s s' →
      ∃ r, s.call c = .ok r ∧ ∀ u, r = some u → Wf u ∧ HeapIdle u :=
    fun k rx => ⟨_, call_iff.2 k, fun u e => by cases e; exact ⟨h.of_rx rx, hi.of_rx rx⟩⟩
  cases c with
  | segmentArrives seg =>
    obtain ⟨s1, r1, e1, wf1, idle1⟩ := segmentArrives_spec s seg h hi hc
    cases r1 with
    | Ok => exact ⟨_, call_iff.2 (.arrived e1), fun s' hs => by cases hs; exact ⟨wf1, idle1 rfl⟩⟩
    | Close => exact ⟨_, call_iff.2 (.reset e1), fun _ hs => nomatch hs⟩
  | advanceTime ms =>
    obtain ⟨s1, r1, e1, same1, st1⟩ := advanceTime_spec s ms
    cases r1 with
    | Ignore => exact keep (.tick e1) (same1.rx_of_state st1)
    | CloseConnection => exact ⟨_, call_iff.2 (.expire e1), fun _ hs => nomatch hs⟩
  | send bytes => exact keep (.send bytes) ((send_same s bytes).1.rx_of_state (send_same s bytes).2)
  | receive => exact keep .receive (receive_rx s).1
  | close =>
    obtain ⟨s1, r1, e1, same1, st1⟩ := close_spec s
    exact keep (.close e1) (same1.rx st1)
  | abort =>
    obtain ⟨s1, e1, same1, st1⟩ := abort_spec s
    exact keep (.abort e1) (same1.rx_of_state st1)
  | segments =>
    obtain ⟨s1, out, e1, same1, st1⟩ := segments_spec s h
    exact keep (.segments e1) (same1.rx_of_state st1)

/-- **No finite sequence of segments and API calls crashes the endpoint** (induction over the
    sequence). -/
theorem c17_no_crash (s : Tcb) (h : Wf s) (hi : HeapIdle s) (cs : List Call) (hcs : ∀ c ∈ cs, c.Valid) :
    ∃ r, Tcb.run (some s) cs = .ok r := by
  induction cs generalizing s with
  | nil => exact ⟨_, rfl⟩
  | cons c cs ih =>
    obtain ⟨r, e, wf⟩ := c17_total s h hi c (hcs c (by simp))
    unfold Tcb.run
    rw [e]
    cases r with
    | none => exact ⟨_, by unfold Tcb.run; rfl⟩
    | some s' =>
      obtain ⟨wf', idle'⟩ := wf s' rfl
      exact ih s' wf' idle' (fun c hc => hcs c (by simp [hc]))

/-- an active open yields a well-formed TCB (any ISS, any MTU that leaves room for the headers;
    the property quantifies over MTU ≥ 100) -/
theorem c17_open_wf (lp rp : U16) (iss : Seq) (mtu : U16) (hm : SPACE_FOR_HEADERS ≤ mtu.toNat) :
    ∃ s, Tcb.open lp rp iss mtu = .ok s ∧ Wf s ∧ HeapIdle s := open_spec lp rp iss mtu hm

/-- LISTEN never panics, whatever arrives, and a TCB it creates is well-formed -/
theorem c17_listen_wf (segment : Segment) (iss : Seq) (mtu : U16) (hm : SPACE_FOR_HEADERS ≤ mtu.toNat)
    (hp : segment.text.length ≤ MAX_PAYLOAD) :
    ∃ r, segmentArrivesListen segment iss mtu = .ok r ∧
      ∀ tcb, r = some (.Tcb tcb) → Wf tcb ∧ HeapIdle tcb := listen_spec segment iss mtu hm hp

/-- non-vacuity: a freshly opened TCB satisfies the hypotheses of `c17_total` -/
example : ∃ s, Tcb.open 1 2 1000 1500 = .ok s ∧ Wf s ∧ HeapIdle s :=
  c17_open_wf 1 2 1000 1500 (by decide)

/-! ## unacceptable segments are no-ops

`Unacceptable s seg` (`Lemmas/TcbNoop.lean`) is written from RFC 9293, not from the code: in
SYN-SENT a segment with neither SYN nor RST; in every other state a segment none of whose
sequence numbers lies in `[RCV.NXT − 1, RCV.NXT + RCV.WND)`. -/

/-- **An unacceptable segment changes nothing** but the one-shot output queue, to which at most
    one header (the ACK, or the RST for an unacceptable ACK in SYN-SENT) is appended: connection
    state, `RCV.NXT`, the buffered and parked data, the send sequence space, the retransmission
    queue and the timers are exactly what they were — so is everything `receive()` can return. -/
theorem c17_unacceptable_noop (s : Tcb) (h : Wf s) (hi : HeapIdle s) (seg : Segment)
    (hp : seg.text.length ≤ MAX_PAYLOAD) (hu : Unacceptable s seg) :
    ∃ s', s.segmentArrives seg = .ok (s', .Ok) ∧ OnlyOneshot s s' := by
  unfold Unacceptable at hu
  split at hu
  · rename_i hst
    exact segmentArrives_synsent_noop s seg hst hi hu.1 hu.2
  · rename_i hst
    exact segmentArrives_outside s seg h hst hp hu

/-- in particular the connection state and what the application can read are unchanged -/
theorem c17_unacceptable_noop_observable (s : Tcb) (h : Wf s) (hi : HeapIdle s) (seg : Segment)
    (hp : seg.text.length ≤ MAX_PAYLOAD) (hu : Unacceptable s seg) :
    ∃ s', s.segmentArrives seg = .ok (s', .Ok) ∧ s'.status = s.status ∧ s'.receive.2 = s.receive.2 ∧
      s'.rcv.nxt = s.rcv.nxt ∧ s'.incoming.segments = s.incoming.segments := by
  obtain ⟨s', e, oo⟩ := c17_unacceptable_noop s h hi seg hp hu
  refine ⟨s', e, oo.state, ?_, by rw [oo.rcv], by rw [oo.incoming]⟩
  rw [receive_eq, receive_eq, oo.state, oo.incoming]
  split <;> rfl

/-- non-vacuity: in ESTABLISHED with `RCV.NXT = 5001`, a segment at `RCV.NXT + 100000` is
    unacceptable (and so is one text byte at `RCV.NXT − 3`) -/
example : ∃ s : Tcb, s.state = .Established ∧ Wf s ∧ HeapIdle s ∧
    Unacceptable s (forge .A 16 105001 1001 65535 [7, 8, 9]) ∧
    Unacceptable s (forge .A 16 4998 1001 65535 [7]) := by
  refine ⟨{ localPort := 1, remotePort := 2, mtu := 1500, initiation := .Open, state := .Established,
            snd := { una := 1001, nxt := 1001, iss := 1000 }, rcv := { irs := 5000, nxt := 5001 } },
    rfl, ⟨by decide, rfl, by decide, fun _ h => by simp at h⟩, fun h => by simp at h, ?_, ?_⟩
  · unfold Unacceptable EntirelyOutside InWindow
    rw [if_neg (by decide)]
    intro k hk
    have : k < 3 := by simpa [forge, Segment.segLen, Ctl.ofNat] using hk
    have hk' : k = 0 ∨ k = 1 ∨ k = 2 := by omega
    rcases hk' with rfl | rfl | rfl <;> decide
  · unfold Unacceptable EntirelyOutside InWindow
    rw [if_neg (by decide)]
    intro k hk
    have : k < 1 := by simpa [forge, Segment.segLen, Ctl.ofNat] using hk
    have hk' : k = 0 := by omega
    subst hk'; decide

/-! ### … and the queued ACK has no influence on anything until it is sent

`pre p s` (`Lemmas/TcbOneshot.lean`) is `s` with the headers `p` in front of its one-shot queue.
Every call that neither drains (`segments`) nor clears (`abort`) that queue commutes with `pre p`;
`segments()` puts `p` in front of its output, and the only other trace `p` leaves is that the
retransmission timer is re-armed (the code re-arms it whenever it sends anything at all). -/

/-- calls that neither drain nor clear the one-shot queue -/
def Call.KeepsOneshot : Call → Prop
  | .segments => False
  | .abort => False
  | _ => True

/-- every such call commutes with `pre p` -/
theorem c17_oneshot_commutes (p : List Hdr) (s : Tcb) (c : Call) (hc : c.KeepsOneshot) :
    (pre p s).call c = (s.call c).map (Option.map (pre p)) := by
  cases c with
  | segmentArrives seg =>
    simp only [Tcb.call, pre_segmentArrives]
    cases s.segmentArrives seg with
    | error e => rfl
    | ok q => obtain ⟨u, r⟩ := q; cases r <;> rfl
  | advanceTime ms =>
    simp only [Tcb.call, pre_advanceTime]
    cases s.advanceTime ms with
    | error e => rfl
    | ok q => obtain ⟨u, r⟩ := q; cases r <;> rfl
  | send bytes => simp only [Tcb.call, pre_send]; rfl
  | receive => simp only [Tcb.call, pre_receive]; rfl
  | close =>
    simp only [Tcb.call, pre_close]
    cases s.close with
    | error e => rfl
    | ok q => obtain ⟨u, r⟩ := q; rfl
  | abort => exact absurd hc id
  | segments => exact absurd hc id

/-- … hence so does every run of such calls -/
theorem c17_oneshot_commutes_run (p : List Hdr) (s : Tcb) (cs : List Call) (hcs : ∀ c ∈ cs, c.KeepsOneshot) :
    Tcb.run (some (pre p s)) cs = (Tcb.run (some s) cs).map (Option.map (pre p)) := by
  induction cs generalizing s with
  | nil => rfl
  | cons c cs ih =>
    unfold Tcb.run
    rw [c17_oneshot_commutes p s c (hcs c (by simp))]
    cases s.call c with
    | error e => rfl
    | ok r =>
      cases r with
      | none => simp only [Except.map, Option.map]; cases cs <;> rfl
      | some u =>
        simp only [Except.map, Option.map]
        exact ih u (fun c hc => hcs c (by simp [hc]))

/-- at the next `segments()` the queued headers go out in front of the normal output; the state
    afterwards is the one reached without them, with the retransmission timer re-armed -/
theorem c17_oneshot_at_segments (p : List Hdr) (s : Tcb) (hp : p ≠ []) :
    (pre p s).segments =
      match s.segments with
      | .error e => .error e
      | .ok (s', out) =>
        .ok ({ s' with timeouts.retransmission := RTO }, (p.map fun h => (⟨h, []⟩ : Segment)) ++ out) :=
  pre_segments p s hp

/-- **An unacceptable segment, and everything after it.**  The TCB after the segment and the TCB
    before it are `pre (q ++ l) c` and `pre q c` of one common core `c` (`l` = the ≤ 1 header queued
    in reply); along every run of calls up to the next `segments()`/`abort` the two stay that way:
    connection state, receive sequence space, buffered and parked data (everything `receive()`
    returns), send sequence space, retransmission queue and timers coincide at every step. -/
theorem c17_unacceptable_noop_until_segments (s : Tcb) (h : Wf s) (hi : HeapIdle s) (seg : Segment)
    (hp : seg.text.length ≤ MAX_PAYLOAD) (hu : Unacceptable s seg) :
    ∃ s' c l, s.segmentArrives seg = .ok (s', .Ok) ∧ l.length ≤ 1 ∧
      s = pre s.outgoing.oneshot c ∧ s' = pre (s.outgoing.oneshot ++ l) c ∧
      ∀ cs : List Call, (∀ k ∈ cs, k.KeepsOneshot) →
        Tcb.run (some s) cs = (Tcb.run (some c) cs).map (Option.map (pre s.outgoing.oneshot)) ∧
        Tcb.run (some s') cs = (Tcb.run (some c) cs).map (Option.map (pre (s.outgoing.oneshot ++ l))) := by
  obtain ⟨s', e, oo⟩ := c17_unacceptable_noop s h hi seg hp hu
  obtain ⟨l, hl, ho⟩ := oo.oneshot
  have hs : s = pre s.outgoing.oneshot { s with outgoing.oneshot := [] } := by
    cases s with
    | mk lp rp mtu ini st snd rcv out inc tmo => cases out; simp [pre]
  have hs' : s' = pre (s.outgoing.oneshot ++ l) { s with outgoing.oneshot := [] } := by
    cases s' with
    | mk lp' rp' mtu' ini' st' snd' rcv' out' inc' tmo' =>
      cases out' with
      | mk text' rtx' one' =>
        have h1 := oo.localPort; have h2 := oo.remotePort; have h3 := oo.mtu; have h4 := oo.initiation
        have h5 := oo.state; have h6 := oo.snd; have h7 := oo.rcv; have h8 := oo.incoming
        have h9 := oo.timeouts; have h10 := oo.text; have h11 := oo.retransmit
        simp only at h1 h2 h3 h4 h5 h6 h7 h8 h9 h10 h11 ho
        subst h1 h2 h3 h4 h5 h6 h7 h8 h9 h10 h11 ho
        simp [pre]
  refine ⟨s', { s with outgoing.oneshot := [] }, l, e, hl, hs, hs', fun cs hcs => ⟨?_, ?_⟩⟩
  · conv => lhs; rw [hs]
    exact c17_oneshot_commutes_run _ _ cs hcs
  · conv => lhs; rw [hs']
    exact c17_oneshot_commutes_run _ _ cs hcs

/-! ## new data stays inside the window the peer advertised

`InSendWindow s seg` : `(SEG.SEQ − SND.UNA) + |text| ≤ SND.WND` (+1 while our SYN is
unacknowledged, the SYN occupying `SND.UNA` itself), i.e. the text lies in
`[SND.UNA, SND.UNA + SND.WND)`; `SND.WND` is only ever set from a segment that passed the
acceptability and ACK tests.  `SndOk` (`Lemmas/TcbWindow.lean`) is the invariant behind it: in
the states in which `segments()` segmentizes, the retransmission queue is a contiguous chain
ending at `SND.NXT` that covers `[SND.UNA, SND.NXT)`. -/

/-- what a segment handed to the network by `segments()` can be -/
def EmittedOk (s : Tcb) (seg : Segment) : Prop :=
  seg.text = [] ∨ (∃ t ∈ s.outgoing.retransmit, t.segment = seg) ∨ InSendWindow s seg

/-- **Window, one call.**  Every segment `segments()` returns is text-free (ACK, RST, SYN, FIN),
    a retransmission of a segment already on the queue, or new data inside the peer's window. -/
theorem c17_window (s : Tcb) (hok : SndOk s) (s' : Tcb) (out : List Segment)
    (e : s.segments = .ok (s', out)) : ∀ seg ∈ out, EmittedOk s seg :=
  (segments_cuts e).2 hok

theorem Tcb.Called.sndStep {s s' : Tcb} {c : Call} (k : Called s c (some s')) (hna : c ≠ .abort) : SndStep s s' := by
  cases k with
  | arrived h => exact segmentArrives_step h
  | tick h => exact advanceTime_step h
  | send bytes => exact send_step s bytes
  | receive => exact receive_step s
  | close h => exact close_step h
  | abort => exact absurd rfl hna
  | segments h => exact segments_step h

/-- every call except `abort` (after which the TCB is to be deleted) keeps the send-side
    invariant -/
theorem c17_window_invariant (s : Tcb) (hok : SndOk s) (c : Call) (hna : c ≠ .abort) (s' : Tcb)
    (e : s.call c = .ok (some s')) : SndOk s' :=
  hok.step ((call_iff.1 e).sndStep hna).pres

/-- `P` holds for the output of every `segments()` call along the run -/
def Tcb.emits (P : Tcb → Segment → Prop) : Option Tcb → List Call → Prop
  | none, _ => True
  | some _, [] => True
  | some s, c :: cs =>
    (c = .segments → ∀ s' out, s.segments = .ok (s', out) → ∀ seg ∈ out, P s seg) ∧
    ∀ r, s.call c = .ok r → Tcb.emits P r cs

/-- the window property needs neither well-formedness nor valid calls: from any TCB satisfying the invariant,
    along every finite sequence of calls other than `abort` that does not panic -/
theorem c17_window_run_any (s : Tcb) (hok : SndOk s) (cs : List Call) (hcs : ∀ c ∈ cs, c ≠ .abort) :
    Tcb.emits EmittedOk (some s) cs := by
  induction cs generalizing s with
  | nil => trivial
  | cons c cs ih =>
    refine ⟨fun _ s' out e => c17_window s hok s' out e, fun r e => ?_⟩
    cases r with
    | none => cases cs <;> trivial
    | some s' =>
      exact ih s' (c17_window_invariant s hok c (hcs c (List.mem_cons_self ..)) s' e)
        (fun c hc => hcs c (List.mem_cons_of_mem _ hc))

/-- **Window, all runs.**  From a well-formed TCB satisfying the invariant (in particular from
    `open` and from LISTEN, `c17_window_start`), along every finite sequence of segments — any
    flags, numbers, windows (shrinking ones included) — and API calls other than `abort`, every
    segment ever handed to the network is text-free, a retransmission, or inside the window. -/
theorem c17_window_run (s : Tcb) (h : Wf s) (hi : HeapIdle s) (hok : SndOk s) (cs : List Call)
    (hcs : ∀ c ∈ cs, c.Valid ∧ c ≠ .abort) : Tcb.emits EmittedOk (some s) cs :=
  c17_window_run_any s hok cs fun c hc => (hcs c hc).2

/-- both ways a TCB comes into existence establish the invariant -/
theorem c17_window_start :
    (∀ lp rp iss mtu s, Tcb.open lp rp iss mtu = .ok s → SndOk s) ∧
    (∀ seg iss mtu tcb, segmentArrivesListen seg iss mtu = .ok (some (.Tcb tcb)) → SndOk tcb) :=
  ⟨open_sndOk, listen_sndOk⟩

/-- without the exclusion the statement is false: `abort` empties the retransmission queue but
    leaves `SND.NXT` ahead of `SND.UNA` and the state unchanged; a later write is segmentized as
    if nothing were in flight (`abort` documents that the TCB is to be deleted afterwards) -/
theorem c17_window_abort_counterexample :
    ∃ s : Tcb, SndOk s ∧ ∃ s1, s.abort = .ok s1 ∧ ¬ SndOk s1 := by
  refine ⟨{ localPort := 1, remotePort := 2, mtu := 1500, initiation := .Open, state := .Established,
            snd := { una := 1001, nxt := 1004, wnd := 100, iss := 1000 }, rcv := { irs := 5000, nxt := 5001 },
            outgoing := { retransmit := [Transmit.new ⟨(Hdr.builder 1 2 1001).built, [1, 2, 3]⟩] } }, ?_, ?_⟩
  · intro _
    refine ⟨⟨Or.inr ⟨rfl, rfl, by decide⟩, trivial⟩, by decide, by decide⟩
  · refine ⟨_, by rw [abort, enqueue_eq], ?_⟩
    intro hok
    have := (hok (by decide)).cover
    revert this
    decide

/-! ## regression witnesses of the repaired defects

Concrete op sequences of the two-endpoint system (`Model/TcpSys.lean`); the same op lines are
in `corpus/C17/fuzz/*.ops` and replay on the real code. -/

/-- handshake: A opens (ISS 1000), B listens (ISS 5000), SYN / SYN-ACK delivered: A ESTABLISHED -/
def handshakeOps : List Op :=
  [.open .A 1000 1500, .listen .B 5000 1500, .emit .A, .deliver .B 0, .emit .B, .deliver .A 1]

def isPanic {α : Type} (r : Except String α) (msg : String) : Bool :=
  match r with
  | .error e => e == msg
  | .ok _ => false

def lastRead (r : Except String (Sys × List Res)) : Option (List UInt8) :=
  match r with
  | .ok (_, rs) => match rs.getLast? with
    | some (.read b) => some b
    | _ => none
  | .error _ => none

def lastEmit (r : Except String (Sys × List Res)) : Option (List Segment) :=
  match r with
  | .ok (_, rs) => match rs.getLast? with
    | some (.emitted _ segs) => some segs
    | _ => none
  | .error _ => none

/-- F-C17-1: the peer acknowledges one byte of a three-byte segment and shrinks its window to 2; in the
    unrepaired code `segments()` computes `2 - 3` and panics, in the repaired code it sends nothing new -/
theorem c17_regression_window_shrink :
    lastEmit (Sys.run {} (handshakeOps ++
      [.write .A [1, 2, 3], .emit .A, .inject .A (forge .A 16 5001 1002 2 []), .write .A [4, 5], .emit .A]))
      = some [] := by decide

/-- F-C17-2: a segment accepted only because its FIN lies in the window (`seq = RCV.NXT-2`, one byte, FIN): the
    unrepaired code computes `text_len - already_received = 1 - 2` and panics; in the repaired code the segment
    contributes no text -/
theorem c17_regression_fin_in_window :
    lastRead (Sys.run {} (handshakeOps ++ [.inject .A (forge .A 17 4999 1001 65535 [7]), .read .A]))
      = some [] := by decide

/-- F-C17-3: a SYN-ACK with text in SYN-SENT: the text starts at `SEG.SEQ + 1`; the unrepaired code skips two
    bytes (or panics on a single byte), in the repaired code every byte reaches the application -/
theorem c17_regression_syn_text :
    lastRead (Sys.run {} [.open .A 1000 1500, .inject .A (forge .A 18 5000 1001 65535 [7]), .read .A])
      = some [7] ∧
    lastRead (Sys.run {} [.open .A 1000 1500, .inject .A (forge .A 18 5000 1001 65535 [7, 8, 9]), .read .A])
      = some [7, 8, 9] := by decide

def tcbA (r : Except String (Sys × List Res)) : Option Tcb :=
  match r with
  | .ok (s, _) => s.a.tcb
  | .error _ => none

/-- F-C01-1: in SYN-SENT the unrepaired code checks a segment without SYN that carries text against the
    uninitialised `RCV.NXT = 0` (the `assert!` fails, or for sequence numbers near 0 the bytes are handed to
    the application); the repaired code drops it: the TCB after the segment is the TCB before it -/
theorem c17_regression_synsent_text :
    tcbA (Sys.run {} [.open .A 1000 1500, .inject .A (forge .A 16 70000 1001 65535 [7])])
      = tcbA (Sys.run {} [.open .A 1000 1500]) ∧
    tcbA (Sys.run {} [.open .A 1000 1500, .inject .A (forge .A 16 0 1001 65535 [7, 8, 9])])
      = tcbA (Sys.run {} [.open .A 1000 1500]) := by decide

def heapA (r : Except String (Sys × List Res)) : Option (List Segment) :=
  match r with
  | .ok (s, _) => s.a.tcb.map (·.incoming.segments)
  | .error _ => none

/-- F-C17-4: a segment 100000 beyond `RCV.NXT` (window 65535): the unrepaired code parks it on the reorder queue
    and consumes it when the window reaches it; the repaired code acknowledges and drops it -/
theorem c17_regression_parked :
    heapA (Sys.run {} (handshakeOps ++ [.inject .A (forge .A 16 105001 1001 65535 [7, 8, 9])]))
      = some [] := by decide

def stateA (r : Except String (Sys × List Res)) : Option State := (tcbA r).map (·.state)

/-- F-C17-5: in the unrepaired code CLOSING skips the sequence check, so an RST with a sequence number 2^31 away
    from `RCV.NXT` deletes the TCB; in the repaired code the connection stays in CLOSING -/
theorem c17_regression_closing :
    stateA (Sys.run {} (handshakeOps ++ [.emit .A, .deliver .B 2, .close .A, .close .B, .emit .B,
      .deliver .A 3, .inject .A (forge .A 4 2147488650 0 0 [])])) = some .Closing := by decide

def sndA (r : Except String (Sys × List Res)) : Option (Nat × Nat) :=
  (tcbA r).map fun t => (t.snd.una.toNat, t.snd.nxt.toNat)

/-- F-C17-6: with nothing outstanding (`SND.UNA = SND.NXT = 1001`) an ACK of `1001 + 2^31` passes, in the
    unrepaired code, both `mod_leq(SEG.ACK, SND.UNA)` and `mod_gt(SEG.ACK, SND.NXT)` and is taken as a valid
    acknowledgment of data never sent (`SND.UNA` jumps 2^31 ahead of `SND.NXT`); the repaired code answers it
    with an ACK and drops it -/
theorem c17_regression_ack_half_space :
    sndA (Sys.run {} (handshakeOps ++ [.inject .A (forge .A 16 5001 2147484649 100 []),
      .write .A [1], .emit .A])) = some (1001, 1002) := by decide

end Elvis.Tcp
