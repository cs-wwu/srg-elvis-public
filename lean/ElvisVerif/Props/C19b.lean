import ElvisVerif.Props.C19
/-!
# C19, second part — whole-file rejection, every written form, the exact normal form

Model: `Model/Ndl.lean` (`parse` = `core_parser` from the file's text on).

**The line structure of a text** (`Lemmas/NdlGram.lean`) is declared on the model's own notions:
`LineAt d dt ps s l tail l'` = "`s` begins with `d` tabs and a bracket the line lexer reads as type
`dt` with arguments `ps`"; blocks (`NetBodyAt`, `NetsAt`, `SecsAt`, `MachineAt`, `BlockAt`, `DocAt`)
are declared inductively from lines and tab counts, without reference to the parser's loops.

1. **Whole-file rejection.**  `InFile off s 1` (`Lemmas/NdlReject.lean`) is a path from the top of
   the normalised text to an offending line, anywhere in the file: through blocks that read as
   blocks, into a block, through entries that read as entries, into an entry, through lines that
   read as lines.  Nothing is assumed about the text after the offending line.
   `c19_rejects_whole_file_{depth,unknown_type,dup_argument,misplaced_type,missing_section,dup_id}`:
   `parse text` is a reported `Err`.
2. **Every written form.**  A `Doc` (`Lemmas/NdlDoc.lean`) is a description as laid out in a file:
   any number of `[Template]`/`[Networks]`/`[Machines]` blocks in any order, each machine's three
   sections in any of the six orders, every line with its own letter case of the type tag and its
   own number of blank lines, arguments on the block/section headers.
   `c19_parse_render_any_order`: `parse (renderDoc lay doc)` is the meaning of the `Doc`, in all
   three layouts; `c19_any_order_same_maps`: for every `Doc` that arranges a description `t` the
   result has `t`'s (normalised) networks and machines.
3. **The exact normal form** (F-C19-1 made exact).  `c19_parse_render_normalised`:
   `parse (render lay t) = ok (normSim t)` with no hypothesis on the contents of keys and values —
   `normSim` applies the file-level rewriting to every key, value and id; `c19_normalise_id_iff`:
   `normSim t = t` iff no id, key or value contains `\r` or four consecutive spaces.
-/
namespace Elvis.Ndl
open Elvis.Gen.Ndl

/-- the engine: a fatal offence anywhere in the line structure of the normalised text -/
theorem c19_rejects_whole_file (off : Off) (hf : Fatal off) (text : Text) (h : InFile off (normalise text) 1) :
    ∃ k n, parse text = .error (.err k n) := build_rejects hf h

/-- a declaration at a wrong nesting depth — deeper than the enclosing block allows, or a
    first child that is not exactly one level below its parent (including a block left empty) —
    anywhere in the file ⇒ `Err` -/
theorem c19_rejects_whole_file_depth (text : Text) (h : InFile depthOff (normalise text) 1) :
    ∃ k n, parse text = .error (.err k n) := c19_rejects_whole_file _ fatal_depth text h

/-- every complaint of the line lexer (unknown type, duplicate argument, `extra argument`, no
    `[`…`]`) about a line anywhere in the file ⇒ `Err` -/
theorem c19_rejects_whole_file_lexer (k : ErrKind) (text : Text) (h : InFile (lexOff k) (normalise text) 1) :
    ∃ k n, parse text = .error (.err k n) := c19_rejects_whole_file _ (fatal_lex k) text h

/-- a line whose bracket does not begin with a type tag, where a declaration is expected,
    anywhere in the file ⇒ `Err` -/
theorem c19_rejects_whole_file_unknown_type (text : Text) (h : InFile (lexOff .dectype) (normalise text) 1) :
    ∃ k n, parse text = .error (.err k n) := c19_rejects_whole_file_lexer .dectype text h

/-- a line with a duplicate argument anywhere in the file ⇒ `Err` -/
theorem c19_rejects_whole_file_dup_argument (text : Text) (h : InFile (lexOff .dupArg) (normalise text) 1) :
    ∃ k n, parse text = .error (.err k n) := c19_rejects_whole_file_lexer .dupArg text h

/-- a well-formed line of a type that may not be declared where it stands (only Template /
    Networks / Machines at the top, Network in `[Networks]`, Machine in `[Machines]`, the three
    sections in a machine, IP / Network / Protocol / Application in their lists) ⇒ `Err` -/
theorem c19_rejects_whole_file_misplaced_type (text : Text) (h : InFile typeOff (normalise text) 1) :
    ∃ k n, parse text = .error (.err k n) := c19_rejects_whole_file _ fatal_type text h

/-- a machine, anywhere in any `[Machines]` block, whose body lacks one of Networks /
    Protocols / Applications ⇒ `Err` -/
theorem c19_rejects_whole_file_missing_section (text : Text) (h : InFile lacksOff (normalise text) 1) :
    ∃ k n, parse text = .error (.err k n) := c19_rejects_whole_file _ fatal_lacks text h

/-- two networks with the same id, in the same or in different `[Networks]` blocks, anywhere
    in the file ⇒ `Err` -/
theorem c19_rejects_whole_file_dup_id (text : Text) (h : DupFile [] (normalise text) 1) :
    ∃ k n, parse text = .error (.err k n) := build_rejects_dup h

/-- an id of an earlier block, with NOTHING asked of the text after the repeated id (`DupFileAny`:
    blocks that read as blocks, then a `[Networks]` block whose entries read as entries up to one
    whose id an earlier block used): never an accepted `Sim` — `networks_parser`'s loop only adds to
    its map, so the repeated id reaches `core_parser`'s merge if the block is read at all -/
theorem c19_rejects_whole_file_dup_id_any_tail (text : Text) (h : DupFileAny [] (normalise text) 1) (sim : Sim) :
    parse text ≠ .ok sim := build_not_ok_dup h sim

/-- … and a reported `Err` for every text with fewer than 2^31 − 1 newline characters (by
    `parse_total_lines`) -/
theorem c19_rejects_whole_file_dup_id_any_tail_err (text : Text) (h : DupFileAny [] (normalise text) 1)
    (hl : nlCount text < i32Max) : ∃ k n, parse text = .error (.err k n) := by
  rcases parse_total_lines text hl with ⟨sim, hs⟩ | h2
  · exact absurd hs (build_not_ok_dup h sim)
  · exact h2

theorem c19_rejects_whole_file_not_ok (off : Off) (hf : Fatal off) (text : Text)
    (h : InFile off (normalise text) 1) (sim : Sim) : parse text ≠ .ok sim :=
  IsErr.not_ok (c19_rejects_whole_file off hf text h) sim

/-- a bracket whose content begins with none of the type tags is an "unknown type" offence,
    at any depth, whatever follows the bracket -/
theorem c19_offence_unknown_type (c : Ctx) (inside after : Text) (l : Nat) (hb : ∀ ch ∈ inside, ch ≠ ']')
    (hun : ∀ t ∈ tagAlt, keyword t inside = none) :
    lexOff .dectype c (List.replicate c.depth '\t' ++ '[' :: (inside ++ ']' :: after)) l := by
  refine ⟨by simp, ?_, ?_⟩
  · apply countTabs_replicate; intro r h; simp at h
  · rw [List.drop_left' (by simp)]
    exact c19_rejects_unknown_type inside after l hb hun

/-- a written line (any letter case of the tag) with two arguments of the same key is a
    "duplicate argument" offence, at any depth, whatever follows the bracket -/
theorem c19_offence_dup_argument (c : Ctx) (dt : DecType) (tag : Text) (htag : SameCase tag dt.name) (ps : Params)
    (hps : ∀ kv ∈ ps, KeyOk kv.1 ∧ valOk kv.2 = true) (hdup : ¬ (ps.map (·.1)).Nodup) (after : Text) (l : Nat) :
    lexOff .dupArg c (List.replicate c.depth '\t' ++ ('[' :: (tag ++ (renderArgs ps ++ [']']))) ++ after) l := by
  refine ⟨by simp, ?_, ?_⟩
  · rw [List.append_assoc]; apply countTabs_replicate; intro r h; simp at h
  · rw [List.append_assoc, List.drop_left' (by simp)]
    exact generalParser_spelled_dup dt tag htag ps hps hdup after l

/-- a well-formed written line of a type that is not allowed where it stands is a "misplaced
    type" offence -/
theorem c19_offence_misplaced_type (c : Ctx) (x : RLine) (hx : x.Ok) (hd : x.depth = c.depth)
    (hna : c.allowed.contains x.dt = false) (tail : Text) (htail : NoNl tail) (l : Nat)
    (hb : l + (x.deco.blank + 1) ≤ i32Max) : typeOff c (x.text .tabs ++ tail) l :=
  ⟨x.dt, x.ps, tail, _, hd ▸ lineAt_rline x hx tail htail l _ rfl hb, hna⟩

/-- a written machine whose sections are well-formed but do not include the kind `k` is a
    "missing section" offence, whatever follows the machine -/
theorem c19_offence_missing_section (m : DMach) (hs : ∀ s ∈ m.secs, s.Shape) (hok : ∀ x ∈ m.lines, x.Ok)
    (k : DecType) (hk : IsSec k) (hmiss : k ∉ m.secs.map (·.kind)) (rest : Text) (hr : countTabs rest < 2)
    (hn : NoNl rest) (l : Nat) (hb : l + lc m.lines ≤ i32Max) :
    lacksOff ⟨1, [.machine], false⟩ (rlText .tabs m.lines ++ rest) l := by
  rw [DMach.lines, lc_cons] at hb
  exact ⟨rfl, rfl, m.hd.ps, _, _, m.secs.map DSec.sec, rest, _,
    lineAt_head (m.hd.rl 1 .machine) _ hok rest hn l _ rfl (by omega),
    secsAt_render m.secs rest _ _ hs (fun x hx => hok x (List.mem_cons_of_mem _ hx)) ⟨hr, hn⟩ rfl (by omega),
    k, hk, by simpa [List.map_map, Function.comp_def, DSec.sec] using hmiss⟩

/-- "whatever precedes, as long as it parses": the path may start after any well-formed written
    description -/
theorem c19_offence_after_any_doc (off : Off) (doc : Doc) (hd : doc.Ok) (rest : Text)
    (hr : countTabs rest < 1) (hn : NoNl rest) (h : InFile off rest (1 + lc doc.lines)) :
    InFile off (renderDoc .tabs doc ++ rest) 1 :=
  path_after_doc (X := fun _ => InFile off) InFile.later (docAt_render doc rest 1 _ hd.2.1 hd.1 ⟨hr, hn⟩ rfl hd.2.2.2) [] h

/-- … written in any layout (the rewriting restarts at every line end, so it acts on the
    description and on what follows it separately) -/
theorem c19_offence_after_any_doc_any_layout (off : Off) (doc : Doc) (lay : Layout) (hd : (normDoc doc).Ok)
    (rest : Text) (hr : countTabs (normalise rest) < 1) (hn : NoNl (normalise rest))
    (h : InFile off (normalise rest) (1 + lc doc.lines)) :
    InFile off (normalise (renderDoc lay doc ++ rest)) 1 := by
  rw [normalise_renderDoc_append lay doc hd rest]
  exact c19_offence_after_any_doc off (normDoc doc) hd (normalise rest) hr hn
    (by rw [normDoc_lines, lc_norm]; exact h)

theorem doc_ids (doc : Doc) : (doc.map DBlock.block).flatMap Block.ids = doc.sim.networks.map (·.1) := by
  induction doc with
  | nil => rfl
  | cons b doc ih =>
    simp only [Doc.sim, List.map_cons, List.flatMap_cons, List.map_append] at ih ⊢
    rw [ih]
    cases b <;> rfl

/-- … the same for duplicate ids: `ids` are then the ids of that description -/
theorem c19_dup_id_after_any_doc (doc : Doc) (hd : doc.Ok) (rest : Text) (hr : countTabs rest < 1) (hn : NoNl rest)
    (h : DupFile (doc.sim.networks.map (·.1)) rest (1 + lc doc.lines)) :
    DupFile [] (renderDoc .tabs doc ++ rest) 1 :=
  path_after_doc DupFile.later (docAt_render doc rest 1 _ hd.2.1 hd.1 ⟨hr, hn⟩ rfl hd.2.2.2) [] (by simpa [doc_ids] using h)

theorem c19_dup_id_any_tail_after_any_doc (doc : Doc) (hd : doc.Ok) (rest : Text) (hr : countTabs rest < 1)
    (hn : NoNl rest) (h : DupFileAny (doc.sim.networks.map (·.1)) rest (1 + lc doc.lines)) :
    DupFileAny [] (renderDoc .tabs doc ++ rest) 1 :=
  path_after_doc DupFileAny.later (docAt_render doc rest 1 _ hd.2.1 hd.1 ⟨hr, hn⟩ rfl hd.2.2.2) [] (by simpa [doc_ids] using h)

/-! ### non-vacuity: concrete files with the offence in the middle -/

instance (d : Nat) (dt : DecType) (ps : Params) (s : Text) (l : Nat) (tail : Text) (l' : Nat) :
    Decidable (LineAt d dt ps s l tail l') := by unfold LineAt; exact inferInstance

namespace Ex

def kId : Text := ['i','d']
def kName : Text := ['n','a','m','e']
def pl (dt : DecType) (ps : Params) : DLine := ⟨⟨dt.name, 0⟩, ps⟩
def net (id : Char) : DNet := ⟨pl .network [(kId, [id])], [pl .ip []]⟩
def mach : DMach :=
  ⟨pl .machine [(kName, ['m'])],
    [⟨.networks, pl .networks [], [pl .network [(kId, ['1'])]]⟩,
     ⟨.protocols, pl .protocols [], [pl .protocol [(kName, ['U','D','P'])]]⟩,
     ⟨.applications, pl .applications [], [pl .application [(kName, ['c','a','p'])]]⟩]⟩

/-- a well-formed file: `[Networks]` with network 1, `[Machines]` with one machine -/
def good : Doc := [.nets (pl .networks []) [net '1'], .machs (pl .machines []) [mach]]

theorem good_ok : good.Ok := Doc.ok_of_B good (by decide +kernel)

theorem good_lc : 1 + lc good.lines = 12 := by decide +kernel

/-- … followed by a second `[Machines]` block whose first entry is indented twice, and junk -/
def badDepth : Text := renderDoc .tabs good ++
  ['[','M','a','c','h','i','n','e','s',']','\n','\t','\t','[','M','a','c','h','i','n','e',']','\n','?','?']

example : InFile depthOff badDepth 1 := by
  refine c19_offence_after_any_doc depthOff good good_ok _ (by decide +kernel) (by intro r h; cases h) ?_
  refine InFile.inMachs (ps := []) (tail := ['\t','\t','[','M','a','c','h','i','n','e',']','\n','?','?'])
    (l' := 1 + lc good.lines + 1) (by decide +kernel) (InMachs.here ?_)
  show 1 < countTabs _
  decide +kernel

example : parse badDepth = .error (.err .tabs 0) := by decide +kernel

/-- the same file written with four spaces per level and CRLF line ends in the offending block -/
def badDepthSpaces : Text := renderDoc .spaces good ++
  ['[','M','a','c','h','i','n','e','s',']','\r','\n',' ',' ',' ',' ',' ',' ',' ',' ','[','M','a','c','h','i','n','e',']','\r','\n']

example : ∃ k n, parse badDepthSpaces = .error (.err k n) := by
  refine c19_rejects_whole_file_depth _ ?_
  refine c19_offence_after_any_doc_any_layout depthOff good .spaces (Doc.ok_of_B _ (by decide +kernel)) _
    (by decide +kernel) ?_ ?_
  · intro r h
    have h0 : (normalise ['[','M','a','c','h','i','n','e','s',']','\r','\n',' ',' ',' ',' ',' ',' ',' ',' ','[','M','a','c','h','i','n','e',']','\r','\n']).head? = some '[' := by
      decide +kernel
    rw [h] at h0
    cases h0
  · refine InFile.inMachs (ps := []) (tail := ['\t','\t','[','M','a','c','h','i','n','e',']','\n'])
      (l' := 1 + lc good.lines + 1) (by decide +kernel) (InMachs.here ?_)
    show 1 < countTabs _
    decide +kernel

example : parse badDepthSpaces = .error (.err .tabs 0) := by decide +kernel

/-- … followed by a `[Machines]` block whose machine has no `[Protocols]`, and a `[Template]` -/
def noProt : DMach :=
  ⟨pl .machine [(kName, ['m'])],
    [⟨.networks, pl .networks [], [pl .network [(kId, ['1'])]]⟩,
     ⟨.applications, pl .applications [], [pl .application [(kName, ['c','a','p'])]]⟩]⟩
def tmpl : Text := ['[','T','e','m','p','l','a','t','e',']','\n']
def machsHdr : Text := ['[','M','a','c','h','i','n','e','s',']','\n']
def badMach : Text := renderDoc .tabs good ++ (machsHdr ++ (rlText .tabs noProt.lines ++ tmpl))

example : InFile lacksOff badMach 1 := by
  refine c19_offence_after_any_doc _ good good_ok _ (by decide +kernel) (by intro r h; cases h) ?_
  rw [good_lc]
  refine InFile.inMachs (ps := []) (tail := rlText .tabs noProt.lines ++ tmpl) (l' := 13) (by decide +kernel)
    (InMachs.here ?_)
  exact c19_offence_missing_section noProt (fun s hs => DSec.shape_of_B s (List.all_eq_true.1 (by decide +kernel) s hs))
    (fun x hx => RLine.ok_of_B x (List.all_eq_true.1 (by decide +kernel) x hx)) .protocols (.inr (.inl rfl)) (by decide +kernel)
    tmpl (by decide +kernel) (by intro r h; cases h) 13 (by decide +kernel)

example : parse badMach = .error (.err .required 0) := by decide +kernel

def router : Text := ['\t','[','R','o','u','t','e','r',' ','i','d','=','\'','3','\'',']','\n','?']
def netsHdr : Text := ['[','N','e','t','w','o','r','k','s',']','\n']

/-- … followed by a `[Networks]` block whose second entry has an unknown type, and junk -/
def badType : Text := renderDoc .tabs good ++ (netsHdr ++ (rlText .tabs (net '2').lines ++ router))

theorem net_body (n : DNet) (hs : n.shapeB = true) (hok : n.lines.all RLine.okB = true) (rest : Text) (l : Nat)
    (hr : countTabs rest < 2) (hn : NoNl rest) (hb : l + lc n.lines ≤ i32Max) :
    NetBodyAt n.net.2.options n.net.2.ip (rlText .tabs n.lines ++ rest) l rest (l + lc n.lines) :=
  (netAt_render n (DNet.shape_of_B _ hs) (fun x hx => RLine.ok_of_B x (List.all_eq_true.1 hok x hx))
    rest l _ ⟨hr, hn⟩ rfl hb).2.2

example : InFile (lexOff .dectype) badType 1 := by
  refine c19_offence_after_any_doc _ good good_ok _ (by decide +kernel) (by intro r h; cases h) ?_
  rw [good_lc]
  refine InFile.inNets (ps := []) (tail := rlText .tabs (net '2').lines ++ router) (l' := 13) (by decide +kernel) ?_
  refine InNets.later (l' := 15) (net_body (net '2') (by decide +kernel) (by decide +kernel) router 13 (by decide +kernel) (by intro r h; cases h) (by decide +kernel)) (InNets.here ?_)
  exact c19_offence_unknown_type ⟨1, [.network], false⟩ ['R','o','u','t','e','r',' ','i','d','=','\'','3','\'']
    ['\n','?'] 15 (by decide +kernel) (by decide +kernel)

example : parse badType = .error (.err .dectype 15) := by decide +kernel

/-- … followed by a `[Networks]` block that uses id 1 again -/
def badDup : Text :=
  renderDoc .tabs good ++ (netsHdr ++ (rlText .tabs ([net '2', net '1'].flatMap DNet.lines) ++ []))

example : DupFile [] badDup 1 := by
  refine c19_dup_id_after_any_doc good good_ok _ (by decide +kernel) (by intro r h; cases h) ?_
  rw [good_lc]
  refine DupFile.otherBlock (ps := []) (l1 := 13) (by decide +kernel)
    (netsAt_render [net '2', net '1'] [] 13 _ (fun n hn => DNet.shape_of_B n (List.all_eq_true.1 (by decide +kernel) n hn))
      (fun x hx => RLine.ok_of_B x (List.all_eq_true.1 (by decide +kernel) x hx)) ⟨by decide +kernel, by intro r h; cases h⟩
      rfl (by decide +kernel)) ⟨['1'], by decide +kernel, by decide +kernel⟩

example : parse badDup = .error (.err .dupId 0) := by decide +kernel

/-- … the same with a broken line right after the repeated id: another error, still no `Sim` -/
def junk : Text := ['\t','[','B','o','g','u','s',']','\n']
def badDupJunk : Text :=
  renderDoc .tabs good ++ (netsHdr ++ (rlText .tabs (net '2').lines ++ (rlText .tabs (net '1').lines ++ junk)))

example : DupFileAny [] badDupJunk 1 := by
  refine c19_dup_id_any_tail_after_any_doc good good_ok _ (by decide +kernel) (by intro r h; cases h) ?_
  rw [good_lc]
  refine DupFileAny.block (ps := []) (l' := 13)
    (tail := rlText .tabs (net '2').lines ++ (rlText .tabs (net '1').lines ++ junk)) (by decide +kernel) ?_
  have h2 := netAt_render (net '2') (DNet.shape_of_B _ (by decide +kernel))
    (fun x hx => RLine.ok_of_B x (List.all_eq_true.1 (by decide +kernel) x hx))
    (rlText .tabs (net '1').lines ++ junk) 13 _ ⟨by decide +kernel, by intro r h; cases h⟩ rfl (by decide +kernel)
  have h1 := netAt_render (net '1') (DNet.shape_of_B _ (by decide +kernel))
    (fun x hx => RLine.ok_of_B x (List.all_eq_true.1 (by decide +kernel) x hx))
    junk 15 _ ⟨by decide +kernel, by intro r h; cases h⟩ rfl (by decide +kernel)
  exact DupAcross.later h2 (DupAcross.here h1 (by decide +kernel))

example : parse badDupJunk = .error (.err .dectype 17) := by decide +kernel

end Ex

/-- every written form of a description — blocks in any order and number, sections in any order,
    tags in any letter case, blank lines anywhere, arguments on headers — in every layout, parses
    to what it says, with every key and value in the file's normal form.
    `(normDoc doc).Ok` is well-formedness *after* the rewriting (what the parser gets to see). -/
theorem c19_parse_render_any_order (doc : Doc) (lay : Layout) (h : (normDoc doc).Ok) :
    parse (renderDoc lay doc) = .ok (normDoc doc).sim := by
  unfold parse renderDoc
  rw [normalise_rlText lay doc.lines (doc_lines_cond doc h), ← normDoc_lines]
  exact build_renderDoc _ h

theorem c19_any_order_layouts_agree (d1 d2 : Doc) (l1 l2 : Layout) (h1 : (normDoc d1).Ok) (h2 : (normDoc d2).Ok)
    (hs : (normDoc d1).sim = (normDoc d2).sim) : parse (renderDoc l1 d1) = parse (renderDoc l2 d2) := by
  rw [c19_parse_render_any_order d1 l1 h1, c19_parse_render_any_order d2 l2 h2, hs]

/-- `doc` is a way of writing the description `t`: its `[Networks]` blocks hold `t`'s networks and
    its `[Machines]` blocks `t`'s machines, split over any number of blocks in any order -/
def Arranges (doc : Doc) (t : Sim) : Prop :=
  doc.sim.networks.Perm t.networks ∧ doc.sim.machines.Perm t.machines

/-- every written form of `t` parses to `normSim t` as maps: the same (id ↦ network) entries, ids
    pairwise distinct, and the same machines -/
theorem c19_any_order_same_maps (t : Sim) (doc : Doc) (lay : Layout) (harr : Arranges doc t)
    (hs : ∀ b ∈ doc, b.Shape) (h : (normDoc doc).Ok) :
    ∃ t', parse (renderDoc lay doc) = .ok t' ∧ t'.networks.Perm (normSim t).networks ∧
      (t'.networks.map (·.1)).Nodup ∧ (∀ e, e ∈ t'.networks ↔ e ∈ (normSim t).networks) ∧
      t'.machines.Perm (normSim t).machines := by
  refine ⟨_, c19_parse_render_any_order doc lay h, ?_⟩
  rw [normDoc_sim doc hs h.1]
  have hn : (normSim doc.sim).networks.Perm (normSim t).networks := harr.1.map _
  have hm : (normSim doc.sim).machines.Perm (normSim t).machines := harr.2.map _
  refine ⟨hn, ?_, fun e => hn.mem_iff, hm⟩
  rw [← normDoc_sim doc hs h.1]
  exact h.2.2.1

theorem c19_render_is_a_written_form (s : Sim) (hs : SimOk s) (lay : Layout) :
    renderDoc lay (canon s) = render lay s := renderDoc_canon lay s hs

namespace Ex

def dl (tag : Text) (blank : Nat) (ps : Params) : DLine := ⟨⟨tag, blank⟩, ps⟩

/-- two `[Networks]` blocks around a `[Template]` and the `[Machines]` block, sections in the
    order Applications, Networks, Protocols, mixed letter case, blank lines, a header argument -/
def shuffled : Doc :=
  [.nets (dl ['N','E','T','W','O','R','K','S'] 1 []) [⟨dl ['n','e','t','w','o','r','k'] 0 [(kId, ['2'])], [dl ['i','p'] 2 []]⟩],
   .template (dl ['t','E','M','P','L','A','T','E'] 0 [(kName, ['x'])]),
   .machs (dl ['m','a','c','h','i','n','e','s'] 0 [(kName, ['i','g','n','o','r','e','d'])])
     [⟨dl ['M','A','C','H','I','N','E'] 0 [(kName, ['m'])],
       [⟨.applications, dl ['A','p','p','l','i','c','a','t','i','o','n','S'] 0 [], [dl ['a','P','P','L','I','C','A','T','I','O','N'] 1 [(kName, ['c','a','p'])]]⟩,
        ⟨.networks, dl ['n','e','t','w','o','r','k','s'] 0 [], [dl ['N','e','t','w','o','r','k'] 0 [(kId, ['1'])]]⟩,
        ⟨.protocols, dl ['P','R','O','T','O','C','O','L','S'] 3 [], [dl ['p','r','o','t','o','c','o','l'] 0 [(kName, ['U','D','P'])]]⟩]⟩],
   .nets (dl ['N','e','t','w','o','r','k','s'] 0 []) [⟨dl ['N','e','t','w','o','r','k'] 0 [(kId, ['1'])], [dl ['I','P'] 0 []]⟩]]

example : (normDoc shuffled).Ok := Doc.ok_of_B _ (by decide +kernel)

/-- the same description as `good`, written differently: same machines, networks 2 and 1 -/
example : parse (renderDoc .crlf shuffled) = .ok ⟨[(net '2').net, (net '1').net], good.sim.machines⟩ ∧
    parse (renderDoc .spaces shuffled) = parse (renderDoc .tabs shuffled) := by decide +kernel

end Ex

/-- no hypothesis on what keys and values contain: every layout of `t` parses to `t` with every
    id, key and value rewritten the way the file is (`\r` dropped, every run of four spaces → tab).
    `SimOk (normSim t)` is well-formedness of what the parser gets to see (the rewriting can merge
    two keys or two ids, or uncover a blank at the start of a key: `c19_normalised_needs_wf`). -/
theorem c19_parse_render_normalised (t : Sim) (h : SimOk (normSim t)) (lay : Layout) :
    parse (render lay t) = .ok (normSim t) := by
  unfold parse
  rw [normalise_render_exact lay t (sim_keysStart t h)]
  exact build_render _ h

theorem c19_normalise_id_iff (t : Sim) : normSim t = t ↔ CalmTree t := normSim_eq_self_iff t

theorem c19_normalise_text_id_iff (x : Text) : normalise x = x ↔ ('\r' ∉ x ∧ quadFree 0 x = true) :=
  normalise_eq_self_iff x

/-- the round trip for descriptions the rewriting leaves alone, from the hypothesis-free theorem
    (`c19_parse_render_partial` states the same with `CalmSim`, on the rendered lines) -/
theorem c19_parse_render_of_calm (t : Sim) (hs : SimOk t) (hc : CalmTree t) (lay : Layout) :
    parse (render lay t) = .ok t := by
  have he := (c19_normalise_id_iff t).2 hc
  have := c19_parse_render_normalised t (by rw [he]; exact hs) lay
  rw [he] at this
  exact this

/-- the counterexample of `Props/C19.lean` is an instance: the value `a␣␣␣␣b` comes back as `a⇥b` -/
example :
    let s : Sim := ⟨[(['1'], ⟨.network, [(['i','d'], ['1']), (['n'], ['a',' ',' ',' ',' ','b'])], [⟨.ip, []⟩]⟩)], []⟩
    normSim s = ⟨[(['1'], ⟨.network, [(['i','d'], ['1']), (['n'], ['a','\t','b'])], [⟨.ip, []⟩]⟩)], []⟩ := by
  decide +kernel

/-- why the hypothesis is on `normSim t`: a well-formed tree whose keys `a` and `a\r` merge under
    the rewriting is rejected ("duplicate argument") -/
theorem c19_normalised_needs_wf :
    let s : Sim := ⟨[(['1'], ⟨.network, [(['i','d'], ['1']), (['a'], ['x']), (['a','\r'], ['y'])], [⟨.ip, []⟩]⟩)], []⟩
    (s.networks.map (·.1)).Nodup ∧ parse (render .tabs s) = .error (.err .dupArg 2) := by decide +kernel

end Elvis.Ndl
