import ElvisVerif.Model.PortAlloc
import ElvisVerif.Generated.DnsCert
/-!
# C20 (supplement): the ephemeral ports behind concurrent lookups are pairwise distinct

`FourTupleIsolation` of `Props/C20.lean` assumes that the sockets of one client machine have
different local ports.  With one lookup per task and several tasks per machine on a multi-thread
runtime that is a statement about `SocketAPI::get_ephemeral_port` under interleaving.  The one-lock
version (`run true`) is the code as it is: that the source has this shape is
`c20_port_alloc_certificate`, extracted on every check.  The two-lock version (`run false`) is the
code before commit 8ad8c9e3, where two calls in flight return the same port — finding F-C20-5,
replayed on the real code by the `mt` run (lookups that start in the same instant).
-/
namespace Elvis.PortAlloc

structure Good (s : Sys) : Prop where
  nodup : s.handed.Nodup
  range : ∀ p ∈ s.handed, firstPort ≤ p ∧ p < s.counter
  counter : firstPort ≤ s.counter

theorem good_init : Good init := ⟨List.nodup_nil, nofun, Nat.le_refl _⟩

theorem good_step (s : Sys) (a : Step) (h : Good s) : Good (step true s a) := by
  cases a with
  | alloc =>
    refine ⟨?_, List.forall_mem_append.2 ⟨fun p hp => ?_,
      List.forall_mem_singleton.2 ⟨h.counter, Nat.lt_succ_self _⟩⟩, Nat.le_succ_of_le h.counter⟩
    · show (s.handed ++ [s.counter]).Nodup
      rw [List.nodup_append]
      refine ⟨h.nodup, List.pairwise_singleton _ _, fun a ha b hb => ?_⟩
      rw [List.mem_singleton.1 hb]
      exact Nat.ne_of_lt (h.range a ha).2
    · exact ⟨(h.range p hp).1, Nat.lt_succ_of_lt (h.range p hp).2⟩
  | read => exact h
  | finish k => exact h

theorem good_run (s : Sys) (as : List Step) (h : Good s) : Good (run true s as) := by
  induction as generalizing s with
  | nil => exact h
  | cons a as ih => exact ih _ (good_step s a h)

/-- One lock: whatever the interleaving of calls, no port is handed out twice. -/
theorem c20_port_alloc_unique (sched : List Step) :
    (run true init sched).handed.Nodup ∧ ∀ p ∈ (run true init sched).handed, firstPort ≤ p :=
  have h := good_run init sched good_init
  ⟨h.nodup, fun p hp => (h.range p hp).1⟩

/-- non-vacuity: three calls hand out 49152, 49153, 49154 -/
example : (run true init [.alloc, .alloc, .alloc]).handed = [49152, 49153, 49154] := by decide

/-- Two locks (the code before commit 8ad8c9e3): both calls read 49152 before either advances the
counter — two sockets of one machine with the same local port; the second `connect` is refused
(`Udp::listen`: endpoint taken) and `DnsClient::get_host_by_name` unwraps the error. -/
theorem c20_port_alloc_race_counterexample :
    (run false init [.read, .read, .finish 0, .finish 0]).handed = [49152, 49152] := by decide

/-- ... while calls that do not overlap are fine, which is why sequential and paused-clock runs
do not show it -/
example : (run false init [.read, .finish 0, .read, .finish 0]).handed = [49152, 49153] := by decide

/-- the source reads and advances the counter under one write lock -/
theorem c20_port_alloc_certificate : Elvis.Gen.socketEphemeralPortOneLock = true := by decide

/-- The code as it is (shape extracted from the source on every check): for every interleaving
of `get_ephemeral_port` calls the ports handed out are pairwise distinct. -/
theorem c20_ephemeral_ports_unique (sched : List Step) :
    (run Elvis.Gen.socketEphemeralPortOneLock init sched).handed.Nodup := by
  rw [c20_port_alloc_certificate]
  exact (c20_port_alloc_unique sched).1

end Elvis.PortAlloc
