import ElvisVerif.Lemmas.RouterDeliveryInv
import ElvisVerif.Props.C16
/-!
# C16 — delivery along a static path, with ARP as coded (no `FaithfulRun` hypothesis)

`c16_delivery_partial` (Props/C16.lean) takes as a hypothesis that the ARP resolutions made for
the datagram return the MAC of the machine that answers for the next hop.  Here that is DERIVED
from the concrete ARP layer of `Model/Router.lean` (tables keyed by IP only, shared by all networks
of a machine; learn from every packet; reply for local addresses; broadcasts reach every tap)
for every topology that is well-formed in the sense of `TopoWf`:

* an address is answered for by at most one tap per network segment,
* the address a machine puts into its requests on a slot is one it answers for,

and for every route whose hops satisfy `SharedOnce`: the next hop is an interface on THE network
the forward leaves on — the forwarding machine shares no other network with a machine answering
for it (`RouteS` = `Route` + `SharedOnce` at every hop; MAC numbers are per-network counters, as
the scaffold assigns them, so a MAC learned on one network means nothing on another: without
`SharedOnce` the model — like the code — sends the frame to whoever has that number there).

What remains a hypothesis is about TIME, which the untimed transition system cannot exhibit:
`ArpInTime` — no resolve task of the datagram is polled with an exhausted retry budget while its
machine's table has no answer ("no loss on the ARP exchanges of this datagram within the retry
budget of `arpResendTries` requests").  The retry timer may otherwise fire at any moment, ARP
frames and data frames of all datagrams may interleave in any order, any other traffic may run.
Routes of every length `m` are covered (the induction is the one of `route_leads`).
-/
namespace Elvis.Router

def afterSend (s0 : CState) (p0 : Pending) : CState := { s0 with tasks := s0.tasks ++ [newTask p0] }

theorem abs_pend_forall {s : CState} {P : Pending → Prop} (h : ∀ t ∈ s.tasks, P t.p) : ∀ p ∈ s.abs.pend, P p := by
  intro p hp
  obtain ⟨t, ht, rfl⟩ := List.mem_map.1 hp
  exact h t ht

/-- DELIVERY.  In a well-formed topology, if the static routes lead from the sending host through
    `m` routers to the destination application (`RouteS`) and `m` is smaller than the initial TTL,
    then in EVERY run of the concrete system (ARP as coded) that starts in a state satisfying the
    ARP invariant (`CInv`: the initial state does, and every reachable state does) — any
    interleaving with any other traffic, any arrival order of ARP and data frames — in which the
    ARP exchanges made for this datagram complete within the retry budget (`ArpInTime`), once
    nothing of the datagram is left in the system it has been handed to the destination
    application exactly once, with the data that were sent, and to no other application. -/
theorem c16_delivery (topo : Topo) (wf : TopoWf topo) (k hd port : Nat) (data : List UInt8) (m : Nat)
    (s0 : CState) (inv0 : CInv topo s0) (h : Nat) (pkt : Pkt) (p0 : Pending) (rest : List CChoice) (s : CState)
    (fresh : (∀ f ∈ s0.flight, f.pkt.tok ≠ k) ∧ (∀ t ∈ s0.tasks, t.p.pkt.tok ≠ k) ∧ appsOf k s0.log = [])
    (hk : pkt.tok = k) (hsend : sendCore topo h pkt = [p0])
    (hroute : RouteS topo hd port data m p0) (httl : m < pkt.hdr.ttl)
    (hrun : crun topo s0 (.send h pkt :: rest) = .ok s)
    (htime : ArpInTime topo k (afterSend s0 p0) rest)
    (hquiet : (∀ f ∈ s.flight, f.pkt.tok ≠ k) ∧ (∀ t ∈ s.tasks, t.p.pkt.tok ≠ k)) :
    appsOf k s.log = [(hd, port, data)] := by
  have hp0 : p0.pkt = pkt := sendCore_pkt hsend
  have hstep : cstep topo s0 (.send h pkt) = .ok (afterSend s0 p0) := by
    simp [cstep, hsend, afterSend]
  have habs1 : (afterSend s0 p0).abs = { s0.abs with pend := s0.abs.pend ++ [p0] } := by
    simp [afterSend, CState.abs, newTask]
  have href := c16_concrete_refines topo _ s0 s hrun
  have hsched : absSched topo s0 (.send h pkt :: rest) = .send h pkt :: absSched topo (afterSend s0 p0) rest := by
    simp [absSched, absChoices, hstep]
  rw [hsched] at href
  have fresh' := And.intro fresh.1 (And.intro (abs_pend_forall (P := fun p => p.pkt.tok ≠ k) fresh.2.1) fresh.2.2)
  have tr1 : Track topo (SharedOnce topo) k hd port data (afterSend s0 p0).abs :=
    habs1 ▸ Track.start fresh' (hp0 ▸ hk) (hroute.leads (.inl (hp0 ▸ httl)))
  have hfaith := faithful_of_concrete wf rest (afterSend s0 p0) (cstep_cinv wf hstep inv0) tr1 htime
  rw [habs1] at hfaith
  exact c16_delivery_partial topo k hd port data m s0.abs h pkt p0 _ s.abs fresh' hk hsend hroute.route httl href
    hfaith ⟨hquiet.1, abs_pend_forall hquiet.2⟩

/-- the ARP invariant is not an assumption about the run: the initial state has it and every
    step of a well-formed topology keeps it -/
theorem c16_arp_invariant (topo : Topo) (wf : TopoWf topo) (cs : List CChoice) (s : CState)
    (h : crun topo (CState.init topo) cs = .ok s) : CInv topo s :=
  crun_cinv wf cs _ s h (cinv_init topo)

/-- what the invariant says, in the words of C06's `c06_resolve_sound`, for several networks: in
    every reachable state every `Ok` entry `ip ↦ mac` in the ARP table of machine `n` is the MAC,
    on some network `n` is attached to, of a tap whose machine answers ARP for `ip`; and whenever
    a resolve task whose hop satisfies `SharedOnce` reads an answer from its table, it is the
    faithful one -/
theorem c16_arp_sound (topo : Topo) (wf : TopoWf topo) (cs : List CChoice) (s : CState)
    (h : crun topo (CState.init topo) cs = .ok s) :
    (∀ n c ip mac, s.caches[n]? = some c → c.get ip = some (some mac) → Learnable topo n ip mac) ∧
    (∀ t ∈ s.tasks, SharedOnce topo t.p → ∀ mac,
      ((s.caches[t.p.node]?).getD []).answer t.p.nextHop = some (some mac) → faithfulMac topo t.p = some mac) := by
  have inv := c16_arp_invariant topo wf cs s h
  refine ⟨inv.caches, ?_⟩
  exact fun t _ so mac hm => inv.answer_faithful wf so hm

/-! ## executable checkers for the hypotheses (so that concrete topologies can be certified by evaluation) -/

def netsOf (topo : Topo) : List NetId := topo.nodes.flatMap (fun nd => nd.slots.map (·.1))

theorem net_mem_of_tap {topo : Topo} {net : NetId} {t : Nat × Node × Mac} (h : t ∈ tapsOn topo net) :
    net ∈ netsOf topo := by
  obtain ⟨n, nd, mac⟩ := t
  obtain ⟨hn, hs⟩ := mem_tapsOn.1 h
  simp only [netsOf, List.mem_flatMap, List.mem_map]
  exact ⟨nd, List.mem_of_getElem? hn, (net, mac), hs, rfl⟩

def claimOnceB (topo : Topo) : Bool :=
  (netsOf topo).all fun net => (tapsOn topo net).all fun t1 => (tapsOn topo net).all fun t2 =>
    t1.2.1.arpIps.all fun ip => !t2.2.1.arpIps.contains ip || decide (t1 = t2)

def localClaimedB (topo : Topo) : Bool :=
  topo.nodes.all fun nd => nd.localIps.all fun loc => nd.arpIps.contains loc

theorem topoWf_of_check (topo : Topo) (h1 : claimOnceB topo = true) (h2 : localClaimedB topo = true) :
    TopoWf topo := by
  constructor
  · intro net ip t1 t2 m1 m2 c1 c2
    simp only [claimOnceB, List.all_eq_true] at h1
    have := h1 net (net_mem_of_tap m1) t1 m1 t2 m2 ip (by simpa using c1)
    simp only [Bool.or_eq_true, Bool.not_eq_true', decide_eq_true_eq] at this
    rcases this with h | h
    · rw [c2] at h; cases h
    · exact h
  · intro n nd σ loc hn hl
    simp only [localClaimedB, List.all_eq_true] at h2
    exact h2 nd (List.mem_of_getElem? hn) loc (List.mem_of_getElem? hl)

/-- `SharedOnce` is needed: with a next hop whose owner is attached to two networks of the
    forwarding machine, the table (keyed by the address alone) may hold the MAC number the owner has
    on the OTHER network.  Witness: machine 0 with taps on networks 0 and 1, machine 1 owning
    address 9 with MAC 5 on network 0 and MAC 6 on network 1: `Learnable` allows both numbers. -/
theorem c16_shared_once_needed :
    ∃ (topo : Topo) (p : Pending), TopoWf topo ∧ ¬ SharedOnce topo p ∧
      Learnable topo p.node p.nextHop 5 ∧ faithfulMac topo p = some 6 := by
  let n0 : Node := { slots := [(0, 1), (1, 1)], binds := [], udpPorts := [], subnet := none,
                     localIps := [7, 8], table := [], arpIps := [7, 8] }
  let n1 : Node := { slots := [(0, 5), (1, 6)], binds := [], udpPorts := [], subnet := none,
                     localIps := [9, 9], table := [], arpIps := [9] }
  let topo : Topo := { nodes := [n0, n1], mtus := [] }
  let p : Pending := { node := 0, slot := 1, loc := 8, nextHop := 9, viaRouter := true,
                       pkt := ⟨0, ⟨0, 20, 0, 0, 0, 9, 17, 1, 2⟩, []⟩ }
  have taps0 : tapsOn topo 0 = [(0, n0, 1), (1, n1, 5)] := by decide +kernel
  have on0 : OnNet topo 0 0 := ⟨n0, 1, by rw [taps0]; simp⟩
  have cl0 : Claims topo 0 9 5 := ⟨1, n1, by rw [taps0]; simp, by decide⟩
  refine ⟨topo, p, topoWf_of_check topo (by decide +kernel) (by decide +kernel), ?_, ⟨0, on0, cl0⟩,
    by decide +kernel⟩
  · -- the forward leaves on network 1, but the owner of 9 is also on network 0
    intro so
    have := so 0 on0 ⟨5, cl0⟩
    have e : outNet topo p = some 1 := by decide +kernel
    rw [e] at this
    cases this

def sharedOnceB (topo : Topo) (p : Pending) : Bool :=
  (netsOf topo).all fun net =>
    !((tapsOn topo net).any (fun t => t.1 == p.node) &&
      (tapsOn topo net).any (fun t => t.2.1.arpIps.contains p.nextHop)) ||
    (outNet topo p == some net)

theorem sharedOnce_of_check (topo : Topo) (p : Pending) (h : sharedOnceB topo p = true) : SharedOnce topo p := by
  intro net ⟨nd, mac, hon⟩ ⟨mac', n', nd', hcl, hc⟩
  simp only [sharedOnceB, List.all_eq_true] at h
  have := h net (net_mem_of_tap hon)
  simp only [Bool.or_eq_true, Bool.not_eq_true', Bool.and_eq_false_iff, beq_iff_eq] at this
  rcases this with (h1 | h1) | h1
  · have : (tapsOn topo net).any (fun t => t.1 == p.node) = true :=
      List.any_eq_true.2 ⟨_, hon, by simp⟩
    rw [this] at h1; cases h1
  · have : (tapsOn topo net).any (fun t => t.2.1.arpIps.contains p.nextHop) = true :=
      List.any_eq_true.2 ⟨_, hcl, hc⟩
    rw [this] at h1; cases h1
  · exact h1

def cchoiceOkB (k : Nat) (s : CState) : CChoice → Bool
  | .send _ pkt => pkt.tok != k
  | .inject f => f.pkt.tok != k
  | .task j =>
    match s.tasks[j]? with
    | none => true
    | some t => t.p.pkt.tok != k || (((s.caches[t.p.node]?).getD []).answer t.p.nextHop).isSome || t.tries != 0
  | _ => true

def arpInTimeB (topo : Topo) (k : Nat) : CState → List CChoice → Bool
  | _, [] => true
  | s, c :: cs =>
    cchoiceOkB k s c &&
      match cstep topo s c with
      | .ok s' => arpInTimeB topo k s' cs
      | .error _ => true

theorem arpInTime_of_check (topo : Topo) (k : Nat) : ∀ (cs : List CChoice) (s : CState),
    arpInTimeB topo k s cs = true → ArpInTime topo k s cs
  | [], _, _ => trivial
  | c :: cs, s, h => by
    simp only [arpInTimeB, Bool.and_eq_true] at h
    refine ⟨?_, ?_⟩
    · cases c with
      | send _ pkt => simpa [cchoiceOkB, CChoiceOk] using h.1
      | inject f => simpa [cchoiceOkB, CChoiceOk] using h.1
      | deliver _ => trivial
      | arp _ => trivial
      | task j =>
        intro t ht hk hm
        have h1 := h.1
        simp only [cchoiceOkB, ht, Bool.or_eq_true, bne_iff_ne, ne_eq] at h1
        rcases h1 with (h1 | h1) | h1
        · exact absurd hk h1
        · rw [hm] at h1; cases h1
        · exact h1
    · intro s' hs
      have h2 := h.2
      rw [hs] at h2
      exact arpInTime_of_check topo k cs s' h2

/-! ## non-vacuity: the two-subnet topology of Props/C16.lean, ARP as coded, a whole run -/

namespace Example2
open Example

theorem topo_wf : TopoWf topo := topoWf_of_check topo (by decide +kernel) (by decide +kernel)

/-- the forward the router makes for the datagram -/
def p1 : Pending :=
  { node := 2, slot := 1, loc := ipR1, nextHop := ipB, viaRouter := true, pkt := (pkt 30).withTtl 29 }

/-- the static routes of the example form a path of one router, with `SharedOnce` at both hops -/
theorem routeS : RouteS topo 1 5001 [7, 9] 1 p0 := by
  refine .forward 0 p0 1 hostA 0 0 2 router 0 ⟨167772416, 24, none, 1⟩ ipR1
    (sharedOnce_of_check topo p0 (by decide +kernel))
    (by decide +kernel) (by decide +kernel) (by decide +kernel) (by decide +kernel) (by decide +kernel) (by decide +kernel) (by decide +kernel) (by decide +kernel)
    (by decide +kernel) (by decide +kernel) (by decide +kernel) (by decide +kernel) ?_
  exact .deliver _ 0 router 1 1 hostB 0 (sharedOnce_of_check topo _ (by decide +kernel))
    (by decide +kernel) (by decide +kernel) (by decide +kernel) (by decide +kernel) (by decide +kernel)
    (by decide +kernel) (by decide +kernel) (by decide +kernel) (by decide +kernel)

/-- what happens after the send: host A asks for the router (broadcast, answered, learned), sends;
    the router forwards: asks for B, is answered, sends; B's application gets the data -/
def sched : List CChoice :=
  [.task 0, .arp 0, .arp 0, .task 0, .deliver 0, .task 0, .arp 0, .arp 0, .task 0, .deliver 0]

def quietB (s : CState) : Bool := s.flight.all (fun f => f.pkt.tok != 1) && s.tasks.all (fun t => t.p.pkt.tok != 1)

/-- the theorem applies to this run, and says what the run shows -/
example : ∃ s, crun topo (CState.init topo) (.send 0 (pkt 30) :: sched) = .ok s ∧
    appsOf 1 s.log = [(1, 5001, [7, 9])] := by
  cases hrun : crun topo (CState.init topo) (.send 0 (pkt 30) :: sched) with
  | error e =>
    have : (match crun topo (CState.init topo) (.send 0 (pkt 30) :: sched) with
      | .ok _ => true | .error _ => false) = true := by decide +kernel
    rw [hrun] at this; cases this
  | ok s =>
    have hq : quietB s = true := by
      have : (match crun topo (CState.init topo) (.send 0 (pkt 30) :: sched) with
        | .ok s => quietB s | .error _ => false) = true := by decide +kernel
      rw [hrun] at this; exact this
    simp only [quietB, Bool.and_eq_true, List.all_eq_true, bne_iff_ne, ne_eq] at hq
    refine ⟨s, rfl, ?_⟩
    refine c16_delivery topo topo_wf 1 1 5001 [7, 9] 1 (CState.init topo) (cinv_init topo) 0 (pkt 30) p0 sched s
      ⟨by simp [CState.init], by simp [CState.init], by simp [CState.init, appsOf]⟩ rfl (by decide +kernel)
      routeS (by decide) hrun (arpInTime_of_check topo 1 sched _ (by decide +kernel)) ⟨hq.1, hq.2⟩

/-- and the outcome the theorem predicts is the one the evaluated run has -/
example :
    (match crun topo (CState.init topo) (.send 0 (pkt 30) :: sched) with
     | .ok s => appsOf 1 s.log == [(1, 5001, [7, 9])] && s.flight.isEmpty && s.tasks.isEmpty
     | .error _ => false) = true := by decide +kernel

end Example2

end Elvis.Router
