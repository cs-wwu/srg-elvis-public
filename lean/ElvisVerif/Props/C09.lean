import ElvisVerif.Lemmas.Subnet
import ElvisVerif.Lemmas.Cidr
import ElvisVerif.Lemmas.IpTable
import ElvisVerif.Lemmas.SubnetKernels
/-!
# C09 — Route lookup is longest-prefix match over consistent subnet arithmetic

* Networks: every public constructor yields a well-formed `Ipv4Net` (`Net.WF`: one of the 33 prefix
  masks, id without host bits); the statements about `contains`, `broadcast`, `overlaps`, ranges
  and CIDR text are about well-formed networks.
* Table: for every history of `add/remove/add_direct/remove_direct/add_cidr/remove_cidr` from an empty
  table, `get_recipient` is the longest-prefix match over the abstract map the history denotes
  (`Spec.denote`: last add wins, remove deletes), by the invariant "strictly sorted by
  `Obm::cmp` and equal, as a set of pairs, to the abstract map" (`c09_table_represents`), proved by
  induction over the history.  Hence the table, its iteration order and every lookup depend only
  on the denoted map.
* The small arithmetic kernels are also extracted from the Rust source on every run
  (`Generated/SubnetKernels.lean`); `c09_kernels_match_source` ties the hand model to them.
-/
namespace Elvis.Subnet
open Elvis.IpTable Elvis.IpTable.Spec

/-- the conversion never panics and each error kind is characterised:
    `Empty` ⇔ start > end; `Size` ⇔ the length is not a power of two; `Start` ⇔ misaligned -/
theorem c09_range_classify (s e : Addr) :
    (e < s ∧ Net.tryFromRange s e = .ok (.error .empty)) ∨
    (s ≤ e ∧ (¬ ∃ k, k ≤ 32 ∧ e.toNat - s.toNat + 1 = 2 ^ k) ∧
        Net.tryFromRange s e = .ok (.error .size)) ∨
    (s ≤ e ∧ (∃ k, k ≤ 32 ∧ e.toNat - s.toNat + 1 = 2 ^ k ∧ s.toNat % 2 ^ k ≠ 0) ∧
        Net.tryFromRange s e = .ok (.error .start)) ∨
    (s ≤ e ∧ ∃ k, k ≤ 32 ∧ e.toNat - s.toNat + 1 = 2 ^ k ∧ s.toNat % 2 ^ k = 0 ∧
        Net.tryFromRange s e = .ok (.ok { id := s, mask := Mask.fromBitcount (32 - k) })) := by
  by_cases hse : s > e
  · left; exact ⟨hse, by unfold Net.tryFromRange; rw [if_pos hse]⟩
  · right
    have hle : s.toNat ≤ e.toNat := by rw [gt_iff_lt, BitVec.lt_def] at hse; omega
    have hle' : s ≤ e := by rw [BitVec.le_def]; exact hle
    by_cases hk : ∃ k, k ≤ 32 ∧ e.toNat - s.toNat + 1 = 2 ^ k
    · obtain ⟨k, hk32, hsz⟩ := hk
      have hb := Net.tryFromRange_block hle hk32 hsz
      by_cases hmod : s.toNat % 2 ^ k = 0
      · right; right
        exact ⟨hle', k, hk32, hsz, hmod, by rw [hb, if_pos hmod]⟩
      · right; left
        exact ⟨hle', ⟨k, hk32, hsz, hmod⟩, by rw [hb, if_neg hmod]⟩
    · left
      refine ⟨hle', hk, ?_⟩
      unfold Net.tryFromRange
      rw [if_neg hse, if_neg (by omega)]
      dsimp only
      split
      · rfl
      · rename_i m hm
        exfalso
        obtain ⟨⟨j, hj, rfl⟩, hmb⟩ := Mask.tryFrom_ok hm
        exact hk ⟨32 - j, by omega, mask_not_sub hle hj hmb⟩

/-- an address range converts to a network exactly when it is an aligned power-of-two block -/
theorem c09_range_to_net_iff (s e : Addr) (n : Net) :
    Net.tryFromRange s e = .ok (.ok n) ↔
      s ≤ e ∧ ∃ k, k ≤ 32 ∧ e.toNat - s.toNat + 1 = 2 ^ k ∧ s.toNat % 2 ^ k = 0 ∧
        n = { id := s, mask := Mask.fromBitcount (32 - k) } := by
  constructor
  · intro h
    rcases c09_range_classify s e with ⟨_, h'⟩ | ⟨_, _, h'⟩ | ⟨_, _, h'⟩ | ⟨hle, k, hk, hsz, hmod, h'⟩
    · rw [h'] at h; cases h
    · rw [h'] at h; cases h
    · rw [h'] at h; cases h
    · rw [h'] at h
      injection h with h
      injection h with h
      exact ⟨hle, k, hk, hsz, hmod, h.symm⟩
  · intro ⟨hle, k, hk, hsz, hmod, hn⟩
    rw [Net.tryFromRange_block (BitVec.le_def.1 hle) hk hsz, if_pos hmod, hn]

/-- every public way to obtain an `Ipv4Net` establishes the representation invariant -/
theorem c09_constructors_wf :
    (∀ ip m, Mask.WF m → (Net.new ip m).WF) ∧
    (∀ ip len, (Net.newShort ip len).WF) ∧
    (∀ ip, (Net.new1 ip).WF) ∧
    Net.loopback.WF ∧
    (∀ s n, Net.fromCidr s = .ok n → n.WF) ∧
    (∀ s e n, Net.tryFromRange s e = .ok (.ok n) → n.WF) ∧
    (∀ size, (Mask.fromBitcount size).WF) ∧
    (∀ m r, Mask.tryFrom m = .ok r → r.WF) := by
  refine ⟨Net.wf_new, Net.wf_newShort, Net.wf_new1, Net.wf_loopback, fun _ _ => Net.wf_fromCidr,
    ?_, Mask.wf_fromBitcount, fun _ _ h => (Mask.tryFrom_ok h).1⟩
  intro s e n h
  obtain ⟨_, k, hk, _, hmod, rfl⟩ := (c09_range_to_net_iff s e n).1 h
  exact Net.wf_block hk hmod

example : (Net.newShort 0x0A000077#32 24).WF ∧ (Net.newShort 0x0A000077#32 24).id = 0x0A000000#32 :=
  ⟨Net.wf_newShort _ _, by decide⟩

/-- `broadcast` never overflows on a network; it is `id + 2^(32-len) - 1` -/
theorem c09_broadcast_no_overflow (n : Net) (h : n.WF) :
    ∃ b, n.broadcast = .ok b ∧ b.toNat = n.id.toNat + 2 ^ (32 - len n) - 1 ∧ n.id ≤ b := by
  obtain ⟨b, hb, eb⟩ := Net.broadcast_ok h
  refine ⟨b, hb, eb, ?_⟩
  rw [BitVec.le_def, eb]
  have := h.facts.pos
  unfold Net.size at *
  omega

/-- a network contains exactly the addresses from its id to its broadcast address -/
theorem c09_contains_iff (n : Net) (h : n.WF) :
    ∃ b, n.broadcast = .ok b ∧ ∀ a : Addr, (n.contains a = true ↔ n.id ≤ a ∧ a ≤ b) := by
  obtain ⟨b, hb, eb⟩ := Net.broadcast_ok h
  refine ⟨b, hb, ?_⟩
  intro a
  rw [Net.contains_iff h, BitVec.le_def, BitVec.le_def, eb]

/-- two networks overlap exactly when their address ranges intersect -/
theorem c09_overlaps_iff (a b : Net) (ha : a.WF) (hb : b.WF) :
    ∃ r, a.overlaps b = .ok r ∧
      (r = true ↔ ∃ x : Addr, a.contains x = true ∧ b.contains x = true) := by
  refine ⟨_, Net.overlaps_ok ha hb, ?_⟩
  rw [decide_eq_true_iff]
  have pa := ha.facts.pos
  have pb := hb.facts.pos
  constructor
  · intro ⟨h1, h2⟩
    by_cases hc : a.id.toNat ≤ b.id.toNat
    · refine ⟨b.id, ?_, Net.contains_id hb⟩
      rw [Net.contains_iff ha]; omega
    · refine ⟨a.id, Net.contains_id ha, ?_⟩
      rw [Net.contains_iff hb]; omega
  · intro ⟨x, h1, h2⟩
    rw [Net.contains_iff ha] at h1
    rw [Net.contains_iff hb] at h2
    omega

theorem c09_overlaps_symm (a b : Net) (ha : a.WF) (hb : b.WF) : a.overlaps b = b.overlaps a := by
  rw [Net.overlaps_ok ha hb, Net.overlaps_ok hb ha]
  congr 1
  rw [decide_eq_decide]
  exact And.comm

/-- the range of a network obtained from a range is the range that was converted, and conversely
    the range of any network converts back to it -/
theorem c09_range_roundtrip :
    (∀ s e n, Net.tryFromRange s e = .ok (.ok n) → n.range = .ok (s, e)) ∧
    (∀ n : Net, n.WF → ∃ b, n.range = .ok (n.id, b) ∧ Net.tryFromRange n.id b = .ok (.ok n)) := by
  constructor
  · intro s e n h
    obtain ⟨hle, k, hk, hsz, hmod, rfl⟩ := (c09_range_to_net_iff s e n).1 h
    obtain ⟨b, hr, eb⟩ := Net.range_ok (Net.wf_block hk hmod)
    rw [hr]
    congr 2
    apply BitVec.eq_of_toNat_eq
    rw [eb, Net.size_block s hk]
    rw [BitVec.le_def] at hle
    show s.toNat + 2 ^ k - 1 = e.toNat
    omega
  · intro n h
    obtain ⟨b, hr, eb⟩ := Net.range_ok h
    refine ⟨b, hr, ?_⟩
    have f := h.facts
    obtain ⟨em, lm⟩ := h.1.eq
    rw [c09_range_to_net_iff]
    have hsz : n.size = 2 ^ (32 - n.mask.countOnes) := rfl
    refine ⟨by rw [BitVec.le_def, eb]; have := f.pos; omega, 32 - n.mask.countOnes, by omega, ?_, ?_, ?_⟩
    · rw [eb, hsz]; have := Nat.two_pow_pos (32 - n.mask.countOnes); omega
    · rw [← hsz]; exact f.idMod
    · rw [Nat.sub_sub_self lm, ← em]

example : Net.tryFromRange 0x2D000081#32 0x2D000084#32 = .ok (.error .start) := by decide
example : Net.tryFromRange 0#32 0xFFFFFFFF#32 = .ok (.ok (Net.newShort 0#32 0)) := by decide

/-- the 33 prefix masks: `from_bitcount k` has `k` ones, is the `k` high bits, is accepted by
    `try_from`, the numeric order of masks is the order of lengths, and lengths above 32 clamp -/
theorem c09_mask_table :
    (∀ k, k ≤ 32 → (Mask.fromBitcount k).countOnes = k ∧
        (Mask.fromBitcount k).bits.toNat = 2 ^ 32 - 2 ^ (32 - k) ∧
        Mask.tryFrom (Mask.fromBitcount k).bits = .ok (Mask.fromBitcount k)) ∧
    (∀ i j, i ≤ 32 → j ≤ 32 → ((Mask.fromBitcount i).bits ≤ (Mask.fromBitcount j).bits ↔ i ≤ j)) ∧
    (∀ k, 32 ≤ k → Mask.fromBitcount k = Mask.fromBitcount 32) := by
  refine ⟨fun k hk => ⟨countOnes_fromBitcount hk, fromBitcount_toNat hk, Mask.tryFrom_fromBitcount hk⟩,
    fun i j hi hj => fromBitcount_le_iff hi hj, ?_⟩
  intro k hk
  rw [fromBitcount_clamp]
  congr 1
  omega

/-- `try_from` accepts exactly the 33 prefix masks (and hands the value back otherwise) -/
theorem c09_mask_try_from_iff (m : BitVec 32) :
    (∀ r, Mask.tryFrom m = .ok r ↔ ∃ k, k ≤ 32 ∧ r = Mask.fromBitcount k ∧ r.bits = m) ∧
    (∀ x, Mask.tryFrom m = .error x ↔ x = m ∧ ∀ k, (Mask.fromBitcount k).bits ≠ m) := by
  constructor
  · intro r
    constructor
    · intro h
      obtain ⟨⟨k, hk, rfl⟩, hb⟩ := Mask.tryFrom_ok h
      exact ⟨k, hk, rfl, hb⟩
    · intro ⟨k, hk, hr, hb⟩
      subst hr
      rw [← hb]
      exact Mask.tryFrom_fromBitcount hk
  · intro x
    constructor
    · exact Mask.tryFrom_error
    · intro ⟨hx, hk⟩
      cases h : Mask.tryFrom m with
      | ok r =>
        obtain ⟨⟨k, _, rfl⟩, hb⟩ := Mask.tryFrom_ok h
        exact absurd hb (hk k)
      | error y => rw [(Mask.tryFrom_error h).1, hx]

/-- sizes: a `/k` network has `2^(32-k)` addresses, `2^(32-k) - 2` usable ones (0 for /31, /32) -/
theorem c09_mask_sizes : ∀ k, k ≤ 32 →
    (Mask.fromBitcount k).ipsInNet = 2 ^ (32 - k) ∧
    (Mask.fromBitcount k).usableIps = 2 ^ (32 - k) - 2 := by
  intro k hk
  have hn : (~~~ (Mask.fromBitcount k).bits).toNat = 2 ^ (32 - k) - 1 := by
    rw [BitVec.toNat_not, fromBitcount_toNat hk]
    have : 2 ^ (32 - k) ≤ 2 ^ 32 := Nat.pow_le_pow_right (by omega) (by omega)
    omega
  have hp := Nat.two_pow_pos (32 - k)
  unfold Mask.ipsInNet Mask.usableIps
  simp only [hn]
  refine ⟨by omega, ?_⟩
  split <;> omega

/-- CIDR text: rendering `ip/len` and parsing it gives back `ip` and the mask of that length
    (lengths above 32 are clamped by `from_bitcount`, as in the code) -/
theorem c09_cidr_roundtrip (ip : Addr) (k : Nat) (hk : k < 2 ^ 32) :
    cidrToIp (renderCidr ip k) = .ok (ip, Mask.fromBitcount k) := by
  unfold cidrToIp renderCidr
  rw [List.append_assoc, List.singleton_append, splitOn_append 47 _ _ (slash_not_in_ip ip),
    splitOn_no_sep 47 _ (slash_not_in_dec k)]
  simp only [ipv4FromStr_render, u32FromStr_render k hk]

/-- … and a network rendered as `id/len` (what `Debug` prints) parses back to itself -/
theorem c09_cidr_net_roundtrip (n : Net) (h : n.WF) :
    Net.fromCidr (renderCidr n.id (len n)) = .ok n := by
  obtain ⟨em, lm⟩ := h.1.eq
  unfold Net.fromCidr
  rw [c09_cidr_roundtrip n.id (len n) (by unfold len; omega)]
  simp only
  congr 1
  unfold len
  rw [← em]
  cases n with
  | mk id mask =>
    simp only [Net.new]
    congr 1
    exact h.2

example : renderCidr 0x0A000000#32 24 = [49, 48, 46, 48, 46, 48, 46, 48, 47, 50, 52] := by decide  -- "10.0.0.0/24"

/-- what `cidr_to_ip` accepts beyond strict `a.b.c.d/len` notation, and what it rejects (observed
    contract, see notes/C09.md): further `/`-parts are ignored, a `+` sign is allowed, lengths
    above 32 clamp; a missing `/`, a leading zero or an octet above 255, an empty or overflowing length
    are errors -/
theorem c09_cidr_leniency :
    cidrToIp [49, 46, 50, 46, 51, 46, 52, 47, 56, 47, 57] = .ok (0x01020304#32, Mask.fromBitcount 8) ∧  -- "1.2.3.4/8/9"
    cidrToIp [49, 46, 50, 46, 51, 46, 52, 47, 43, 56] = .ok (0x01020304#32, Mask.fromBitcount 8) ∧      -- "1.2.3.4/+8"
    cidrToIp [49, 46, 50, 46, 51, 46, 52, 47, 51, 51] = .ok (0x01020304#32, Mask.fromBitcount 32) ∧     -- "1.2.3.4/33"
    cidrToIp [49, 46, 50, 46, 51, 46, 52] = .error .ipv4 ∧                                               -- "1.2.3.4"
    cidrToIp [48, 49, 46, 50, 46, 51, 46, 52, 47, 56] = .error .ipv4 ∧                                   -- "01.2.3.4/8"
    cidrToIp [49, 46, 50, 46, 51, 46, 50, 53, 54, 47, 56] = .error .ipv4 ∧                               -- "1.2.3.256/8"
    cidrToIp [49, 46, 50, 46, 51, 46, 52, 47] = .error .mask ∧                                           -- "1.2.3.4/"
    cidrToIp [49, 46, 50, 46, 51, 46, 52, 47, 52, 50, 57, 52, 57, 54, 55, 50, 57, 54] = .error .mask     -- "1.2.3.4/4294967296"
    := by decide

end Elvis.Subnet

namespace Elvis.IpTable
open Elvis.Subnet Elvis.IpTable.Spec

/-- invariant of every history: the table is strictly sorted by `Obm::cmp` (so `iter()` runs from
    the longest mask to the shortest, ids ascending, no key twice) and holds exactly the pairs of
    the abstract map the history denotes -/
theorem c09_table_represents {V : Type} (ops : List (Op V)) (t : Table V) (h : run ops = .ok t) :
    Sorted t ∧ (∀ k v, (k, v) ∈ t ↔ denote ops k = some v) ∧
      (∀ k, find k t = denote ops k) := by
  have hr := rep_runFrom ops new t _ rep_empty h
  exact ⟨hr.1, hr.2, fun k => Option.ext fun v => (find_eq_some_iff t hr.1 k v).trans (hr.2 k v)⟩

theorem step_ok_iff {V : Type} (t : Table V) (op : Op V) :
    (∃ t', step t op = .ok t') ↔ ∀ s, Op.removeCidr s = op → ∃ k, Net.fromCidr s = .ok k := by
  cases op with
  | removeCidr s =>
    simp only [step]
    cases hc : Net.fromCidr s with
    | ok k => exact ⟨fun _ s' e => by cases e; exact ⟨k, hc⟩, fun _ => ⟨_, rfl⟩⟩
    | error e =>
      refine ⟨fun ⟨_, h⟩ => (nomatch h), fun h => ?_⟩
      obtain ⟨k, hk⟩ := h s rfl
      rw [hc] at hk; cases hk
  | addCidr s v =>
    refine ⟨fun _ _ e => (nomatch e), fun _ => ?_⟩
    simp only [step]
    split <;> exact ⟨_, rfl⟩
  | add k v | remove k | addDirect ip v | removeDirect ip =>
    exact ⟨fun _ _ e => (nomatch e), fun _ => ⟨_, rfl⟩⟩

/-- a history panics only in `remove_cidr` on text `from_cidr` rejects (the doc comment of
    `IpTable::remove_cidr` says so) -/
theorem c09_run_ok_iff {V : Type} (ops : List (Op V)) :
    (∃ t, run ops = .ok t) ↔ ∀ s, Op.removeCidr s ∈ ops → ∃ k, Net.fromCidr s = .ok k := by
  unfold run
  generalize (new : Table V) = t0
  induction ops generalizing t0 with
  | nil => simp [runFrom]
  | cons op ops ih =>
    simp only [List.mem_cons, or_imp, forall_and]
    rw [← step_ok_iff t0 op]
    simp only [runFrom]
    cases hs : step t0 op with
    | ok t1 => simp only [ih]; exact ⟨fun h => ⟨⟨t1, rfl⟩, h⟩, fun h => h.2⟩
    | error e => exact ⟨fun ⟨_, h⟩ => (nomatch h), fun ⟨⟨_, h⟩, _⟩ => (nomatch h)⟩

/-- the keys of the denoted map are networks (given that the nets handed to add/remove are) -/
theorem c09_keys_wf {V : Type} (ops : List (Op V)) (hops : ∀ op ∈ ops, Op.WF op) :
    MapWF (denote ops) :=
  mapwf_denoteFrom ops _ mapwf_empty hops

/-- For every history, looking an address up returns the value attached to the
    most specific network (longest mask) of the denoted map that contains the address, or nothing
    if none does. -/
theorem c09_lpm {V : Type} (ops : List (Op V)) (hops : ∀ op ∈ ops, Op.WF op) (t : Table V)
    (h : run ops = .ok t) (a : Addr) : IsLpm (denote ops) a (getRecipient t a) :=
  getRecipient_isLpm (rep_runFrom ops new t _ rep_empty h) (c09_keys_wf ops hops) a

/-- the specification is deterministic: there is exactly one longest-prefix answer -/
theorem c09_lpm_unique {V : Type} (m : AMap V) (hw : MapWF m) (a : Addr) (r1 r2 : Option V)
    (h1 : IsLpm m a r1) (h2 : IsLpm m a r2) : r1 = r2 := by
  rcases h1 with ⟨e1, n1⟩ | ⟨k1, v1, m1, c1, e1, x1⟩ <;>
    rcases h2 with ⟨e2, n2⟩ | ⟨k2, v2, m2, c2, e2, x2⟩
  · rw [e1, e2]
  · have := n1 k2 v2 m2; rw [c2] at this; cases this
  · have := n2 k1 v1 m1; rw [c1] at this; cases this
  · have l1 := x1 k2 v2 m2 c2
    have l2 := x2 k1 v1 m1 c1
    have hk : k1 = k2 := net_unique (hw k1 v1 m1) (hw k2 v2 m2) (by omega) c1 c2
    subst hk
    rw [m1] at m2
    rw [e1, e2, m2]

/-- functional form: the lookup is "try `a/32, a/31, …, a/0` as keys of the denoted map" -/
theorem c09_lpm_fun {V : Type} (ops : List (Op V)) (hops : ∀ op ∈ ops, Op.WF op) (t : Table V)
    (h : run ops = .ok t) (a : Addr) : getRecipient t a = lpm (denote ops) a :=
  c09_lpm_unique _ (c09_keys_wf ops hops) a _ _ (c09_lpm ops hops t h a) (lpm_isLpm (c09_keys_wf ops hops) a)

/-- two histories that denote the same map give the same table — same iteration order, same
    answer to every lookup — whatever the order of the adds and removes -/
theorem c09_order_independent {V : Type} (ops1 ops2 : List (Op V)) (t1 t2 : Table V)
    (h1 : run ops1 = .ok t1) (h2 : run ops2 = .ok t2)
    (hd : ∀ k, denote ops1 k = denote ops2 k) :
    t1 = t2 ∧ ∀ a, getRecipient t1 a = getRecipient t2 a := by
  have r1 := rep_runFrom ops1 new t1 _ rep_empty h1
  have r2 := rep_runFrom ops2 new t2 _ rep_empty h2
  have : t1 = t2 := by
    apply sorted_ext t1 t2 r1.1 r2.1
    intro ⟨k, v⟩
    rw [r1.2, r2.2]
    show denote ops1 k = some v ↔ denote ops2 k = some v
    rw [hd]
  exact ⟨this, fun a => by rw [this]⟩

/-- adding a network twice replaces its value (and the second add returns the first value) -/
theorem c09_add_replaces {V : Type} (t : Table V) (k : Net) (v w : V) :
    (add (add t k v).2 k w).2 = (add t k w).2 ∧
    (Sorted t → (add (add t k v).2 k w).1 = some v) := by
  constructor
  · show insert k w (insert k v t) = insert k w t
    induction t with
    | nil => simp [insert, (obm_eq_iff k k).2 rfl]
    | cons hd t ih =>
      obtain ⟨h, hv⟩ := hd
      simp only [insert]
      cases hc : obmCmp k h with
      | lt => simp only [insert, (obm_eq_iff k k).2 rfl]
      | eq => simp only [insert, hc]
      | gt => simp only [insert, hc, ih]
  · intro hs
    show find k (insert k v t) = some v
    obtain ⟨hs', hm⟩ := insert_spec k v t hs
    rw [find_eq_some_iff _ hs', hm]
    exact Or.inl ⟨rfl, rfl⟩

/-- `IpTable::default_gateway(r)` never panics and answers every lookup with `r` -/
theorem c09_default_gateway {V : Type} (r : V) :
    ∃ t, defaultGateway r = .ok t ∧ ∀ a, getRecipient t a = some r := by
  have hc : Net.fromCidr [48, 46, 48, 46, 48, 46, 48, 47, 48] = .ok (Net.newShort 0#32 0) := by decide
  refine ⟨insert (Net.newShort 0#32 0) r new, ?_, ?_⟩
  · unfold defaultGateway; rw [hc]
  · intro a
    have : (Net.newShort 0#32 0).contains a = true := by
      have hz : (Mask.fromBitcount 0).bits = 0#32 := by decide
      simp [Net.contains, Net.newShort, Net.new, hz]
    simp [insert, new, getRecipient, this]

/-! ### non-vacuity: a concrete history with nested networks, a replacement and a removal -/

def exNet (a : Nat) (l : Nat) : Net := Net.newShort (BitVec.ofNat 32 a) l

def exOps : List (Op Nat) :=
  [.add (exNet 0x01010100 24) 2, .add (exNet 0x01000000 8) 0, .add (exNet 0x01010000 16) 1,
   .addDirect 0x01010102#32 6, .add (exNet 0x010101FF 24) 20, .remove (exNet 0x01010102 32),
   .addCidr [49, 46, 49, 46, 49, 46, 48, 47, 50, 53] 7]  -- "1.1.1.0/25"

theorem exOps_wf : ∀ op ∈ exOps, Op.WF op := by
  intro op h
  simp only [exOps, List.mem_cons, List.not_mem_nil, or_false] at h
  rcases h with rfl | rfl | rfl | rfl | rfl | rfl | rfl <;>
    first | exact Net.wf_newShort _ _ | trivial

example : ∀ op ∈ exOps, Op.WF op := exOps_wf

example : MapWF (denote exOps) := c09_keys_wf exOps exOps_wf

example : ∃ t, run exOps = .ok t ∧
    getRecipient t 0x01010102#32 = some 7 ∧       -- the /25 added last by text is most specific
    getRecipient t 0x01010181#32 = some 20 ∧      -- upper half: the replaced /24
    getRecipient t 0x01017001#32 = some 1 ∧       -- the /16
    getRecipient t 0x01800001#32 = some 0 ∧       -- the /8
    getRecipient t 0x02000001#32 = none ∧
    t.map (fun e => (e.1.id.toNat, len e.1)) =
      [(0x01010100, 25), (0x01010100, 24), (0x01010000, 16), (0x01000000, 8)] := by
  refine ⟨_, rfl, ?_⟩
  decide

end Elvis.IpTable

namespace Elvis.Subnet
open Elvis.IpTable

/-- the hand-written model equals the kernels translated from the Rust source
    (`Generated/SubnetKernels.lean`, every checked `u32` operation able to fail): `from_bitcount`,
    `new`, `new_1`, `id`, `contains`, `Obm::cmp` never panic and compute what the model says;
    `broadcast` / `overlaps` fail exactly where the model does -/
theorem c09_kernels_match_source :
    (∀ size : BitVec 32, Gen.Subnet.Ipv4Mask.from_bitcount size = .ok (Mask.fromBitcount size.toNat).toGen) ∧
    (∀ ip m, Gen.Subnet.Ipv4Net.new ip (Mask.toGen m) = .ok (Net.new ip m).toGen) ∧
    (∀ ip, Gen.Subnet.Ipv4Net.new_1 ip = .ok (Net.new1 ip).toGen) ∧
    (∀ n : Net, Gen.Subnet.Ipv4Net.id n.toGen = .ok n.id) ∧
    (∀ n : Net, Gen.Subnet.Ipv4Net.broadcast n.toGen = n.broadcast) ∧
    (∀ (n : Net) a, Gen.Subnet.Ipv4Net.contains n.toGen a = .ok (n.contains a)) ∧
    (∀ a b : Net, Gen.Subnet.Ipv4Net.overlaps a.toGen b.toGen = a.overlaps b) ∧
    (∀ a b : Net, Gen.Subnet.Obm.cmp ⟨a.toGen⟩ ⟨b.toGen⟩ = .ok (obmCmp a b)) :=
  ⟨gen_from_bitcount, gen_new, gen_new_1, gen_id, gen_broadcast, gen_contains, gen_overlaps, gen_obm_cmp⟩

end Elvis.Subnet
