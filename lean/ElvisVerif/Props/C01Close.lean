import ElvisVerif.Props.C03FinData
/-!
# C01 — stream safety and exactly-once when the applications call `close()`

`c01_safety` / `c01_exactly_once` (`Props/C01Safety.lean`) quantify over runs in which nobody closes (no FIN
is ever formed; every TCB stays in SYN-SENT / SYN-RECEIVED / ESTABLISHED).  The theorems here remove that
restriction: `Fin.FinRun` adds `close` by either side at any time.  Proof: the stream invariant
generalised to all eleven states (`Lemmas/TcpFinInv.lean` … `Lemmas/TcpFinRun.lean`).
-/
namespace Elvis.Tcp
open Elvis.ModCmp Elvis.Tcp.Tcb Elvis.Tcp.Fin

/-- **C01 safety with `close()`**: any run of C01 ops from the empty system (`C01.RunOk`: `open` / `listen`
    of a still unused side at any point, writes of any size in any state, reads, ticks, emits, drops,
    deliveries of ANY history element to the endpoint it is addressed to) followed by any `FinRun` (the
    same ops without `open` / `listen`, plus `close` by either side at any time), H31 on the final logs
    (fewer than 2^31 bytes submitted per direction): `delivered_B` is a prefix of `submitted_A` and
    `delivered_A` is a prefix of `submitted_B`; and when an endpoint's state shows FIN received
    (CLOSE-WAIT, LAST-ACK, CLOSING, TIME-WAIT), what it has delivered and buffered is ALL the peer
    submitted. -/
theorem c01_safety_with_close (iss : SideId → Seq) (ops : List Op) (hok : C01.RunOk iss {} ops)
    (sys0 sys : Sys) (rs : List Res) (e : Sys.run {} ops = .ok (sys0, rs)) (hrun : FinRun sys0 sys)
    (h31 : C01.Lt31 sys) :
    sys.b.delivered <+: sys.a.submitted ∧ sys.a.delivered <+: sys.b.submitted ∧
    ∀ x t, (sys.side x).tcb = some t → finRcvd t.state = true →
      (sys.side x).delivered ++ t.incoming.text = (sys.side x.peer).submitted := by
  obtain ⟨fin, h⟩ := C03.invF_of_run hok e hrun h31
  exact ⟨(h.side .B).pre, (h.side .A).pre, fun x t ht hf => (C03.eof_of_invF h x t ht hf).1⟩

/-- **exactly-once with `close()`** (same runs): for a TCB of side `x` out of SYN-SENT,
    `delivered_x ++ buffered` is a prefix of `submitted_peer` and
    `RCV.NXT = ISS_peer + 1 + |delivered_x ++ buffered| + [state shows FIN received]`: one sequence number per
    byte, each byte once, one for the SYN, one for the FIN. -/
theorem c01_exactly_once_with_close (iss : SideId → Seq) (ops : List Op) (hok : C01.RunOk iss {} ops)
    (sys0 sys : Sys) (rs : List Res) (e : Sys.run {} ops = .ok (sys0, rs)) (hrun : FinRun sys0 sys)
    (h31 : C01.Lt31 sys) (x : SideId) (t : Tcb) (ht : (sys.side x).tcb = some t) (hns : t.state ≠ .SynSent) :
    (sys.side x).delivered ++ t.incoming.text <+: (sys.side x.peer).submitted ∧
    t.rcv.nxt = iss x.peer + 1 + BitVec.ofNat 32
      ((sys.side x).delivered.length + t.incoming.text.length + (finRcvd t.state).toNat) := by
  obtain ⟨fin, h⟩ := C03.invF_of_run hok e hrun h31
  obtain ⟨i, _⟩ := (h.side x).tcb t ht
  exact ⟨(i.rcv1 hns).2, (i.rcv1 hns).1⟩

def closeCheck : Bool :=
  C01.runOkB (issOf 1000 5000) {} [.open .A 1000 1500, .listen .B 5000 1500] &&
  match Sys.run {} [.open .A 1000 1500, .listen .B 5000 1500] with
  | .ok (sys0, _) =>
    match finRunB sys0 (C03.finOps ++ [.deliver .B 3, .read .B, .close .B, .emit .B, .deliver .A 7]) with
    | some s =>
      decide (s.a.submitted.length < 2147483648) && decide (s.b.submitted.length < 2147483648) &&
      s.b.delivered == [1, 2, 3] && s.a.submitted == [1, 2, 3] &&
      (match s.a.tcb, s.b.tcb with
        | some ta, some tb => ta.state == .TimeWait && tb.state == .LastAck
        | _, _ => false)
    | none => false
  | .error _ => false

/-- the hypotheses of `c01_safety_with_close` on a run with closes on both sides: A writes `[1, 2, 3]` and closes,
    its FIN overtakes the data, B reads everything, closes, and its FIN (acknowledging A's) takes A to
    TIME-WAIT -/
example : ∃ sys0 s : Sys, ∃ rs, C01.RunOk (issOf 1000 5000) {} [.open .A 1000 1500, .listen .B 5000 1500] ∧
    Sys.run {} [.open .A 1000 1500, .listen .B 5000 1500] = .ok (sys0, rs) ∧ FinRun sys0 s ∧ C01.Lt31 s ∧
    s.b.delivered = [1, 2, 3] ∧ s.a.submitted = [1, 2, 3] := by
  have key : closeCheck = true := by decide
  unfold closeCheck at key
  rw [Bool.and_eq_true] at key
  obtain ⟨k0, key⟩ := key
  split at key
  · rename_i sys0 rs e0
    split at key
    · rename_i s e1
      simp only [Bool.and_eq_true, decide_eq_true_eq, beq_iff_eq] at key
      exact ⟨sys0, s, rs, C01.runOkB_sound k0, e0, finRunB_sound _ _ _ e1, ⟨key.1.1.1.1, key.1.1.1.2⟩, key.1.1.2, key.1.2⟩
    · simp at key
  · simp at key

end Elvis.Tcp
