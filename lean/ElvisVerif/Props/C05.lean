import ElvisVerif.Model.Link
import ElvisVerif.Generated.Consts
/-!
# C05 — The simulated link delivers frames as configured, to the right taps

Statements over `Model/Link.lean` for arbitrary networks, tap sets, frames, send sequences and
random draws.  Timing is at the granularity the API has: the code sleeps whole
milliseconds and carries the sub-millisecond remainder to the next frame.
-/
namespace Elvis.Link

/-- the constants of `Model/Link.lean` are the values extracted from the sources -/
theorem c05_consts :
    broadcastMac = Elvis.Gen.broadcastMac ∧ nsPerSec = Elvis.Gen.txNsPerSec ∧ nsPerMs = Elvis.Gen.txNsPerMs ∧
    broadcastMac = 2 ^ 48 - 1 ∧ Elvis.Gen.mtuDefault = 65535 ∧ broadcastMac < 2 ^ Elvis.Gen.macBits := by
  decide

structure Net.WF (n : Net) : Prop where
  nodup : n.taps.Nodup
  below : ∀ t ∈ n.taps, t < n.nextMac

/-- Attaching a tap hands out the counter value, which no earlier tap of
the network has; the invariant (all taps distinct, all below the counter) is kept. -/
theorem c05_mac_distinct (n : Net) (h : n.WF) :
    (attach n).2 = n.nextMac ∧ (attach n).2 ∉ n.taps ∧ (attach n).1.WF ∧
    (attach n).1.taps = n.taps ++ [(attach n).2] := by
  have hn : n.nextMac ∉ n.taps := fun hm => Nat.lt_irrefl _ (h.below _ hm)
  refine ⟨rfl, hn, ⟨?_, ?_⟩, rfl⟩
  · show (n.taps ++ [n.nextMac]).Nodup
    rw [List.nodup_append]
    refine ⟨h.nodup, by simp, ?_⟩
    intro a ha b hb
    simp at hb; subst hb
    intro hab; subst hab; exact hn ha
  · intro t ht
    have ht' : t ∈ n.taps ++ [n.nextMac] := ht
    show t < n.nextMac + 1
    rw [List.mem_append] at ht'
    rcases ht' with h1 | h1
    · exact Nat.lt_succ_of_lt (h.below _ h1)
    · simp at h1; subst h1; exact Nat.lt_succ_self _

theorem attachMany_WF (n : Net) (k : Nat) (h : n.WF) : (attachMany n k).WF := by
  induction k generalizing n with
  | zero => exact h
  | succ k ih => exact ih _ (c05_mac_distinct n h).2.2.1

theorem attachMany_eq (n : Net) (k : Nat) :
    attachMany n k = { n with nextMac := n.nextMac + k, taps := n.taps ++ List.range' n.nextMac k } := by
  induction k generalizing n with
  | zero => simp [attachMany]
  | succ k ih =>
    rw [attachMany, ih]
    simp [attach, List.range'_succ, Nat.add_assoc, Nat.add_comm 1 k]

theorem attachMany_nextMac (n : Net) (k : Nat) : (attachMany n k).nextMac = n.nextMac + k := by
  rw [attachMany_eq]

/-- As long as fewer than 2^48 - 1 taps were attached to a network (counter at most the broadcast
address), no tap has the broadcast address. -/
theorem c05_mac_never_broadcast (n : Net) (h : n.WF) (hc : n.nextMac ≤ broadcastMac) : broadcastMac ∉ n.taps :=
  fun hm => Nat.lt_irrefl _ (Nat.lt_of_lt_of_le (h.below _ hm) hc)

theorem fresh_WF (n : Net) (_h0 : n.nextMac = 0) (ht : n.taps = []) : n.WF :=
  ⟨by rw [ht]; exact List.nodup_nil, by rw [ht]; intro t h; cases h⟩

/-- From a fresh network the k-th tap gets MAC k, so the allocator is injective. -/
theorem c05_mac_fresh (n : Net) (h0 : n.nextMac = 0) (ht : n.taps = []) (k : Nat) :
    (attachMany n k).taps = List.range k := by
  rw [attachMany_eq, ht, h0, List.range_eq_range']
  rfl

/-- A frame to the address of a tap goes to that tap and to no other,
exactly once. -/
theorem c05_unicast_exact (n : Net) (d : Mac) (hb : d ≠ broadcastMac) (hd : d ∈ n.taps) :
    recipients n (some d) = [d] := by
  simp [recipients, hb, hd]

/-- A frame to an address no tap has reaches nobody. -/
theorem c05_unknown_dropped (n : Net) (f : Frame) (d : Mac) (hf : f.dest = some d) (hb : d ≠ broadcastMac)
    (hd : d ∉ n.taps) : deliver n f = [] := by
  simp [deliver, recipients, hf, hb, hd]

/-- A broadcast frame (`None` or the broadcast address) is handed
to every tap of the network — in particular to every tap other than the sender — once each.
(The code also hands it to the sender's own tap; the property does not forbid that.) -/
theorem c05_broadcast_all_others (n : Net) (h : n.WF) (dest : Option Mac)
    (hd : dest = none ∨ dest = some broadcastMac) :
    recipients n dest = n.taps ∧
    ∀ sender t, t ∈ n.taps → t ≠ sender → t ∈ recipients n dest ∧ (recipients n dest).count t = 1 := by
  have hr : recipients n dest = n.taps := by
    rcases hd with hd | hd <;> simp [recipients, hd]
  refine ⟨hr, fun _ t ht _ => ⟨by rw [hr]; exact ht, ?_⟩⟩
  rw [hr, h.nodup.count, if_pos ht]

/-- Whatever a tap hands up carries the message, the sender
address and the destination field of the frame as sent, and the MTU of the network. -/
theorem c05_payload_sender_unchanged (n : Net) (f : Frame) (r : Received) (hr : r ∈ deliver n f) :
    r.msg = f.msg ∧ r.source = f.sender ∧ r.destination = f.dest ∧ r.mtu = n.mtu ∧ r.tap ∈ recipients n f.dest := by
  simp only [deliver, List.mem_map] at hr
  obtain ⟨t, ht, rfl⟩ := hr
  exact ⟨rfl, rfl, rfl, rfl, ht⟩

theorem recipients_sublist (n : Net) (dest : Option Mac) : (recipients n dest).Sublist n.taps := by
  unfold recipients
  cases dest with
  | none => exact List.Sublist.refl _
  | some d =>
    dsimp only
    split
    · exact List.Sublist.refl _
    · split
      · exact List.singleton_sublist.2 ‹_›
      · exact List.nil_sublist _

theorem deliver_count (n : Net) (h : n.WF) (f : Frame) (t : Mac) :
    ((deliver n f).filter (fun r => r.tap = t)).length = if t ∈ recipients n f.dest then 1 else 0 := by
  -- counting the deliveries to `t` is counting `t` among the recipients, which are distinct
  rw [← ((recipients_sublist n f.dest).nodup h.nodup).count, deliver, ← List.countP_eq_length_filter, List.countP_map,
    List.count_eq_countP]
  apply List.countP_congr
  intro x _
  show decide (x = t) = true ↔ (x == t) = true
  rw [decide_eq_true_iff, beq_iff_eq]

theorem runSends_frames (n : Net) (m : Medium) (sends : List Send) :
    (runSends n m sends).map (·.frame) = (sends.filter fun s => !s.choice.lost).map (·.frame) := by
  fun_induction runSends n m sends with
  | case1 => rfl
  | case2 m s rest hlost ih => rw [List.filter_cons_of_neg (by simp [hlost]), ih]
  | case3 m s rest hlost r ih => rw [List.filter_cons_of_pos (by simp [hlost]), List.map_cons, List.map_cons, ih]

theorem mem_runSends {n : Net} {m : Medium} {sends : List Send} {o : WireOut} (ho : o ∈ runSends n m sends) :
    ∃ s ∈ sends, ∃ m', o = { frame := s.frame, timing := (transmit m' s.t0 s.frame.msg.length s.choice).2,
                             received := deliver n s.frame } := by
  fun_induction runSends n m sends with
  | case1 => cases ho
  | case2 m s rest _ ih =>
    obtain ⟨s', hs', h'⟩ := ih ho
    exact ⟨s', List.mem_cons_of_mem _ hs', h'⟩
  | case3 m s rest _ r ih =>
    rcases List.mem_cons.mp ho with rfl | h
    · exact ⟨s, List.mem_cons_self, m, rfl⟩
    · obtain ⟨s', hs', h'⟩ := ih h
      exact ⟨s', List.mem_cons_of_mem _ hs', h'⟩

/-- On a loss-free network every frame handed to the network
comes out exactly once, in queue order, and is handed exactly once to each of its recipients
and never to any other tap. -/
theorem c05_exactly_once_lossfree (n : Net) (h : n.WF) (m : Medium) (sends : List Send)
    (hl : ∀ s ∈ sends, s.choice.lost = false) :
    (runSends n m sends).map (·.frame) = sends.map (·.frame) ∧
    ∀ o ∈ runSends n m sends, ∀ t,
      (o.received.filter (fun r => r.tap = t)).length = if t ∈ recipients n o.frame.dest then 1 else 0 := by
  refine ⟨by rw [runSends_frames, List.filter_eq_self.2 fun s hs => by rw [hl s hs]; rfl], ?_⟩
  intro o ho t
  obtain ⟨s, _, m', rfl⟩ := mem_runSends ho
  exact deliver_count n h s.frame t

/-- with losses frames may vanish but are never duplicated or reordered -/
theorem c05_never_duplicated (n : Net) (m : Medium) (sends : List Send) :
    List.Sublist ((runSends n m sends).map (·.frame)) (sends.map (·.frame)) := by
  rw [runSends_frames]
  exact List.filter_sublist.map _

/-- the frames handed to `Network::send` so far -/
structure Sys where
  net : Net
  onWire : List Frame

def Sys.sendPci (s : Sys) (f : Frame) : Sys × Except SendErr Unit :=
  match Elvis.Link.sendPci s.net f with
  | .ok f' => ({ s with onWire := s.onWire ++ [f'] }, .ok ())
  | .error e => (s, .error e)

/-- A frame longer than the MTU is refused with an error and nothing is put
on the wire; a frame of exactly the MTU (or shorter) is accepted and goes on the wire unchanged. -/
theorem c05_mtu_refused (s : Sys) (f : Frame) :
    (f.msg.length > s.net.mtu → s.sendPci f = (s, .error (.mtu s.net.mtu))) ∧
    (f.msg.length ≤ s.net.mtu → s.sendPci f = ({ s with onWire := s.onWire ++ [f] }, .ok ())) ∧
    (f.msg.length = s.net.mtu → (s.sendPci f).2 = .ok ()) := by
  refine ⟨?_, ?_, ?_⟩
  · intro h; simp [Sys.sendPci, Elvis.Link.sendPci, h]
  · intro h; simp [Sys.sendPci, Elvis.Link.sendPci, Nat.not_lt.mpr h]
  · intro h; simp [Sys.sendPci, Elvis.Link.sendPci, h]

theorem le_ceilMs (x : Nat) : x ≤ ceilMs x := by
  unfold ceilMs usPerMs; omega

theorem le_wake (now d : Nat) : now + d ≤ wake now d := by
  unfold wake; split
  · omega
  · exact le_ceilMs _

theorem wake_mono {a b c d : Nat} (h1 : a ≤ b) (h2 : c ≤ d) : wake a c ≤ wake b d := by
  unfold wake
  by_cases hc : c = 0
  · subst hc
    by_cases hd : d = 0
    · simp [hd]; exact h1
    · simp [hd]; exact Nat.le_trans (by omega) (le_ceilMs _)
  · have hd : d ≠ 0 := by omega
    simp only [hc, hd, if_false]
    unfold ceilMs usPerMs
    have : a + c ≤ b + d := by omega
    omega

theorem Choice.valid.thr {n : Net} {c : Choice} (h : c.valid n) :
    thrLo n ≤ c.thr ∧ c.thr ≤ thrHi n ∧ (n.thrRand = 0 → c.thr = n.thrBase) := by
  have hthr := h.1
  unfold thrLo thrHi
  by_cases hr : n.thrRand = 0
  · simp only [hr, if_true] at hthr ⊢; omega
  · simp only [hr, if_false] at hthr ⊢; exact ⟨hthr.1, by omega, fun h => h.elim⟩

/-- No frame is handed to a tap earlier than the configured base
latency after it reached the network, whatever the draws and the state of the medium. -/
theorem c05_latency_lower_bound (n : Net) (m : Medium) (t0 len : Nat) (c : Choice) (hc : c.valid n) :
    t0 + n.latBase ≤ (transmit m t0 len c).2.deliver ∧ t0 ≤ (transmit m t0 len c).2.start ∧
    (transmit m t0 len c).2.start ≤ (transmit m t0 len c).2.done := by
  have hl : n.latBase ≤ c.lat := hc.2.1
  unfold transmit
  split
  · refine ⟨?_, Nat.le_refl _, Nat.le_refl _⟩
    exact Nat.le_trans (by omega) (le_wake t0 c.lat)
  · simp only []
    have h1 : t0 ≤ max t0 m.free := Nat.le_max_left _ _
    have h2 := le_wake (max t0 m.free) (txNs len c.thr m.carry / nsPerMs * usPerMs)
    have h3 := le_wake (wake (max t0 m.free) (txNs len c.thr m.carry / nsPerMs * usPerMs)) c.lat
    refine ⟨by omega, h1, by omega⟩

/-- the same for every frame of a whole run -/
theorem c05_latency_lower_bound_run (n : Net) (m : Medium) (sends : List Send)
    (hv : ∀ s ∈ sends, s.choice.valid n) :
    ∀ o ∈ runSends n m sends, ∃ s ∈ sends, o.frame = s.frame ∧ s.t0 + n.latBase ≤ o.timing.deliver := by
  intro o ho
  obtain ⟨s, hs, m', rfl⟩ := mem_runSends ho
  exact ⟨s, hs, rfl, (c05_latency_lower_bound n m' s.t0 _ s.choice (hv s hs)).1⟩

def Serial : Nat → List WireOut → Prop
  | _, [] => True
  | lo, o :: os => lo ≤ o.timing.start ∧ o.timing.start ≤ o.timing.done ∧ Serial o.timing.done os

theorem transmit_thr (m : Medium) (t0 len : Nat) (c : Choice) (h : c.thr ≠ 0) :
    transmit m t0 len c =
      ({ free := wake (max t0 m.free) (txNs len c.thr m.carry / nsPerMs * usPerMs), carry := txNs len c.thr m.carry % nsPerMs },
       ⟨max t0 m.free, wake (max t0 m.free) (txNs len c.thr m.carry / nsPerMs * usPerMs),
        wake (wake (max t0 m.free) (txNs len c.thr m.carry / nsPerMs * usPerMs)) c.lat⟩) := by
  simp [transmit, h]

/-- With a throughput configured, frames occupy the medium one after another in
queue order (FIFO permit). -/
theorem c05_serial (n : Net) (m : Medium) (sends : List Send) (ht : ∀ s ∈ sends, 0 < s.choice.thr) :
    Serial m.free (runSends n m sends) := by
  fun_induction runSends n m sends with
  | case1 => trivial
  | case2 m s rest _ ih => exact ih (fun x hx => ht x (List.mem_cons_of_mem _ hx))
  | case3 m s rest _ r ih =>
    have hs : s.choice.thr ≠ 0 := Nat.pos_iff_ne_zero.mp (ht s (by simp))
    have hi := ih (fun x hx => ht x (List.mem_cons_of_mem _ hx))
    simp only [r, transmit_thr m s.t0 _ s.choice hs, Serial] at hi ⊢
    exact ⟨Nat.le_max_right _ _, Nat.le_trans (Nat.le_add_right _ _) (le_wake _ _), hi⟩

def finalMedium : Medium → List Send → Medium
  | m, [] => m
  | m, s :: rest => if s.choice.lost then finalMedium m rest else finalMedium (transmit m s.t0 s.frame.msg.length s.choice).1 rest

theorem runSends_append (n : Net) (m : Medium) (a b : List Send) :
    runSends n m (a ++ b) = runSends n m a ++ runSends n (finalMedium m a) b := by
  induction a generalizing m with
  | nil => rfl
  | cons s rest ih =>
    simp only [List.cons_append, runSends, finalMedium]
    split
    · exact ih m
    · simp only [List.cons_append]; rw [ih]

def bytes (sends : List Send) : Nat := (sends.map (·.frame.msg.length)).sum

theorem len_lt (len thr T : Nat) (h0 : 0 < thr) (hT : thr ≤ T) :
    len * nsPerSec < T * (len * nsPerSec / thr + 1) :=
  Nat.lt_of_lt_of_le (Nat.lt_mul_div_succ (len * nsPerSec) h0) (Nat.mul_le_mul_right _ hT)

/-- One frame through a medium whose throughput draw is at most `T`: it holds the medium for `ms` whole
milliseconds, and `len·10^9 + T·carry_in ≤ T·(ms·10^6 + carry_out + 1)` (the sub-millisecond remainder
goes on to the next frame, the integer division loses less than one nanosecond). -/
theorem frame_account (T : Nat) (m : Medium) (t0 len : Nat) (c : Choice) (hpos : 0 < c.thr) (hle : c.thr ≤ T) :
    ∃ ms : Nat, max t0 m.free + ms * usPerMs ≤ (transmit m t0 len c).1.free ∧
      len * nsPerSec + T * m.carry ≤ T * (ms * nsPerMs + (transmit m t0 len c).1.carry + 1) := by
  rw [transmit_thr m t0 len c (Nat.pos_iff_ne_zero.mp hpos)]
  refine ⟨txNs len c.thr m.carry / nsPerMs, le_wake _ _, ?_⟩
  have hlen := len_lt len c.thr T hpos hle
  show _ ≤ T * (txNs len c.thr m.carry / nsPerMs * nsPerMs + txNs len c.thr m.carry % nsPerMs + 1)
  rw [Nat.mul_comm _ nsPerMs, Nat.div_add_mod, txNs, Nat.add_right_comm, Nat.mul_add]
  omega

def firstStart (m : Medium) : List Send → Nat
  | [] => m.free
  | s :: _ => max s.t0 m.free

theorem le_firstStart (m : Medium) (sends : List Send) : m.free ≤ firstStart m sends := by
  cases sends with
  | nil => exact Nat.le_refl _
  | cons s rest => exact Nat.le_max_right _ _

/-- Accounting over a segment of sends served from medium state `m` (all with a throughput,
none lost): the medium is busy until at least `start + Σ ms`, and
`Σ len·10^9 ≤ T · (Σ ms·10^6 + carry_end − carry_start + count)`.  Stated with additions only. -/
theorem segment_account (T : Nat) (m : Medium) (sends : List Send)
    (hl : ∀ s ∈ sends, s.choice.lost = false) (ht : ∀ s ∈ sends, 0 < s.choice.thr ∧ s.choice.thr ≤ T) :
    ∃ busyMs : Nat,
      firstStart m sends + busyMs * usPerMs ≤ (finalMedium m sends).free ∧
      bytes sends * nsPerSec + T * m.carry ≤ T * (busyMs * nsPerMs + (finalMedium m sends).carry + sends.length) := by
  induction sends generalizing m with
  | nil => exact ⟨0, by simp [finalMedium, firstStart], by simp [finalMedium, bytes]⟩
  | cons s rest ih =>
    obtain ⟨hpos, hle⟩ := ht s (by simp)
    -- the frame, then the rest from the medium it leaves behind: the carries telescope
    obtain ⟨ms, f1, f2⟩ := frame_account T m s.t0 s.frame.msg.length s.choice hpos hle
    obtain ⟨b, hb1, hb3⟩ := ih (transmit m s.t0 s.frame.msg.length s.choice).1
      (fun x hx => hl x (List.mem_cons_of_mem _ hx)) (fun x hx => ht x (List.mem_cons_of_mem _ hx))
    have hfm : finalMedium m (s :: rest) = finalMedium (transmit m s.t0 s.frame.msg.length s.choice).1 rest := by
      simp [finalMedium, hl s (by simp)]
    have hfs := le_firstStart (transmit m s.t0 s.frame.msg.length s.choice).1 rest
    have hbytes : bytes (s :: rest) = s.frame.msg.length + bytes rest := by simp [bytes]
    rw [hfm, hbytes]
    refine ⟨ms + b, ?_, ?_⟩
    · rw [Nat.add_mul, firstStart]; omega
    · simp only [Nat.add_mul, Nat.mul_add, Nat.mul_one, List.length_cons] at f2 hb3 ⊢
      omega

theorem finalMedium_carry_lt (m : Medium) (sends : List Send) (h : m.carry < nsPerMs) :
    (finalMedium m sends).carry < nsPerMs := by
  fun_induction finalMedium m sends with
  | case1 => exact h
  | case2 m s rest _ ih => exact ih h
  | case3 m s rest _ ih =>
    apply ih
    unfold transmit
    split
    · exact h
    · exact Nat.mod_lt _ (by decide)

/-- For any medium state `m` (= after any earlier traffic) and any
consecutive frames `s0 :: rest` that pass through a medium whose throughput draws are at most
`T` bytes/s: the medium is released for the last of them no earlier than the instant the first
got it plus the transmission times, and the bytes transmitted satisfy

  bytes · 10^9  ≤  T · (elapsed_ns + 10^6 + count)

where `elapsed` runs from the start of the first transmission to the end of the last: the
configured rate, up to one millisecond (timer granularity; the sub-millisecond remainder is
carried from frame to frame) and one nanosecond per frame (integer division).  Together with
`c05_serial` this is "bytes completed in any window ≤ rate · window + one frame": the frames
completing inside a window are consecutive, and all but the first start inside it. -/
theorem c05_throughput_bound (T : Nat) (m : Medium) (s0 : Send) (rest : List Send)
    (hl : ∀ s ∈ s0 :: rest, s.choice.lost = false)
    (ht : ∀ s ∈ s0 :: rest, 0 < s.choice.thr ∧ s.choice.thr ≤ T)
    (hcarry : m.carry < nsPerMs) :
    let startFirst := max s0.t0 m.free
    let doneLast := (finalMedium m (s0 :: rest)).free
    startFirst ≤ doneLast ∧
    bytes (s0 :: rest) * nsPerSec ≤ T * ((doneLast - startFirst) * 1000 + nsPerMs + (rest.length + 1)) := by
  obtain ⟨b, hb2', hb3⟩ := segment_account T m (s0 :: rest) hl ht
  rw [firstStart] at hb2'
  have hcend := finalMedium_carry_lt m (s0 :: rest) hcarry
  simp only []
  refine ⟨by omega, ?_⟩
  generalize (finalMedium m (s0 :: rest)).free = fin at hb2' ⊢
  generalize (finalMedium m (s0 :: rest)).carry = cend at hb3 hcend
  have hlen : (s0 :: rest).length = rest.length + 1 := rfl
  rw [hlen] at hb3
  have hus : usPerMs = 1000 := rfl
  have hms : nsPerMs = 1000 * usPerMs := rfl
  have hel : b * nsPerMs ≤ (fin - max s0.t0 m.free) * 1000 := by
    have : b * usPerMs ≤ fin - max s0.t0 m.free := by omega
    calc b * nsPerMs = (b * usPerMs) * 1000 := by rw [hms, hus]; omega
      _ ≤ (fin - max s0.t0 m.free) * 1000 := Nat.mul_le_mul_right _ this
  have hmono : T * (b * nsPerMs + cend + (rest.length + 1)) ≤
      T * ((fin - max s0.t0 m.free) * 1000 + nsPerMs + (rest.length + 1)) :=
    Nat.mul_le_mul_left _ (by omega)
  omega

/-- with a constant throughput `thr` the bound reads: rate · (elapsed + 1 ms) + count ns-slack -/
theorem c05_throughput_bound_constant (n : Net) (hr : n.thrRand = 0) (hb : 0 < n.thrBase)
    (m : Medium) (s0 : Send) (rest : List Send)
    (hl : ∀ s ∈ s0 :: rest, s.choice.lost = false) (hv : ∀ s ∈ s0 :: rest, s.choice.valid n)
    (hcarry : m.carry < nsPerMs) :
    bytes (s0 :: rest) * nsPerSec ≤
      n.thrBase * (((finalMedium m (s0 :: rest)).free - max s0.t0 m.free) * 1000 + nsPerMs + (rest.length + 1)) := by
  have ht : ∀ s ∈ s0 :: rest, 0 < s.choice.thr ∧ s.choice.thr ≤ n.thrBase := by
    intro s hs
    rw [(Choice.valid.thr (hv s hs)).2.2 hr]; exact ⟨hb, Nat.le_refl _⟩
  exact (c05_throughput_bound n.thrBase m s0 rest hl ht hcarry).2

def Medium.within (m : Medium) (mi : MediumI) : Prop :=
  mi.freeLo ≤ m.free ∧ m.free ≤ mi.freeHi ∧ mi.carryLo ≤ m.carry ∧ m.carry ≤ mi.carryHi

theorem max_mono_right {a b : Nat} (c : Nat) (h : a ≤ b) : max c a ≤ max c b :=
  Nat.max_le.2 ⟨Nat.le_max_left _ _, Nat.le_trans h (Nat.le_max_right _ _)⟩

theorem txNs_mono {len a b c d : Nat} (hb : 0 < a) (hab : a ≤ b) (hcd : c ≤ d) :
    txNs len b c ≤ txNs len a d := by
  unfold txNs
  exact Nat.add_le_add (Nat.div_le_div_left hab hb) hcd

theorem msUs_mono {a b : Nat} (h : a ≤ b) : a / nsPerMs * usPerMs ≤ b / nsPerMs * usPerMs :=
  Nat.mul_le_mul_right _ (Nat.div_le_div_right h)

/-- The interval arithmetic of the driver (`transmitI`) is sound for the exact model: whatever the
(valid) draws, if the exact medium state lies in the
interval state, then after `transmit` it lies in the interval state computed by `transmitI`, and
the delivery instant lies in the computed interval.  (`thrBase = 0` with `thrRand > 0` — a
"throughput" that may draw 0 = unlimited — is excluded.) -/
theorem c05_interval_sound (n : Net) (hn : n.thrRand = 0 ∨ 0 < n.thrBase) (m : Medium) (mi : MediumI)
    (h : m.within mi) (t0 len : Nat) (c : Choice) (hc : c.valid n) :
    (transmit m t0 len c).1.within (transmitI n mi t0 len).1 ∧
    (transmitI n mi t0 len).2.deliverLo ≤ (transmit m t0 len c).2.deliver ∧
    (transmit m t0 len c).2.deliver ≤ (transmitI n mi t0 len).2.deliverHi := by
  obtain ⟨hlo, hhi, hconst⟩ := hc.thr
  obtain ⟨_, hl1, hl2⟩ := hc
  obtain ⟨hf1, hf2, hc1, hc2⟩ := h
  by_cases hb : n.thrBase = 0
  · have hr : n.thrRand = 0 := by rcases hn with h | h; exact h; omega
    have hc0 : c.thr = 0 := (hconst hr).trans hb
    simp only [transmit, hc0, if_true, transmitI, hb]
    exact ⟨⟨hf1, hf2, hc1, hc2⟩, wake_mono (Nat.le_refl _) hl1, wake_mono (Nat.le_refl _) hl2⟩
  · have hbpos : 0 < n.thrBase := Nat.pos_of_ne_zero hb
    have hcpos : 0 < c.thr := Nat.lt_of_lt_of_le hbpos hlo
    have hcne : c.thr ≠ 0 := Nat.pos_iff_ne_zero.mp hcpos
    have hnsLo : txNs len (thrHi n) mi.carryLo ≤ txNs len c.thr m.carry := txNs_mono hcpos hhi hc1
    have hnsHi : txNs len c.thr m.carry ≤ txNs len (thrLo n) mi.carryHi := txNs_mono hbpos hlo hc2
    have hmaxLo : max t0 mi.freeLo ≤ max t0 m.free := max_mono_right t0 hf1
    have hmaxHi : max t0 m.free ≤ max t0 mi.freeHi := max_mono_right t0 hf2
    have hdLo := wake_mono hmaxLo (msUs_mono hnsLo)
    have hdHi := wake_mono hmaxHi (msUs_mono hnsHi)
    rw [transmit_thr m t0 len c hcne]
    simp only [transmitI, hb, if_false]
    -- constant throughput and a known carry: the interval computation is the exact one
    have hex : n.thrRand = 0 ∧ mi.carryLo = mi.carryHi →
        txNs len c.thr m.carry = txNs len (thrHi n) mi.carryLo := by
      intro hex
      have e1 : c.thr = thrHi n := by
        unfold thrHi; rw [if_pos hex.1]; exact hconst hex.1
      have e2 : m.carry = mi.carryLo := by have := hex.2; omega
      rw [e1, e2]
    refine ⟨⟨hdLo, hdHi, ?_, ?_⟩, wake_mono hdLo hl1, wake_mono hdHi hl2⟩
    · split
      · rw [hex ‹_›]; exact Nat.le_refl _
      · exact Nat.zero_le _
    · split
      · rw [hex ‹_›]; exact Nat.le_refl _
      · have : txNs len c.thr m.carry % nsPerMs < nsPerMs := Nat.mod_lt _ (by decide)
        show txNs len c.thr m.carry % nsPerMs ≤ nsPerMs - 1
        omega

/-- Finding F-C05-1 of DESIGN.md: sleeping `len * 1000 / thr` whole milliseconds per frame and
dropping the remainder makes frames shorter than one millisecond of medium time cost nothing — any
number of 900-byte frames cross a 1 MB/s link in zero time.  `Network::send` carries the
remainder to the next frame instead (`Medium.carry`). -/
def serMsBeforeFix (len thr : Nat) : Nat := len * 1000 / thr

theorem c05_throughput_floor_counterexample_before_fix :
    (∀ k : Nat, k * serMsBeforeFix 900 1000000 = 0) ∧
    ¬ (2000 * 900 * 1000 ≤ 1000000 * (2000 * serMsBeforeFix 900 1000000 + 1)) := by
  have h : serMsBeforeFix 900 1000000 = 0 := by decide
  rw [h]
  exact ⟨fun k => Nat.mul_zero k, by decide⟩

/-! ## Non-vacuity -/

def exNet : Net := attachMany { mtu := 1500, latBase := 2000, latRand := 0, thrBase := 1000000, thrRand := 0 } 3

example : exNet.WF := attachMany_WF _ 3 (fresh_WF _ rfl rfl)
example : exNet.taps = [0, 1, 2] := by decide
example : recipients exNet (some 1) = [1] := by decide
example : recipients exNet (some 7) = [] := by decide
example : recipients exNet none = [0, 1, 2] := by decide
example : (⟨false, 1000000, 2000⟩ : Choice).valid exNet := by unfold Choice.valid; decide
/-- three 9-byte frames queued at t = 0 on a 10 kB/s medium: 0.9 ms each; the first costs 0 ms
(carry 0.9), the second and third 1 ms each (carry 0.8, 0.7): released at 0, 1000, 2000 µs. -/
example : ((runSends exNet {} (List.replicate 3 ⟨0, ⟨0, some 1, List.replicate 9 0⟩, ⟨false, 10000, 2000⟩⟩)).map
    fun o => (o.timing.start, o.timing.done, o.timing.deliver)) = [(0, 0, 2000), (0, 1000, 3000), (1000, 2000, 4000)] := by
  decide +kernel

end Elvis.Link
