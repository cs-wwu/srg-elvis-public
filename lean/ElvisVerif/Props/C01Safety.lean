import ElvisVerif.Props.C01
import ElvisVerif.Lemmas.C01Run
/-!
# C01 — stream safety: delivered is a prefix of submitted, in both directions, exactly once

Property (properties.jsonl, C01): "the bytes handed to the receiving application are at every
moment a prefix of the bytes the sending application submitted, in both directions at once,
whatever the network does to segments in transit …".

System: `Model/TcpSys.lean` — two endpoints, the monotone history of every segment ever emitted,
`deliver x i` hands history element `i` to endpoint `x` any number of times in any order (loss,
duplication, reordering, arbitrary delay), ghost logs `submitted` / `delivered` per side.

What is quantified over (`C01.RunOk iss {} ops`, defined in `Lemmas/C01Run.lean`): every op list
from the empty system in which
* each side is opened actively (`open`) or passively (`listen`) with its ISN `iss x` while still
  unused — active/passive, passive/active and simultaneous open, at any point of the run, any
  ISN pair, any MTU;
* `write` (any size, any state; `send` ignores it outside SYN-SENT / SYN-RECEIVED / ESTABLISHED),
  `read`, `tick`, `emit`, `drop` are unrestricted;
* `deliver x i` is restricted to history elements *addressed to `x`* (source port = the peer's,
  destination port = `x`'s): the real `Tcp::demux` routes by the port pair, the model's `deliver`
  does not look at ports, so this is an explicit hypothesis (see notes/C01p.md);
* no `close`, `abort`, raw `inject`.

Hypothesis H31 (`C01.Lt31`): fewer than 2^31 bytes submitted per direction over the whole run
(the design's bound 2^31 − 2^17 is stronger; `c01_safety_h31` is the statement with that bound).

Proof: the invariant `C01.Inv` (`Lemmas/C01Sys.lean`) — send facts S1-S3, segment validity of
queues / heap / history, receive facts R1-R2 — is preserved by every step (`C01.step_inv`); no
fact about acknowledgment numbers is needed.
-/
namespace Elvis.Tcp
open Elvis.Tcp.C01

/-- **the C01 safety predicate**: what B's application received is a prefix of what A's submitted,
    and vice versa -/
def C01Safe (s : Sys) : Prop :=
  s.b.delivered <+: s.a.submitted ∧ s.a.delivered <+: s.b.submitted

/-- the design's H31: fewer than `2^31 - 2^17` bytes submitted in each direction -/
def H31 (s : Sys) : Prop :=
  s.a.submitted.length < 2147483648 - 131072 ∧ s.b.submitted.length < 2147483648 - 131072

theorem H31.lt31 {s : Sys} (h : H31 s) : Lt31 s := ⟨by have := h.1; omega, by have := h.2; omega⟩

theorem c01_safe_of_inv {iss : SideId → Seq} {s : Sys} (h : Inv iss s) : C01Safe s :=
  ⟨(h.side .B).pre, (h.side .A).pre⟩

/-- **C01 safety.**  For every ISN pair and every op list of the closed system (see the file
    header: opens/listens of unused sides, writes, reads, ticks, emissions, deliveries of any
    history element to its addressee in any order and multiplicity, drops): if the run does not
    panic and fewer than 2^31 bytes were submitted per direction, delivered is a prefix of
    submitted in both directions.  As `ops` is arbitrary, this covers every moment of every run
    (`c01_safety_every_step` spells that out). -/
theorem c01_safety (iss : SideId → Seq) (ops : List Op) (hok : RunOk iss {} ops)
    (s' : Sys) (rs : List Res) (hrun : Sys.run {} ops = .ok (s', rs)) (h31 : Lt31 s') : C01Safe s' :=
  c01_safe_of_inv (run_inv (Inv.init iss) hok hrun h31)

/-- the same under the design's hypothesis H31 (`2^31 - 2^17` bytes per direction) -/
theorem c01_safety_h31 (iss : SideId → Seq) (ops : List Op) (hok : RunOk iss {} ops)
    (s' : Sys) (rs : List Res) (hrun : Sys.run {} ops = .ok (s', rs)) (h31 : H31 s') : C01Safe s' :=
  c01_safety iss ops hok s' rs hrun h31.lt31

/-- H31 as a condition on the *inputs*: fewer than 2^31 bytes are written on each side over the
    whole run (`writeBytes x ops` = total size of the `write x` ops) -/
theorem c01_safety_writes (iss : SideId → Seq) (ops : List Op) (hok : RunOk iss {} ops)
    (s' : Sys) (rs : List Res) (hrun : Sys.run {} ops = .ok (s', rs))
    (ha : writeBytes .A ops < 2147483648) (hb : writeBytes .B ops < 2147483648) : C01Safe s' :=
  c01_safety iss ops hok s' rs hrun (Lt31.of_writes hrun ha hb)

/-- "at every moment": the safety predicate holds after every prefix of the run; H31 is only
    required of the final logs (the logs grow monotonically) -/
theorem c01_safety_every_step (iss : SideId → Seq) (ops : List Op) (hok : RunOk iss {} ops)
    (s' : Sys) (rs : List Res) (hrun : Sys.run {} ops = .ok (s', rs)) (h31 : Lt31 s')
    (k : Nat) (sk : Sys) (rk : List Res) (hk : Sys.run {} (ops.take k) = .ok (sk, rk)) : C01Safe sk := by
  have hsplit : Sys.run {} (ops.take k ++ ops.drop k) = .ok (s', rs) := by
    rw [List.take_append_drop]; exact hrun
  obtain ⟨s1, r1, r2, e1, e2⟩ := run_append hsplit
  rw [hk] at e1
  cases e1
  exact c01_safety iss (ops.take k) (hok.take k) sk rk hk (Lt31.of_run e2 h31)

/-- the run hypothesis is never vacuous: with MTUs that leave room for the headers the closed
    system does not panic (`c01_closed_system_no_panic`), so safety holds for the state every such
    run ends in -/
theorem c01_safety_total (iss : SideId → Seq) (ops : List Op) (hok : RunOk iss {} ops)
    (hv : ∀ op ∈ ops, op.Valid) :
    ∃ s' rs, Sys.run {} ops = .ok (s', rs) ∧ (Lt31 s' → C01Safe s') := by
  obtain ⟨⟨s', rs⟩, e⟩ := c01_closed_system_no_panic ops hv
  exact ⟨s', rs, e, fun h31 => c01_safety iss ops hok s' rs e h31⟩

/-- The statement without H31.  NOT provable, and false of the code in this network model: the
    history is monotone (no segment-lifetime bound), so after 2^32 bytes in one direction a
    duplicate of the segment that carried `submitted[p, p+len)` is again acceptable at
    `RCV.NXT = ISS + 1 + p + 2^32` (same 32-bit sequence number), passes the heap gate, and its
    bytes are appended to the stream in place of `submitted[p + 2^32, …)`.  Real TCP excludes this
    by the maximum segment lifetime (RFC 9293 3.4.2/3.4.3), which the model's network does not
    have.  A witness needs 2^32 submitted bytes, far outside what `decide` can evaluate, so the
    statement is kept as a definition only.  (Between 2^31 and 2^32 − 2^16 bytes the statement is
    presumably still true, but its proof needs the acknowledgment/window facts the safety
    invariant deliberately avoids: only they exclude a valid segment 2^31 *ahead* of `RCV.NXT`.) -/
def C01SafetyFull : Prop :=
  ∀ (iss : SideId → Seq) (ops : List Op), RunOk iss {} ops →
    ∀ (s' : Sys) (rs : List Res), Sys.run {} ops = .ok (s', rs) → C01Safe s'

/-- **exactly once, in order**: for each side `x`
    * the `i`-th byte handed to `x`'s application is the `i`-th byte the peer submitted (so every
      submitted position is delivered at most once, none is skipped, none is invented), and
    * when `x` has a synchronised TCB, the sequence space it has consumed, `RCV.NXT - IRS - 1`,
      is exactly the number of stream bytes it has taken (delivered + buffered), and those bytes
      are `submitted[0, RCV.NXT - IRS - 1)` of the peer: one sequence number, one byte, once. -/
def C01ExactlyOnce (s : Sys) : Prop :=
  ∀ x : SideId,
    (∀ i, i < (s.side x).delivered.length → (s.side x).delivered[i]? = (s.side x.peer).submitted[i]?) ∧
    (∀ t, (s.side x).tcb = some t → t.state ≠ .SynSent →
      (t.rcv.nxt - t.rcv.irs - 1).toNat = (s.side x).delivered.length + t.incoming.text.length ∧
      (s.side x).delivered ++ t.incoming.text =
        (s.side x.peer).submitted.take ((t.rcv.nxt - t.rcv.irs - 1).toNat))

theorem consumed_toNat (iss : Seq) (n : Nat) (hn : n < 4294967296) :
    (iss + 1 + BitVec.ofNat 32 n - iss - 1).toNat = n := by
  rw [BitVec.sub_sub, BitVec.add_comm (iss + 1), BitVec.add_sub_cancel, BitVec.toNat_ofNat]
  exact Nat.mod_eq_of_lt hn

theorem c01_exactly_once_of_inv {iss : SideId → Seq} {s : Sys} (h : Inv iss s) (h31 : Lt31 s) :
    C01ExactlyOnce s := by
  intro x
  have hsd := h.side x
  refine ⟨fun i hi => ?_, fun t ht hns => ?_⟩
  · obtain ⟨rest, hrest⟩ := hsd.pre
    rw [← hrest, List.getElem?_append_left hi]
  · have ti := hsd.tcb t ht
    obtain ⟨hnxt, hpre⟩ := ti.rcv1 hns
    have hirs := ti.irs hns
    have hlen := hpre.length_le
    rw [List.length_append] at hlen
    have hb := h31.side x.peer
    have hc : (t.rcv.nxt - t.rcv.irs - 1).toNat = (s.side x).delivered.length + t.incoming.text.length := by
      rw [hnxt, hirs]
      exact consumed_toNat _ _ (by omega)
    refine ⟨hc, ?_⟩
    rw [hc, ← List.length_append]
    exact List.prefix_iff_eq_take.1 hpre

/-- **C01 exactly-once.**  Same quantification and hypotheses as `c01_safety`. -/
theorem c01_exactly_once (iss : SideId → Seq) (ops : List Op) (hok : RunOk iss {} ops)
    (s' : Sys) (rs : List Res) (hrun : Sys.run {} ops = .ok (s', rs)) (h31 : Lt31 s') : C01ExactlyOnce s' :=
  c01_exactly_once_of_inv (run_inv (Inv.init iss) hok hrun h31) h31

/-! ## non-vacuity: concrete runs that satisfy the hypotheses -/

def c01CheckRun (iss : SideId → Seq) (ops : List Op) (p : Sys → Bool) : Bool :=
  runOkB iss {} ops && match Sys.run {} ops with
    | .ok (s, _) => p s
    | .error _ => false

theorem c01CheckRun_sound {iss : SideId → Seq} {ops : List Op} {p : Sys → Bool}
    (h : c01CheckRun iss ops p = true) :
    RunOk iss {} ops ∧ ∃ s' rs, Sys.run {} ops = .ok (s', rs) ∧ p s' = true := by
  unfold c01CheckRun at h
  rw [Bool.and_eq_true] at h
  refine ⟨runOkB_sound h.1, ?_⟩
  have h2 := h.2
  split at h2
  · rename_i s rs e
    exact ⟨s, rs, e, h2⟩
  · cases h2

def lt31B (s : Sys) : Bool := s.a.submitted.length < 2147483648 && s.b.submitted.length < 2147483648

/-- active / passive open: the F-C01-1 schedule (data sent from SYN-RECEIVED overtakes the
    SYN-ACK, one retransmission): hypotheses of `c01_safety` hold and 3 bytes arrive -/
example : c01CheckRun (fun | .A => 1000 | .B => 5000)
    [.open .A 1000 1500, .listen .B 5000 1500, .emit .A, .deliver .B 0, .write .B [1, 2, 3], .emit .B,
     .deliver .A 2, .deliver .A 1, .tick .B 150, .emit .B, .deliver .A 4, .read .A]
    (fun s => lt31B s && s.a.delivered == [1, 2, 3] && s.b.submitted == [1, 2, 3]) = true := by decide

/-- passive / active open with the roles exchanged and a listen after the peer's open -/
example : c01CheckRun (fun | .A => 0 | .B => 2147483647)
    [.open .B 2147483647 100, .listen .A 0 200, .write .B [7], .emit .B, .deliver .A 0, .emit .A,
     .deliver .B 1, .emit .B, .deliver .A 2, .deliver .A 3, .deliver .A 3, .read .A]
    (fun s => lt31B s && s.a.delivered == [7]) = true := by decide

/-- simultaneous open, ISN of B = 2^32 - 1 (sequence numbers wrap at the first data byte), an
    early write, data in both directions, one duplicate delivery -/
example : c01CheckRun (fun | .A => 7 | .B => 4294967295)
    [.open .A 7 1500, .open .B 4294967295 100, .write .A [9, 8], .emit .A, .emit .B, .deliver .B 0,
     .deliver .A 1, .emit .A, .emit .B, .deliver .A 4, .deliver .B 2, .deliver .B 3, .write .B [5], .emit .B,
     .deliver .A 7, .deliver .A 7, .read .A, .read .B]
    (fun s => lt31B s && s.a.delivered == [5] && s.b.delivered == [9, 8]) = true := by decide

/-- the addressing hypothesis is not idle: the model's `deliver` hands a segment to ANY side, so
    with equal ISNs a side accepts its own data as the peer's — the run below (B is handed A's own
    SYN, then A its own data segment after a regular handshake) breaks the prefix property; it is
    excluded by `RunOk` (`deliver .A 3` is not addressed to A) and cannot happen in the real stack,
    where `Tcp::demux` looks the session up by the port pair. -/
example :
    (match Sys.run {} [.open .A 100 1500, .listen .B 100 1500, .emit .A, .deliver .B 0, .emit .B, .deliver .A 1,
        .emit .A, .write .A [1, 2], .emit .A, .deliver .A 3, .read .A] with
      | .ok (s, _) => s.a.delivered == [1, 2] && s.b.submitted == []
      | .error _ => false) = true ∧
    runOkB (fun _ => 100) {} [.open .A 100 1500, .listen .B 100 1500, .emit .A, .deliver .B 0, .emit .B, .deliver .A 1,
        .emit .A, .write .A [1, 2], .emit .A, .deliver .A 3, .read .A] = false := by decide

end Elvis.Tcp
