import ElvisVerif.Lemmas.TcpAckStep
/-!
# C03 — synchronisation of the closed two-endpoint system, at full strength

`Props/C03.lean` proves `RCV.NXT_peer =< SND.NXT_x` (`c03_synchronised_partial`).  Here is the other
half — every ACK number an endpoint has issued lies in `[ISS_peer + 1, RCV.NXT]`, hence
`SND.UNA_x =< RCV.NXT_peer` — and the two together (`c03_synchronised`).

System: `Model/TcpSys.lean`.  Quantification: `ClosedRun` (`Lemmas/TcpAckStep.lean`) from the state
after `open A` + `listen B` or `open A` + `open B` (any ISNs, any MTUs): any finite interleaving
of `write`, `read`, `tick`, `emit`, `close`, `drop` and deliveries of ANY element of the history of
everything ever emitted (loss, duplication, reordering, arbitrary delay) to the side it is
addressed to, with `RoomOk` before every step (H31: fewer than 2^31 sequence numbers used and
queued per direction).
-/
namespace Elvis.Tcp
namespace C03
open Elvis.ModCmp Tcb

/-- the state the closed system starts in: A opens actively, B listens or opens actively too -/
def Start (ia ib : Seq) (ma mb : U16) (simultaneous : Bool) (sys0 : Sys) : Prop :=
  ∃ rs, Sys.run {} [.open .A ia ma, if simultaneous then .open .B ib mb else .listen .B ib mb] = .ok (sys0, rs)

theorem full_of_start {ia ib : Seq} {ma mb : U16} {simultaneous : Bool} {sys0 sys : Sys}
    (h0 : Start ia ib ma mb simultaneous sys0) (hrun : ClosedRun sys0 sys) : Full sys := by
  obtain ⟨rs, h0⟩ := h0
  exact full_run (full_init h0) hrun

/-- **The acknowledgment invariant of the closed two-endpoint system.**  In every reachable state
    (see the file header for the quantification), for endpoint `x` (TCB `t`) and its peer (TCB `u`)
    with the peer out of SYN-SENT — in particular whenever both are synchronised —: every segment
    in the history of everything the peer ever emitted, every header still on the peer's
    retransmission and one-shot queues, and every segment parked in `x`'s reorder heap that has
    the ACK bit acknowledges a number with

      `ISS_x < SEG.ACK =< RCV.NXT_peer`

    (offsets from `ISS_x`, all below 2^31; equivalently `mod_bounded(ISS_x, <, SEG.ACK, =<, RCV.NXT_peer)`
    in the code's circular order).  While the peer is still in SYN-SENT none of these has the
    ACK bit at all. -/
theorem c03_ack_numbers (ia ib : Seq) (ma mb : U16) (simultaneous : Bool) (sys0 sys : Sys)
    (h0 : Start ia ib ma mb simultaneous sys0) (hrun : ClosedRun sys0 sys) (hroom : RoomOk sys)
    (x : SideId) (t u : Tcb) (ht : (sys.side x).tcb = some t) (hu : (sys.side x.peer).tcb = some u) :
    let good (h : Hdr) : Prop := h.ctl.ack = true → u.state ≠ .SynSent ∧
      1 ≤ off t.snd.iss h.ack ∧ off t.snd.iss h.ack ≤ off t.snd.iss u.rcv.nxt ∧
      modBounded t.snd.iss .Lt h.ack .Leq u.rcv.nxt = true
    (∀ σ ∈ sys.history, σ.hdr.srcPort = x.peer.port → good σ.hdr) ∧
    (∀ h ∈ u.outgoing.oneshot, good h) ∧ (∀ tr ∈ u.outgoing.retransmit, good tr.segment.hdr) ∧
    (∀ σ ∈ t.incoming.segments, good σ.hdr) := by
  intro good
  have hf := full_of_start h0 hrun
  have hA := hf.ack.tcbs ht hu
  have hbelow := inv_rcv_le_snd sys hf.inv hroom x t u ht hu
  -- from `AckLe … (top …)` to the statement
  have conv : ∀ h : Hdr, AckLe t.snd.iss (top t.snd.iss u) h → good h := by
    intro h hle hack
    obtain ⟨h1, h2⟩ := hle hack
    have hns : u.state ≠ .SynSent := by
      intro hs
      rw [top_of_synSent hs] at h2
      omega
    rw [top_of_ne hns] at h2
    obtain ⟨b1, b2, _⟩ := hbelow hns
    refine ⟨hns, h1, h2, bounded_of_off t.snd.iss _ _ _ (by omega) (by rw [off_self]; omega) h2⟩
  exact ⟨fun σ hσ hs => conv _ (hA.hist t u rfl rfl σ hσ hs), fun h hh => conv _ ((hA.q t u rfl rfl).one h hh),
    fun tr hh => conv _ ((hA.q t u rfl rfl).rtx tr hh), fun σ hσ => conv _ (hA.heap t u rfl rfl σ hσ)⟩

/-- **Synchronisation in the closed two-endpoint system** (DESIGN.md section 8, C03, first
    clause) — both inequalities.  In every reachable state (file header), whenever both TCBs exist
    and the peer has left SYN-SENT — in particular whenever both endpoints are in synchronised
    states —:

      `SND.UNA_x =< RCV.NXT_peer =< SND.NXT_x`   for `x` = A and `x` = B,

    in offsets from `ISS_x` (all below 2^31, and `RCV.NXT_peer` is past `x`'s SYN) and therefore
    in the code's circular order (`mod_leq`): an endpoint never has acknowledged to it what its peer
    has not received, and never expects a sequence number its peer has not sent.
    Proof: the invariants `Inv` (`Lemmas/TcpSysInv.lean`) and `AckInv` (`Lemmas/TcpAckSys.lean`) over
    `Sys.step`. -/
theorem c03_synchronised (ia ib : Seq) (ma mb : U16) (simultaneous : Bool) (sys0 sys : Sys)
    (h0 : Start ia ib ma mb simultaneous sys0) (hrun : ClosedRun sys0 sys) (hroom : RoomOk sys)
    (x : SideId) (t u : Tcb) (ht : (sys.side x).tcb = some t) (hu : (sys.side x.peer).tcb = some u)
    (hs : u.state ≠ .SynSent) :
    off t.snd.iss t.snd.una ≤ off t.snd.iss u.rcv.nxt ∧ off t.snd.iss u.rcv.nxt ≤ off t.snd.iss t.snd.nxt ∧
      off t.snd.iss t.snd.nxt < 2147483648 ∧ 1 ≤ off t.snd.iss u.rcv.nxt ∧
      modLeq t.snd.una u.rcv.nxt = true ∧ modLeq u.rcv.nxt t.snd.nxt = true := by
  have hf := full_of_start h0 hrun
  have hA := hf.ack.tcbs ht hu
  obtain ⟨b1, b2, _⟩ := inv_rcv_le_snd sys hf.inv hroom x t u ht hu hs
  have hu1 := hA.una t u rfl rfl
  rw [top_of_ne hs] at hu1
  have hpos := (hA.q t u rfl rfl).pos hs
  exact ⟨hu1, b1, b2, hpos, (modLeq_iff_off t.snd.iss _ _ (by omega) (by omega)).2 hu1,
    (modLeq_iff_off t.snd.iss _ _ (by omega) b2).2 b1⟩

/-- **Equality at quiescence, sender-side form.**  In every reachable state of the closed system
    (file header), when endpoint `x` has nothing outstanding — `SND.UNA_x = SND.NXT_x`: everything it
    ever numbered (SYN, data, FIN) has been acknowledged to it — its peer expects exactly the next
    sequence number `x` will use: `RCV.NXT_peer = SND.NXT_x`.  (Squeeze of `c03_synchronised`.)

    `_partial`: the clause of DESIGN.md section 8 is phrased on the network side ("when every segment
    `x` emitted has been delivered"); that form is `C03SynchronisedQuiescentStatement` below. -/
theorem c03_synchronised_quiescent_partial (ia ib : Seq) (ma mb : U16) (simultaneous : Bool) (sys0 sys : Sys)
    (h0 : Start ia ib ma mb simultaneous sys0) (hrun : ClosedRun sys0 sys) (hroom : RoomOk sys)
    (x : SideId) (t u : Tcb) (ht : (sys.side x).tcb = some t) (hu : (sys.side x.peer).tcb = some u)
    (hs : u.state ≠ .SynSent) (hq : t.snd.una = t.snd.nxt) : u.rcv.nxt = t.snd.nxt := by
  obtain ⟨h1, h2, _⟩ := c03_synchronised ia ib ma mb simultaneous sys0 sys h0 hrun hroom x t u ht hu hs
  rw [hq] at h1
  exact off_inj (Nat.le_antisymm h2 h1)

/-- the indices of the history elements a run delivers to side `x` -/
def deliveredTo (x : SideId) : List Op → List Nat
  | [] => []
  | .deliver y i :: ops => if y = x then i :: deliveredTo x ops else deliveredTo x ops
  | _ :: ops => deliveredTo x ops

/-- every op of the list is an op of the closed system in the state in which it is executed, with
    room below 2^31 sequence numbers -/
def ClosedOps : Sys → List Op → Prop
  | _, [] => True
  | s, op :: ops => RoomOk s ∧ Op.Closed s op ∧ ∀ s' r, s.step op = .ok (s', r) → ClosedOps s' ops

/-- Equality at quiescence, network-side form (NOT proved).  "When every history element emitted by
    the peer has been delivered to `x` (in some order, any number of times) and `x`'s reorder heap is
    empty, `RCV.NXT_x = SND.NXT_peer`."  As it stands the clause needs two more hypotheses, made
    explicit here: (a) the peer's retransmission queue holds no entry still waiting for its first
    transmission (`close()` numbers the FIN at once, `segments()` emits it later: in between
    `SND.NXT_peer` counts a sequence number that is in no history element); (b) whenever a segment was
    delivered to `x`, `x`'s receive buffer was empty — the text block accepts only what fits
    (`min unreceived space_available`) and drops the rest of a segment it has taken off the reorder
    heap, and the advertised window is the constant 65535 whatever is buffered, so with an
    application that does not read, segments are "delivered" without `RCV.NXT` moving.
    What a proof needs beyond what is proved here: the send-window invariant of C17 joined with
    `c03_synchronised` for every history element (`SEG.SEQ + SEG.LEN =< RCV.NXT_x + 65535`, so nothing
    delivered is dropped for being beyond the window), an invariant "every delivered element ends at
    or below `RCV.NXT_x` or is parked in the heap", and the `Chain` invariant of
    `Lemmas/TcbWindow.lean` extended to the closing states (it is stated only while text can still be
    segmentized).  The native oracle evaluates the clause at quiescence (`synchronised …` idents). -/
def C03SynchronisedQuiescentStatement : Prop :=
  ∀ (ia ib : Seq) (ma mb : U16) (simultaneous : Bool) (sys0 sys : Sys) (ops : List Op) (rs : List Res),
    Start ia ib ma mb simultaneous sys0 → ClosedOps sys0 ops → sys0.run ops = .ok (sys, rs) → RoomOk sys →
    ∀ (x : SideId) (t u : Tcb), (sys.side x).tcb = some t → (sys.side x.peer).tcb = some u →
      t.state ≠ .SynSent → t.incoming.segments = [] →
      (∀ i σ, sys.nth i = some σ → σ.hdr.srcPort = x.peer.port → i ∈ deliveredTo x ops) →
      (∀ tr ∈ u.outgoing.retransmit, tr.needsTransmit = true → tr.segment ∈ sys.history) →
      (∀ k, ∀ sk rk, sys0.run (ops.take k) = .ok (sk, rk) → (∃ i, ops[k]? = some (.deliver x i)) →
        ∀ tk, (sk.side x).tcb = some tk → tk.incoming.text = []) →
      t.rcv.nxt = u.snd.nxt

/-- a concrete closed run: handshake, three bytes from A to B delivered, a duplicate of the data
    segment, B's ACK delivered -/
def syncRun : Bool :=
  match Sys.run {} [.open .A 1000 1500, .listen .B 5000 1500] with
  | .ok (sys0, _) =>
    match cleanRunB sys0 [.emit .A, .deliver .B 0, .emit .B, .deliver .A 1, .write .A [1, 2, 3],
        .emit .A, .deliver .B 2, .deliver .B 3, .emit .B, .deliver .B 3, .deliver .A 4] with
    | some sys =>
      roomB sys && (match sys.a.tcb, sys.b.tcb with
        | some t, some u => u.state == .Established && t.snd.una == 1004#32 && u.rcv.nxt == 1004#32 &&
            t.snd.nxt == 1004#32
        | _, _ => false)
    | none => false
  | .error _ => false

/-- the hypotheses of `c03_synchronised` are satisfiable and the bounds are attained: in the run
    above (clean with room at every step: `cleanRunB_sound`) `SND.UNA_A = RCV.NXT_B = SND.NXT_A = 1004` -/
example : ∃ sys0 sys : Sys, Start 1000 5000 1500 1500 false sys0 ∧ ClosedRun sys0 sys ∧ RoomOk sys ∧
    ∃ t u, sys.a.tcb = some t ∧ sys.b.tcb = some u ∧ u.state = .Established ∧ t.snd.una = 1004#32 ∧
      u.rcv.nxt = 1004#32 ∧ t.snd.nxt = 1004#32 := by
  have key : syncRun = true := by decide
  unfold syncRun at key
  split at key
  · rename_i sys0 rs e0
    split at key
    · rename_i sys e1
      simp only [Bool.and_eq_true] at key
      obtain ⟨hr, hk⟩ := key
      split at hk
      · rename_i t u ht hu
        simp only [Bool.and_eq_true, beq_iff_eq] at hk
        exact ⟨sys0, sys, ⟨rs, e0⟩, ClosedRun.of_clean (cleanRunB_sound _ _ _ e1), roomB_sound _ hr, t, u, ht, hu,
          hk.1.1.1, hk.1.1.2, hk.1.2, hk.2⟩
      · simp at hk
    · simp at key
  · simp at key

end C03
end Elvis.Tcp
