import ElvisVerif.Lemmas.TcpRelSeqSys
import ElvisVerif.Props.C01Converge
/-!
# C03 — release after both applications close (partial: simultaneous and sequential close from a `Done` state)

`releaseRound` (`Lemmas/TcpRelSys.lean`) = `close A`, `close B`, two exchange phases (`emit A`, `emit B`, delivery of
everything just emitted to its addressee, `read A`, `read B`), `tick A (2·MSL + 1)`, `tick B (2·MSL + 1)`.
-/
namespace Elvis.Tcp
open Tcb Elvis.Tcp.Fin

theorem quiet_of_done {iss : SideId → Seq} {s : Sys} (hg : Good iss s) (ta tb : Tcb) (hd : Done s ta tb) :
    QuietX .A ta tb ∧ QuietX .B tb ta := by
  have key : ∀ (x : SideId) (t u : Tcb), (s.side x).tcb = some t → SteadyX t u → DoneX t → DoneX u → QuietX x t u := by
    intro x t u ht S dt du
    obtain ⟨lp, rp⟩ := hg.ports x t ht
    exact ⟨S.st, S.heap, S.buf, dt.text, dt.rtx, dt.one, S.acked du.one, S.sync, hg.wnd x t ht, by have := S.mtu; omega,
      lp, rp⟩
  exact ⟨key .A ta tb hd.steady.ha hd.steady.a hd.a hd.b, key .B tb ta hd.steady.hb hd.steady.b hd.b hd.a⟩

/-- a closing schedule `rr` that takes quiet endpoints to deletion and leaves the four logs alone, run from a reachable
    `Done` state: both TCBs are deleted and both streams end complete -/
theorem release_of_done {iss : SideId → Seq} {s : Sys} (hg : Good iss s) (ta tb : Tcb) (hd : Done s ta tb)
    {rr : Sys → Except String Sys}
    (h : QuietX .A ta tb → QuietX .B tb ta → ∃ s', rr s = .ok s' ∧ FinRun s s' ∧
      (s'.side .A).tcb = none ∧ (s'.side .B).tcb = none ∧
      (s'.side .A).submitted = (s.side .A).submitted ∧ (s'.side .B).submitted = (s.side .B).submitted ∧
      (s'.side .A).delivered = (s.side .A).delivered ∧ (s'.side .B).delivered = (s.side .B).delivered ∧
      s'.historyLen = s.historyLen + 4) :
    ∃ s', rr s = .ok s' ∧ FinRun s s' ∧ s'.a.tcb = none ∧ s'.b.tcb = none ∧
      s'.b.delivered = s'.a.submitted ∧ s'.a.delivered = s'.b.submitted ∧
      s'.a.submitted = s.a.submitted ∧ s'.b.submitted = s.b.submitted ∧
      s'.historyLen = s.historyLen + 4 := by
  obtain ⟨qa, qb⟩ := quiet_of_done hg ta tb hd
  obtain ⟨s', e, r, na, nb, sa, sb, da, db, hl⟩ := h qa qb
  obtain ⟨d1, d2⟩ := done_stream hg ta tb hd
  exact ⟨s', e, r, na, nb, (db.trans d1).trans sa.symm, (da.trans d2).trans sb.symm, sa, sb, hl⟩

/-- **Release after a simultaneous close** (`_partial`: the starting state and the schedule are fixed).
    From every `Done` state of the closed system (`Lemmas/TcpConvRound.lean`: both ESTABLISHED,
    everything submitted has been delivered, nothing queued, unsent, buffered or parked — the state every
    fair round of `c01_converges_partial` / `c01_converges_after_loss_partial` ends in) that a `PlainRun` reaches
    from the opens (any ISNs, MTUs ≥ `SPACE_FOR_HEADERS`) with fewer than 2^31 − 2 bytes submitted (`RoomH`): when both
    applications call `close()` and the network is fair, i.e. under `releaseRound`,
    * no step panics; both endpoints go ESTABLISHED → FIN-WAIT-1 → CLOSING → TIME-WAIT in two exchange
      phases, exchanging exactly four segments (FIN, FIN, ACK, ACK);
    * once `2·MSL` (+ 1 ms) of virtual time have passed on each side after that, **both TCBs are
      deleted** (the real `Tcp` session is dropped: `AdvanceTimeResult::CloseConnection`);
    * the byte streams are untouched: `delivered = submitted` in both directions.
    The 2·MSL timer is armed when the ACK of the own FIN arrives, so the bound of DESIGN.md section 8
    (`2·MSL + RTO` after the second `close()`) holds with room: no retransmission is needed.
    NOT proved: release when the closes are issued in arbitrary reachable states, under arbitrary fair schedules
    (`C03ReleaseStatement`); that stays evaluated by the release oracle of `./check C03`.  Closes after convergence from
    any reachable state, with text queued, with data in flight and after loss (idle peer): `Props/C03Release2.lean`.
    The other order of closes: `c03_release_sequential_partial`. -/
theorem c03_release_simultaneous_partial (ia ib : Seq) (ma mb : U16) (simultaneous : Bool) (sys0 s : Sys)
    (rs : List Res) (hma : SPACE_FOR_HEADERS ≤ ma.toNat) (hmb : SPACE_FOR_HEADERS ≤ mb.toNat)
    (h0 : Sys.run {} [.open .A ia ma, if simultaneous then .open .B ib mb else .listen .B ib mb] = .ok (sys0, rs))
    (hrun : PlainRun sys0 s) (h31 : RoomH s) (ta tb : Tcb) (hd : Done s ta tb) :
    ∃ s', releaseRound s = .ok s' ∧ FinRun s s' ∧ s'.a.tcb = none ∧ s'.b.tcb = none ∧
      s'.b.delivered = s'.a.submitted ∧ s'.a.delivered = s'.b.submitted ∧
      s'.a.submitted = s.a.submitted ∧ s'.b.submitted = s.b.submitted ∧
      s'.historyLen = s.historyLen + 4 :=
  release_of_done (good_of_reach ia ib ma mb simultaneous sys0 s rs hma hmb h0 hrun h31) ta tb hd
    (release_simultaneous s ta tb hd.steady.ha hd.steady.hb)

/-- **Release after a sequential close** (`_partial`: starting state and schedule fixed).  From every
    reachable `Done` state: A's application closes; two exchange phases later A is in FIN-WAIT-2 and B, whose
    application has seen the end of the stream, in CLOSE-WAIT; B's application closes (LAST-ACK); two more
    exchange phases: A is in TIME-WAIT and **B's TCB is deleted by A's ACK of its FIN**
    (`ProcessSegmentResult::FinalizeClose`); when `2·MSL` (+ 1 ms) have passed on A's side **A's TCB is deleted** by
    the TIME-WAIT timeout.  No step panics, exactly four segments are exchanged (FIN, ACK, FIN, ACK), the
    streams are untouched.  `releaseRoundSeq` = `close A`, phase, phase, `close B`, phase, phase,
    `tick A (2·MSL + 1)` (`Lemmas/TcpRelSeqSys.lean`). -/
theorem c03_release_sequential_partial (ia ib : Seq) (ma mb : U16) (simultaneous : Bool) (sys0 s : Sys)
    (rs : List Res) (hma : SPACE_FOR_HEADERS ≤ ma.toNat) (hmb : SPACE_FOR_HEADERS ≤ mb.toNat)
    (h0 : Sys.run {} [.open .A ia ma, if simultaneous then .open .B ib mb else .listen .B ib mb] = .ok (sys0, rs))
    (hrun : PlainRun sys0 s) (h31 : RoomH s) (ta tb : Tcb) (hd : Done s ta tb) :
    ∃ s', releaseRoundSeq s = .ok s' ∧ FinRun s s' ∧ s'.a.tcb = none ∧ s'.b.tcb = none ∧
      s'.b.delivered = s'.a.submitted ∧ s'.a.delivered = s'.b.submitted ∧
      s'.a.submitted = s.a.submitted ∧ s'.b.submitted = s.b.submitted ∧
      s'.historyLen = s.historyLen + 4 :=
  release_of_done (good_of_reach ia ib ma mb simultaneous sys0 s rs hma hmb h0 hrun h31) ta tb hd
    (release_sequential s ta tb hd.steady.ha hd.steady.hb)

/-- **From a synchronised quiescent-network state to release**: `c01_converges_partial` followed by
    `c03_release_simultaneous_partial`: one fair round of `2n + 1` phases delivers everything; then both
    applications close and `releaseRound` deletes both TCBs. -/
theorem c03_converge_then_release_partial (ia ib : Seq) (ma mb : U16) (simultaneous : Bool) (sys0 s : Sys)
    (rs : List Res) (hma : SPACE_FOR_HEADERS ≤ ma.toNat) (hmb : SPACE_FOR_HEADERS ≤ mb.toNat)
    (h0 : Sys.run {} [.open .A ia ma, if simultaneous then .open .B ib mb else .listen .B ib mb] = .ok (sys0, rs))
    (hrun : PlainRun sys0 s) (h31 : RoomH s) (ta tb : Tcb) (hs : Steady s ta tb)
    (qa : ta.outgoing.retransmit = []) (qb : tb.outgoing.retransmit = [])
    (n : Nat) (wa : ta.outgoing.text.length ≤ 65535 * n) (wb : tb.outgoing.text.length ≤ 65535 * n) :
    ∃ s' s'', fairRound (2 * n + 1) s = .ok s' ∧ releaseRound s' = .ok s'' ∧
      s''.a.tcb = none ∧ s''.b.tcb = none ∧ s''.b.delivered = s''.a.submitted ∧ s''.a.delivered = s''.b.submitted ∧
      s.a.submitted <+: s''.a.submitted ∧ s.b.submitted <+: s''.b.submitted := by
  have hg := good_of_reach ia ib ma mb simultaneous sys0 s rs hma hmb h0 hrun h31
  obtain ⟨s', ta', tb', hf, hr, hg', hd⟩ := fairRound_done n s ta tb hg hs qa qb wa wb
  obtain ⟨s'', e, _, na, nb, d1, d2, sa, sb, _⟩ :=
    release_of_done hg' ta' tb' hd (release_simultaneous s' ta' tb' hd.steady.ha hd.steady.hb)
  exact ⟨s', s'', hf, e, na, nb, d1, d2, by rw [sa]; exact hr.sub .A, by rw [sb]; exact hr.sub .B⟩

/-- the release clause of C03 in general (NOT proved): when both applications call `close()` in ANY
    reachable state in which both TCBs exist and have left SYN-SENT (`close()` in SYN-SENT is a no-op in
    this code), some fair round followed by `2·MSL + RTO` of virtual time deletes both TCBs.  Missing: the
    convergence argument of `Props/C01Converge.lean` for the closing states (FIN-WAIT-1 / CLOSING / LAST-ACK keep
    segmentizing and retransmitting).  Proved: the two fair schedules `releaseRound` (simultaneous close) and
    `releaseRoundSeq` (A first, B after the end of stream) from `Done` states, and the schedules of
    `Props/C03Release2.lean`. -/
def C03ReleaseStatement : Prop :=
  ∀ (ia ib : Seq) (ma mb : U16) (simultaneous : Bool) (sys0 s : Sys) (rs : List Res) (ta tb : Tcb),
    SPACE_FOR_HEADERS ≤ ma.toNat → SPACE_FOR_HEADERS ≤ mb.toNat →
    Sys.run {} [.open .A ia ma, if simultaneous then .open .B ib mb else .listen .B ib mb] = .ok (sys0, rs) →
    FinRun sys0 s → C01.Lt31 s → s.a.tcb = some ta → s.b.tcb = some tb →
    ta.state ≠ .SynSent → tb.state ≠ .SynSent →
    ∃ (k : Nat) (s' : Sys), (do
        let s1 ← Prod.fst <$> s.step (.close .A)
        let s2 ← Prod.fst <$> s1.step (.close .B)
        let s3 ← fairRound k s2
        let s4 ← Prod.fst <$> s3.step (.tick .A (TIME_WAIT + RTO + 1))
        Prod.fst <$> s4.step (.tick .B (TIME_WAIT + RTO + 1))) = .ok s' ∧
      s'.a.tcb = none ∧ s'.b.tcb = none

/-! ## non-vacuity -/

def releaseCheck : Bool :=
  match Sys.run {} [.open .A 1000 1500, .listen .B 5000 1500] with
  | .ok (sys0, _) =>
    match plainRunB sys0 convOps with
    | some s =>
      (match fairRound 3 s with
        | .ok s' =>
          (match releaseRound s' with
            | .ok s'' => s''.a.tcb.isNone && s''.b.tcb.isNone && s''.b.delivered == [1, 2, 3] &&
                s''.a.delivered == [9, 8] && s''.historyLen == 11
            | .error _ => false)
        | .error _ => false)
    | none => false
  | .error _ => false

def releaseSeqCheck : Bool :=
  match Sys.run {} [.open .A 1000 1500, .listen .B 5000 1500] with
  | .ok (sys0, _) =>
    match plainRunB sys0 convOps with
    | some s =>
      (match fairRound 3 s with
        | .ok s' =>
          (match releaseRoundSeq s' with
            | .ok s'' => s''.a.tcb.isNone && s''.b.tcb.isNone && s''.b.delivered == [1, 2, 3] &&
                s''.a.delivered == [9, 8] && s''.historyLen == 11
            | .error _ => false)
        | .error _ => false)
    | none => false
  | .error _ => false

/-- the sequential close evaluated on the same reachable state -/
example : releaseSeqCheck = true := by decide +kernel

/-- the chain evaluated on the reachable state of the example of `c01_converges_partial`: the fair round
    delivers `[1, 2, 3]` and `[9, 8]`, `releaseRound` then deletes both TCBs; 11 segments in all
    (3 handshake, 4 data/ACK, 4 closing) -/
example : releaseCheck = true := by decide +kernel

end Elvis.Tcp
