import ElvisVerif.Lemmas.TcpFinRun
import ElvisVerif.Lemmas.TcpConvInv
import ElvisVerif.Props.C03Sync
/-!
# C03 — FIN after data, receiver half; C01 stream safety with `close()`

System: `Model/TcpSys.lean`.  Quantification: `FinRun` (`Lemmas/TcpFinRun.lean`) from the state after
`open A` + (`listen B` | `open B`) — any ISNs, any MTUs —, or from any state reached by a run of C01 ops
(`C01.RunOk`, which includes `open` / `listen` at any point): any finite interleaving of `write`, `read`,
`tick`, `emit`, **`close`**, `drop` and deliveries of ANY element of the history of everything ever
emitted (loss, duplication, reordering, arbitrary delay) to the side it is addressed to; no `abort`,
no raw `inject`, no re-`open`.  H31 as `C01.Lt31` on the final state: fewer than 2^31 bytes submitted
per direction.

The invariant is C01's stream invariant generalised to all eleven states (`Lemmas/TcpFinInv.lean` …
`TcpFinSys.lean`): segments may carry FIN — only once the sender has numbered it, without text, at
`ISS + 1 + |submitted|` —, `SND.NXT = ISS + 1 + |segmentized| + [FIN numbered]`,
`RCV.NXT = IRS + 1 + |delivered ++ buffered| + [FIN received]`.
-/
namespace Elvis.Tcp.C03
open Elvis.ModCmp Elvis.Tcp.Tcb Elvis.Tcp.Fin

theorem invF_of_inv {iss : SideId → Seq} {sys0 sys : Sys} (hi : C01.Inv iss sys0) (hrun : FinRun sys0 sys)
    (h31 : C01.Lt31 sys) : ∃ fin, InvF iss fin sys :=
  let ⟨fin, i, _⟩ := finRun_inv (InvF.of_inv hi) hrun h31
  ⟨fin, i⟩

theorem invF_of_run {iss : SideId → Seq} {ops : List Op} (hok : C01.RunOk iss {} ops) {sys0 sys : Sys} {rs : List Res}
    (e : Sys.run {} ops = .ok (sys0, rs)) (hrun : FinRun sys0 sys) (h31 : C01.Lt31 sys) : ∃ fin, InvF iss fin sys :=
  invF_of_inv (C01.run_inv (C01.Inv.init iss) hok e (Lt31.of_finRun hrun h31)) hrun h31

theorem invF_of_start {ia ib : Seq} {ma mb : U16} {simultaneous : Bool} {sys0 sys : Sys}
    (h0 : Start ia ib ma mb simultaneous sys0) (hrun : FinRun sys0 sys) (h31 : C01.Lt31 sys) :
    ∃ fin, InvF (issOf ia ib) fin sys :=
  let ⟨_, h0⟩ := h0
  invF_of_run (runOk_start ia ib ma mb simultaneous) h0 hrun h31

theorem eof_of_invF {iss : SideId → Seq} {fin : SideId → Bool} {sys : Sys} (h : InvF iss fin sys)
    (x : SideId) (t : Tcb) (ht : (sys.side x).tcb = some t) (hf : finRcvd t.state = true) :
    (sys.side x).delivered ++ t.incoming.text = (sys.side x.peer).submitted ∧
    t.rcv.nxt = iss x.peer + 1 + BitVec.ofNat 32 ((sys.side x.peer).submitted.length + 1) ∧
    fin x.peer = true := by
  obtain ⟨i, _⟩ := (h.side x).tcb t ht
  obtain ⟨hall, hfy⟩ := i.eof hf
  have hns : t.state ≠ .SynSent := by intro h0; rw [h0] at hf; cases hf
  refine ⟨hall, ?_, hfy⟩
  rw [(i.rcv1 hns).1, hf, ← hall, List.length_append]
  rfl

/-- the statement of `c03_fin_after_data` below from any state reached by a run of C01 ops (`open` / `listen` in any order
    and at any point, writes, reads, ticks, emits, drops, addressed deliveries) followed by a `FinRun` -/
theorem c03_fin_after_data_run (iss : SideId → Seq) (ops : List Op) (hok : C01.RunOk iss {} ops)
    (sys0 sys : Sys) (rs : List Res) (e : Sys.run {} ops = .ok (sys0, rs)) (hrun : FinRun sys0 sys)
    (h31 : C01.Lt31 sys) (x : SideId) (t : Tcb) (ht : (sys.side x).tcb = some t) (hf : finRcvd t.state = true) :
    (sys.side x).delivered ++ t.incoming.text = (sys.side x.peer).submitted ∧
    t.rcv.nxt = iss x.peer + 1 + BitVec.ofNat 32 ((sys.side x.peer).submitted.length + 1) := by
  obtain ⟨fin, h⟩ := invF_of_run hok e hrun h31
  obtain ⟨a, b, _⟩ := eof_of_invF h x t ht hf
  exact ⟨a, b⟩

/-- **FIN after data, receiver half** (full strength).  In every state of the closed two-endpoint
    system reachable by a `FinRun` (file header: writes, reads, ticks, emits, closes by either side at
    any time — with data queued, unsegmentized or in flight —, drops, and deliveries of any history
    element any number of times in any order) under H31: if endpoint `x`'s state shows that the peer's
    FIN has been received (CLOSE-WAIT, LAST-ACK, CLOSING or TIME-WAIT), then the bytes `x` has handed
    to its application followed by the bytes waiting in its receive buffer are EXACTLY the bytes the
    peer's application submitted — all of them, in order, each once —, and
    `RCV.NXT = ISS_peer + 1 + |submitted_peer| + 1`: one sequence number for the SYN, one per byte, one for
    the FIN.  (The peer's `send` accepts nothing after `close`, so "submitted" is "submitted before
    close".)  Together with the sender half (`c03_fin_after_data_partial` in `Props/C03.lean`: the FIN is
    numbered only when no text is left to segmentize, at the last sequence number) this is the FIN
    clause of C03. -/
theorem c03_fin_after_data (ia ib : Seq) (ma mb : U16) (simultaneous : Bool) (sys0 sys : Sys)
    (h0 : Start ia ib ma mb simultaneous sys0) (hrun : FinRun sys0 sys) (h31 : C01.Lt31 sys)
    (x : SideId) (t : Tcb) (ht : (sys.side x).tcb = some t) (hf : finRcvd t.state = true) :
    (sys.side x).delivered ++ t.incoming.text = (sys.side x.peer).submitted ∧
    t.rcv.nxt = issOf ia ib x.peer + 1 + BitVec.ofNat 32 ((sys.side x.peer).submitted.length + 1) := by
  obtain ⟨rs, h0⟩ := h0
  exact c03_fin_after_data_run (issOf ia ib) _ (runOk_start ia ib ma mb simultaneous) sys0 sys rs h0 hrun h31 x t ht hf

/-- **Every FIN is numbered behind every submitted byte.**  In every reachable state (as above): a
    history element (= a segment ever emitted) from side `x` that carries FIN has no text, no SYN, and
    `SEG.SEQ = ISS_x + 1 + |submitted_x|`; the same for every FIN waiting on `x`'s retransmission queue
    and every FIN parked in the peer's reorder heap.  (From then on `submitted_x` cannot grow: the
    endpoint is in a state in which `send` accepts nothing, or gone.) -/
theorem c03_fin_numbered_last (ia ib : Seq) (ma mb : U16) (simultaneous : Bool) (sys0 sys : Sys)
    (h0 : Start ia ib ma mb simultaneous sys0) (hrun : FinRun sys0 sys) (h31 : C01.Lt31 sys) (x : SideId) :
    (∀ g ∈ sys.history, g.hdr.srcPort = x.port → g.hdr.ctl.fin = true →
      g.text = [] ∧ g.hdr.ctl.syn = false ∧
        g.hdr.seq = issOf ia ib x + 1 + BitVec.ofNat 32 (sys.side x).submitted.length) ∧
    (∀ t, (sys.side x).tcb = some t → ∀ tr ∈ t.outgoing.retransmit, tr.segment.hdr.ctl.fin = true →
      tr.segment.text = [] ∧ tr.segment.hdr.ctl.syn = false ∧
        tr.segment.hdr.seq = issOf ia ib x + 1 + BitVec.ofNat 32 (sys.side x).submitted.length) ∧
    (∀ u, (sys.side x.peer).tcb = some u → ∀ g ∈ u.incoming.segments, g.hdr.ctl.fin = true →
      g.text = [] ∧ g.hdr.ctl.syn = false ∧
        g.hdr.seq = issOf ia ib x + 1 + BitVec.ofNat 32 (sys.side x).submitted.length) := by
  obtain ⟨fin, h⟩ := invF_of_start h0 hrun h31
  refine ⟨fun g hg hp hf => ?_, fun t ht tr htr hf => ?_, fun u hu g hg hf => ?_⟩
  · obtain ⟨_, a, b, c⟩ := (h.hist g hg x hp).fin hf
    exact ⟨b, a, c⟩
  · obtain ⟨i, _⟩ := (h.side x).tcb t ht
    obtain ⟨_, a, b, c⟩ := (i.rtx tr.segment (List.mem_map.2 ⟨tr, htr, rfl⟩)).1.fin hf
    exact ⟨b, a, c⟩
  · obtain ⟨i, _⟩ := (h.side_peer x).tcb u hu
    obtain ⟨_, a, b, c⟩ := (i.heap g hg).fin hf
    exact ⟨b, a, c⟩

/-- **C01 stream safety and exactly-once with `close()`.**  `c01_safety` / `c01_exactly_once`
    (`Props/C01Safety.lean`) quantify over runs in which nobody closes.  With closes by either side at any
    time (`FinRun`, file header), under H31: in every reachable state, for both sides `x`:
    `delivered_x` is a prefix of `submitted_peer`; for a TCB of `x` out of SYN-SENT,
    `delivered_x ++ buffered` is a prefix of `submitted_peer` and
    `RCV.NXT = ISS_peer + 1 + |delivered_x ++ buffered| + [state shows FIN received]` — one sequence number,
    one byte, once —; and `SND.NXT = ISS_x + 1 + |submitted_x| − |unsegmentized text| + [FIN numbered]`. -/
theorem c03_stream_with_close (ia ib : Seq) (ma mb : U16) (simultaneous : Bool) (sys0 sys : Sys)
    (h0 : Start ia ib ma mb simultaneous sys0) (hrun : FinRun sys0 sys) (h31 : C01.Lt31 sys) (x : SideId) :
    (sys.side x).delivered <+: (sys.side x.peer).submitted ∧
    ∀ t, (sys.side x).tcb = some t →
      (t.state ≠ .SynSent →
        (sys.side x).delivered ++ t.incoming.text <+: (sys.side x.peer).submitted ∧
        t.rcv.nxt = issOf ia ib x.peer + 1 + BitVec.ofNat 32
          ((sys.side x).delivered.length + t.incoming.text.length + (finRcvd t.state).toNat)) ∧
      (∃ pre, (sys.side x).submitted = pre ++ t.outgoing.text ∧
        t.snd.nxt = issOf ia ib x + 1 + BitVec.ofNat 32 (pre.length + (finSent t).toNat)) := by
  obtain ⟨fin, h⟩ := invF_of_start h0 hrun h31
  refine ⟨(h.side x).pre, fun t ht => ?_⟩
  obtain ⟨i, _⟩ := (h.side x).tcb t ht
  exact ⟨fun hns => ⟨(i.rcv1 hns).2, (i.rcv1 hns).1⟩, i.out⟩

/-- handshake; A writes 3 bytes and closes at once (the text is not yet segmentized: the FIN waits
    for it), emits data + FIN (history elements 3 and 4); the FIN is delivered FIRST (parked in B's
    reorder heap: B's state does not show FIN received), then the data: B takes both -/
def finOps : List Op :=
  [.emit .A, .deliver .B 0, .emit .B, .deliver .A 1, .emit .A, .deliver .B 2,
   .write .A [1, 2, 3], .close .A, .emit .A, .deliver .B 4]

def finCheck : Bool :=
  match Sys.run {} [.open .A 1000 1500, .listen .B 5000 1500] with
  | .ok (sys0, _) =>
    match finRunB sys0 finOps with
    | some s =>
      (match s.b.tcb with
        | some tb => tb.state == .Established && s.b.delivered.isEmpty && tb.incoming.text.isEmpty &&
            s.history.length == 5
        | none => false) &&
      (match finRunB s [.deliver .B 3] with
        | some s' =>
          (decide (s'.a.submitted.length < 2147483648) && decide (s'.b.submitted.length < 2147483648)) &&
          (match s'.b.tcb with
            | some tb => tb.state == .CloseWait && s'.b.delivered ++ tb.incoming.text == [1, 2, 3] &&
                s'.a.submitted == [1, 2, 3]
            | none => false)
        | none => false)
    | none => false
  | .error _ => false

/-- the hypotheses of `c03_fin_after_data` are satisfiable with the FIN overtaking the data: while only
    the FIN has arrived B stays ESTABLISHED; once the data arrives B is in CLOSE-WAIT holding `[1, 2, 3]` -/
example : ∃ sys0 s s' : Sys, ∃ tb : Tcb,
    Start 1000 5000 1500 1500 false sys0 ∧ FinRun sys0 s ∧ FinRun s s' ∧ C01.Lt31 s' ∧
    s'.b.tcb = some tb ∧ finRcvd tb.state = true ∧ s'.b.delivered ++ tb.incoming.text = [1, 2, 3] := by
  have key : finCheck = true := by decide
  unfold finCheck at key
  split at key
  · rename_i sys0 rs e0
    split at key
    · rename_i s e1
      simp only [Bool.and_eq_true] at key
      obtain ⟨_, k2⟩ := key
      split at k2
      · rename_i s' e2
        simp only [Bool.and_eq_true] at k2
        obtain ⟨l31, k3⟩ := k2
        split at k3
        · rename_i tb htb
          simp only [Bool.and_eq_true, beq_iff_eq] at k3
          refine ⟨sys0, s, s', tb, ⟨rs, e0⟩, finRunB_sound _ _ _ e1, finRunB_sound _ _ _ e2, ?_, htb, ?_, k3.1.2⟩
          · simp only [decide_eq_true_eq] at l31
            exact l31
          · rw [k3.1.1]; rfl
        · simp at k3
      · simp at k2
    · simp at key
  · simp at key

end Elvis.Tcp.C03
