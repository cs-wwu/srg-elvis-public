import ElvisVerif.Lemmas.TcpHeapInv
/-!
# C01 — the reorder heap pops the least sequence number first (a building block of convergence after
reordering)

`segment_arrives` parks acceptable segments in a `BinaryHeap` ordered by `Segment::cmp`, which compares sequence
numbers circularly and is a total preorder only on a window of 2^31 numbers; the processing loop takes the root
while it is not ahead of `RCV.NXT`.  That the root is the parked segment with the least sequence number — so
that the loop stops only when EVERY parked segment is ahead — is what convergence from states with a
non-empty reorder heap needs (`C01ConvergesFullStatement` in `Props/C01Converge.lean`).
-/
namespace Elvis.Tcp
open Elvis.ModCmp Elvis.Tcp.Tcb

/-- **The reorder heap is a heap, and at rest everything parked is ahead of `RCV.NXT`.**  For a TCB that
    satisfies C01's stream invariant (`C01.TInv`; peer's ISS `issY`, fewer than 2^31 − 1 bytes submitted by the
    peer), whose reorder heap satisfies the binary-heap invariant for the order "smaller offset from `issY`
    first" with every parked segment within 2^31 of `issY` (`HeapOk`), and in which (in ESTABLISHED) every parked
    segment is ahead of `RCV.NXT` (`Ahead`): after `segment_arrives` with ANY valid in-window segment of the peer
    both hold again.  Proof: `Lemmas/LHeapOrd.lean` (the list model of `std::BinaryHeap` used by the TCB model
    refines the array model of `Base/Heap.lean` under any comparison that agrees with `le` on the elements
    present, which transports `Lemmas/Heap.lean`'s heap invariant and "the root is a maximum") and
    `Lemmas/TcpHeapInv.lean`. -/
theorem c01_reorder_heap_partial {port : U16} {issX issY : Seq} {subX subY delX : List UInt8}
    {t t' : Tcb} {g : Segment} {r : SegmentArrivesResult}
    (h : C01.TInv port issX issY subX subY delX t) (hv : C01.Valid issY subY g) (h31 : subY.length + 1 < 2147483648)
    (hw : off issY g.hdr.seq < 2147483648) (hk : HeapOk issY t) (ha : Ahead issY t)
    (e : t.segmentArrives g = .ok (t', r)) :
    HeapOk issY t' ∧ (r = .Ok → t'.state = .Established →
      ∀ σ ∈ t'.incoming.segments, off issY t'.rcv.nxt < off issY σ.hdr.seq) := by
  obtain ⟨a, b⟩ := segmentArrives_heapOk h hv h31 hw hk ha e
  exact ⟨a, fun hr => b hr⟩

/-- the root of a reorder heap satisfying `HeapOk` has the least offset -/
theorem c01_reorder_heap_root_least (base : Seq) (t : Tcb) (top : Segment) (hk : HeapOk base t)
    (hp : LHeap.peek t.incoming.segments = some top) :
    ∀ σ ∈ t.incoming.segments, off base top.hdr.seq ≤ off base σ.hdr.seq :=
  fun _ hσ => hk.root_le hp hσ

/-- non-vacuity: the empty heap and every one-element heap are heaps -/
example (base : Seq) (t : Tcb) (h : t.incoming.segments = []) : HeapOk base t :=
  ⟨(by rw [h]; intro g hg; cases hg), (by rw [h]; exact LHeap.isHeap_nil _)⟩

end Elvis.Tcp
