import ElvisVerif.Lemmas.Socket
/-!
# C02 — Socket I/O across the full stack is intact, ordered and bounded

Over the model of `Model/Socket.lean` (which follows socket.rs / socket_api.rs / socket_session.rs /
tcp_session.rs / udp.rs; disciplines and capacities are regenerated from the source into
`Generated/SocketCert.lean` on every check).  Where the model takes a flag from the source, the
theorem holds for the value read there and a `_counterexample` shows what the other value does
(F-C02-1 bound of `recv`, F-C02-2 order of writes into the TCB, F-C02-4 replay in `accept`).
F-C02-3 is in the source: beyond the capacity of the receive channel a whole message vanishes
(`c02_overrun_drops`), so `c02_stream_end_to_end` assumes no overrun; it takes the TCB as a
reliable in-order pipe (property C01), and `c02_datagram` takes IPv4 as intact-or-nothing.
-/
namespace Elvis.Sock

theorem c02_recv_stream_any (rem : Bool) (stored : Option Msg) (queue : List Msg) (n : Nat) (blocking : Bool) :
    (recvWith rem stored queue n blocking).out
      ++ pending (recvWith rem stored queue n blocking).stored (recvWith rem stored queue n blocking).queue
    = pending stored queue :=
  (recvWith_spec rem stored queue n blocking).1

/-- the code as it is: a read never loses, duplicates or reorders bytes -/
theorem c02_recv_stream (stored : Option Msg) (queue : List Msg) (n : Nat) (blocking : Bool) :
    (recv stored queue n blocking).out
      ++ pending (recv stored queue n blocking).stored (recv stored queue n blocking).queue
    = pending stored queue :=
  c02_recv_stream_any _ stored queue n blocking

/-- a sequence of reads with sizes `ns` (a read that would wait returns nothing) -/
def readSeq (stored : Option Msg) (queue : List Msg) : List (Nat × Bool) → List Bytes × Option Msg × List Msg
  | [] => ([], stored, queue)
  | (n, b) :: rest =>
    let r := recv stored queue n b
    let t := readSeq r.stored r.queue rest
    (r.out :: t.1, t.2.1, t.2.2)

theorem c02_recv_successive (ns : List (Nat × Bool)) : ∀ (stored : Option Msg) (queue : List Msg),
    (readSeq stored queue ns).1.flatten ++ pending (readSeq stored queue ns).2.1 (readSeq stored queue ns).2.2
      = pending stored queue := by
  induction ns with
  | nil => intro s q; simp [readSeq]
  | cons x rest ih =>
    intro s q
    obtain ⟨n, b⟩ := x
    simp only [readSeq, List.flatten_cons, List.append_assoc]
    rw [ih, c02_recv_stream]

/-- F-C02-1 (each dequeued message compared with `n`, `rem = false`): stored remainder of 2
bytes, one queued message of 4 bytes, `recv(4)` returns 6 bytes -/
theorem c02_recv_bound_counterexample :
    (recvWith false (some [1, 2]) [[3, 4, 5, 6]] 4 false).out = [1, 2, 3, 4, 5, 6] := by decide

theorem recvWith_bound (rem : Bool) (stored : Option Msg) (queue : List Msg) (n : Nat) (blocking : Bool) (B : Nat)
    (hn : n ≤ B) (hB : ∀ b, b < n → b + recvLimit rem n b ≤ B) :
    (recvWith rem stored queue n blocking).out.length ≤ B :=
  (recvWith_spec rem stored queue n blocking).2.2 B hn hB

/-- what comparing with `n` guarantees -/
theorem c02_recv_bound_original (stored : Option Msg) (queue : List Msg) (n : Nat) (blocking : Bool) :
    (recvWith false stored queue n blocking).out.length ≤ 2 * n - 1 :=
  recvWith_bound false stored queue n blocking _ (by omega) (fun b hb => by unfold recvLimit; simp; omega)

/-- the comparison the source uses (regenerated from socket.rs on every check) -/
theorem c02_recv_compares_with_remaining : Gen.recvComparesWithRemaining = true := by decide

theorem c02_recv_bound (stored : Option Msg) (queue : List Msg) (n : Nat) (blocking : Bool) :
    (recv stored queue n blocking).out.length ≤ n := by
  unfold recv
  rw [c02_recv_compares_with_remaining]
  exact recvWith_bound true stored queue n blocking n (Nat.le_refl n) (fun b hb => by unfold recvLimit; simp; omega)

theorem recv_full (stored : Option Msg) (queue : List Msg) (n : Nat) (blocking : Bool) :
    n ≤ (recv stored queue n blocking).out.length
      ∨ ((recv stored queue n blocking).stored = none ∧ (recv stored queue n blocking).queue = []) :=
  (recvWith_spec _ stored queue n blocking).2.1

theorem c02_recv_exact (stored : Option Msg) (queue : List Msg) (n : Nat) (blocking : Bool) :
    (recv stored queue n blocking).out = (pending stored queue).take n := by
  have hb := c02_recv_bound stored queue n blocking
  rw [← c02_recv_stream stored queue n blocking]
  rcases recv_full stored queue n blocking with hf | ⟨h1, h2⟩
  · rw [List.take_append_of_le_length hf, List.take_of_length_le hb]
  · rw [h1, h2, pending_none, List.flatten_nil, List.append_nil, List.take_of_length_le hb]

example : (recv (some [1, 2]) [[3, 4, 5, 6]] 4 false).out = [1, 2, 3, 4]
    ∧ (recv (some [1, 2]) [[3, 4, 5, 6]] 4 false).stored = some [5, 6] := by decide

/-- `recv_msg` hands out whole messages in order -/
theorem c02_recv_msg (stored : Option Msg) (queue : List Msg) (blocking : Bool) (m : Msg)
    (s' : Option Msg) (q' : List Msg) (h : recvMsg stored queue blocking = .msg m s' q') :
    m ++ pending s' q' = pending stored queue := by
  unfold recvMsg at h
  cases stored with
  | some x => cases h; simp [pending]
  | none =>
    cases queue with
    | nil => cases blocking <;> cases h
    | cons x q => cases h; simp [pending]

/-- `SocketSession::receive` puts the message at the END of the channel (active socket with
room) or of the pre-accept store (no socket yet), or refuses it; nothing else moves -/
theorem c02_session_fifo (cap : Nat) (s : Session) (m : Msg) :
    ((s.receive cap m) = ({ s with chan := s.chan ++ [m] }, .queued) ∧ s.active = true ∧ s.rxClosed = false ∧ s.chan.length < cap)
    ∨ ((s.receive cap m) = ({ s with pre := s.pre ++ [m] }, .stored) ∧ s.active = false)
    ∨ ((s.receive cap m) = (s, .full) ∧ s.active = true ∧ s.rxClosed = false ∧ cap ≤ s.chan.length)
    ∨ ((s.receive cap m) = (s, .closed) ∧ s.active = true ∧ s.rxClosed = true) := by
  unfold Session.receive
  cases ha : s.active <;> cases hc : s.rxClosed <;> simp
  by_cases h : s.chan.length < cap
  · simp [h]
  · simp [h]; omega

/-- F-C02-3: `try_send` on the bounded channel — once `cap` messages wait for a slow
reader the next one is dropped whole (for TCP: a hole in the byte stream) -/
theorem c02_overrun_drops (s : Session) (m : Msg) (ha : s.active = true) (hc : s.rxClosed = false)
    (hfull : s.chan.length = Gen.socketChannelCapacity) :
    s.receive Gen.socketChannelCapacity m = (s, .full) := by
  unfold Session.receive
  simp [ha, hc, hfull]

/-- `receive_stored_messages` moves the whole store behind the channel contents, in order, when it fits -/
theorem c02_replay_fifo (cap : Nat) (s : Session) (ha : s.active = true) (h : s.chan.length + s.pre.length ≤ cap) :
    s.receiveStored cap = ({ s with chan := s.chan ++ s.pre, pre := [] }, true) := by
  unfold Session.receiveStored
  simp only [ha, if_true]
  rw [replayLoop_fits cap s.pre s.chan h]

/-- … and when it does not fit, `accept()` fails (`unwrap` of `Err`) and the message popped last is lost -/
theorem c02_replay_overflow_counterexample :
    (Session.receiveStored 2 { active := true, pre := [[1], [2], [3], [4]] })
      = ({ active := true, chan := [[1], [2]], pre := [[4]] }, false) := by decide

theorem c02_demux_exact (cap : Nat) (a : Api) (id : Endpoints) (m : Msg) (s : Session)
    (h : a.session? id = some s) :
    (a.demux cap id m).1.session? id = some (s.receive cap m).1
    ∧ (a.demux cap id m).2 = .delivered (s.receive cap m).2
    ∧ ∀ id', id' ≠ id → (a.demux cap id m).1.session? id' = a.session? id' := by
  unfold Api.demux
  simp only [h]
  exact ⟨session_setSession_self _ _ _, trivial, fun id' h' => session_setSession_other _ h' _⟩

theorem c02_demux_unknown (cap : Nat) (a : Api) (id : Endpoints) (m : Msg) (h : a.session? id = none) :
    (∀ id', id' ≠ id → (a.demux cap id m).1.session? id' = a.session? id')
    ∧ (((a.demux cap id m).2 = .newSession ∧ (a.demux cap id m).1.session? id = some { pre := [m] })
       ∨ (((a.demux cap id m).2 = .missingSession ∨ (a.demux cap id m).2 = .backlogFull) ∧ (a.demux cap id m).1 = a)) := by
  unfold Api.demux
  simp only [h]
  cases hb : a.binding? id.loc with
  | none => exact ⟨fun _ _ => rfl, .inr ⟨.inl rfl, rfl⟩⟩
  | some b =>
    by_cases hl : b.pending.length < b.cap
    · simp only [hl, if_true]
      refine ⟨fun id' h' => ?_, .inl ⟨trivial, session_setSession_self _ _ _⟩⟩
      rw [session_setSession_other _ h', session_setBinding]
    · simp only [hl, if_false]
      exact ⟨fun _ _ => trivial, .inr ⟨.inr trivial, trivial⟩⟩

/-- shape of `SocketAPI::demux` in the source: exact 4-tuple, else listen binding exact then
`0.0.0.0:port`; the message is stored and the backlog `try_send` done before the session is
inserted; `SocketSession::receive` runs under the sessions read lock -/
theorem c02_demux_certificate : Gen.demuxLookupShape = true ∧ Gen.demuxReceivesUnderReadLock = true := by decide

theorem arun_append (cap : Nat) (s : Session) (l1 l2 : List AStep) :
    s.arun cap (l1 ++ l2) = (s.arun cap l1).arun cap l2 :=
  List.foldl_append

theorem arun_arrive_cons (cap : Nat) (s : Session) (m : Msg) (l : List Msg) :
    s.arun cap ((m :: l).map .arrive) = (s.receive cap m).1.arun cap (l.map .arrive) := rfl

theorem arun_arrive_inactive (cap : Nat) (l : List Msg) (s : Session) (hs : s.active = false) :
    s.arun cap (l.map .arrive) = { s with pre := s.pre ++ l } := by
  induction l generalizing s with
  | nil => simp [Session.arun]
  | cons m l ih =>
    have h1 : (s.receive cap m).1 = { s with pre := s.pre ++ [m] } := by simp [Session.receive, hs]
    rw [arun_arrive_cons, h1, ih { s with pre := s.pre ++ [m] } hs]
    simp

theorem arun_arrive_active (cap : Nat) (l : List Msg) (s : Session) (ha : s.active = true) (hc : s.rxClosed = false)
    (hl : s.chan.length + l.length ≤ cap) : s.arun cap (l.map .arrive) = { s with chan := s.chan ++ l } := by
  induction l generalizing s with
  | nil => simp [Session.arun]
  | cons m l ih =>
    simp only [List.length_cons] at hl
    have hlt : s.chan.length < cap := by omega
    have h1 : (s.receive cap m).1 = { s with chan := s.chan ++ [m] } := by simp [Session.receive, ha, hc, hlt]
    rw [arun_arrive_cons, h1, ih { s with chan := s.chan ++ [m] } ha hc (by simp; omega)]
    simp

/-- activation + replay as one indivisible block: whatever arrived before `accept()`, whatever
other threads try to deliver while it runs (`between`) and whatever arrives later end up in the
new socket's queue in arrival order, the stored ones first -/
theorem c02_accept_replay_atomic (cap : Nat) (before between after : List Msg)
    (h : before.length + between.length + after.length ≤ cap) :
    Session.arun cap {} (before.map .arrive ++ acceptSteps true between ++ after.map .arrive)
      = { active := true, rxClosed := false, chan := before ++ between ++ after, pre := [] } := by
  rw [arun_append, arun_append, arun_arrive_inactive cap before {} rfl]
  simp only [acceptSteps, if_true]
  rw [arun_append]
  have h2 : Session.arun cap { pre := [] ++ before } [AStep.activate, AStep.replay]
      = { active := true, rxClosed := false, chan := before, pre := [] } := by
    show (Session.receiveStored cap { active := true, pre := [] ++ before }).1 = _
    rw [c02_replay_fifo cap _ rfl (by simp; omega)]
    simp
  rw [h2, arun_arrive_active cap between _ rfl rfl (by simp; omega)]
  rw [arun_arrive_active cap after _ rfl rfl (by simp; omega)]

/-- where the source replays the stored messages (regenerated on every check) -/
theorem c02_accept_replay_under_lock : Gen.acceptReplayUnderLock = true := by decide

/-- the code as it is: messages stored before `accept()` reach the new socket's queue in arrival
order and before any later message -/
theorem c02_accept_replay (before between after : List Msg)
    (h : before.length + between.length + after.length ≤ Gen.socketChannelCapacity) :
    Session.arun Gen.socketChannelCapacity {}
        (before.map .arrive ++ acceptSteps Gen.acceptReplayUnderLock between ++ after.map .arrive)
      = { active := true, rxClosed := false, chan := before ++ between ++ after, pre := [] } := by
  rw [c02_accept_replay_under_lock]
  exact c02_accept_replay_atomic _ before between after h

example : Session.arun Gen.socketChannelCapacity {}
      ([[1], [2, 3]].map .arrive ++ acceptSteps Gen.acceptReplayUnderLock [[4]] ++ [[5]].map .arrive)
    = { active := true, chan := [[1], [2, 3], [4], [5]] } := by decide

/-- F-C02-4 (activation in `get_socket_session`, replay afterwards in `accept`, no lock over
both: `acceptSteps false`): a segment delivered in between overtakes the stored ones -/
theorem c02_accept_replay_counterexample :
    (Session.arun 255 {} ([[1]].map .arrive ++ acceptSteps false [[2]])).chan = [[2], [1]] := by decide

/-- F-C02-4, second half: a `receive` that saw `upstream = None` just before the activation
pushes onto the store after the replay; nothing ever moves it to the socket -/
theorem c02_accept_stranded_counterexample :
    Session.arun 255 {} [.activate, .replay, .storeLate [9], .arrive [10]]
      = { active := true, chan := [[10]], pre := [[9]] } := by decide

/-- every hop from `Socket::send` to the instruction queue is a plain call and the queue never
makes a sender wait -/
def SyncDiscipline (d : Discipline) : Prop :=
  d.socketSendSpawns = false ∧ d.tcpSendSpawns = false ∧ d.cap = none

structure HandInv (h : Hand) : Prop where
  tasksA : h.tasksA = []
  tasksB : outsOf h.tasksB = []
  waiters : h.waiters = []
  order : outsOf h.tcb ++ outsOf h.chan = List.range h.issued

theorem enqueue_sync {d : Discipline} (hd : SyncDiscipline d) (h : Hand) (hw : h.waiters = []) (i : Instr) :
    h.enqueue d i = { h with chan := h.chan ++ [i] } := by
  unfold Hand.enqueue
  simp [hw, hd.2.2, hasRoom]

theorem step_write_sync {d : Discipline} (hd : SyncDiscipline d) (h : Hand) (hw : h.waiters = []) :
    h.step d .write = { h with issued := h.issued + 1, chan := h.chan ++ [.out h.issued] } := by
  simp only [Hand.step, hd.1, Bool.false_eq_true, if_false, Hand.sessionEnqueue, hd.2.1]
  exact enqueue_sync hd { h with issued := h.issued + 1 } hw _

theorem hand_step_sync {d : Discipline} (hd : SyncDiscipline d) (h : Hand) (inv : HandInv h) (s : HStep) :
    HandInv (h.step d s) ∧ (∃ x, (h.step d s).tcb = h.tcb ++ x) ∧
      (s ≠ .write → (h.step d s).issued = h.issued) := by
  have idle : HandInv h ∧ (∃ x, h.tcb = h.tcb ++ x) ∧ (s ≠ .write → h.issued = h.issued) :=
    ⟨inv, ⟨[], (List.append_nil _).symm⟩, fun _ => rfl⟩
  cases s with
  | write =>
    rw [step_write_sync hd h inv.waiters]
    refine ⟨⟨inv.tasksA, inv.tasksB, inv.waiters, ?_⟩, ⟨[], (List.append_nil _).symm⟩, fun hne => absurd rfl hne⟩
    simp only [outsOf_append, outsOf, List.range_succ]
    rw [← List.append_assoc, inv.order]
  | runA k =>
    simp only [Hand.step, inv.tasksA]
    exact idle
  | runB k =>
    simp only [Hand.step]
    cases hk : h.tasksB[k]? with
    | none => exact idle
    | some i =>
      have hinc := outsOf_nil_iff.1 inv.tasksB
      obtain ⟨j, rfl⟩ := hinc i (List.mem_of_getElem? hk)
      simp only []
      rw [enqueue_sync hd { h with tasksB := h.tasksB.eraseIdx k } inv.waiters]
      refine ⟨⟨inv.tasksA, outsOf_nil_iff.2 fun i hi => hinc i (List.mem_of_mem_eraseIdx hi), inv.waiters, ?_⟩,
        ⟨[], (List.append_nil _).symm⟩, fun _ => rfl⟩
      simpa [outsOf_append, outsOf] using inv.order
  | segment j =>
    simp only [Hand.step, Hand.sessionEnqueue]
    cases d.tcpRecvSpawns with
    | true =>
      rw [if_pos rfl]
      refine ⟨⟨inv.tasksA, ?_, inv.waiters, inv.order⟩, ⟨[], (List.append_nil _).symm⟩, fun _ => rfl⟩
      simp [outsOf_append, outsOf, inv.tasksB]
    | false =>
      rw [if_neg Bool.false_ne_true, enqueue_sync hd h inv.waiters]
      refine ⟨⟨inv.tasksA, inv.tasksB, inv.waiters, ?_⟩, ⟨[], (List.append_nil _).symm⟩, fun _ => rfl⟩
      simpa [outsOf_append, outsOf] using inv.order
  | tcbTask =>
    simp only [Hand.step]
    cases hc : h.chan with
    | nil => exact idle
    | cons i rest =>
      have hw := inv.waiters
      have ho := inv.order
      rw [hc] at ho
      rw [hw]
      refine ⟨⟨inv.tasksA, inv.tasksB, rfl, ?_⟩, ⟨[i], rfl⟩, fun _ => rfl⟩
      cases i <;> simpa [outsOf_append, outsOf] using ho

theorem hand_run_inv {d : Discipline} (hd : SyncDiscipline d) (l : List HStep) (h : Hand) (inv : HandInv h) :
    HandInv (h.run d l) :=
  List.foldlRecOn l _ inv fun h inv s _ => (hand_step_sync hd h inv s).1

theorem handInv_init : HandInv {} := ⟨rfl, rfl, rfl, rfl⟩

/-- synchronous hand-off: for EVERY interleaving of the application, incoming segments, their
enqueue tasks and the TCP session task, the writes that reached `Tcb::send` are exactly the first
writes of the program, in program order -/
theorem c02_order_sync {d : Discipline} (hd : SyncDiscipline d) (sched : List HStep) :
    (Hand.run d {} sched).tcbWrites <+: List.range (Hand.run d {} sched).issued :=
  ⟨outsOf (Hand.run d {} sched).chan, (hand_run_inv hd sched {} handInv_init).order⟩

/-- what the source does (regenerated from socket.rs / tcp_session.rs on every check) -/
theorem c02_handoff_is_synchronous : SyncDiscipline codeDiscipline := by
  unfold SyncDiscipline codeDiscipline; decide

/-- the code as it is: the sequence of writes reaching the TCB equals program order, whatever
the scheduler does -/
theorem c02_order (sched : List HStep) :
    (Hand.run codeDiscipline {} sched).tcbWrites <+: List.range (Hand.run codeDiscipline {} sched).issued :=
  c02_order_sync c02_handoff_is_synchronous sched

/-- … and nothing is parked on the way: whatever was issued is in the queue or at the TCB -/
theorem c02_order_complete (sched : List HStep) :
    (Hand.run codeDiscipline {} sched).tcbWrites ++ outsOf (Hand.run codeDiscipline {} sched).chan
      = List.range (Hand.run codeDiscipline {} sched).issued :=
  (hand_run_inv c02_handoff_is_synchronous sched {} handInv_init).order

example : (Hand.run codeDiscipline {} [.write, .segment 0, .write, .tcbTask, .tcbTask, .write, .tcbTask]).tcbWrites = [0, 1] := by decide

/-- F-C02-2 (`tokio::spawn` in `Socket::send` and again in `TcpSession::send`, bounded queue
of 8): two back-to-back writes, the scheduler runs the second task first -/
theorem c02_order_counterexample :
    (Hand.run ⟨true, true, true, some 8⟩ {}
      [.write, .write, .runA 1, .runA 0, .runB 0, .runB 0, .tcbTask, .tcbTask]).tcbWrites = [1, 0] := by decide

/-- either spawn alone is enough to lose the order -/
theorem c02_order_counterexample_inner_spawn :
    (Hand.run ⟨false, true, false, none⟩ {} [.write, .write, .runB 1, .runB 0, .tcbTask, .tcbTask]).tcbWrites = [1, 0] := by decide

theorem c02_order_counterexample_outer_spawn :
    (Hand.run ⟨true, false, false, none⟩ {} [.write, .write, .runA 1, .runA 0, .tcbTask, .tcbTask]).tcbWrites = [1, 0] := by decide

def Endpoints.reverse (id : Endpoints) : Endpoints := ⟨id.rem, id.loc⟩

/-- `Udp::demux` of what `UdpSession::send` produced gives back exactly the payload, and the
endpoints as seen from the receiver -/
theorem udp_roundtrip (id : Endpoints) (p : Bytes) (cks : Nat) (d : IpDgram)
    (hw : id.loc.port < 65536 ∧ id.rem.port < 65536) (h : udpSend id p cks = some d) : udpDemux d = some (id.reverse, p) := by
  unfold udpSend at h
  split at h
  · rename_i hlen
    cases h
    obtain ⟨⟨la, lp⟩, ⟨ra, rp⟩⟩ := id
    simp only [udpDemux, udpHeader, be16, List.cons_append, List.nil_append, List.length_cons]
    have h8 : Gen.udpHeaderOctets = 8 := by decide
    rw [rd16_be16 lp hw.1, rd16_be16 rp hw.2, rd16_be16 _ hlen, h8]
    simp [Endpoints.reverse]
  · cases h

structure UWorld where
  /-- every `UdpSession::send` so far: (the sending session's endpoints, payload) -/
  sent : List (Endpoints × Bytes) := []
  /-- every datagram ever handed to IPv4 -/
  wire : List IpDgram := []
  /-- the socket layer of the receiving machine -/
  api : Api := {}

inductive UStep
  /-- some UDP session somewhere sends `p` -/
  | send (id : Endpoints) (p : Bytes) (cks : Nat)
  /-- IPv4 hands datagram number `i` up on this machine (any order, any number of times) -/
  | deliver (i : Nat)
  /-- the socket of session `id` takes the oldest message out of its queue -/
  | consume (id : Endpoints)
  /-- `SocketAPI::open` (from `Socket::connect`): a session with an active, empty channel, unless
  `id` has one -/
  | openSession (id : Endpoints)

def UWorld.step (cap : Nat) (w : UWorld) : UStep → UWorld
  | .send id p cks =>
    if id.loc.port < 65536 ∧ id.rem.port < 65536 then
      match udpSend id p cks with
      | some d => { w with sent := w.sent ++ [(id, p)], wire := w.wire ++ [d] }
      | none => w
    else w
  | .deliver i =>
    match w.wire[i]? with
    | some d => { w with api := w.api.udpArrive cap d }
    | none => w
  | .consume id =>
    match w.api.session? id with
    | some s => { w with api := w.api.setSession id { s with chan := s.chan.drop 1 } }
    | none => w
  | .openSession id =>
    match w.api.session? id with
    | some _ => w
    | none => { w with api := w.api.setSession id { active := true } }

def UWorld.run (cap : Nat) (w : UWorld) (l : List UStep) : UWorld := l.foldl (UWorld.step cap) w

structure UInv (w : UWorld) : Prop where
  wire : ∀ d ∈ w.wire, ∃ e ∈ w.sent, udpDemux d = some (e.1.reverse, e.2)
  queued : ∀ id s, w.api.session? id = some s → ∀ m ∈ s.chan ++ s.pre, (id.reverse, m) ∈ w.sent

theorem mem_receive (cap : Nat) (s : Session) (x m : Msg)
    (h : m ∈ (s.receive cap x).1.chan ++ (s.receive cap x).1.pre) : m ∈ s.chan ++ s.pre ∨ m = x := by
  rcases c02_session_fifo cap s x with h1 | h1 | h1 | h1
  · rw [h1.1] at h
    simp only [List.mem_append, List.mem_singleton] at h ⊢
    exact or_right_comm.1 h
  · rw [h1.1] at h
    simp only [List.mem_append, List.mem_singleton] at h ⊢
    exact or_assoc.2 h
  · rw [h1.1] at h; exact .inl h
  · rw [h1.1] at h; exact .inl h

theorem reverse_reverse (id : Endpoints) : id.reverse.reverse = id := rfl

theorem queued_setSession {a : Api} {sent : List (Endpoints × Bytes)}
    (hq : ∀ id s, a.session? id = some s → ∀ m ∈ s.chan ++ s.pre, (id.reverse, m) ∈ sent) (id : Endpoints)
    (s0 : Session) (h : ∀ m ∈ s0.chan ++ s0.pre, (id.reverse, m) ∈ sent) (id' : Endpoints) (s' : Session)
    (hs' : (a.setSession id s0).session? id' = some s') :
    ∀ m ∈ s'.chan ++ s'.pre, (id'.reverse, m) ∈ sent := by
  by_cases hid : id' = id
  · subst hid
    rw [session_setSession_self] at hs'
    cases hs'
    exact h
  · rw [session_setSession_other _ hid] at hs'
    exact hq id' s' hs'

theorem ustep_inv (cap : Nat) (w : UWorld) (inv : UInv w) (s : UStep) : UInv (w.step cap s) := by
  cases s with
  | send id p cks =>
    simp only [UWorld.step]
    split
    · rename_i hw
      cases hs : udpSend id p cks with
      | none => exact inv
      | some d =>
        refine ⟨?_, ?_⟩
        · intro d' hd'
          simp only [List.mem_append, List.mem_singleton] at hd'
          rcases hd' with hd' | rfl
          · obtain ⟨e, he, h⟩ := inv.wire d' hd'
            exact ⟨e, by simp [he], h⟩
          · exact ⟨(id, p), by simp, udp_roundtrip id p cks d' hw hs⟩
        · intro id' s' hs' m hm
          exact List.mem_append_left _ (inv.queued id' s' hs' m hm)
    · exact inv
  | deliver i =>
    simp only [UWorld.step]
    cases hi : w.wire[i]? with
    | none => exact inv
    | some d =>
      obtain ⟨e, he, hde⟩ := inv.wire d (List.mem_of_getElem? hi)
      have he : (e.1.reverse.reverse, e.2) ∈ w.sent := by rw [reverse_reverse]; exact he
      refine ⟨inv.wire, ?_⟩
      simp only [Api.udpArrive, hde, Api.demux]
      cases hold : w.api.session? e.1.reverse with
      | some s0 =>
        exact queued_setSession inv.queued _ _ fun m hm =>
          (mem_receive cap s0 e.2 m hm).elim (inv.queued _ s0 hold m) (· ▸ he)
      | none =>
        dsimp only
        cases w.api.binding? e.1.reverse.loc with
        | none => exact inv.queued
        | some b =>
          dsimp only
          split
          · -- the backlog entry changes no session (`session_setBinding`)
            exact queued_setSession (a := w.api.setBinding _) inv.queued _ _ fun m hm => by
              rw [List.mem_singleton.1 hm]; exact he
          · exact inv.queued
  | consume id =>
    simp only [UWorld.step]
    cases hold : w.api.session? id with
    | none => exact inv
    | some s0 =>
      refine ⟨inv.wire, queued_setSession inv.queued id _ ?_⟩
      intro m hm
      apply inv.queued _ s0 hold m
      simp only [List.mem_append] at hm ⊢
      exact hm.imp_left List.mem_of_mem_drop
  | openSession id =>
    simp only [UWorld.step]
    cases hold : w.api.session? id with
    | some _ => exact inv
    | none => exact ⟨inv.wire, queued_setSession inv.queued id _ (fun m hm => by simp at hm)⟩

/-- a datagram in the queue (or pre-accept store) of a socket with 4-tuple `id` is the payload of
one `send` of a session whose local endpoint is the socket's remote one and whose remote
endpoint is the socket's local one — for every interleaving of sends by anybody, deliveries in
any order / any number of times (loss, duplication, reordering), and reads.  Never a fragment,
never a concatenation, never somebody else's datagram.
ASSUMPTION (C10/C11/C08): IPv4 hands up the bytes and addresses it was given, or nothing. -/
theorem c02_datagram (sched : List UStep) (id : Endpoints) (s : Session) (m : Msg)
    (hs : (UWorld.run Gen.socketChannelCapacity {} sched).api.session? id = some s)
    (hm : m ∈ s.chan ++ s.pre) :
    (id.reverse, m) ∈ (UWorld.run Gen.socketChannelCapacity {} sched).sent := by
  have inv : UInv (UWorld.run Gen.socketChannelCapacity {} sched) :=
    List.foldlRecOn sched _ ⟨(by intro d hd; cases hd), (by intro id s hs; cases hs)⟩
      fun w inv s _ => ustep_inv _ w inv s
  exact inv.queued id s hs m hm

example :
    let a : Endpoints := ⟨⟨1, 5000⟩, ⟨2, 6000⟩⟩   -- A's socket: local 1:5000, remote 2:6000
    let w := UWorld.run Gen.socketChannelCapacity {}
      [.openSession a.reverse, .send a [7, 8] 0, .send ⟨⟨3, 5000⟩, ⟨2, 6000⟩⟩ [9] 0, .deliver 1, .deliver 0, .deliver 0]
    -- B's socket (connected to A) got A's datagram twice (duplicate delivery) and not C's
    (w.api.session? a.reverse).map (·.chan) = some [[7, 8], [7, 8]] := by decide

theorem submitted_eq_take (e : E2E) (hi : HandInv e.hand) (hl : e.hand.issued = e.writes.length) :
    e.submitted = (e.writes.take e.hand.tcbWrites.length).flatten := by
  unfold E2E.submitted
  have h1 : e.hand.tcbWrites = List.range e.hand.tcbWrites.length := prefix_of_range hi.order
  have h2 : e.hand.tcbWrites.length ≤ e.writes.length := by
    have := congrArg List.length hi.order
    simp only [List.length_append, List.length_range] at this
    unfold Hand.tcbWrites; omega
  conv => lhs; rw [h1]
  rw [map_getD_range e.writes _ h2]

/-- invariant of the composed system (everything after `overrun` is void: a message was dropped) -/
structure EInv (e : E2E) : Prop where
  hand : HandInv e.hand
  issued : e.hand.issued = e.writes.length
  deliv : e.delivered ≤ e.submitted.length
  inactive : e.overrun = false → e.sess.active = false → e.sess.chan = [] ∧ e.stored = none ∧ e.read = []
  active : e.overrun = false → e.sess.active = true → e.sess.pre = [] ∧ e.sess.rxClosed = false
  stream : e.overrun = false → e.read ++ e.inSocket = e.submitted.take e.delivered

theorem einv_init : EInv {} :=
  ⟨handInv_init, rfl, Nat.zero_le _, fun _ _ => ⟨rfl, rfl, rfl⟩, fun _ => nofun, fun _ => rfl⟩

theorem EInv.of_no_overrun {e : E2E} (hand : HandInv e.hand) (issued : e.hand.issued = e.writes.length)
    (deliv : e.delivered ≤ e.submitted.length)
    (h : e.overrun = false →
      (e.sess.active = false → e.sess.chan = [] ∧ e.stored = none ∧ e.read = [])
      ∧ (e.sess.active = true → e.sess.pre = [] ∧ e.sess.rxClosed = false)
      ∧ e.read ++ e.inSocket = e.submitted.take e.delivered) : EInv e :=
  ⟨hand, issued, deliv, fun ho => (h ho).1, fun ho => (h ho).2.1, fun ho => (h ho).2.2⟩

theorem estep_inv {d : Discipline} (hd : SyncDiscipline d) (cap : Nat) (rem : Bool) (e : E2E) (inv : EInv e)
    (s : EStep) : EInv (e.step d cap rem s) := by
  cases s with
  | write b =>
    have hw := step_write_sync hd e.hand inv.hand.waiters
    have hs' : (e.step d cap rem (.write b)).submitted = e.submitted := by
      simp only [E2E.step, E2E.submitted, Hand.tcbWrites, hw]
      congr 1
      refine List.map_congr_left fun w hmem => ?_
      have := outsOf_mem_lt inv.hand.order hmem
      have := inv.issued
      rw [List.getD_eq_getElem?_getD, List.getD_eq_getElem?_getD, List.getElem?_append_left (by omega)]
    refine ⟨(hand_step_sync hd e.hand inv.hand .write).1, ?_, ?_, inv.inactive, inv.active, ?_⟩
    · simp [E2E.step, hw, inv.issued]
    · rw [hs']; exact inv.deliv
    · intro ho; rw [hs']; exact inv.stream ho
  | hand hs =>
    by_cases hw : hs = .write
    · subst hw; exact inv
    · have hstep : e.step d cap rem (.hand hs) = { e with hand := e.hand.step d hs } := by
        cases hs <;> first | rfl | exact absurd rfl hw
      rw [hstep]
      obtain ⟨hinv, ⟨x, hx⟩, hiss⟩ := hand_step_sync hd e.hand inv.hand hs
      have hs' : ({ e with hand := e.hand.step d hs } : E2E).submitted
          = e.submitted ++ ((outsOf x).map fun w => e.writes.getD w []).flatten := by
        simp [E2E.submitted, Hand.tcbWrites, hx, outsOf_append]
      refine ⟨hinv, ?_, ?_, inv.inactive, inv.active, ?_⟩
      · rw [hiss hw]; exact inv.issued
      · rw [hs']; simp only [List.length_append]; have := inv.deliv; omega
      · intro ho
        rw [hs', List.take_append_of_le_length inv.deliv]
        exact inv.stream ho
  | chunk k =>
    simp only [E2E.step]
    generalize hcdef : (e.submitted.drop e.delivered).take k = c
    by_cases hemp : c.isEmpty = true
    · rw [if_pos hemp]; exact inv
    · rw [if_neg hemp]
      have hc : e.delivered + c.length ≤ e.submitted.length := by
        have h1 : c.length ≤ (e.submitted.drop e.delivered).length := by rw [← hcdef]; exact List.length_take_le' _ _
        have h2 := inv.deliv
        rw [List.length_drop] at h1; omega
      have htake : e.submitted.take (e.delivered + c.length) = e.submitted.take e.delivered ++ c := by
        rw [← hcdef]; exact take_add_chunk e.submitted e.delivered k
      refine EInv.of_no_overrun inv.hand inv.issued hc fun ho => ?_
      simp only [Bool.or_eq_false_iff] at ho
      obtain ⟨⟨ho', hnf⟩, hnc⟩ := ho
      rcases c02_session_fifo cap e.sess c with h1 | h1 | h1 | h1
      · have hact := inv.active ho' h1.2.1
        rw [h1.1]
        refine ⟨fun ha => ?_, fun _ => hact, ?_⟩
        · rw [h1.2.1] at ha; cases ha
        · show e.read ++ E2E.inSocket _ = e.submitted.take (e.delivered + c.length)
          rw [htake, ← inv.stream ho']
          simp [E2E.inSocket, pending, hact.1]
      · have hp := inv.inactive ho' h1.2
        rw [h1.1]
        refine ⟨fun _ => hp, fun ha => ?_, ?_⟩
        · rw [h1.2] at ha; cases ha
        · show e.read ++ E2E.inSocket _ = e.submitted.take (e.delivered + c.length)
          rw [htake, ← inv.stream ho']
          simp [E2E.inSocket, pending, hp.1, hp.2.1]
      · rw [h1.1] at hnf; cases hnf
      · rw [h1.1] at hnc; cases hnc
  | accept =>
    simp only [E2E.step]
    by_cases ha : e.sess.active = true
    · rw [if_pos ha]; exact inv
    · rw [if_neg ha]
      have hna : e.sess.active = false := by simpa using ha
      generalize hr : Session.receiveStored cap { e.sess with active := true, rxClosed := false, chan := [] } = r
      have hrs : r.2 = true → r.1 = { active := true, rxClosed := false, chan := e.sess.pre, pre := [] } := by
        intro h
        rw [← hr] at h ⊢
        simp only [Session.receiveStored, if_true] at h ⊢
        rw [replayLoop_true cap _ _ h]
        simp
      refine EInv.of_no_overrun inv.hand inv.issued inv.deliv fun ho => ?_
      -- no overrun afterwards: there was none before and the replay succeeded
      simp only [Bool.or_eq_false_iff, Bool.not_eq_false'] at ho
      have hi := inv.inactive ho.1 hna
      dsimp only
      rw [hrs ho.2]
      refine ⟨fun h => ?_, fun _ => ⟨rfl, rfl⟩, ?_⟩
      · cases h
      · show e.read ++ E2E.inSocket _ = e.submitted.take e.delivered
        rw [← inv.stream ho.1]
        simp [E2E.inSocket, pending, hi.1, hi.2.1]
  | recv n =>
    simp only [E2E.step]
    by_cases hna : (!e.sess.active) = true
    · rw [if_pos hna]; exact inv
    · rw [if_neg hna]
      have ha : e.sess.active = true := by simpa using hna
      have hrs := c02_recv_stream_any rem e.stored e.sess.chan n false
      generalize recvWith rem e.stored e.sess.chan n false = r at hrs
      refine EInv.of_no_overrun inv.hand inv.issued inv.deliv fun ho => ?_
      have hact := inv.active ho ha
      refine ⟨fun h => ?_, fun _ => hact, ?_⟩
      · rw [ha] at h; cases h
      · show (e.read ++ r.out) ++ E2E.inSocket _ = e.submitted.take e.delivered
        rw [← inv.stream ho]
        simp only [E2E.inSocket, hact.1, List.flatten_nil, List.append_nil, List.append_assoc]
        rw [hrs]

/-- Composition, for every schedule of: application writes, the hand-off steps (in any
interleaving with incoming segments), the TCP pipe releasing the next bytes in chunks of any size
(ASSUMPTION C01: the TCB is a reliable in-order byte pipe), `accept()`, reads of any sizes.
If the receive channel is never overrun, then what has been read so far followed by what still
waits inside the socket is exactly the first `delivered` bytes of the concatenation of the writes
in program order. -/
theorem c02_stream_end_to_end (sched : List EStep)
    (hno : (E2E.run codeDiscipline Gen.socketChannelCapacity Gen.recvComparesWithRemaining {} sched).overrun = false) :
    let e := E2E.run codeDiscipline Gen.socketChannelCapacity Gen.recvComparesWithRemaining {} sched
    e.read ++ e.inSocket = e.writes.flatten.take e.delivered := by
  intro e
  have inv : EInv e :=
    List.foldlRecOn sched _ einv_init fun e inv s _ => estep_inv c02_handoff_is_synchronous _ _ e inv s
  have hst := inv.stream hno
  have hsub := submitted_eq_take e inv.hand inv.issued
  show e.read ++ e.inSocket = _
  rw [hst]
  have hpre : e.submitted <+: e.writes.flatten := by
    rw [hsub]
    refine ⟨(e.writes.drop e.hand.tcbWrites.length).flatten, ?_⟩
    rw [← List.flatten_append, List.take_append_drop]
  obtain ⟨t, ht⟩ := hpre
  rw [← ht, List.take_append_of_le_length inv.deliv]

theorem c02_stream_prefix (sched : List EStep)
    (hno : (E2E.run codeDiscipline Gen.socketChannelCapacity Gen.recvComparesWithRemaining {} sched).overrun = false) :
    (E2E.run codeDiscipline Gen.socketChannelCapacity Gen.recvComparesWithRemaining {} sched).read
      <+: (E2E.run codeDiscipline Gen.socketChannelCapacity Gen.recvComparesWithRemaining {} sched).writes.flatten := by
  have h := c02_stream_end_to_end sched hno
  simp only at h
  exact ⟨_, by rw [← List.append_assoc, h, List.take_append_drop]⟩

example :
    let e := E2E.run codeDiscipline Gen.socketChannelCapacity Gen.recvComparesWithRemaining {}
      [.write [1, 2, 3], .write [4, 5], .hand .tcbTask, .chunk 2, .hand .tcbTask, .accept, .chunk 9, .recv 2, .recv 2, .recv 2]
    e.overrun = false ∧ e.read = [1, 2, 3, 4, 5] := by decide

/-- F-C02-3 beyond the hypothesis (capacity 1 for brevity, the theorem `c02_overrun_drops` is
the statement for the real capacity): the second chunk finds the channel full and vanishes; the
reader sees 1, 3 — a hole in the stream -/
theorem c02_overrun_counterexample :
    let e := E2E.run ⟨false, false, false, none⟩ 1 true {}
      [.write [1], .write [2], .write [3], .hand .tcbTask, .hand .tcbTask, .hand .tcbTask, .accept,
       .chunk 1, .chunk 1, .recv 10, .chunk 1, .recv 10]
    e.overrun = true ∧ e.read = [1, 3] := by decide

end Elvis.Sock
