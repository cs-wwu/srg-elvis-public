import ElvisVerif.Props.C15
import ElvisVerif.Lemmas.Dhcp
/-!
# C15, DHCP clause — leases are pairwise distinct, clients learn what they were offered,
# released addresses can be leased again

The system is `Model/Dhcp.lean`: real `DhcpServer::demux` / `DhcpClient::demux` logic over a bag of
datagrams; the schedule (`List Act`) is arbitrary: any in-flight datagram may be delivered next,
duplicated any number of times, or dropped; clients start in any order, any number of times.

What the histories must respect (`Act.valid`), and why:
* a **Release datagram is not duplicated** — the server has no lease table, `Release(a)` is a plain
  `return_ip(a)`; `c15_dhcp_dup_release_counterexample` shows two clients ending up with the same
  address when the network duplicates a Release (the shipped client never sends Release);
* a client **releases only when no datagram naming its address is in flight** (otherwise a late
  duplicate Ack re-installs the address after it was given back — same cause).
Everything the shipped code sends (Discover, Offer, Request, Ack) may be reordered, duplicated and
lost without restriction.
-/
namespace Elvis.Dhcp
open Elvis.IpGen

def Act.valid (w : World) : Act → Prop
  | .start _ => True
  | .deliver _ => True
  | .dup i => ∀ p, w.net[i]? = some p → p.typ ≠ .release
  | .drop _ => True
  | .release c => ∀ a, w.clients[c]? = some (some a) → ∀ p ∈ w.net, p.typ ≠ .discover → p.yourIp ≠ a

inductive Reach (w0 : World) : World → Prop
  | init : Reach w0 w0
  | step {w w' : World} (a : Act) : Reach w0 w → a.valid w → w.step a = .ok w' → Reach w0 w'

def run : World → List Act → Except String World
  | w, [] => .ok w
  | w, a :: as => match w.step a with
    | .error e => .error e
    | .ok w' => run w' as

def runValid : World → List Act → Prop
  | _, [] => True
  | w, a :: as => a.valid w ∧ match w.step a with
    | .ok w' => runValid w' as
    | .error _ => True

theorem reach_of_run (w0 : World) : ∀ (acts : List Act) (w1 w : World), Reach w0 w1 →
    run w1 acts = .ok w → runValid w1 acts → Reach w0 w := by
  intro acts
  induction acts with
  | nil => intro w1 w hr he _; simp only [run] at he; cases he; exact hr
  | cons a as ih =>
    intro w1 w hr he hv
    simp only [run] at he
    simp only [runValid] at hv
    cases hs : w1.step a with
    | error e => rw [hs] at he; cases he
    | ok w' =>
      rw [hs] at he hv
      exact ih w' w (Reach.step a hr hv.1 hs) he hv.2

theorem c15_dhcp_init_inv (pool : Range) (n : Nat) (hp : pool.1 ≤ U32MAX ∧ pool.2 ≤ U32MAX) :
    DInv pool (World.init pool n) := by
  have h := c15_new_spec pool hp
  refine ⟨h.1, h.2.1, fun a ha => (h.2.2 a).1 ha, List.Pairwise.nil, fun _ he => (by cases he),
    fun _ he => (by cases he), fun _ hp => (by cases hp), fun _ hp => (by cases hp), List.Pairwise.nil, ?_⟩
  intro c a hc
  simp [World.init, List.getElem?_replicate] at hc

theorem c15_dhcp_step_inv (pool : Range) (w w' : World) (a : Act) (h : DInv pool w)
    (hv : a.valid w) (he : w.step a = .ok w') : DInv pool w' := by
  cases a with
  | start c =>
    simp only [World.step] at he
    split at he
    · cases he
      exact dinv_app h _ (fun hl => by rcases hl with hl | hl | hl <;> cases hl) (fun hr => by cases hr)
    · cases he
  | deliver i =>
    simp only [World.step] at he
    cases hp : w.net[i]? with
    | none => rw [hp] at he; cases he
    | some p =>
      rw [hp] at he
      have hpm : p ∈ w.net := List.mem_of_getElem? hp
      have hsub : (w.net.eraseIdx i).Sublist w.net := List.eraseIdx_sublist _ _
      have h1 := dinv_sub h (w.net.eraseIdx i) hsub
      dsimp only at he
      by_cases hts : p.toServer = true
      · rw [if_pos hts] at he
        cases hty : p.typ with
        | discover =>
          rw [hty, serverDemux_discover] at he
          dsimp only at he
          obtain ⟨g', r, hf, hs', hb', hspec⟩ := c15_fetch_ip_spec w.gen h.sorted h.bounded
          rw [hf] at he
          cases r with
          | none => cases he
          | some ip =>
            cases he
            simp only at hspec
            exact dinv_offer h1 p.client ip g' hs' hb' hspec.1 hspec.2.1 hspec.2.2
        | request =>
          rw [hty, serverDemux_request] at he
          cases he
          exact dinv_app h1 _ (fun _ => h.pktLease p hpm (by rw [hty]; exact .inr (.inl rfl)))
            (fun hr => by cases hr)
        | release =>
          rw [hty, serverDemux_release] at he
          dsimp only at he
          have hown := h.pktRelease p hpm hty
          have hlt := (h.ownNotAvail _ hown).2.1
          obtain ⟨g', hr, hs', hb', hg⟩ := c15_return_ip_spec w.gen p.yourIp h.sorted h.bounded hlt
          rw [hr] at he
          cases he
          -- no second Release of this address is in flight
          exact dinv_server_release h1 p.client p.yourIp g' hown
            (fun q hq hqr heq => List.pairwise_rel_others relDistinct_symm h.relOnce (List.perm_cons_eraseIdx hp)
              q hq hty hqr heq.symm) hs' hb' hg
        | _ => rw [serverDemux_other _ _ _ (by rw [hty]; decide)] at he; cases he; exact h1
      · rw [if_neg hts] at he
        cases he
        cases hty : p.typ with
        | offer =>
          exact dinv_app h1 _ (fun _ => h.pktLease p hpm (by rw [hty]; exact .inl rfl)) (fun hr => by cases hr)
        | ack =>
          exact dinv_client_ack h1 p.client p.yourIp (h.pktLease p hpm (by rw [hty]; exact .inr (.inr rfl)))
        | _ => exact h1
  | dup i =>
    simp only [World.step] at he
    cases hp : w.net[i]? with
    | none => rw [hp] at he; cases he
    | some p =>
      rw [hp] at he
      cases he
      have hpm : p ∈ w.net := List.mem_of_getElem? hp
      exact dinv_app h p (fun hl => h.pktLease p hpm hl) (fun hr => absurd hr (hv p hp))
  | drop i =>
    simp only [World.step] at he
    cases hp : w.net[i]? with
    | none => rw [hp] at he; cases he
    | some p =>
      rw [hp] at he
      cases he
      exact dinv_sub h _ (List.eraseIdx_sublist _ _)
  | release c =>
    simp only [World.step] at he
    cases hc : w.clients[c]? with
    | none => rw [hc] at he; cases he
    | some o =>
      cases o with
      | none => rw [hc] at he; cases he
      | some a =>
        rw [hc] at he
        cases he
        exact dinv_release h c a hc (hv a hc)

theorem c15_dhcp_inv (pool : Range) (n : Nat) (hp : pool.1 ≤ U32MAX ∧ pool.2 ≤ U32MAX) (w : World)
    (hr : Reach (World.init pool n) w) : DInv pool w := by
  induction hr with
  | init => exact c15_dhcp_init_inv pool n hp
  | step a _ hv he ih => exact c15_dhcp_step_inv pool _ _ a ih hv he

/-- **C15, DHCP**: for any number of clients, any interleaving, any duplication and loss of the
    datagrams of the exchange (valid histories, see the header):
    1. two different clients never hold the same address;
    2. the address a client holds was offered to it by the server and lies in the server's pool;
    3. Acks in flight to different clients carry different addresses. -/
theorem c15_dhcp_distinct (pool : Range) (n : Nat) (hp : pool.1 ≤ U32MAX ∧ pool.2 ≤ U32MAX) (w : World)
    (hr : Reach (World.init pool n) w) :
    (∀ (c1 c2 a : Nat), w.clients[c1]? = some (some a) → w.clients[c2]? = some (some a) → c1 = c2) ∧
    (∀ (c a : Nat), w.clients[c]? = some (some a) → (c, a) ∈ w.offered ∧ pool.1 ≤ a ∧ a ≤ pool.2) ∧
    (∀ p ∈ w.net, ∀ q ∈ w.net, p.typ = .ack → q.typ = .ack → p.yourIp = q.yourIp → p.client = q.client) := by
  have h := c15_dhcp_inv pool n hp w hr
  refine ⟨?_, ?_, ?_⟩
  · intro c1 c2 a h1 h2
    have := own_unique h.ownDistinct (h.stored c1 a h1) (h.stored c2 a h2) rfl
    simp at this; exact this
  · intro c a hc
    have hm := h.stored c a hc
    exact ⟨h.ownOffered _ hm, (h.ownNotAvail _ hm).2.2⟩
  · intro p hp q hq hpa hqa heq
    have h1 := h.pktLease p hp (by rw [hpa]; exact .inr (.inr rfl))
    have h2 := h.pktLease q hq (by rw [hqa]; exact .inr (.inr rfl))
    have := own_unique h.ownDistinct h1 h2 heq
    simp at this; exact this.2

/-- the server never offers an address that is still leased (in any reachable world, delivering
    a Discover either panics on an exhausted pool — the `unwrap()` the code marks TODO — or
    offers an address no outstanding lease has). -/
theorem c15_dhcp_offer_fresh (pool : Range) (n : Nat) (hp : pool.1 ≤ U32MAX ∧ pool.2 ≤ U32MAX) (w : World)
    (hr : Reach (World.init pool n) w) (c : Nat) (g' : Gen) (ip : Nat)
    (hf : fetchIp w.gen = .ok (g', some ip)) :
    (∀ e ∈ w.owner, e.1 ≠ ip) ∧ pool.1 ≤ ip ∧ ip ≤ pool.2 ∧
    serverDemux w c .discover 0 =
      .ok { w with gen := g', net := w.net ++ [⟨false, c, .offer, ip⟩], offered := (c, ip) :: w.offered, owner := (ip, c, false) :: w.owner } := by
  have h := c15_dhcp_inv pool n hp w hr
  obtain ⟨g'', r, hf', _, _, hspec⟩ := c15_fetch_ip_spec w.gen h.sorted h.bounded
  rw [hf] at hf'; cases hf'
  simp only at hspec
  refine ⟨fun e he heq => (h.ownNotAvail e he).1 (by rw [heq]; exact hspec.2.1), (h.availPool ip hspec.2.1).1,
    (h.availPool ip hspec.2.1).2, ?_⟩
  rw [serverDemux_discover, hf]

/-- the server runs out (the `unwrap()` panic) only when its generator has nothing left -/
theorem c15_dhcp_exhaustion_iff (pool : Range) (n : Nat) (hp : pool.1 ≤ U32MAX ∧ pool.2 ≤ U32MAX) (w : World)
    (hr : Reach (World.init pool n) w) (c : Nat) :
    serverDemux w c .discover 0 = .error exhaustedPanic ↔ ∀ a, ¬ avail w.gen a := by
  have h := c15_dhcp_inv pool n hp w hr
  rw [← c15_fetch_ip_none_iff w.gen h.bounded]
  obtain ⟨g', r, hf, _, _, hspec⟩ := c15_fetch_ip_spec w.gen h.sorted h.bounded
  rw [serverDemux_discover, hf]
  cases r with
  | none => exact ⟨fun _ => ⟨g', rfl⟩, fun _ => rfl⟩
  | some ip =>
    constructor
    · intro hc; cases hc
    · rintro ⟨g'', hc⟩; cases hc

/-- a released address can be leased again: delivering the Release makes the address available
    in the server's generator (so the next Discover cannot fail for exhaustion, and with
    `fetch_ip` scanning from the lowest free range it is offered as soon as it is the lowest). -/
theorem c15_dhcp_release_reoffer (pool : Range) (n : Nat) (hp : pool.1 ≤ U32MAX ∧ pool.2 ≤ U32MAX) (w : World)
    (hr : Reach (World.init pool n) w) (i : Nat) (p : Packet)
    (hpk : w.net[i]? = some p) (hts : p.toServer = true) (hty : p.typ = .release) :
    ∃ w', w.step (.deliver i) = .ok w' ∧ avail w'.gen p.yourIp ∧
      (∀ c, serverDemux w' c .discover 0 ≠ .error exhaustedPanic) := by
  have h := c15_dhcp_inv pool n hp w hr
  have hpm : p ∈ w.net := List.mem_of_getElem? hpk
  have hown := h.pktRelease p hpm hty
  have hlt := (h.ownNotAvail _ hown).2.1
  obtain ⟨g', hret, _, _, hg⟩ := c15_return_ip_spec w.gen p.yourIp h.sorted h.bounded hlt
  have hstep : w.step (.deliver i) =
      .ok { w with net := w.net.eraseIdx i, gen := g', owner := w.owner.filter (fun e => e.1 != p.yourIp) } := by
    simp only [World.step]; rw [hpk]; dsimp only; rw [if_pos hts, hty, serverDemux_release]; dsimp only; rw [hret]
  have hav : avail g' p.yourIp := (hg _).2 (.inr rfl)
  refine ⟨_, hstep, hav, ?_⟩
  intro c hpanic
  have hreach := Reach.step (.deliver i) hr trivial hstep
  exact (c15_dhcp_exhaustion_iff pool n hp _ hreach c).1 hpanic p.yourIp hav

/-- concrete cycle on a one-address pool: client 0 leases 10.0.0.5, releases it, client 1 is then
    leased the same address — on the model; the harness replays the same schedule on the code. -/
theorem c15_dhcp_release_cycle_example :
    ∃ w, run (World.init (0x0A000005, 0x0A000005) 2)
      [.start 0, .deliver 0, .deliver 0, .deliver 0, .deliver 0,      -- client 0 holds .5
       .release 0, .deliver 0,                                          -- given back
       .start 1, .deliver 0, .deliver 0, .deliver 0, .deliver 0] = .ok w ∧
      w.clients = [none, some 0x0A000005] ∧ w.net = [] := by
  exact ⟨_, rfl, rfl, rfl⟩

/-- why a duplicated Release is excluded from the histories: the server returns the address twice;
    the second return hands client 1's address to client 2.  (`dup 0` duplicates the Release.) -/
theorem c15_dhcp_dup_release_counterexample :
    ∃ w, run (World.init (5, 5) 3)
      [.start 0, .deliver 0, .deliver 0, .deliver 0, .deliver 0, .release 0,
       .dup 0,                                                          -- Release(5) twice in flight
       .deliver 0, .start 1, .deliver 1, .deliver 1, .deliver 1, .deliver 1,
       .deliver 0,                                                      -- the duplicate arrives
       .start 2, .deliver 0, .deliver 0, .deliver 0, .deliver 0] = .ok w ∧
      w.clients = [none, some 5, some 5] := by
  exact ⟨_, rfl, rfl⟩

/-- non-vacuity: a reachable world with two clients holding different addresses -/
example : ∃ w, Reach (World.init (1, 255) 2) w ∧ w.clients = [some 1, some 2] := by
  refine ⟨_, reach_of_run _ [.start 0, .start 1, .deliver 0, .deliver 0, .deliver 0, .deliver 0,
    .deliver 0, .deliver 0, .deliver 0, .deliver 0] _ _ Reach.init rfl ?_, rfl⟩
  repeat (first | trivial | constructor)

end Elvis.Dhcp
